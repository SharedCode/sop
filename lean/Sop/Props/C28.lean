import Sop.Lemmas.Locks
/-! # C28 — a lock is held by at most one owner and only its owner can release it

Model: `Sop/Model/Locks.lean` (two implementations). `memHolders s k` / `redisHolders s k` = owners with a lease on `k`
that was granted by a successful call, has not been unlocked by its owner and has not run out (that every successful
`Lock` is recorded is a theorem for Redis, `C28_redis_lock_grants`; for the in-memory cache it is how the model is
written). A run is an arbitrary list of calls (any owners, keys, durations, clock advances between and — via
`readCost` — inside calls; for the in-memory cache also any capacity, shard function and admissible eviction victim).

* in-memory cache: holds at full strength with `protectLive = true` (the code since commit `a7678747`), violated
  before that commit (`protectLive = false`, `C28_mem_counterexample`).
* Redis: violated (`C28_redis_counterexample_unlock`, `C28_redis_counterexample_ttl`); `C28_partial` under the usage
  rule `redisDisciplined` (no `Unlock` of a flagged key that carries someone else's value, no `IsLockedTTL` that
  shortens someone else's lease). -/
namespace Sop.C28
open Sop.Locks

def Statement_C28_mutex_mem (cfg : MemCfg) : Prop :=
  ∀ (ops : List MemOp) (k o1 o2 : Nat),
    o1 ∈ memHolders (memRun cfg {} ops) k → o2 ∈ memHolders (memRun cfg {} ops) k → o1 = o2

def Statement_C28_mutex_redis : Prop :=
  ∀ (ops : List RedisOp) (k o1 o2 : Nat),
    o1 ∈ redisHolders (redisRun {} ops) k → o2 ∈ redisHolders (redisRun {} ops) k → o1 = o2

theorem reachable_inv {cfg : MemCfg} (hp : cfg.protectLive = true) (ops : List MemOp) : MemInv (memRun cfg {} ops) :=
  memRun_inv hp ops {} Inv.nil

/-- **C28, mutual exclusion**: in every reachable state of the in-memory cache a key has at most one holder -/
theorem C28_mutex (cfg : MemCfg) (hp : cfg.protectLive = true) : Statement_C28_mutex_mem cfg :=
  fun ops _ _ _ h1 h2 => (reachable_inv hp ops).mutex h1 h2

/-- every holder is confirmed by the store: `IsLocked(o, k)` answers true for it -/
theorem C28_holder_confirmed (cfg : MemCfg) (hp : cfg.protectLive = true) (ops : List MemOp) (k o : Nat)
    (h : o ∈ memHolders (memRun cfg {} ops) k) : memHolds (memRun cfg {} ops) o k = true :=
  (reachable_inv hp ops).confirmed h

/-- **only the owner releases**: an `Unlock` by anybody else leaves the holder a holder, still confirmed by the store -/
theorem C28_owner_release (cfg : MemCfg) (hp : cfg.protectLive = true) (ops : List MemOp) (k o o' : Nat) (keys : List Nat)
    (h : o ∈ memHolders (memRun cfg {} ops) k) (hne : o ≠ o') :
    o ∈ memHolders (memRun cfg {} (ops ++ [.unlock o' keys])) k ∧
    memHolds (memRun cfg {} (ops ++ [.unlock o' keys])) o k = true := by
  have hrun : memRun cfg {} (ops ++ [.unlock o' keys]) = memUnlock o' keys (memRun cfg {} ops) := by
    simp [memRun, List.foldl_append, memStep]
  have hh : o ∈ memHolders (memRun cfg {} (ops ++ [.unlock o' keys])) k := by
    rw [hrun]
    obtain ⟨g, hg, hk, hl, ho⟩ := mem_memHolders.1 h
    refine mem_memHolders.2 ⟨g, (memUnlock_step (cfg := cfg) keys _).keeps_of_ne hg (ho ▸ hne), hk, ?_, ho⟩
    rw [memUnlock_now]; exact hl
  exact ⟨hh, C28_holder_confirmed cfg hp _ k o hh⟩

/-- no call made on behalf of another owner (or of none: the clock) removes a lease -/
theorem C28_foreign_call_keeps_lease (cfg : MemCfg) (s : Mem) (op : MemOp) (o : Nat) (h : memActor op ≠ some o) :
    ∀ g ∈ s.grants, g.owner = o → g ∈ (memStep cfg s op).1.grants :=
  fun g hg hgo => (memStep_step s op).keeps g hg (hgo ▸ h)

def cfgOrig : MemCfg := { cap := 1, shardOf := fun _ => 0, protectLive := false, readCost := 2, defaultTtl := 900000000000 }
def cfgFixed : MemCfg := { cfgOrig with protectLive := true }
def hour : Nat := 3600000000000

/-- capacity 1; A locks k1 for 1h, B locks k2 (same shard) and evicts A's entry, C locks k1 -/
def memWitness : List MemOp := [.lock 1 hour [1] [], .lock 2 hour [2] [], .lock 3 hour [1] []]

theorem C28_mem_counterexample : ¬ Statement_C28_mutex_mem cfgOrig := by
  intro h
  have := h memWitness 1 3 1 (by decide) (by decide)
  exact absurd this (by decide)

/-- the same calls with `protectLive = true`: C is refused and told who holds the key -/
example : (memStep cfgFixed (memRun cfgFixed {} [.lock 1 hour [1] [], .lock 2 hour [2] []]) (.lock 3 hour [1] [])).2
    = { ok := false, owner := 1 } := by decide

/-- non-vacuity: a reachable state with a holder (takeover after expiry included) -/
example : memHolders (memRun cfgFixed {} [.lock 1 1 [1] [], .adv 10, .lock 2 hour [1, 2] [], .unlock 1 [1]]) 1 = [2] := by decide

/-- A locks k1 for 50 ms, the lease lapses, B locks k1, A calls Unlock (its flag is still set), C locks k1 -/
def redisWitnessUnlock : List RedisOp :=
  [.lock 1 50 [1], .adv 60, .lock 2 3600000 [1], .unlock 1 [1], .lock 3 3600000 [1]]

theorem C28_redis_counterexample_unlock : ¬ Statement_C28_mutex_redis := by
  intro h
  have := h redisWitnessUnlock 1 3 2 (by decide) (by decide)
  exact absurd this (by decide)

/-- "only its owner can release it" fails as well: after A's Unlock, B is still a holder but its key is gone -/
theorem C28_redis_owner_release_counterexample :
    2 ∈ redisHolders (redisRun {} (redisWitnessUnlock.take 4)) 1 ∧
    redisHolds (redisRun {} (redisWitnessUnlock.take 4)) 2 1 = false := by decide

/-- A holds k1 for 1h; B's IsLockedTTL(50 ms) answers false but has rewritten the key's TTL; it lapses; C locks k1 -/
def redisWitnessTtl : List RedisOp :=
  [.lock 1 3600000 [1], .isLockedTTL 2 50 [1], .adv 60, .lock 3 3600000 [1]]

theorem C28_redis_counterexample_ttl : ¬ Statement_C28_mutex_redis := by
  intro h
  have := h redisWitnessTtl 1 3 1 (by decide) (by decide)
  exact absurd this (by decide)

theorem RInv.confirmed {s : Redis} (h : RInv s) {k o : Nat} (ho : o ∈ redisHolders s k) : redisHolds s o k = true := by
  obtain ⟨g, hg, hk, hl, rfl⟩ := mem_redisHolders.1 ho
  obtain ⟨e, he, heo, hx⟩ := h g hg hl
  unfold redisHolds
  rw [← hk, vget_eq_some.2 ⟨he, Nat.lt_of_lt_of_le hl hx⟩]
  simp [heo]

/-- **C28_partial (Redis)**: along every run that obeys the usage rule — every `Unlock` finds, under each key whose
`IsLockOwner` flag is set, the caller's own value or nothing, and no `IsLockedTTL` shortens another owner's lease —
a key never has two holders and every holder is confirmed by the server -/
theorem C28_partial (ops : List RedisOp) (hd : redisDisciplined {} ops = true) :
    (∀ k o1 o2, o1 ∈ redisHolders (redisRun {} ops) k → o2 ∈ redisHolders (redisRun {} ops) k → o1 = o2) ∧
    (∀ k o, o ∈ redisHolders (redisRun {} ops) k → redisHolds (redisRun {} ops) o k = true) := by
  have hi : RInv (redisRun {} ops) := redisRun_inv ops {} Inv.nil hd
  exact ⟨fun k o1 o2 h1 h2 => hi.mutex h1 h2, fun k o h => RInv.confirmed hi h⟩

/-- the ghost misses no holder, so "at most one holder" speaks about every successful caller of the Redis `Lock` -/
theorem C28_redis_lock_grants (s : Redis) (o d : Nat) (keys : List Nat) (hd : 0 < d)
    (hok : (redisStep s (.lock o d keys)).2.ok = true) : ∀ k ∈ keys, o ∈ redisHolders (redisStep s (.lock o d keys)).1 k := by
  intro k hk
  exact mem_redisHolders.2 (redisLock_true_holds s o d keys hd hok k hk)

/-- `C28_owner_release` for Redis, under the rule -/
theorem C28_redis_owner_release_partial (ops : List RedisOp) (k o o' : Nat) (keys : List Nat)
    (hd : redisDisciplined {} (ops ++ [.unlock o' keys]) = true)
    (h : o ∈ redisHolders (redisRun {} ops) k) (hne : o ≠ o') :
    o ∈ redisHolders (redisRun {} (ops ++ [.unlock o' keys])) k ∧
    redisHolds (redisRun {} (ops ++ [.unlock o' keys])) o k = true := by
  have hrun : redisRun {} (ops ++ [.unlock o' keys]) = redisUnlock (redisRun {} ops) o' keys := by
    simp [redisRun, List.foldl_append, redisStep]
  have hh : o ∈ redisHolders (redisRun {} (ops ++ [.unlock o' keys])) k := by
    rw [hrun]
    obtain ⟨g, hg, hk, hl, ho⟩ := mem_redisHolders.1 h
    refine mem_redisHolders.2 ⟨g, ?_, hk, ?_, ho⟩
    · exact redisUnlock_keeps _ o' keys g hg (ho ▸ hne)
    · rw [(redisUnlock_grants _ _ _).2]; exact hl
  exact ⟨hh, (C28_partial _ hd).2 k o hh⟩

/-- non-vacuity of the rule: expiry, takeover, a refused lock, a lease extension and unlocks, ending with a holder -/
example : redisDisciplined {} [.lock 1 50 [1], .adv 60, .lock 2 3600000 [1, 2], .lock 3 2000 [2, 3], .unlock 3 [2, 3],
      .isLockedTTL 2 5000 [1, 2], .unlock 2 [2], .adv 1000] = true ∧
    redisHolders (redisRun {} [.lock 1 50 [1], .adv 60, .lock 2 3600000 [1, 2], .lock 3 2000 [2, 3], .unlock 3 [2, 3],
      .isLockedTTL 2 5000 [1, 2], .unlock 2 [2], .adv 1000]) 1 = [2] := by decide

/-- the two witnesses are exactly runs that break the rule -/
example : redisDisciplined {} redisWitnessUnlock = false ∧ redisDisciplined {} redisWitnessTtl = false := by decide

end Sop.C28
