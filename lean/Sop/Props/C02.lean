import Sop.Lemmas.OccSerial
/-!
# C02 — successfully committed transactions are serializable (Model L)

`Statement_C02` (over Model L, `Sop/Model/Occ.lean`) is FALSE for the code as it is (`C02_counterexample`): the
write-skew schedule of DESIGN.md §6 C02, replayed on the real code as the first case of `harness/cmd/c02`. Root cause:
`lock()` is get / set / get without compare-and-set, `unlock()` deletes by key, `checkTrackedItems` accepts "not found".

`C02_partial`: under `Good` (every state of the run is `Covered`: between validation and install a transaction's
tracked items carry its own lock record — what a compare-and-set record would guarantee; `Shape` and `BeginSound`: the
tracker recorded the committed state, no successor alias; `ChecksAll`: the merge replay compares every kind of entry) the
commit-point order IS a serial explanation. Invariant:
at T's commit point every item T tracked with get/update/remove still holds exactly what T read (version =
versionInDB; `TxnInv.commit_reads_current`). `GoodN` is `Good` as a decidable check.
`replay`, `Init`, `Good` and its parts (`Covered`, `Shape`, `BeginSound`), `Inv` and `inv_run` are in `Sop/Lemmas/OccSerial.lean`; the fourth
part, `ChecksAll`, in `Sop/Lemmas/Occ.lean`.
-/
namespace Sop.C02
open Sop.Occ

def insertAll {α : Type} (x : α) : List α → List (List α)
  | [] => [[x]]
  | y :: ys => (x :: y :: ys) :: (insertAll x ys).map (y :: ·)

def perms {α : Type} : List α → List (List α)
  | [] => [[]]
  | x :: xs => (perms xs).flatMap (insertAll x)

theorem self_mem_perms {α : Type} : ∀ l : List α, l ∈ perms l
  | [] => by simp [perms]
  | x :: xs => by
    simp only [perms, List.mem_flatMap]
    exact ⟨xs, self_mem_perms xs, by cases xs <;> simp [insertAll]⟩

/-- `hs` (an order of the committed transactions) explains the run: every transaction read what a serial run in
    that order shows it, and the final committed state (on the item ids the run knows, `g.ids`) is that serial run's -/
def explains (g0 g : G) (hs : List HEntry) : Bool :=
  (replay g0.db hs).2 && g.ids.all fun i => (replay g0.db hs).1 i = g.db i

/-- C02: every schedule of every set of transactions over every initial state and page partition ends with its
    committed transactions explainable by SOME serial order -/
def Statement_C02 : Prop :=
  ∀ (g0 : G) (sched : List (Nat × List Nat)), Init g0 → (perms (run g0 sched).hist).any (explains g0 (run g0 sched)) = true

theorem C02_commit_order (g0 : G) (sched : List (Nat × List Nat)) (h0 : Init g0) (hg : Good g0 sched) :
    replay g0.db (run g0 sched).hist = ((run g0 sched).db, true) :=
  (inv_run sched g0 (inv_init h0) hg).rep

/-- stated at the end of a run; a prefix of a `Good` run is `Good` (its recursion asks the hypotheses of every state on the
    way), so read `sched` as the run up to any commit point -/
theorem C02_install_fresh (g0 : G) (sched : List (Nat × List Nat)) (h0 : Init g0) (hg : Good g0 sched) (i : Nat)
    (hw : InWindow ((run g0 sched).txns i)) : ∀ r ∈ ((run g0 sched).txns i).reads, (run g0 sched).db r.1 = some r.2 :=
  fun r hr => (inv_run sched g0 (inv_init h0) hg).c i r hw hr

theorem C02_partial (g0 : G) (sched : List (Nat × List Nat)) (h0 : Init g0) (hg : Good g0 sched) :
    (perms (run g0 sched).hist).any (explains g0 (run g0 sched)) = true := by
  rw [List.any_eq_true]
  refine ⟨_, self_mem_perms _, ?_⟩
  unfold explains
  rw [C02_commit_order g0 sched h0 hg]
  simp

instance : DecidablePred InWindow := fun t => inferInstanceAs (Decidable (t.pc = .check ∨ t.pc = .install))

def Covered1 (g : G) (i : Nat) : Prop :=
  ∀ tr ∈ (g.txns i).tracked, InWindow (g.txns i) → tr.act ≠ .add →
    (g.recs tr.item = some (ownRec i tr) ∨ (tr.act = .get ∧ (g.recs tr.item).map (·.act) = some .get))

instance (g : G) : DecidablePred (Covered1 g) := fun i => by unfold Covered1; infer_instance

def CoveredN (n : Nat) (g : G) : Prop := ∀ i, i < n → Covered1 g i

def FreshAdd (g : G) (tr : Tr) (j : Nat) : Prop := ∀ tr' ∈ (g.txns j).tracked, tr'.act ≠ .add → tr'.item ≠ tr.item

instance (g : G) (tr : Tr) : DecidablePred (FreshAdd g tr) := fun j => by unfold FreshAdd; infer_instance

def Shape1 (n : Nat) (g : G) (i : Nat) : Prop :=
  ∀ tr ∈ (g.txns i).tracked,
    tr.phys = 0 ∧ (tr.act = .update → tr.nver = tr.ent.ver + 1) ∧ (tr.act = .add → ∀ j, j < n → FreshAdd g tr j)

instance (n : Nat) (g : G) : DecidablePred (Shape1 n g) := fun i => by unfold Shape1; infer_instance

def ShapeN (n : Nat) (g : G) : Prop := ∀ i, i < n → Shape1 n g i

/-- `BeginSound` (the same body) under a name that carries the `Decidable` instance -/
def BeginSoundD (g : G) (i : Nat) (hint : List Nat) : Prop :=
  (g.txns i).pc = .begin → ∀ tr ∈ ((step g i hint).txns i).tracked, tr.act ≠ .add → g.db tr.item = some tr.ent

instance (n : Nat) (g : G) : Decidable (CoveredN n g) := by unfold CoveredN; infer_instance
instance (n : Nat) (g : G) : Decidable (ShapeN n g) := by unfold ShapeN; infer_instance
instance (g : G) (i : Nat) (hint : List Nat) : Decidable (BeginSoundD g i hint) := by unfold BeginSoundD; infer_instance

def GoodN (n : Nat) : G → List (Nat × List Nat) → Prop
  | g, [] => CoveredN n g ∧ ShapeN n g ∧ ChecksAll g
  | g, s :: rest => CoveredN n g ∧ ShapeN n g ∧ ChecksAll g ∧ BeginSoundD g s.1 s.2 ∧ GoodN n (step g s.1 s.2) rest

instance (n : Nat) : ∀ (sched : List (Nat × List Nat)) (g : G), Decidable (GoodN n g sched)
  | [], g => inferInstanceAs (Decidable (CoveredN n g ∧ ShapeN n g ∧ ChecksAll g))
  | s :: rest, g =>
    have := instDecidableGoodN n rest (step g s.1 s.2)
    inferInstanceAs (Decidable (CoveredN n g ∧ ShapeN n g ∧ ChecksAll g ∧ BeginSoundD g s.1 s.2 ∧ GoodN n (step g s.1 s.2) rest))

/-- transactions `n, n+1, …` do not exist -/
def Quiet (n : Nat) (g : G) : Prop := ∀ i, n ≤ i → (g.txns i).pc = .done ∧ (g.txns i).tracked = []

theorem quiet_step {n : Nat} {g : G} (hck : ChecksAll g) (q : Quiet n g) (i : Nat) (hint : List Nat) : Quiet n (step g i hint) := by
  intro k hk
  by_cases hki : k = i
  · subst hki
    have : step g k hint = g := by unfold step; simp only [(q k hk).1]
    rw [this]; exact q k hk
  · rw [step_others hck i hint hki]; exact q k hk

theorem covered_of {n : Nat} {g : G} (q : Quiet n g) (h : CoveredN n g) : Covered g := by
  intro i tr hw htr hne
  by_cases hi : i < n
  · exact h i hi tr htr hw hne
  · have := (q i (Nat.le_of_not_lt hi)).1
    rcases hw with hw | hw <;> rw [this] at hw <;> cases hw

theorem shape_of {n : Nat} {g : G} (q : Quiet n g) (h : ShapeN n g) : Shape g := by
  intro i tr htr
  by_cases hi : i < n
  · obtain ⟨a, b, c⟩ := h i hi tr htr
    refine ⟨a, b, fun hadd j tr' htr' hne' => ?_⟩
    by_cases hj : j < n
    · exact c hadd j hj tr' htr' hne'
    · rw [(q j (Nat.le_of_not_lt hj)).2] at htr'; cases htr'
  · rw [(q i (Nat.le_of_not_lt hi)).2] at htr; cases htr

theorem coveredN_of {n : Nat} {g : G} (h : Covered g) : CoveredN n g :=
  fun i _ tr htr hw hne => h i tr hw htr hne

theorem shapeN_of {n : Nat} {g : G} (h : Shape g) : ShapeN n g := fun i _ tr htr =>
  let ⟨a, b, c⟩ := h i tr htr
  ⟨a, b, fun hadd j _ => c hadd j⟩

/-- so a `not-good` verdict of the driver is a real failure of a hypothesis, not an artefact of the bound `n` -/
theorem goodN_of {n : Nat} : ∀ (sched : List (Nat × List Nat)) (g : G), Good g sched → GoodN n g sched
  | [], _, ⟨hc, hs, hk⟩ => ⟨coveredN_of hc, shapeN_of hs, hk⟩
  | _ :: rest, _, ⟨hc, hs, hk, hb, hr⟩ => ⟨coveredN_of hc, shapeN_of hs, hk, hb, goodN_of rest _ hr⟩

theorem good_of {n : Nat} : ∀ (sched : List (Nat × List Nat)) (g : G), Quiet n g → GoodN n g sched → Good g sched
  | [], _, q, ⟨hc, hs, hk⟩ => ⟨covered_of q hc, shape_of q hs, hk⟩
  | s :: rest, _, q, ⟨hc, hs, hk, hb, hr⟩ =>
    ⟨covered_of q hc, shape_of q hs, hk, hb, good_of rest _ (quiet_step hk q s.1 s.2) hr⟩

theorem C02_partial_checked (n : Nat) (g0 : G) (sched : List (Nat × List Nat)) (h0 : Init g0) (q : Quiet n g0)
    (hg : GoodN n g0 sched) : (perms (run g0 sched).hist).any (explains g0 (run g0 sched)) = true :=
  C02_partial g0 sched h0 (good_of sched g0 q hg)

def absent : Txn := { pc := .done, res := .abort }

/-- X = item 1 (key 10) on page 1, Y = item 2 (key 70) on page 2, both 100. T0 reads X and writes Y := X − 1;
    T1 reads Y and writes X := Y − 1. -/
def skew0 : G :=
  { ids := [1, 2], pageOf := fun i => i,
    db := fun i => if i = 1 then some ⟨10, 100, 0⟩ else if i = 2 then some ⟨70, 100, 0⟩ else none,
    txns := fun i => if i = 0 then { prog := [.updf 70 10 (-1)] } else if i = 1 then { prog := [.updf 10 70 (-1)] } else absent }

/-- the schedule of DESIGN.md C02: T1 does its work and its first lock-record read; T0 runs up to its install; T1
    overwrites both records, verifies, locks, validates, re-checks, reaches its install; T0 installs and its
    `unlock()` deletes T1's records; T1 installs. -/
def skewSched : List (Nat × List Nat) := [1, 1, 0, 0, 0, 0, 0, 0, 0, 1, 1, 1, 1, 1, 0, 0, 1, 1].map fun i => (i, [])

theorem skew0_init : Init skew0 :=
  ⟨rfl, fun
    | 0 => Or.inl rfl
    | 1 => Or.inl rfl
    | _ + 2 => Or.inr rfl⟩

/-- both commit, X = Y = 99, and neither order explains it -/
theorem C02_counterexample : ¬ Statement_C02 := fun h =>
  absurd (h skew0 skewSched skew0_init) (by decide +kernel)

theorem skew_outcome :
    (run skew0 skewSched).hist.map (·.txn) = [0, 1] ∧
    (run skew0 skewSched).db 1 = some ⟨10, 99, 1⟩ ∧ (run skew0 skewSched).db 2 = some ⟨70, 99, 1⟩ := by decide +kernel

/-- `Covered` fails once T0's record on X is overwritten while T0 is in its window -/
theorem skew_not_good : ¬ GoodN 2 skew0 skewSched := by decide +kernel

def disj0 : G :=
  { skew0 with txns := fun i => if i = 0 then { prog := [.updf 10 10 (-1)] } else if i = 1 then { prog := [.updf 70 70 (-2)] } else absent }

def rrSched : List (Nat × List Nat) := [0, 1, 0, 1, 0, 1, 0, 1, 0, 1, 0, 1, 0, 1, 0, 1, 0, 1, 0, 1].map fun i => (i, [])
def serialSched : List (Nat × List Nat) := [0, 0, 0, 0, 0, 0, 0, 0, 0, 1, 1, 1, 1, 1, 1, 1, 1, 1].map fun i => (i, [])

/-- non-vacuity of `GoodN`: the write-skew transactions one after the other -/
theorem good_serial : GoodN 2 skew0 serialSched ∧ (run skew0 serialSched).hist.map (·.txn) = [0, 1] := by decide +kernel

/-- non-vacuity: read-modify-write transactions on different items, interleaved step by step -/
theorem good_interleaved : GoodN 2 disj0 rrSched ∧ (run disj0 rrSched).hist.map (·.txn) = [0, 1] := by decide +kernel

/-- non-vacuity: the write-skew transactions interleaved step by step — the lock records do their job, one fails -/
theorem good_conflict : GoodN 2 skew0 rrSched ∧ (run skew0 rrSched).hist.map (·.txn) = [1] ∧ ((run skew0 rrSched).txns 0).res = .err := by decide +kernel

theorem quiet_skew0 : Quiet 2 skew0
  | 0, h | 1, h => absurd h (by decide)
  | _ + 2, _ => ⟨rfl, rfl⟩

example : (perms (run skew0 serialSched).hist).any (explains skew0 (run skew0 serialSched)) = true :=
  C02_partial_checked 2 skew0 serialSched skew0_init quiet_skew0 good_serial.1

/-! `refetchAndMergeClosure` replays get, update and remove entries and rejects each of them when the item's committed
version is not the `versionInDB` recorded with the entry. A `Get` followed by a `Remove` (or an `Update`) is ONE tracker
entry of the later kind, so the comparison made for a remove (update) entry is also the only validation of the read that
preceded it. `G.replayChecks` makes the comparison explicit per kind. -/

theorem replay_checks_each_kind {g : G} {t t' : Txn} (h : refetch g t = some t') :
    ∀ tr' ∈ t'.tracked,
      (tr'.act = .get → g.replayChecks .get = true → ∃ e, g.db tr'.item = some e ∧ e.key = tr'.ent.key ∧ e.ver = tr'.ent.ver) ∧
      (tr'.act = .update → g.replayChecks .update = true → ∃ e, g.db tr'.item = some e ∧ e.key = tr'.ent.key ∧ e.ver = tr'.ent.ver) ∧
      (tr'.act = .remove → g.replayChecks .remove = true → ∃ e, g.db tr'.item = some e ∧ e.key = tr'.ent.key ∧ e.ver = tr'.ent.ver) := by
  intro tr' htr'
  obtain ⟨_, _, _, h4⟩ := (refetch_spec h).1 tr' htr'
  have key (a : Act) (hne : a ≠ .add) (ha : tr'.act = a) (hc : g.replayChecks a = true) :
      ∃ e, g.db tr'.item = some e ∧ e.key = tr'.ent.key ∧ e.ver = tr'.ent.ver :=
    let ⟨e, he1, he2, he3⟩ := h4 (ha ▸ hne)
    ⟨e, he1, he2, he3 (ha ▸ hc)⟩
  exact ⟨key .get nofun, key .update nofun, key .remove nofun⟩

/-- `KP`: an item is unchanged, strictly newer, or gone. This is the step of `C02_partial` that a variant without the
    remove comparison loses. -/
theorem replay_reads_valid {g : G} {t t' : Txn} (hc : ChecksAll g) (h : refetch g t = some t')
    (hk : ∀ r ∈ t.reads, KP g r) : ∀ r ∈ t'.reads, g.db r.1 = some r.2 := fun r hr =>
  let ⟨hr', _, he, _, hv⟩ := refetch_reads h hc r hr
  fresh_of_kp (hk r hr') he hv

theorem replay_remove_valid {g : G} {t t' : Txn} (hc : ChecksAll g) (h : refetch g t = some t')
    (hk : ∀ r ∈ t.reads, KP g r) : ∀ tr' ∈ t'.tracked, tr'.act = .remove → g.db tr'.item = some tr'.ent :=
  fun tr' htr' ha => replay_reads_valid hc h hk (tr'.item, tr'.ent) (mem_reads.mpr ⟨tr', htr', by rw [ha]; decide, rfl⟩)

/-! Without the comparison for removes the history is not serializable. x = item 1 (key 10, value 10). T0 reads x and then removes it ("take"); T1 reads x and writes x := 11. T0 does its work,
T1 commits, T0's node validation fails, it refetches and replays its single REMOVE entry. -/
def take0 : G :=
  { ids := [1], pageOf := fun _ => 1,
    db := fun i => if i = 1 then some ⟨10, 10, 0⟩ else none,
    txns := fun i => if i = 0 then { prog := [.get 10, .rm 10] } else if i = 1 then { prog := [.updf 10 10 1] } else absent }

def takeNoRemoveCheck : G := { take0 with replayChecks := fun a => a != .remove }

def takeSched : List (Nat × List Nat) :=
  [0, 1, 1, 1, 1, 1, 1, 1, 1, 1, 0, 0, 0, 0, 0, 0, 0, 0, 0, 0, 0, 0, 0, 0, 0, 0].map fun i => (i, [])

/-- the code as it is: the replay rejects T0 ("detected a newer version of item"), only T1 commits -/
theorem take_rejected :
    ((run take0 takeSched).txns 0).res = .err ∧ (run take0 takeSched).hist.map (·.txn) = [1] ∧
    (run take0 takeSched).db 1 = some ⟨10, 11, 1⟩ := by decide +kernel

/-- the variant that does not compare remove entries: both commit, x is gone, and no order of the two explains it
    (T0;T1: T1 found x. T1;T0: T0 read 10, not 11) -/
theorem no_remove_check_counterexample :
    ((run takeNoRemoveCheck takeSched).txns 0).res = .ok ∧ ((run takeNoRemoveCheck takeSched).txns 1).res = .ok ∧
    (run takeNoRemoveCheck takeSched).db 1 = none ∧
    (perms (run takeNoRemoveCheck takeSched).hist).any (explains takeNoRemoveCheck (run takeNoRemoveCheck takeSched)) = false := by
  decide +kernel

/-- its `ChecksAll` is false from the first state on -/
theorem no_remove_check_not_good : ¬ GoodN 2 takeNoRemoveCheck takeSched := by decide +kernel

/-! The inner-node removal defect (finding C02-F2, repaired by repo commit a8e6b837).
Before the repair `RemoveCurrentItem` on an item of an inner node registered the in-order SUCCESSOR in the tracker
(`Op.rm k alias`, `Tr.phys`). Items: 4 (key 40, inner node = page 1), 5 (key 50) and 6 (key 60) in the leaf = page 2.
T0 removes key 40 — tracked as "remove item 5"; T1 updates key 60 and commits first, so T0's validation of page 2
fails and its merge replays the tracker: item 5 (key 50) is removed, key 40 stays, Commit returns nil. -/
def legacy0 : G :=
  { ids := [4, 5, 6], pageOf := fun i => if i = 4 then 1 else 2,
    db := fun i => if i = 4 then some ⟨40, 100, 0⟩ else if i = 5 then some ⟨50, 100, 0⟩ else if i = 6 then some ⟨60, 100, 0⟩ else none,
    txns := fun i => if i = 0 then { prog := [.rm 40 5] } else if i = 1 then { prog := [.upd 60 7] } else absent }

def legacySched : List (Nat × List Nat) :=
  [(0, [1])] ++ ([1, 1, 1, 1, 1, 1, 1, 1, 1, 0, 0, 0, 0, 0, 0, 0, 0, 0, 0, 0, 0, 0, 0, 0, 0].map fun i => (i, []))

theorem legacy_successor_alias :
    ((run legacy0 legacySched).txns 0).res = .ok ∧ ((run legacy0 legacySched).txns 1).res = .ok ∧
    (run legacy0 legacySched).db 4 = some ⟨40, 100, 0⟩ ∧ (run legacy0 legacySched).db 5 = none := by decide +kernel

/-- the repaired tracker (no alias): the same schedule removes key 40 and keeps key 50 -/
theorem repaired_inner_remove :
    let g := { legacy0 with txns := fun i => if i = 0 then { prog := [.rm 40] } else legacy0.txns i }
    ((run g legacySched).txns 0).res = .ok ∧ (run g legacySched).db 4 = none ∧ (run g legacySched).db 5 = some ⟨50, 100, 0⟩ := by decide +kernel

end Sop.C02
