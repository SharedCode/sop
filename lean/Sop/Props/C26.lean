import Sop.Props.C25
/-! # C26 — shard auto-repair restores full redundancy (`RepairCorruptedShards = true`)

About `Variant.fixed`; on `Variant.orig` the repairing read dies on mixed damage before any repair
(`C25.C25_counterexample_nil_metadata`). -/
namespace Sop.C26
open Sop.Erasure Sop.C25

/-- every damaged shard file is absent, shorter than the prefix, or damaged in its body (not in the
17-byte metadata prefix only — those are not repaired, see `C26_counterexample_metadata_only`) -/
def BodyDamage (files0 : List Bytes) (fs : List (Option Bytes)) : Prop :=
  ∀ x ∈ fs.zip files0, ∀ b, x.1 = some b → b ≠ x.2 → metaSize ≤ b.length →
    b.drop metaSize ≠ x.2.drop metaSize

/-- in how many positions two directory states differ -/
def differ (fs fs2 : List (Option Bytes)) : Nat := (fs2.zip fs).countP fun x => x.1 != x.2

/-- when every shard body is the one written and damage is never confined to the metadata prefix, no file is damaged -/
theorem fresh_of_bodies {C : Code} {md5 : Bytes → Bytes} {data : Bytes} {files0 : List Bytes} {fs : List (Option Bytes)}
    (S : Stored C md5 data files0 fs) (hbody : BodyDamage files0 fs) (hb : bodies fs = (cwOf C data).map some) :
    fs = files0.map some := by
  -- position by position: the file now reads as the shard that was written there
  have hz : (fs.zip files0).map (fun x => (rd x.1).1) = (fs.zip files0).map fun x => some (x.2.drop metaSize) := by
    rw [map_zip_fst (fun f => (rd f).1) (Nat.le_of_eq S.len), show fs.map (fun f => (rd f).1) = _ from hb,
      ← S.zip_shards S.files_eq S.len, List.map_map]
    rfl
  have e1 : fs = (fs.zip files0).map (·.1) := (List.map_fst_zip (Nat.le_of_eq S.len)).symm
  have e2 : files0.map some = (fs.zip files0).map fun x => some x.2 := (map_zip_snd some (Nat.le_of_eq S.len.symm)).symm
  rw [e2]
  conv => lhs; rw [e1]
  refine List.map_congr_left fun x hx => ?_
  obtain ⟨b, hfb, hlb, hdb⟩ := rd_fst_some ((List.map_inj_left.mp hz) x hx)
  show x.1 = some x.2
  rw [hfb]
  exact congrArg some (Decidable.byContradiction fun hne => hbody x hx b hfb hne hlb hdb)

section
variable {C : Code} (hC : C.Laws) (md5 : Bytes → Bytes) (hmd : ∀ b, (md5 b).length = 16)
  (data : Bytes) (hdata : data ≠ []) (hd : 0 < C.d) (h256 : C.d < 256)
  (files0 : List Bytes) (he : encodeFiles C md5 data = some files0)
  (fs : List (Option Bytes)) (hlen : fs.length = files0.length)
include hC hmd hdata hd h256 he hlen

/-- **C26**: with repair on, a read of a blob with at most `p` damaged shard files (damage the
checksum detects, not confined to the metadata prefix) returns the stored bytes AND leaves every
shard file byte-equal to a fresh encode. -/
theorem C26_repair (hdam : damaged files0 fs ≤ C.p) (hdet : ChecksumDetects md5 files0 fs)
    (hbody : BodyDamage files0 fs) :
    (∃ idxs, (getOne .fixed C md5 true fs).1 = .ok data idxs) ∧
      (getOne .fixed C md5 true fs).2.1 = files0.map some := by
  refine ⟨C25_read hC md5 hmd data hdata hd h256 files0 he fs hlen hdam hdet true, ?_⟩
  have S := stored hC md5 hmd data hdata hd h256 files0 he fs hlen
  obtain ⟨hne, hdec⟩ := S.decode_within hdam hdet
  by_cases hv : verify C (bodies fs) = .pass
  · -- fast path: nothing is rewritten, and nothing needs to be
    rw [if_pos hv] at hdec
    rw [getOne_fixed_files C md5 fs data [] files0 hne hdec he]
    simp only [List.isEmpty_nil, if_true]
    exact fresh_of_bodies S hbody (S.noAccidental hdam hv)
  · rw [if_neg hv] at hdec
    rw [getOne_fixed_files C md5 fs data _ files0 hne hdec he]
    split
    · rename_i hemp
      rw [← rewrite_lost hlen, List.isEmpty_iff.mp hemp, rewrite_nil fs files0 hlen]
    · exact rewrite_lost hlen

/-- … hence any further `p` failures are tolerated: whatever happens next to at most `p` of the shard
files (in a way the checksum detects), the blob is read back exactly. -/
theorem C26_then_tolerates (hdam : damaged files0 fs ≤ C.p) (hdet : ChecksumDetects md5 files0 fs)
    (hbody : BodyDamage files0 fs) (fs2 : List (Option Bytes))
    (hlen2 : fs2.length = (getOne .fixed C md5 true fs).2.1.length)
    (hnew : differ (getOne .fixed C md5 true fs).2.1 fs2 ≤ C.p) (hdet2 : ChecksumDetects md5 files0 fs2)
    (repair : Bool) :
    ∃ idxs, (getOne .fixed C md5 repair fs2).1 = .ok data idxs := by
  have hrep := (C26_repair hC md5 hmd data hdata hd h256 files0 he fs hlen hdam hdet hbody).2
  rw [hrep] at hlen2 hnew
  refine C25_read hC md5 hmd data hdata hd h256 files0 he fs2 (by simpa using hlen2) ?_ hdet2 repair
  unfold differ at hnew
  unfold damaged
  rw [List.zip_map_right, List.countP_map] at hnew
  exact hnew

end

/-- the hypotheses of `C26_repair` hold for mixed damage within parity (missing + corrupted body), and
the conclusion is what the model computes: both shards rewritten -/
example : (getOne .fixed (repCode 2) toyMd5 true [none, some f123c, some f123]).2 =
    ([some f123, some f123, some f123], [0, 1]) := by decide

example : BodyDamage [f123, f123, f123] [none, some f123c, some f123] := by
  intro x hx b hb hne hl
  simp only [List.zip_cons_cons, List.zip_nil_right, List.mem_cons, List.not_mem_nil, or_false] at hx
  rcases hx with rfl | rfl | rfl
  · simp at hb
  · simp only [Option.some.injEq] at hb
    subst hb
    decide
  · simp only [Option.some.injEq] at hb
    exact absurd hb.symm hne

/-- the full-strength statement without `BodyDamage` -/
def Statement_C26 : Prop :=
  ∀ (C : Code), C.Laws → ∀ (md5 : Bytes → Bytes), (∀ b, (md5 b).length = 16) → ∀ (data : Bytes), data ≠ [] →
    0 < C.d → C.d < 256 → ∀ files0, encodeFiles C md5 data = some files0 → ∀ fs : List (Option Bytes),
    fs.length = files0.length → damaged files0 fs ≤ C.p → ChecksumDetects md5 files0 fs →
    (getOne .fixed C md5 true fs).2.1 = files0.map some

/-- a flipped checksum byte (body intact): `Verify` passes, nothing is reported, the file stays damaged -/
def f123k : Bytes := 0 :: (toyMd5 [1, 2, 3]).set 0 99 ++ [1, 2, 3]

theorem C26_counterexample_metadata_only :
    (getOne .fixed (repCode 2) toyMd5 true [some f123k, some f123, some f123]) =
      (.ok [1, 2, 3] [], [some f123k, some f123, some f123], []) := by decide

theorem C26_counterexample : ¬ Statement_C26 := by
  intro h
  have := h (repCode 2) (repCode_laws 2) toyMd5 toyMd5_length [1, 2, 3] (by simp) (by decide) (by decide)
    [f123, f123, f123] (by rfl) [some f123k, some f123, some f123] rfl (by decide)
    (checksumDetects_of (by decide))
  rw [C26_counterexample_metadata_only] at this
  revert this
  decide

end Sop.C26
