import Sop.Model.Rbac
import Sop.Lemmas.Basics
/-! # C34 — access-control decisions respect system, ownership and grant rules

Every theorem quantifies over **all** callers (any user id, any list of roles, either system flag),
all resource names, all ACLs (any visibility string, owner, grant maps of any size) and all action
strings. The constants are those of `Sop.FactsRbac`, regenerated from the source on every run. -/
namespace Sop.C34
open Sop Sop.Rbac

/-- The regenerated constants are pairwise distinct where the rule needs it: the five actions, the
three visibilities (none of them empty), the three roles (none of them empty), a wildcard that is not an action, and
at least one core resource name. (If a constant changes so that two of them collide, this fails.) -/
theorem facts_sane :
    [FactsRbac.actionRead, FactsRbac.actionWrite, FactsRbac.actionDelete, FactsRbac.actionList, FactsRbac.actionAISelect].Nodup ∧
    [FactsRbac.visPublic, FactsRbac.visPrivate, FactsRbac.visSystem, ""].Nodup ∧
    [FactsRbac.roleAdmin, FactsRbac.roleUser, FactsRbac.roleGuest, ""].Nodup ∧
    FactsRbac.wildcard ∉ [FactsRbac.actionRead, FactsRbac.actionWrite, FactsRbac.actionDelete, FactsRbac.actionList, FactsRbac.actionAISelect] ∧
    FactsRbac.coreNames ≠ [] := by decide +kernel

/-- the caller holds a role that the ACL grants `action` (or the wildcard) -/
def RoleGrant (c : Caller) (acc : Access) (action : String) : Prop :=
  ∃ r ∈ c.roles, ∃ acts, acc.roles.lookup r = some acts ∧ (action ∈ acts ∨ FactsRbac.wildcard ∈ acts)

/-- the ACL grants `action` (or the wildcard) to the caller's user id -/
def UserGrant (c : Caller) (acc : Access) (action : String) : Prop :=
  ∃ acts, acc.users.lookup c.userId = some acts ∧ (action ∈ acts ∨ FactsRbac.wildcard ∈ acts)

theorem grants_iff (acts : List String) (action : String) :
    grants acts action = true ↔ (action ∈ acts ∨ FactsRbac.wildcard ∈ acts) := by
  unfold grants
  simp only [List.any_eq_true, Bool.or_eq_true, beq_iff_eq]
  constructor
  · rintro ⟨a, ha, rfl | rfl⟩
    · exact Or.inl ha
    · exact Or.inr ha
  · rintro (h | h)
    · exact ⟨action, h, Or.inl rfl⟩
    · exact ⟨_, h, Or.inr rfl⟩

/-- one ACL map, one key: the test both the role loop and the user lookup of `Authorize` make -/
theorem lookupGrants_iff (m : List (String × List String)) (key action : String) :
    lookupGrants m key action = true ↔ ∃ acts, m.lookup key = some acts ∧ (action ∈ acts ∨ FactsRbac.wildcard ∈ acts) := by
  unfold lookupGrants
  cases m.lookup key with
  | none => exact ⟨nofun, fun ⟨_, h, _⟩ => nomatch h⟩
  | some acts => exact (grants_iff acts action).trans ⟨fun h => ⟨acts, rfl, h⟩, fun ⟨_, e, h⟩ => Option.some.inj e ▸ h⟩

theorem roleLoop_iff (c : Caller) (acc : Access) (action : String) :
    (c.roles.any (fun r => lookupGrants acc.roles r action)) = true ↔ RoleGrant c acc action := by
  simp only [List.any_eq_true, RoleGrant, lookupGrants_iff]

/-- `Authorize` is one early-return chain; as a Boolean expression -/
theorem authorize_eq (c : Caller) (acc : Access) (action : String) :
    authorize c acc action =
      if acc.vis == FactsRbac.visSystem then c.isSystem
      else ((c.roles.any fun r => r == FactsRbac.roleAdmin)
        || (acc.owner != "" && c.userId == acc.owner)
        || ((acc.vis == FactsRbac.visPublic || acc.vis == "") && (action == FactsRbac.actionRead || action == FactsRbac.actionList))
        || (c.roles.any fun r => lookupGrants acc.roles r action)
        || lookupGrants acc.users c.userId action) := by
  simp only [authorize, Bool.if_true_left, Bool.decide_eq_true, Bool.or_assoc]

/-- **System-visibility resources are accessible only to system callers** — and to every system
caller: the decision is the system flag, whatever the roles (Admin included), owner, grants, action. -/
theorem C34_system (c : Caller) (acc : Access) (action : String) (h : acc.vis = FactsRbac.visSystem) :
    authorize c acc action = c.isSystem := by
  rw [authorize_eq, h, beq_self_eq_true, if_pos rfl]

/-- **Otherwise an action is allowed only to admins, the owner, holders of a role or user grant for it,
or (read and list only) anyone on a public resource** — and to all of those. This is the exact
decision formula of `Authorize` off the system visibility. -/
theorem C34_iff (c : Caller) (acc : Access) (action : String) (h : acc.vis ≠ FactsRbac.visSystem) :
    authorize c acc action = true ↔
      (FactsRbac.roleAdmin ∈ c.roles
       ∨ (acc.owner ≠ "" ∧ c.userId = acc.owner)
       ∨ ((acc.vis = FactsRbac.visPublic ∨ acc.vis = "") ∧ (action = FactsRbac.actionRead ∨ action = FactsRbac.actionList))
       ∨ RoleGrant c acc action
       ∨ UserGrant c acc action) := by
  have hv : (acc.vis == FactsRbac.visSystem) = false := by simpa using h
  have e1 : (c.roles.any fun r => r == FactsRbac.roleAdmin) = true ↔ FactsRbac.roleAdmin ∈ c.roles := by
    simp only [List.any_eq_true, beq_iff_eq]
    exact ⟨fun ⟨r, hr, e⟩ => e ▸ hr, fun hm => ⟨_, hm, rfl⟩⟩
  rw [authorize_eq]
  simp only [hv, Bool.false_eq_true, if_false, Bool.or_eq_true, roleLoop_iff, UserGrant, lookupGrants_iff, e1, Bool.and_eq_true,
    bne_iff_ne, beq_iff_eq, or_assoc]

/-- the same rule as a refusal: off the system visibility, a caller that is not an admin, is not the
owner and holds no grant is denied everything except read/list on a public (or unlabelled) resource -/
theorem C34_default_deny (c : Caller) (acc : Access) (action : String) (h : acc.vis ≠ FactsRbac.visSystem)
    (hadmin : FactsRbac.roleAdmin ∉ c.roles) (hown : ¬ (acc.owner ≠ "" ∧ c.userId = acc.owner))
    (hr : ¬ RoleGrant c acc action) (hu : ¬ UserGrant c acc action)
    (hpub : ¬ ((acc.vis = FactsRbac.visPublic ∨ acc.vis = "") ∧ (action = FactsRbac.actionRead ∨ action = FactsRbac.actionList))) :
    authorize c acc action = false := by
  cases hb : authorize c acc action with
  | false => rfl
  | true =>
    rcases (C34_iff c acc action h).1 hb with h1 | h1 | h1 | h1 | h1
    · exact absurd h1 hadmin
    · exact absurd h1 hown
    · exact absurd h1 hpub
    · exact absurd h1 hr
    · exact absurd h1 hu

/-- **Core system resources can never be written or deleted, by anyone**: for a core name and the write
or delete action `CheckPolicy` answers `ErrSystemReadOnly` for every caller (system, admin, owner…) and
every ACL. -/
theorem C34_core_readonly (name : String) (c : Caller) (acc : Access) (action : String)
    (hcore : name ∈ FactsRbac.coreNames) (hact : action = FactsRbac.actionWrite ∨ action = FactsRbac.actionDelete) :
    checkPolicy name c acc action = .systemReadOnly ∧ canPerform name c acc action = false := by
  have h1 : isCore name = true := by simpa [isCore] using hcore
  have h2 : (action == FactsRbac.actionWrite || action == FactsRbac.actionDelete) = true := by simpa using hact
  have : checkPolicy name c acc action = .systemReadOnly := by simp [checkPolicy, h1, h2]
  exact ⟨this, by simp [canPerform, this]⟩

/-- the enforcement decision, exactly: allowed iff not (core name and write/delete) and `Authorize` allows -/
theorem C34_policy_iff (name : String) (c : Caller) (acc : Access) (action : String) :
    checkPolicy name c acc action = .ok ↔
      (¬ (name ∈ FactsRbac.coreNames ∧ (action = FactsRbac.actionWrite ∨ action = FactsRbac.actionDelete))
        ∧ authorize c acc action = true) := by
  unfold checkPolicy
  by_cases h1 : (isCore name && (action == FactsRbac.actionWrite || action == FactsRbac.actionDelete)) = true
  · have : name ∈ FactsRbac.coreNames ∧ (action = FactsRbac.actionWrite ∨ action = FactsRbac.actionDelete) := by
      simpa [isCore] using h1
    simp [h1, this]
  · have hn : ¬ (name ∈ FactsRbac.coreNames ∧ (action = FactsRbac.actionWrite ∨ action = FactsRbac.actionDelete)) := by
      intro hh; exact h1 (by simpa [isCore] using hh)
    simp only [h1, hn, not_false_eq_true, true_and]
    cases authorize c acc action <;> simp

/-- on a system-visibility resource enforcement allows exactly the system callers (minus the core rule) -/
theorem C34_policy_system (name : String) (c : Caller) (acc : Access) (action : String) (h : acc.vis = FactsRbac.visSystem) :
    checkPolicy name c acc action = .ok ↔
      (¬ (name ∈ FactsRbac.coreNames ∧ (action = FactsRbac.actionWrite ∨ action = FactsRbac.actionDelete)) ∧ c.isSystem = true) := by
  rw [C34_policy_iff, C34_system c acc action h]

/-- The fold of `ResolveRBACMap`, started from any map: the value under a key is the verdict of the **last** action of the
list that maps to that key (Go map assignment: the later write wins); keys of no action keep their earlier value -/
theorem fill_lookup (f : String → Bool) (acts : List String) (m : List (String × Bool)) (k : String) :
    (acts.foldl (fun m a => (cap a, f a) :: m) m).lookup k =
      match (acts.reverse.find? fun a => cap a == k) with
      | some a => some (f a)
      | none => m.lookup k := by
  have hw : ∀ (m : List (String × Bool)) a k, ((cap a, f a) :: m).lookup k = if cap a = k then some (f a) else m.lookup k := by
    intro m a k
    rw [List.lookup_cons]
    by_cases h : cap a = k
    · rw [if_pos h, h, beq_self_eq_true]
    · rw [if_neg h, beq_eq_false_iff_ne.2 fun e => h e.symm]
  refine (foldl_get_last (get := fun m k => m.lookup k) (key := cap) (val := f) hw acts m k).trans ?_
  cases acts.reverse.find? fun a => cap a == k <;> rfl

/-- without the distinctness hypothesis: the entry is the enforcement decision of the last action of the
blueprint that maps to the capability -/
theorem C34_ui_agrees_last (bp : Blueprint) (c : Caller) (name : String) (acc : Option Access) (k : String)
    (hev : bp.evaluator = none) :
    (resolveMap (some bp) c name acc).lookup k =
      (bp.actions.reverse.find? fun b => cap b == k).map
        (fun b => decide (checkPolicy name c (acc.getD Access.zero) b = .ok)) := by
  rw [resolveMap, fill_lookup]
  cases bp.actions.reverse.find? (fun b => cap b == k) with
  | none => simp
  | some b =>
    simp only [hev, canPerform, Option.map_some]
    cases checkPolicy name c (acc.getD Access.zero) b <;> rfl

/-- **The UI capability map agrees with the enforcement decision.** For a registered blueprint
without a custom evaluator and any action `a` of it whose capability no *other* action of the blueprint
shares, the map's entry for `a`'s capability is exactly `CheckPolicy(a) == nil` — in particular `false`
for write/delete on a core resource. -/
theorem C34_ui_agrees (bp : Blueprint) (c : Caller) (name : String) (acc : Option Access) (a : String)
    (hev : bp.evaluator = none) (ha : a ∈ bp.actions) (hinj : ∀ b ∈ bp.actions, cap b = cap a → b = a) :
    (resolveMap (some bp) c name acc).lookup (cap a)
      = some (decide (checkPolicy name c (acc.getD Access.zero) a = .ok)) := by
  rw [C34_ui_agrees_last bp c name acc (cap a) hev]
  cases hfind : bp.actions.reverse.find? (fun b => cap b == cap a) with
  | none =>
    have := List.find?_eq_none.1 hfind a (by simpa using ha)
    simp at this
  | some b =>
    -- the last action with that capability is `a` itself
    have hmem : b ∈ bp.actions := by simpa using List.mem_of_find?_eq_some hfind
    rw [hinj b hmem (by simpa using List.find?_some hfind)]
    rfl

/-- an unregistered asset type yields the empty map: every capability reads as `false` in Go -/
theorem C34_ui_unregistered (c : Caller) (name : String) (acc : Option Access) :
    resolveMap none c name acc = [] := rfl

/-- the actions the source declares (`sop.Action*`) -/
def declaredActions : List String :=
  [FactsRbac.actionRead, FactsRbac.actionWrite, FactsRbac.actionDelete, FactsRbac.actionList, FactsRbac.actionAISelect]

/-- the distinctness hypothesis of `C34_ui_agrees` holds for every blueprint made of the five declared
actions (in any order, with repeats): their capabilities are pairwise distinct -/
theorem cap_injective_on_declared (a b : String) (ha : a ∈ declaredActions) (hb : b ∈ declaredActions)
    (h : cap b = cap a) : b = a :=
  (by decide +kernel : ∀ a ∈ declaredActions, ∀ b ∈ declaredActions, cap b = cap a → b = a) a ha b hb h

/-- so: for blueprints over the declared actions the UI map agrees with enforcement without the
distinctness hypothesis (still: no custom evaluator) -/
theorem C34_ui_agrees_declared (bp : Blueprint) (c : Caller) (name : String) (acc : Option Access) (a : String)
    (hev : bp.evaluator = none) (ha : a ∈ bp.actions)
    (hdecl : ∀ b ∈ bp.actions, b ∈ [FactsRbac.actionRead, FactsRbac.actionWrite, FactsRbac.actionDelete, FactsRbac.actionList, FactsRbac.actionAISelect]) :
    (resolveMap (some bp) c name acc).lookup (cap a)
      = some (decide (checkPolicy name c (acc.getD Access.zero) a = .ok)) :=
  C34_ui_agrees bp c name acc a hev ha (fun b hb h => cap_injective_on_declared a b (hdecl a ha) (hdecl b hb) h)

def alice : Caller := ⟨"a", [FactsRbac.roleUser], false⟩
def doc : Access := ⟨FactsRbac.visPrivate, "b", [(FactsRbac.roleUser, [FactsRbac.actionWrite])], [("a", [FactsRbac.wildcard])]⟩

example : doc.vis ≠ FactsRbac.visSystem := by decide +kernel
example : authorize alice doc FactsRbac.actionWrite = true := by decide +kernel
example : RoleGrant alice doc FactsRbac.actionWrite := ⟨FactsRbac.roleUser, by decide, [FactsRbac.actionWrite], by decide, Or.inl (by decide)⟩
example : authorize ⟨"c", [FactsRbac.roleGuest], true⟩ doc FactsRbac.actionDelete = false := by decide +kernel
/-- a caller and a resource without admin role, ownership or any grant entry (what `C34_default_deny` asks for) -/
example : FactsRbac.roleAdmin ∉ (⟨"c", [FactsRbac.roleGuest], true⟩ : Caller).roles ∧
    ¬ (doc.owner ≠ "" ∧ "c" = doc.owner) ∧ doc.users.lookup "c" = none ∧ doc.roles.lookup FactsRbac.roleGuest = none := by decide +kernel
example : ∃ n, n ∈ FactsRbac.coreNames := ⟨FactsRbac.coreNames.head (by decide), List.head_mem _⟩
example : checkPolicy (FactsRbac.coreNames.head (by decide)) ⟨"root", [FactsRbac.roleAdmin], true⟩ Access.zero FactsRbac.actionWrite = .systemReadOnly := by decide +kernel
example : checkPolicy (FactsRbac.coreNames.head (by decide)) ⟨"root", [FactsRbac.roleAdmin], true⟩ Access.zero FactsRbac.actionRead = .ok := by decide +kernel
example : (resolveMap (some ⟨[FactsRbac.actionRead, FactsRbac.actionWrite], none⟩) alice "inventory" (some doc)).lookup FactsRbac.capEdit = some true := by decide +kernel

end Sop.C34
