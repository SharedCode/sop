import Sop.Lemmas.JsonPatch
import Sop.Model.StoreInfoGet
import Sop.Props.C20
/-!
# C13 — committing changes never alters or corrupts a store's configuration

The theorems are about `patchJSONNumericField` as /repo has it since b4cfe484 (the key token is looked for in key
position: model `patch`); `orig_counterexample*` show on the model of the function before that commit (`patchOrig`)
what went wrong.

Second part: the count over histories of commits in one process, on `Sop.Model.StoreInfoHistory` over the
`StoreRepository.Update` model of C20 (`Sop.Model.StoreInfoCache`). Third part: the configuration across processes,
on `Sop.Model.StoreInfoGet`.
-/
namespace Sop.C13
open Sop.JsonPatch

def prefixSI (si : StoreInfo) (R : List Char) : List Char :=
  (chars! "{\"name\":\"") ++ (escape si.name ++
  ((chars! "\",\"slot_length\":") ++ (showInt si.slotLength ++
  ((chars! ",\"is_unique\":") ++ (showBool si.isUnique ++
  ((chars! ",\"description\":\"") ++ (escape si.description ++
  ((chars! "\",\"registry_table\":\"") ++ (escape si.registryTable ++
  ((chars! "\",\"blob_table\":\"") ++ (escape si.blobTable ++
  ((chars! "\",\"root_node_id\":\"") ++ (escape si.rootNodeId ++
  ((chars! "\"") ++ R))))))))))))))

theorem encodeSI_eq (si : StoreInfo) :
    encodeSI si = prefixSI si ((chars! ",\"count\":") ++ (showInt si.count ++
      ((chars! ",\"timestamp\":") ++ (showInt si.timestamp ++ (',' :: si.tail))))) := by
  unfold encodeSI prefixSI; rfl

theorem prefixSI_append (si : StoreInfo) (a X : List Char) : prefixSI si a ++ X = prefixSI si (a ++ X) := by
  simp [prefixSI, List.append_assoc]

theorem litOk_showInt (k0 : Char) (i : Int) : litOk k0 (showInt i) = true :=
  litOk_of_noComma k0 _ (fun c hc => (showInt_chars i c hc).1)

theorem litOk_showBool (k0 : Char) (b : Bool) : litOk k0 (showBool b) = true :=
  litOk_of_noComma k0 _ (by cases b <;> simp [showBool])

/-- no occurrence of `,"c…` / `,"t…` starts anywhere in the part of the file that precedes the `count` key:
the string values are escaped (every `"` in them follows a backslash), and the only `,"` between values
introduce the other keys. -/
theorem skipPrefix (k0 : Char) (hk : k0 = 'c' ∨ k0 = 't') (n : List Char) (si : StoreInfo) (R a b : List Char)
    (hR : [k0].isPrefixOf R = false)
    (h : splitAt (',' :: '"' :: k0 :: n) R = some (a, b)) :
    splitAt (',' :: '"' :: k0 :: n) (prefixSI si R) = some (prefixSI si a, b) := by
  have hq : ∀ X : List Char, ['"', k0].isPrefixOf ('"' :: ',' :: X) = false := by
    intro X; rcases hk with rfl | rfl <;> simp [List.isPrefixOf]
  have lit : ∀ L : List Char, (litOk 'c' L && litOk 't' L) = true → litOk k0 L = true := by
    intro L hL
    rw [Bool.and_eq_true] at hL
    rcases hk with rfl | rfl
    · exact hL.1
    · exact hL.2
  -- the pieces of the prefix, from its end to its start
  unfold prefixSI
  have h1 := skipLit k0 n (chars! "\"") _ _ _ (lit _ (by decide)) h
  have h2 := skipGuarded k0 n (escape si.rootNodeId) _ _ _ false (guarded_escape _ _)
    (by simpa [List.isPrefixOf] using hR) h1
  have h3 := skipLit k0 n (chars! "\",\"root_node_id\":\"") _ _ _ (lit _ (by decide)) h2
  have h4 := skipGuarded k0 n (escape si.blobTable) _ _ _ false (guarded_escape _ _) (hq _) h3
  have h5 := skipLit k0 n (chars! "\",\"blob_table\":\"") _ _ _ (lit _ (by decide)) h4
  have h6 := skipGuarded k0 n (escape si.registryTable) _ _ _ false (guarded_escape _ _) (hq _) h5
  have h7 := skipLit k0 n (chars! "\",\"registry_table\":\"") _ _ _ (lit _ (by decide)) h6
  have h8 := skipGuarded k0 n (escape si.description) _ _ _ false (guarded_escape _ _) (hq _) h7
  have h9 := skipLit k0 n (chars! ",\"description\":\"") _ _ _ (lit _ (by decide)) h8
  have h10 := skipLit k0 n (showBool si.isUnique) _ _ _ (litOk_showBool _ _) h9
  have h11 := skipLit k0 n (chars! ",\"is_unique\":") _ _ _ (lit _ (by decide)) h10
  have h12 := skipLit k0 n (showInt si.slotLength) _ _ _ (litOk_showInt _ _) h11
  have h13 := skipLit k0 n (chars! "\",\"slot_length\":") _ _ _ (lit _ (by decide)) h12
  have h14 := skipGuarded k0 n (escape si.name) _ _ _ false (guarded_escape _ _) (hq _) h13
  exact skipLit k0 n (chars! "{\"name\":\"") _ _ _ (lit _ (by decide)) h14

theorem patch_count (si : StoreInfo) (c : Int) :
    patch (encodeSI si) kCount c = some (encodeSI { si with count := c }) := by
  have h0 := splitAt_here ',' ('"' :: 'c' :: (chars! "ount\":"))
    (showInt si.count ++ ((chars! ",\"timestamp\":") ++ (showInt si.timestamp ++ (',' :: si.tail))))
  have h := skipPrefix 'c' (Or.inl rfl) (chars! "ount\":") si _ _ _ (by simp [List.isPrefixOf]) h0
  rw [encodeSI_eq, patch_at kCount c (x := ',') (by decide) h, encodeSI_eq]
  simp only [prefixSI_append, List.nil_append, List.cons_append, List.append_assoc]
  rfl

theorem patch_timestamp (si : StoreInfo) (ts : Int) :
    patch (encodeSI si) kTimestamp ts = some (encodeSI { si with timestamp := ts }) := by
  have h0 := splitAt_here ',' ('"' :: 't' :: (chars! "imestamp\":")) (showInt si.timestamp ++ (',' :: si.tail))
  have h1 := skipLit 't' (chars! "imestamp\":") (showInt si.count) _ _ _ (litOk_showInt _ _) h0
  have h2 := skipLit 't' (chars! "imestamp\":") (chars! ",\"count\":") _ _ _ (by decide) h1
  have h := skipPrefix 't' (Or.inr rfl) (chars! "imestamp\":") si _ _ _ (by simp [List.isPrefixOf]) h2
  rw [encodeSI_eq, patch_at kTimestamp ts (x := ',') (by decide) h, encodeSI_eq]
  simp only [prefixSI_append, List.nil_append, List.cons_append, List.append_assoc, List.append_nil]
  rfl

theorem patchBoth_exact (si : StoreInfo) (c ts : Int) :
    patchBoth patch (encodeSI si) c ts = some (encodeSI { si with count := c, timestamp := ts }) := by
  unfold patchBoth
  rw [patch_count]
  simp only []
  rw [patch_timestamp]

theorem parse_encode (si : StoreInfo) : parseSI (encodeSI si) = some si := by
  unfold parseSI encodeSI
  simp only [expect_append, expect_head, readStr_escape_lit, readInt_showInt_lit, readInt_comma, readBool_show,
    List.nil_append, Option.bind_eq_bind, Option.bind_some, Option.pure_def]

/-- **C13, one commit**: after the count/timestamp fast path the file reads back as the ORIGINAL
configuration with the new count and timestamp — for every name, description, table name, root id and every
option text. -/
theorem C13_patch_sound (si : StoreInfo) (c ts : Int) :
    (patchBoth patch (encodeSI si) c ts).bind parseSI = some { si with count := c, timestamp := ts } := by
  rw [patchBoth_exact]
  exact parse_encode _

/-- the same with the two `patch` calls written out -/
theorem C13_patch_sound' (si : StoreInfo) (c ts : Int) :
    ((patch (encodeSI si) kCount c).bind fun d => (patch d kTimestamp ts).bind parseSI)
      = some { si with count := c, timestamp := ts } :=
  (patchBoth_bind patch _ c ts parseSI).symm.trans (C13_patch_sound si c ts)

def lastOr (p : Int × Int) (ups : List (Int × Int)) : Int × Int := ups.foldl (fun _ u => u) p

/-- **C13, any history of commits**: starting from the file `Add` wrote for `cfg`, after any sequence of
updates (the fast path: with `patch` it never fails, `patchBoth_exact`) the file is the encoding of `cfg`
with the last count and timestamp. -/
theorem C13_history (cfg : StoreInfo) (ups : List (Int × Int)) (c0 ts0 : Int) :
    history patch cfg (encodeSI { cfg with count := c0, timestamp := ts0 }) ups
      = encodeSI { cfg with count := (lastOr (c0, ts0) ups).1, timestamp := (lastOr (c0, ts0) ups).2 } := by
  induction ups generalizing c0 ts0 with
  | nil => rfl
  | cons u rest ih =>
    obtain ⟨c, ts⟩ := u
    have step : updateFile patch cfg (encodeSI { cfg with count := c0, timestamp := ts0 }) c ts
        = encodeSI { cfg with count := c, timestamp := ts } := by
      unfold updateFile
      rw [patchBoth_exact]
    rw [history, step, ih]
    rfl

theorem C13_history_reads_back (cfg : StoreInfo) (ups : List (Int × Int)) (c0 ts0 : Int) :
    parseSI (history patch cfg (encodeSI { cfg with count := c0, timestamp := ts0 }) ups)
      = some { cfg with count := (lastOr (c0, ts0) ups).1, timestamp := (lastOr (c0, ts0) ups).2 } := by
  rw [C13_history]; exact parse_encode _

def Statement_C13 (patchFn : List Char → List Char → Int → Option (List Char)) : Prop :=
  ∀ (si : StoreInfo) (c ts : Int),
    (patchBoth patchFn (encodeSI si) c ts).bind parseSI = some { si with count := c, timestamp := ts }

theorem Statement_C13_repaired : Statement_C13 patch := C13_patch_sound

def witnessTail : List Char := (chars! "\"is_value_data_in_node_segment\":false}")

def witness1 : StoreInfo :=
  { name := (chars! "s1"), slotLength := 8, isUnique := false, description := (chars! "my \"count"),
    registryTable := (chars! "s1_r"), blobTable := (chars! "s1_b"),
    rootNodeId := (chars! "00000000-0000-0000-0000-000000000000"), count := 0, timestamp := 0, tail := witnessTail }

def witness2 : StoreInfo := { witness1 with name := (chars! "count"), description := [] }

/-- unrepaired code, description `my "count`: the patched file no longer reads back at all (the number lands
where the registry table name was). -/
theorem orig_counterexample_unreadable :
    (patchBoth patchOrig (encodeSI witness1) 5 7).bind parseSI = none := by decide +kernel

/-- unrepaired code, store named `count`: the patch succeeds, the file reads back, but `slot_length` was
silently replaced by the count and the count was not updated. -/
theorem orig_counterexample_silent :
    (patchBoth patchOrig (encodeSI witness2) 5 7).bind parseSI
      = some { witness2 with slotLength := 5, count := 0, timestamp := 7 } := by decide +kernel

theorem C13_counterexample : ¬ Statement_C13 patchOrig := by
  intro h
  have := h witness1 5 7
  rw [orig_counterexample_unreadable] at this
  exact absurd this (by simp)

/-- non-vacuity: the same hostile records go through the repaired patch -/
example : (patchBoth patch (encodeSI witness1) 5 7).bind parseSI = some { witness1 with count := 5, timestamp := 7 } :=
  C13_patch_sound _ _ _

end Sop.C13

/-! ## Second part: the count over histories of commits (`Sop.Model.StoreInfoHistory`) -/
namespace Sop.C13
open Sop.SICache Sop.SIHist

/-- the invariant of a history that started in `s0`; `Inv M`: every cache entry is absent or equal to its file, every
file carries its store's configuration `M n`; `h.committed` is a ghost -/
structure CountAcc (M : String → Nat) (s0 : St) (h : H) : Prop where
  inv : Inv M h.s
  count : ∀ n, ((h.s n).disk).map (·.count) = ((s0 n).disk).map (fun d => d.count + h.committed n)

/-- a commit of the kind C13 quantifies over: one entry per store, carrying that store's own configuration; whatever
fails during the forward pass fails before taking effect (an I/O error: unreadable or unwritable file, full or broken
disk — not a torn write, not a tolerated cache failure: C20-F3's subject); nobody removes a store meanwhile; the undo
pass itself is not disturbed (evictions are fine) -/
def GoodCommit (M : String → Nat) (l : List Upd) : Prop :=
  (l.map (·.name)).Nodup ∧
  ∀ u ∈ l, u.info = M u.name ∧ u.fwd.clean = true ∧ u.fwd.gone = false ∧ u.und.quiet = true

section
variable {M : String → Nat} {l : List Upd} {u : Upd} (h : GoodCommit M l) (hu : u ∈ l)
include h
theorem GoodCommit.nodup : (l.map (·.name)).Nodup := h.1
include hu
theorem GoodCommit.info : u.info = M u.name := (h.2 u hu).1
theorem GoodCommit.fwdClean : u.fwd.clean = true := (h.2 u hu).2.1
theorem GoodCommit.notGone : u.fwd.gone = false := (h.2 u hu).2.2.1
theorem GoodCommit.undQuiet : u.und.quiet = true := (h.2 u hu).2.2.2
end

def GoodEv (M : String → Nat) : Ev → Prop
  | .commit l => GoodCommit M l
  | _ => True

theorem acc_set {M : String → Nat} {s0 : St} {h : H} (ha : CountAcc M s0 h) (n : String) {c : Cell} (hc : c.Inv (M n))
    (hd : c.disk = (h.s n).disk) : CountAcc M s0 ⟨h.s.set n c, h.committed⟩ := by
  refine ⟨set_inv _ _ ha.inv hc, fun m => ?_⟩
  show ((h.s.set n c m).disk).map _ = _
  by_cases e : m = n
  · subst e; rw [set_same, hd]; exact ha.count m
  · rw [set_other _ _ e]; exact ha.count m

theorem acc_step (M : String → Nat) (s0 : St) (h : H) (e : Ev) (ha : CountAcc M s0 h) (hg : GoodEv M e) :
    CountAcc M s0 (h.step update e).1 := by
  cases e with
  | read n =>
    have e1 : (h.s.read n).1 = h.s.set n ((h.s n).get {}).1 := by unfold St.read; split <;> simp only [*]
    simp only [H.step, e1]
    exact acc_set ha n (get_inv {} (ha.inv n)) (get_disk _ _)
  | evict n => exact acc_set ha n ⟨Or.inl rfl, fun _ => (ha.inv n).info⟩ rfl
  | commit l =>
    obtain ⟨hi, hc⟩ := ha
    have hg : GoodCommit M l := hg
    have hinv := C20.C20_storeinfo_coherent M h.s l hi
      (fun u hu => ⟨hg.info hu, hg.fwdClean hu, Flt.clean_of_quiet (hg.undQuiet hu)⟩)
    simp only [H.step]
    refine ⟨hinv, fun n => ?_⟩
    by_cases hok : (update h.s l).2 = .ok
    · simp only [hok, if_true]
      have := loop_ok_count (M := M) (sortByName l) h.s [] hi
        (fun u hu => ⟨hg.info (mem_sortByName.1 hu), hg.fwdClean (mem_sortByName.1 hu)⟩) hok n
      rw [sumDelta_perm (sortByName_perm l) n] at this
      unfold update
      rw [this]
      have := congrArg (Option.map (· + sumDelta l n)) (hc n)
      simpa only [Option.map_map, Function.comp_def, Int.add_assoc] using this
    · simp only [hok, if_false]
      rw [C20.C20_storeinfo_error_restores M h.s l hi hg.nodup (fun u hu => ⟨hg.info hu, hg.fwdClean hu, hg.undQuiet hu⟩) hok n
        (fun u hu hgone => by rw [hg.notGone hu] at hgone; cases hgone)]
      exact hc n

theorem acc_run (M : String → Nat) (s0 : St) : ∀ (es : List Ev) (h : H), CountAcc M s0 h → (∀ e ∈ es, GoodEv M e) →
    CountAcc M s0 (h.run update es)
  | [], _, ha, _ => ha
  | e :: es, h, ha, hg => acc_run M s0 es _ (acc_step M s0 h e ha (hg e (by simp))) (fun e' he' => hg e' (by simp [he']))

/-- **C13, count**: start from any coherent state (every cache entry absent or equal to its file), run any history of
commits of the kind `GoodCommit` on any stores — including multi-store `Update`s that fail at the second, third, … store
and are undone —, cache-first reads and evictions, all in one process with one shared L2 cache. Then for every store that
existed at the start, what a freshly started process reads (`storeinfo.txt`) is: count = initial count + the sum of the
deltas of the commits that returned ok, and the store's own configuration; and a cache-first reader in the same process
is answered with exactly that record. -/
theorem C13_count_history (M : String → Nat) (s0 : St) (es : List Ev) (h0 : Inv M s0)
    (hg : ∀ e ∈ es, GoodEv M e) (n : String) (d0 : Rec) (hd0 : (s0 n).disk = some d0) :
    let h := (H.mk s0 (fun _ => 0)).run update es
    (∃ d, h.cold n = some d ∧ d.count = d0.count + h.committed n ∧ d.info = M n) ∧
    (h.s.read n).2 = h.cold n := by
  intro h
  have ha : CountAcc M s0 h := acc_run M s0 es _ ⟨h0, fun m => by cases (s0 m).disk <;> simp⟩ hg
  obtain ⟨hi, hc⟩ := ha
  have hcn := hc n
  rw [hd0] at hcn
  refine ⟨?_, ?_⟩
  · cases hd : (h.s n).disk with
    | none => rw [hd] at hcn; simp at hcn
    | some d =>
      rw [hd] at hcn
      simp only [Option.map_some, Option.some.injEq] at hcn
      exact ⟨d, hd, hcn, (hi n).info hd⟩
  · exact read_fresh (hi n).coh

/-! ### a history: two stores, a two-store commit that fails at the second store and is undone,
then a successful commit on the first store -/

def demoState : St := fun n =>
  if n = "alpha" then ⟨some ⟨0, 111, 1⟩, some ⟨0, 111, 1⟩⟩ else if n = "beta" then ⟨some ⟨0, 111, 2⟩, some ⟨0, 111, 2⟩⟩ else {}
def demoInfo : String → Nat := fun n => if n = "alpha" then 1 else 2
/-- beta's `storeinfo.txt` cannot be read or written during the first commit -/
def demoHistory : List Ev :=
  [.commit [{ name := "alpha", delta := 3, ts := 1000, info := 1 },
            { name := "beta", delta := 5, ts := 1000, info := 2, fwd := { getErr := true, fastRead := true, fullWrite := .before } }],
   .read "alpha",
   .commit [{ name := "alpha", delta := 2, ts := 2000, info := 1 }]]

theorem demoState_inv : SICache.Inv demoInfo demoState := by
  intro n
  unfold demoState demoInfo Cell.Inv Cell.Coh
  split
  · simp
  · split <;> simp

/-- non-vacuity of `C13_count_history`'s hypotheses -/
theorem demoHistory_good : ∀ e ∈ demoHistory, GoodEv demoInfo e := by
  intro e he
  simp only [demoHistory, List.mem_cons, List.mem_nil_iff, or_false] at he
  rcases he with rfl | rfl | rfl
  · refine ⟨by decide, ?_⟩
    intro u hu
    simp only [List.mem_cons, List.mem_nil_iff, or_false] at hu
    rcases hu with rfl | rfl <;> decide
  · trivial
  · refine ⟨by decide, ?_⟩
    intro u hu
    simp only [List.mem_cons, List.mem_nil_iff, or_false] at hu
    rcases hu with rfl
    decide

/-- on the code as it is: the failed commit is reported as failed and only the second commit counts -/
theorem demo_as_is :
    ((H.mk demoState (fun _ => 0)).step update demoHistory.head!).2 = some .err ∧
    ((H.mk demoState (fun _ => 0)).run update demoHistory).committed "alpha" = 2 ∧
    ((H.mk demoState (fun _ => 0)).run update demoHistory).cold "alpha" = some ⟨2, 2000, 1⟩ ∧
    ((H.mk demoState (fun _ => 0)).run update demoHistory).cold "beta" = some ⟨0, 111, 2⟩ := by
  decide +kernel

/-- The same history on the variant whose `undo` re-caches the caller's record
`stores[ii]` instead of the reverted record `si` (one expression in `StoreRepository.Update`): right after the undone
commit the file is still right (count 0) but the cache says 3; the next commit (+2) takes its base from the cache, and
what a cold process reads afterwards is count 5 although only 2 items were ever committed — `C13_count_history` fails
for the variant. -/
theorem C13_recache_unreverted_witness :
    ((H.mk demoState (fun _ => 0)).run updateBad (demoHistory.take 1)).cold "alpha" = some ⟨0, 111, 1⟩ ∧
    (((H.mk demoState (fun _ => 0)).run updateBad (demoHistory.take 1)).s "alpha").cache = some ⟨3, 1000, 1⟩ ∧
    ((H.mk demoState (fun _ => 0)).run updateBad demoHistory).committed "alpha" = 2 ∧
    ((H.mk demoState (fun _ => 0)).run updateBad demoHistory).cold "alpha" = some ⟨5, 2000, 1⟩ := by
  decide +kernel

end Sop.C13

/-! ## Third part: the configuration across processes (`Sop.Model.StoreInfoGet`) -/
namespace Sop.C13
open Sop.SIGet

theorem merge_nil (f : List Nat) : merge [] f = f := by simp [merge]

theorem keep_zero (f : Nat) : keep 0 f = f := by
  unfold keep
  split
  · rename_i h; exact h.symm
  · rfl

theorem decodeInto_zero (f : Cfg) : decodeInto Cfg.zero f = f := by
  cases f
  simp only [decodeInto, Cfg.zero, keep_zero, merge_nil]

theorem cell_set (s : St) (n m : String) (c : Cell) : (s.set n c).cell m = if m = n then c else s.cell m := by
  unfold St.set St.cell
  by_cases h : m = n
  · subst h; simp [List.lookup]
  · have : (m == n) = false := by simpa using h
    simp [List.lookup, this, h]

/-- invariant of loop 2 (the cache misses) of the code as it is -/
structure MInv (s0 : St) (a : SIGet.Acc) : Prop where
  disk : ∀ m, (a.s.cell m).disk = (s0.cell m).disk
  due : ∀ m, SIGet.own a.s m = SIGet.own s0 m
  out : ∀ p ∈ a.out, SIGet.own s0 p.1 = some p.2

theorem missStep_inv (s0 : St) (a : SIGet.Acc) (n : String) (h : MInv s0 a) (hn : (s0.cell n).cache = none) :
    MInv s0 (missStep false a n) := by
  unfold missStep
  cases hd : (a.s.cell n).disk with
  | none => simpa using h
  | some f =>
    have hown0 : own s0 n = some f := by
      unfold own; rw [hn]; simp only; rw [← h.disk n, hd]
    simp only [Bool.false_eq_true, if_false, decodeInto_zero]
    refine ⟨fun m => ?_, fun m => ?_, fun p hp => ?_⟩
    · simp only [cell_set]
      by_cases e : m = n
      · subst e; rw [if_pos rfl, ← h.disk m, hd]
      · rw [if_neg e]; exact h.disk m
    · unfold own
      simp only [cell_set]
      by_cases e : m = n
      · subst e; rw [if_pos rfl]; exact hown0.symm
      · simp only [e, if_false]; exact h.due m
    · rcases List.mem_append.1 hp with hp | hp
      · exact h.out p hp
      · simp only [List.mem_singleton] at hp; subst hp; exact hown0

theorem getWith_inv (s : St) (names : List String) :
    MInv s ((names.filter fun n => (s.cell n).cache.isNone).foldl (missStep false) ⟨s, Cfg.zero, []⟩) :=
  List.foldlRecOn _ _ ⟨fun _ => rfl, fun _ => rfl, nofun⟩ fun a ha n hn =>
    missStep_inv s a n ha (Option.isNone_iff_eq_none.1 (List.mem_filter.1 hn).2)

/-- In `GetWithTTL(names…)` of the code as it is, the record returned for a name is exactly
what THAT name is owed (its own cache entry, else its own file) — whatever other names the call carries, in whatever
order, and whatever their files contain. -/
theorem C13_get_independent (s : St) (names : List String) :
    ∀ p ∈ (getWith false s names).2, own s p.1 = some p.2 := by
  intro p hp
  unfold getWith at hp
  simp only at hp
  rcases List.mem_append.1 hp with hp | hp
  · simp only [List.mem_filterMap] at hp
    obtain ⟨n, _, hn⟩ := hp
    cases hc : (s.cell n).cache with
    | none => simp [hc] at hn
    | some c =>
      simp only [hc, Option.map_some, Option.some.injEq] at hn
      subst hn
      simp [own, hc]
  · exact (getWith_inv s names).out p hp

theorem C13_get_order_independent (s : St) (names names' : List String) (p q : String × Cfg)
    (hp : p ∈ (getWith false s names).2) (hq : q ∈ (getWith false s names').2) (e : p.1 = q.1) : p.2 = q.2 := by
  have a := C13_get_independent s names p hp
  have b := C13_get_independent s names' q hq
  rw [e, b] at a
  exact (Option.some.inj a).symm

def Coh (s : St) : Prop := ∀ m c, (s.cell m).cache = some c → (s.cell m).disk = some c

theorem own_of_coh {s : St} (h : Coh s) (m : String) : own s m = (s.cell m).disk := by
  unfold own
  cases hc : (s.cell m).cache with
  | none => rfl
  | some c => simp only; exact (h m c hc).symm

theorem coh_of_own {s : St} (h : ∀ m, own s m = (s.cell m).disk) : Coh s := by
  intro m c hc
  have := h m
  simp only [own, hc] at this
  exact this.symm

structure Kept (s0 s : St) : Prop where
  coh : Coh s
  files : ∀ m, (s.cell m).disk = (s0.cell m).disk

theorem kept_set {s0 s : St} (h : Kept s0 s) (n : String) {c : Cell} (hc : ∀ x, c.cache = some x → c.disk = some x)
    (hd : c.disk = (s0.cell n).disk) : Kept s0 (s.set n c) := by
  refine ⟨fun m x hx => ?_, fun m => ?_⟩
  · rw [cell_set] at hx ⊢
    by_cases e : m = n
    · subst e; rw [if_pos rfl] at hx ⊢; exact hc x hx
    · rw [if_neg e] at hx ⊢; exact h.coh m x hx
  · rw [cell_set]
    by_cases e : m = n
    · subst e; rw [if_pos rfl]; exact hd
    · rw [if_neg e]; exact h.files m

theorem kept_get {s0 s : St} (h : Kept s0 s) (names : List String) : Kept s0 (getWith false s names).1 :=
  have g := getWith_inv s names
  ⟨coh_of_own fun m => (g.due m).trans ((own_of_coh h.coh m).trans (g.disk m).symm), fun m => (g.disk m).trans (h.files m)⟩

theorem kept_coldStart {s0 : St} (names : List String) : ∀ s, Kept s0 s → Kept s0 (s.coldStart names) := by
  induction names with
  | nil => exact fun s h => h
  | cons n ns ih => exact fun s h => ih _ (kept_set h n (fun x hx => nomatch hx) (h.files n))

theorem kept_step (s0 s : St) (e : Ev) (h : Kept s0 s) : Kept s0 (step false s e) := by
  cases e with
  | get names => exact kept_get h names
  | commit n full =>
    have hg := kept_get h [n]
    simp only [step, commitWith]
    cases ho : own (getWith false s [n]).1 n with
    | none => exact hg
    | some caller =>
      -- the caller's record is the file's
      have hcd : ((getWith false s [n]).1.cell n).disk = some caller := by rw [← own_of_coh hg.coh]; exact ho
      refine kept_set hg n (fun x hx => ?_) ?_
      · cases hx
        cases full
        · exact hcd
        · rfl
      · cases full
        · exact hg.files n
        · exact hcd.symm.trans (hg.files n)
  | evict n => exact kept_set h n (fun x hx => nomatch hx) (h.files n)
  | cold names => exact kept_coldStart names s h

/-- **C13, configuration**: from a state in which every cache entry equals its file, after ANY history of multi-name
`Get`s (any names, any order), commits (patch or full save) by transactions that opened their store with a cache-first
`Get`, evictions and process restarts, every store's `storeinfo.txt` carries exactly the configuration it had — and
every cache entry still equals its file, so every reader in every process gets that configuration. -/
theorem C13_config_history (s : St) (es : List Ev) (hc : Coh s) :
    Coh (run false s es) ∧ ∀ m, ((run false s es).cell m).disk = (s.cell m).disk := by
  suffices h : ∀ (es : List Ev) (t : St), Kept s t → Kept s (run false t es) from
    ⟨(h es s ⟨hc, fun _ => rfl⟩).coh, (h es s ⟨hc, fun _ => rfl⟩).files⟩
  intro es
  induction es with
  | nil => exact fun t a => a
  | cons e es ih => exact fun t a => ih _ (kept_step s t e a)

/-! ### two stores: `orders` (CEL expression, relations, custom data) and `plain` (nothing optional) -/
def ordersCfg : Cfg := { base := 1, cel := 1, rel := 1, cd := [1] }
def plainCfg : Cfg := { base := 2 }
def demoG : St := St.add (St.add [] "orders" ordersCfg) "plain" plainCfg
/-- a new process reads both stores in one call, opens `plain` and commits its first item (full save); reopen -/
def demoGHistory : List Ev :=
  [.cold ["orders", "plain"], .get ["orders", "plain"], .commit "plain" true, .cold ["orders", "plain"]]

theorem coh_nil : Coh [] := by
  intro m c h; simp [St.cell] at h

theorem coh_add {s : St} (h : Coh s) (n : String) (c : Cfg) : Coh (s.add n c) := by
  intro m x hx
  unfold St.add at *
  rw [cell_set] at hx ⊢
  by_cases e : m = n
  · simp only [e, if_true] at hx ⊢; simpa using hx
  · simp only [e, if_false] at hx ⊢; exact h m x hx

theorem demoG_coh : Coh demoG := coh_add (coh_add coh_nil _ _) _ _

theorem demoG_as_is : ((run false demoG demoGHistory).cell "plain").disk = some plainCfg ∧
    (getWith false (demoG.coldStart ["orders", "plain"]) ["orders", "plain"]).2 = [("orders", ordersCfg), ("plain", plainCfg)] := by
  decide +kernel

/-- The variant with ONE decode target for all the misses of a call: `plain` comes back
from the two-name `Get` with the CEL expression, relations and custom data of `orders`, the record is cached under
`plain`'s own key, and the full save of `plain`'s first commit writes it to `plain`'s storeinfo.txt: a cold reopen reads
a foreign configuration (`C13_get_independent` / `C13_config_history` fail for the variant). In the other order
(`plain` first) nothing shows. -/
theorem C13_shared_target_witness :
    (getWith true (demoG.coldStart ["orders", "plain"]) ["orders", "plain"]).2 =
      [("orders", ordersCfg), ("plain", { base := 2, cel := 1, rel := 1, cd := [1] })] ∧
    ((run true demoG demoGHistory).cell "plain").disk = some { base := 2, cel := 1, rel := 1, cd := [1] } ∧
    (getWith true (demoG.coldStart ["orders", "plain"]) ["plain", "orders"]).2 = [("plain", plainCfg), ("orders", ordersCfg)] := by
  decide +kernel

end Sop.C13
