import Sop.Lemmas.RegistryMapSeq
import Sop.Lemmas.RegistryRmw
import Sop.Lemmas.RegistrySeg
import Sop.Lemmas.RegistryFlat
/-!
# C21 — the on-disk registry behaves as a map from id to handle

The registry model with the **repaired** write probe answers like a finite map (`C21_refines_map`) as long as the
registry never reports its hard limit of `maxSeg` (1000) segment files, which takes more than `maxSeg` operations
(`C21_refines_map_bounded`). With the write probe of the unrepaired tree (`legacy = true`) the same statement is
false: a removed id reappears (`C21_counterexample`).

Several writers: the block read-modify-write under the block lock is linearizable for any number of writers and any
schedule (`C21_block_lock_linearizable`; refuted for a per-slot lock); the unlocked slot search before it loses
acknowledged calls (`C21_unlocked_search_counterexample`); creating a missing segment file keeps acknowledged writes
unless the open truncates (`C21_create_keeps_acknowledged`).
-/
namespace Sop.C21
open Sop.RegistryMap

variable {V : Type}

def Statement_C21 (c : Cfg) (V : Type) : Prop :=
  ∀ ops : List (Op V), Out.full ∉ run c St.init ops → run c St.init ops = specRun (fun _ => none) ops

/-- **C21** (repaired write probe): for every hash modulus ≥ 1 and every operation list — any ids, so any
collisions, full blocks and overflow into further segments — the registry answers exactly like a finite map:
a lookup returns the last written record of a present id and nothing for an absent one, adding a present id
and removing an absent one fail without effect, removing a present id succeeds and the id stays absent until
it is written again. Side condition: the registry never reported its segment-file limit. -/
theorem C21_refines_map (c : Cfg) (hmd : 0 < c.md) (hl : c.legacy = false) : Statement_C21 c V := by
  intro ops hf
  exact run_sim hmd hl ops St.init _ (Repr.init c) hf

/-- the same without the side condition, for operation lists no longer than the segment limit `c.maxSeg` -/
theorem C21_refines_map_bounded (c : Cfg) (hmd : 0 < c.md) (hl : c.legacy = false) (ops : List (Op V))
    (hlen : ops.length ≤ c.maxSeg) : run c St.init ops = specRun (fun _ => none) ops :=
  C21_refines_map c hmd hl ops (no_full c ops St.init (by simpa [St.init] using hlen))

def X : Rec Nat := ⟨(0, 5), 1⟩
def Y : Rec Nat := ⟨(0, 71), 1⟩
def Y' : Rec Nat := ⟨(0, 71), 2⟩

/-- add X, add Y (same block and ideal slot: displaced), remove X, update Y, remove Y, look Y up -/
def witness : List (Op Nat) := [.add X, .add Y, .remove X.id, .set Y', .remove Y.id, .get Y.id]

/-- the unrepaired model: the last lookup returns the value written by the *add* -/
theorem C21_counterexample_outputs :
    run { md := 1, legacy := true } St.init witness = [.ok, .ok, .ok, .ok, .ok, .got (some Y)]
    ∧ specRun (fun _ => none) witness = [.ok, .ok, .ok, .ok, .ok, .got none] := by
  constructor <;> decide +kernel

/-- with the write probe of the tree before the repair (it settles on the first hole; finding C21-F1, fixed since) the
removed id is found again, with its old value -/
theorem C21_counterexample : ¬ Statement_C21 { md := 1, legacy := true } Nat := by
  intro h
  have := h witness (no_full _ witness St.init (by decide))
  rw [C21_counterexample_outputs.1, C21_counterexample_outputs.2] at this
  cases this

set_option maxRecDepth 8000 in
/-- the repaired probe answers like the map on it -/
example : run { md := 1 } St.init witness = [.ok, .ok, .ok, .ok, .ok, .got none] :=
  (C21_refines_map_bounded _ (by decide) rfl witness (by decide)).trans C21_counterexample_outputs.2

set_option maxRecDepth 8000 in
/-- non-vacuity of the side condition and of the invariant: a run with collisions that never reports `full` -/
example : Out.full ∉ run { md := 1 } St.init witness := no_full _ witness St.init (by decide)

/-! Several writers, the block read-modify-write of `updateFileBlockRegion`.
`Sop.RegistryMW.Rmw`: writers of one block, one transition per call on the lock cache (`DualLock`, `Unlock`) or on
the segment file (`ReadAt`, `WriteAt` of the whole block). A schedule is any list of writer indices. -/

open Sop.RegistryMW

/-- Lock key chosen by `perSlot` (`false`: the block — the code; `true`: the slot): once every writer has returned the
block is the initial block with EVERY writer's change, applied in the order in which the writers were granted the lock
(each exactly once). -/
def Statement_C21_block (perSlot : Bool) (R : Type) : Prop :=
  ∀ (prog : List (Nat × Option R)) (b0 : List (Option R)) (sch : List Nat),
    let s := Rmw.run (Rmw.init perSlot prog b0) sch
    Rmw.allDone s = true →
      s.blk = Rmw.applyAll (Rmw.init perSlot prog b0).ws b0 s.acq ∧ s.acq.Nodup ∧ ∀ i, i ∈ s.acq ↔ i < prog.length

theorem C21_block_inv {R : Type} (prog : List (Nat × Option R)) (b0 : List (Option R)) (sch : List Nat) :
    Rmw.Inv (Rmw.init false prog b0).ws b0 0 (Rmw.run (Rmw.init false prog b0) sch) :=
  Rmw.inv_run sch (Rmw.inv_start _ b0 0 _ rfl fun w hw => by obtain ⟨p, _, rfl⟩ := List.mem_map.mp hw; exact ⟨rfl, rfl⟩)

/-- with the lock on the block around read..write, every interleaving of any number of writers is linearizable to
the order of lock acquisition: nobody's acknowledged change is lost -/
theorem C21_block_lock_linearizable {R : Type} : Statement_C21_block false R := by
  intro prog b0 sch s hd
  obtain ⟨h1, h2, h3, _⟩ := Rmw.done_of_inv (C21_block_inv prog b0 sch) hd
  refine ⟨h1, h2, ?_⟩
  intro i; rw [h3 i]; simp [Rmw.init]

/-- the lost update under a lock keyed per slot (the trial change to the code kept as `/verif/seeded/C21b`): two writers of
DIFFERENT slots of one block, each locking its slot. Writer 0 locks and reads; writer 1 locks, reads, writes, unlocks; writer 0 writes back the block it read. -/
def lostUpdateSchedule : List Nat := [0, 0, 1, 1, 1, 1, 0, 0]

theorem C21_slot_lock_lost_update :
    let s := Rmw.run (Rmw.init true [(0, some 7), (1, some 8)] [none, none]) lostUpdateSchedule
    Rmw.allDone s = true ∧ s.acq = [0, 1] ∧ s.blk = [some 7, none] := by
  decide +kernel

theorem C21_slot_lock_counterexample : ¬ Statement_C21_block true Nat := by
  intro h
  obtain ⟨hd, hacq, hblk⟩ := C21_slot_lock_lost_update
  have := (h [(0, some 7), (1, some 8)] [none, none] lostUpdateSchedule hd).1
  rw [hblk, hacq] at this
  exact absurd this (by decide)

/-- the same schedule under the block lock: writer 1 is refused until writer 0 has unlocked -/
example : (Rmw.run (Rmw.init false [(0, some 7), (1, some 8)] [none, none]) lostUpdateSchedule).blk = [some 7, none] ∧
    (Rmw.run (Rmw.init false [(0, some 7), (1, some 8)] [none, none]) (lostUpdateSchedule ++ [1, 1, 1, 1])).blk = [some 7, some 8] := by
  decide +kernel

theorem perm_two (l : List Nat) (hn : l.Nodup) (hm : ∀ i, i ∈ l ↔ i < 2) : l = [0, 1] ∨ l = [1, 0] := by
  match l, hn, hm with
  | [], _, hm => exact absurd ((hm 0).2 (by decide)) (by simp)
  | [a], _, hm =>
    have h0 := (hm 0).2 (by decide)
    have h1 := (hm 1).2 (by decide)
    simp at h0 h1; omega
  | [a, b], hn, hm =>
    have ha := (hm a).1 (by simp)
    have hb := (hm b).1 (by simp)
    have hab : a ≠ b := by simpa using hn
    have : (a = 0 ∧ b = 1) ∨ (a = 1 ∧ b = 0) := by omega
    rcases this with ⟨rfl, rfl⟩ | ⟨rfl, rfl⟩ <;> simp
  | a :: b :: c :: t, hn, hm =>
    have ha := (hm a).1 (by simp)
    have hb := (hm b).1 (by simp)
    have hc := (hm c).1 (by simp)
    simp only [List.nodup_cons, List.mem_cons, not_or] at hn
    omega

theorem C21_two_writers_both_kept {R : Type} (s0 s1 : Nat) (v0 v1 : Option R) (b0 : List (Option R)) (sch : List Nat)
    (hne : s0 ≠ s1) (h0 : s0 < b0.length) (h1 : s1 < b0.length)
    (hd : Rmw.allDone (Rmw.run (Rmw.init false [(s0, v0), (s1, v1)] b0) sch) = true) :
    let blk := (Rmw.run (Rmw.init false [(s0, v0), (s1, v1)] b0) sch).blk
    blk[s0]? = some v0 ∧ blk[s1]? = some v1 ∧ ∀ t, t ≠ s0 → t ≠ s1 → blk[t]? = b0[t]? := by
  have hi := C21_block_inv [(s0, v0), (s1, v1)] b0 sch
  obtain ⟨hk, hu⟩ := Rmw.kept_of_inv
    (fun _ _ _ _ hi hj hij => nodup_map_getElem? (f := (·.1)) (by simp [hne]) hi hj hij) hi
  have hw : ∀ i (hlt : i < 2), ∃ w, (Rmw.run (Rmw.init false [(s0, v0), (s1, v1)] b0) sch).ws[i]? = some w ∧ w.pc = .done :=
    fun i hlt => ⟨_, List.getElem?_eq_getElem (hi.prog.1 ▸ hlt), Rmw.allDone_get hd (List.getElem?_eq_getElem (hi.prog.1 ▸ hlt))⟩
  obtain ⟨w0, hw0, hd0⟩ := hw 0 (by decide)
  obtain ⟨w1, hw1, hd1⟩ := hw 1 (by decide)
  exact ⟨hk 0 _ w0 rfl hw0 hd0 h0, hk 1 _ w1 rfl hw1 hd1 h1, fun t ht0 ht1 => hu t (by simp [Ne.symm ht0, Ne.symm ht1])⟩

theorem C21_same_slot_last_locker_wins {R : Type} (s0 : Nat) (v0 v1 : Option R) (b0 : List (Option R)) (sch : List Nat)
    (h0 : s0 < b0.length)
    (hd : Rmw.allDone (Rmw.run (Rmw.init false [(s0, v0), (s0, v1)] b0) sch) = true) :
    let s := Rmw.run (Rmw.init false [(s0, v0), (s0, v1)] b0) sch
    (s.acq = [0, 1] ∧ s.blk[s0]? = some v1) ∨ (s.acq = [1, 0] ∧ s.blk[s0]? = some v0) := by
  obtain ⟨hb, hn, hm⟩ := C21_block_lock_linearizable [(s0, v0), (s0, v1)] b0 sch hd
  intro s
  have hblk : ∀ o, s.acq = o → s.blk[s0]? = (Rmw.applyAll (Rmw.init false [(s0, v0), (s0, v1)] b0).ws b0 o)[s0]? :=
    fun o e => by rw [← e]; exact congrArg (·[s0]?) hb
  rcases perm_two _ hn hm with e | e
  · exact .inl ⟨e, (hblk _ e).trans (by simp [Rmw.applyAll, Rmw.init, h0])⟩
  · exact .inr ⟨e, (hblk _ e).trans (by simp [Rmw.applyAll, Rmw.init, h0])⟩

/-- run alone, whoever holds the block lock has released it within three calls of its own, and a writer that finds
the lock free has returned within four, leaving it free (nothing is said of a refused writer) -/
theorem C21_block_lock_progress {R : Type} (prog : List (Nat × Option R)) (b0 : List (Option R)) (sch : List Nat) :
    let s := Rmw.run (Rmw.init false prog b0) sch
    (∀ h, s.locks 0 = some h → ∃ n, n ≤ 3 ∧ (Rmw.run s (List.replicate n h)).locks 0 = none) ∧
    (s.locks 0 = none → ∀ i, i < prog.length → ∃ n, n ≤ 4 ∧ (Rmw.run s (List.replicate n i)).locks 0 = none ∧
      ∃ w', (Rmw.run s (List.replicate n i)).ws[i]? = some w' ∧ w'.pc = .done) := by
  intro s
  have hi := C21_block_inv prog b0 sch
  refine ⟨fun h hh => Rmw.holder_finishes hi h hh, ?_⟩
  intro hfree i hlt
  have hlen : i < s.ws.length := by rw [hi.prog.1]; simpa [Rmw.init] using hlt
  exact Rmw.solo_finishes hi i s.ws[i] (List.getElem?_eq_getElem hlen) hfree

/-! Whole registry calls (`Sop.RegistryMW`, what the driver runs against the code).
The block read-modify-write above is the last phase of every call; before it the slot is chosen by
`findOneFileRegion` WITHOUT the block lock, and nothing looks at the slot again once the lock is held. So for whole
calls the statement "acknowledged changes of two writers are both there" is false for the code as it is. -/

def stAfter (c : Cfg) (ops : List (Op V)) : St V := ops.foldl (fun st op => (RegistryMap.step c st op).1) St.init

/-- two concurrent `Add`s of different ids: if both are acknowledged, both are found -/
def Statement_C21_two_adds (mc : MCfg) (V : Type) : Prop :=
  ∀ (ops : List (Op V)) (r1 r2 : Rec V) (sch : List Nat), r1.id ≠ r2.id →
    let s := RegistryMW.run mc (spawn mc (spawn mc { st := stAfter mc.c ops } .add r1) .add r2) sch
    result s 0 = some .ok → result s 1 = some .ok →
      get mc.c s.st r1.id = some r1 ∧ get mc.c s.st r2.id = some r2

/-- ids `0:5` and `0:7` sit in their slots; `0:71` (ideal slot 5) and `0:73` (ideal slot 7) are added by two writers:
both searches settle on slot 0, the first empty slot. Writer 0 searches and is parked in front of the physical-slot lock;
writer 1 runs whole (9 calls); writer 0 is granted the slot lock that writer 1 released, locks the block, and writes. -/
def searchWitnessOps : List (Op Nat) := [.add ⟨(0, 5), 1⟩, .add ⟨(0, 7), 2⟩]
def searchWitnessSchedule : List Nat := [0, 0] ++ List.replicate 9 1 ++ List.replicate 7 0

theorem C21_unlocked_search_lost_add :
    let mc : MCfg := { c := { md := 1 } }
    let s := RegistryMW.run mc (spawn mc (spawn mc { st := stAfter mc.c searchWitnessOps } .add ⟨(0, 71), 3⟩) .add ⟨(0, 73), 4⟩)
      searchWitnessSchedule
    result s 0 = some .ok ∧ result s 1 = some .ok ∧ get mc.c s.st (0, 73) = none ∧ get mc.c s.st (0, 71) = some ⟨(0, 71), 3⟩ := by
  simp only [run_eq_runFlat]
  decide +kernel

theorem C21_unlocked_search_counterexample : ¬ Statement_C21_two_adds { c := { md := 1 } } Nat := by
  intro h
  obtain ⟨h0, h1, hlost, _⟩ := C21_unlocked_search_lost_add
  cases hlost.symm.trans (h searchWitnessOps ⟨(0, 71), 3⟩ ⟨(0, 73), 4⟩ searchWitnessSchedule (by decide) h0 h1).2

/-- the per-slot lock on whole calls: two `UpdateNoLocks` of two present ids of one block, each locking its slot;
writer 0 is parked between its block read and its block write while writer 1 runs whole: writer 1's acknowledged
update is reverted. With the block lock the same schedule (writer 1 is refused, retries later) keeps both. -/
def slotLockWitnessSchedule : List Nat := [0, 0, 0] ++ List.replicate 5 1 ++ [0, 0] ++ List.replicate 5 1

theorem C21_slot_lock_registry_lost_update :
    let st0 := stAfter { md := 1 } searchWitnessOps
    let run := fun (perSlot : Bool) =>
      let mc : MCfg := { c := { md := 1 }, perSlot }
      RegistryMW.run mc (spawn mc (spawn mc { st := st0 } .set ⟨(0, 5), 10⟩) .set ⟨(0, 7), 20⟩) slotLockWitnessSchedule
    (result (run true) 0 = some .ok ∧ result (run true) 1 = some .ok ∧
      get { md := 1 } (run true).st (0, 7) = some ⟨(0, 7), 2⟩ ∧ get { md := 1 } (run true).st (0, 5) = some ⟨(0, 5), 10⟩) ∧
    (result (run false) 0 = some .ok ∧ result (run false) 1 = some .ok ∧
      get { md := 1 } (run false).st (0, 7) = some ⟨(0, 7), 20⟩ ∧ get { md := 1 } (run false).st (0, 5) = some ⟨(0, 5), 10⟩) := by
  simp only [run_eq_runFlat]
  decide +kernel

/-! A segment file that does not exist yet (`setupNewFile`).
`findOneFileRegion` decides "segment file missing" with an `os.Stat`, without a lock; `setupNewFile` creates the file
later, under the preallocation lock — possibly after another writer created it and wrote a handle into it.
`Sop.RegistryMW.Rmw.Seg`: any number of writers of one block of a segment file that is missing at the start; one
transition per call (existence check; `DualLock` / `Open(O_CREATE)+Truncate` / `Unlock` of `setupNewFile`; lock / read /
write / unlock of the block). -/

/-- The way the creating open treats a file that is already there is `trunc` (`false`: its content is kept — the code;
`true`: `O_TRUNC`): at EVERY point of the schedule the slot of every writer that has returned holds its value. -/
def Statement_C21_create (trunc : Bool) (R : Type) : Prop :=
  ∀ (prog : List (Nat × Option R)) (n : Nat) (sch : List Nat),
    (∀ (i j : Nat) (pi pj : Nat × Option R), prog[i]? = some pi → prog[j]? = some pj → i ≠ j → pi.1 ≠ pj.1) →
    (∀ p ∈ prog, p.1 < n) →
    let s := Rmw.Seg.run trunc 1 n (Rmw.Seg.init prog n) sch
    ∀ (i : Nat) (p : Nat × Option R) (w : Rmw.Wr Nat R), prog[i]? = some p → s.rs.ws[i]? = some w → w.pc = .done →
      s.rs.blk[p.1]? = some p.2

theorem C21_create_inv {R : Type} (prog : List (Nat × Option R)) (n : Nat) (sch : List Nat) :
    Rmw.SInv (Rmw.Seg.init prog n).rs.ws (List.replicate n none) 0 (Rmw.Seg.run false 1 n (Rmw.Seg.init prog n) sch) := by
  apply Rmw.sinv_run (by decide)
  refine ⟨Rmw.inv_start _ _ 0 _ rfl fun w hw => by obtain ⟨p, _, rfl⟩ := List.mem_map.mp hw; exact ⟨rfl, rfl⟩,
    fun _ => rfl, ?_⟩
  · intro i x hx hn
    simp only [Rmw.Seg.init, List.getElem?_map, Option.map_eq_some_iff] at hx
    obtain ⟨_, _, rfl⟩ := hx
    cases hn

/-- creating a segment file that another writer created in the meantime, with an open that keeps its content, never
loses an acknowledged write -/
theorem C21_create_keeps_acknowledged {R : Type} : Statement_C21_create false R := by
  intro prog n sch hdist hlt s i p w hp hw hd
  have hi := (C21_create_inv prog n sch).inv
  rw [Rmw.seg_init_ws prog n (List.replicate n none)] at hi
  exact (Rmw.kept_of_inv hdist hi).1 i p w hp hw hd (by simpa using hlt p (List.mem_of_getElem? hp))

/-- the truncating open: writer 0 decides "missing"; writer 1 decides "missing", creates the file, writes slot 1 and
returns; writer 0 takes the preallocation lock and opens with `O_TRUNC`: writer 1's acknowledged write is gone -/
def truncWitnessSchedule : List Nat := [0] ++ List.replicate 8 1 ++ [0, 0]

theorem C21_create_trunc_lost_write :
    let s := Rmw.Seg.run true 1 2 (Rmw.Seg.init [(0, some 7), (1, some 8)] 2) truncWitnessSchedule
    (s.rs.ws[1]?.map (·.pc)) = some .done ∧ s.rs.blk = [none, none] := by
  decide +kernel

theorem C21_create_trunc_counterexample : ¬ Statement_C21_create true Nat := by
  intro h
  obtain ⟨hd, hblk⟩ := C21_create_trunc_lost_write
  cases hw : (Rmw.Seg.run true 1 2 (Rmw.Seg.init [(0, some 7), (1, some 8)] 2) truncWitnessSchedule).rs.ws[1]? with
  | none => rw [hw] at hd; cases hd
  | some w =>
    rw [hw] at hd
    have := h [(0, some 7), (1, some 8)] 2 truncWitnessSchedule
      (fun _ _ _ _ hi hj hne => nodup_map_getElem? (f := (·.1)) (by decide) hi hj hne)
      (by decide) 1 (1, some 8) w rfl hw (Option.some.inj hd)
    rw [hblk] at this
    cases this

/-- the same schedule with the open of the code: both writes are there in the end -/
example : (Rmw.Seg.run false 1 2 (Rmw.Seg.init [(0, some 7), (1, some 8)] 2) (truncWitnessSchedule ++ [0, 0, 0, 0, 0])).rs.blk
    = [some 7, some 8] := by decide +kernel

/-- whole `Add` calls (the harness replays this history): no segment file yet, ids `0:5` and `0:7`; writer 0 is parked in
front of the preallocation lock while writer 1 runs whole. With `O_TRUNC` writer 1's acknowledged id is not found
afterwards; with the open of the code both are. -/
def createWitnessSchedule : List Nat := [0] ++ List.replicate 9 1 ++ List.replicate 8 0

theorem C21_create_race_first_segment :
    let run := fun (trunc : Bool) =>
      let mc : MCfg := { c := { md := 1 }, trunc }
      RegistryMW.run mc (spawn mc (spawn mc { st := (St.init : St Nat) } .add ⟨(0, 5), 1⟩) .add ⟨(0, 7), 2⟩) createWitnessSchedule
    (result (run true) 0 = some .ok ∧ result (run true) 1 = some .ok ∧
      get { md := 1 } (run true).st (0, 7) = none ∧ get { md := 1 } (run true).st (0, 5) = some ⟨(0, 5), 1⟩) ∧
    (result (run false) 0 = some .ok ∧ result (run false) 1 = some .ok ∧
      get { md := 1 } (run false).st (0, 7) = some ⟨(0, 7), 2⟩ ∧ get { md := 1 } (run false).st (0, 5) = some ⟨(0, 5), 1⟩) := by
  simp only [run_eq_runFlat]
  decide +kernel

/-- block 0 of the only segment file is full: ids `0:0 … 0:65`, each in its ideal slot (the state after sixty-six
sequential adds; the harness makes them on the code and compares the layout) -/
def fullBlockSt : St Nat := { nseg := 1, cells := ((List.range 66).map fun k => some ⟨(0, k), k⟩).toArray }

/-- overflow: both new ids (`0:333`, ideal slot 3; `0:471`, ideal slot 9) need segment file 2, which is missing. Writer 0
searches segment file 1, decides "file 2 missing", is parked; writer 1 runs whole; writer 0 creates file 2 with `O_TRUNC`:
writer 1's acknowledged id is not found; segment file 1 is untouched. -/
def overflowWitnessSchedule : List Nat := [0, 0] ++ List.replicate 10 1 ++ List.replicate 8 0

theorem C21_create_race_overflow_segment :
    let mc : MCfg := { c := { md := 1 }, trunc := true }
    let s := RegistryMW.run mc (spawn mc (spawn mc { st := fullBlockSt } .add ⟨(0, 333), 1⟩) .add ⟨(0, 471), 2⟩) overflowWitnessSchedule
    result s 0 = some .ok ∧ result s 1 = some .ok ∧ get { md := 1 } s.st (0, 471) = none ∧
      get { md := 1 } s.st (0, 333) = some ⟨(0, 333), 1⟩ ∧ get { md := 1 } s.st (0, 65) = some ⟨(0, 65), 65⟩ := by
  simp only [run_eq_runFlat]
  decide +kernel

end Sop.C21
