import Sop.Lemmas.Alias
/-! # C38 — values returned by reads are private to the caller

`Sop.Model.Alias` is a hand transcription of Go's aliasing in `cache/l1cache.go` (shallow `CopyTo` clones on every
path into and out of the L1 node cache: hit, L1-miss/L2-hit fill, fill after a blob load, `populateMru`),
`btree.GetCurrentValue` (`*item.Value`), `unfetchCurrentValue` and `nodeRepositoryBackend.get` (the three-level lookup
L1 → L2 → blob); the correspondence run (harness/cmd/c38) compares every read of real transactions with it, with the
cache tiers evicted separately and together between transactions.

Privacy = non-interference: writing through a value a read returned — and, more generally, anything a transaction
does to what it read without committing it — changes nothing any later operation can observe.  `Statement_C38` says
so for in-place writes, for every history; it is FALSE for reference kinds (`[]byte`, maps, slices, pointers) kept
in the node (`C38_counterexample`: every clone shares the VALUE cells; `C38_counterexample_l2_fill`: also the clone the
L2-hit fill makes; `C38_counterexample_durable`: another transaction's commit of an unrelated update marshals the
shared cell and makes the never-committed mutation durable).  What is proved, for EVERY history over the
three-level lookup:
* `C38_node_private` — the node OBJECT in L1 is never the node object a transaction works on (every fill installs
  a copy, every hit hands out a copy);
* `C38_uncommitted_private` (values in the node, no in-place writes) and `C38_uncommitted_private_value_kinds`
  (value kinds, with in-place writes): every read returns the committed content or the transaction's own update — a
  rolled-back update never reaches another transaction;
* `C38_private_fetched` (values fetched from value blobs, any kind, any in-place writes): every read of a key the
  transaction's cursor is not already on returns the durable content — a fetched value is hung on the transaction's
  own node object only;
* `C38_private_value_kinds`: for value kinds in-place writes are unobservable.
`C38_uncloned_fill_witness`: with the L2-hit fill storing the node it returns (`uncloned`, not the code)
`C38_node_private`, `C38_uncommitted_private` and `C38_private_fetched` fail on two tiny histories. -/
namespace Sop.C38
open Sop.Alias

/-- the property at full strength: in-place writes through returned values are unobservable -/
def Statement_C38 : Prop :=
  ∀ (vnf : Bool) (disk : Disk) (ops : List Op),
    reads { vnf := vnf, disk := disk } ops = reads { vnf := vnf, disk := disk } (ops.filter (fun o => !isMutate o))

/-! ## counterexamples (the code as it stands: reference kinds kept in the node) -/

def disk0 : Disk := [(1, 11), (2, 22), (3, 33)]

/-- transaction A reads `[]byte` key 1, writes through it, rolls back; B and C read 77 -/
def jello : List Op :=
  [.begin, .read 1 .byRef, .mutate 77, .rollback, .begin, .read 1 .byRef, .commit, .begin, .read 1 .byRef, .rollback]

theorem C38_counterexample_later_reads :
    reads { vnf := false, disk := disk0 } jello = [some 11, some 77, some 77] ∧
    reads { vnf := false, disk := disk0 } (jello.filter (fun o => !isMutate o)) = [some 11, some 11, some 11] := by decide +kernel

/-- … and after B commits an update of ANOTHER key, A's rolled-back mutation is on disk: a cold process reads it -/
def durable : List Op :=
  [.begin, .read 1 .byRef, .mutate 77, .rollback, .begin, .update 2 55, .commit, .clear, .begin, .read 1 .byRef, .rollback, .cold 1]

theorem C38_counterexample_durable :
    reads { vnf := false, disk := disk0 } durable = [some 11, some 77, some 77] ∧
    Alias.get (runFrom { vnf := false, disk := disk0 } durable).1.disk 1 = some 77 := by decide +kernel

theorem C38_counterexample : ¬ Statement_C38 := by
  intro h
  have := h false disk0 jello
  rw [C38_counterexample_later_reads.1, C38_counterexample_later_reads.2] at this
  exact absurd this (by decide)

/-- the same sharing through the L1-miss/L2-hit fill: the L1 entry is a clone of the node just unmarshalled from the L2
payload — it shares the VALUE cells with the transaction that caused the fill (the node object is private, the
reference-typed values in it are not) -/
def jelloL2 : List Op :=
  [.begin, .read 1 .byRef, .rollback, .evict1, .begin, .read 1 .byRef, .mutate 77, .rollback, .begin, .read 1 .byRef, .rollback]

theorem C38_counterexample_l2_fill :
    reads { vnf := false, disk := disk0 } jelloL2 = [some 11, some 11, some 77] := by decide +kernel

/-- **No transaction ever works on the node object the L1 cache holds** — after every history, any value kind, any
placement, any eviction of any cache tier at any point. -/
theorem C38_node_private (vnf : Bool) (disk : Disk) (ops : List Op) :
    sharesNode (runFrom { vnf := vnf, disk := disk } ops).1 = false :=
  priv_not_shared _ (run_priv ops _ (init_priv vnf disk))

/-- **Fetched values are private.**  In a store whose values live in value blobs, after ANY history — any value kind,
any in-place writes through returned values by anybody at any time, evictions of any cache tier (L1 node entry, L1
handles, L2, all) between and inside transactions —, a read of a key by a transaction whose cursor is not already on
that key returns exactly the durable content, which no history changes: a fetched value is hung on the transaction's
own node object, never on the one in L1. -/
theorem C38_private_fetched (disk : Disk) (ops : List Op) (k : Nat) (kind : Kind) (t : Txn)
    (ht : (runFrom { vnf := true, disk := disk } ops).1.txn = some t) (hcur : t.cur ≠ some k) :
    ((runFrom { vnf := true, disk := disk } ops).1.apply (.read k kind)).2 = Alias.get disk k :=
  read_fetches _ (run_vinv ops _ (init_vinv disk)) t ht k kind hcur

/-- **Uncommitted work is private.**  In a store whose values are in the node, for EVERY history of reads, updates,
commits, rollbacks, evictions of any cache tier (the L1 node entry, the L1 handles, L2, everything) and reads by a cold
process — no in-place writes through returned values —, every read returns exactly what the specification map holds:
the committed content, or the transaction's own update.  In particular an update that was rolled back, and a value
hung on a slot, never reach another transaction: whatever level of the three-level lookup served the node (L1 hit, L2
hit, blob), the transaction worked on its own node object. -/
theorem C38_uncommitted_private (disk : Disk) (ops : List Op) (hm : ∀ op ∈ ops, isMutate op = false) :
    reads { vnf := false, disk := disk } ops = specReads { committed := disk } ops :=
  run_u ops _ _ (init_u disk) hm

/-- **Value kinds are private.**  When every read returns a value kind (`string`, plain struct), deleting every
in-place write from a history changes no read, in any placement, with or without evictions and commits. -/
theorem C38_private_value_kinds (ops : List Op) : ∀ (s : St), s.ret = none → allByValue ops = true →
    reads s ops = reads s (ops.filter (fun o => !isMutate o)) := by
  induction ops with
  | nil => intros; rfl
  | cons op rest ih =>
    intro s hr hv
    obtain ⟨hk, hrest⟩ := allByValue_cons hv
    cases hmu : isMutate op with
    | false =>
      rw [List.filter_cons_of_pos (by rw [hmu]; rfl), reads_cons, reads_cons, ih _ (apply_ret_none s op hr hk) hrest]
    | true =>
      -- the last read handed out a private copy: writing through it changes nothing
      obtain ⟨x, rfl⟩ : ∃ x, op = .mutate x := by
        cases op <;> first | exact ⟨_, rfl⟩ | cases hmu
      have : (s.apply (.mutate x)).1 = s := by simp only [St.apply, hr]
      rw [List.filter_cons_of_neg (by rw [hmu]; exact Bool.false_ne_true), reads_cons, this]
      exact ih s hr hrest

theorem C38_uncommitted_private_value_kinds (disk : Disk) (ops : List Op) (hv : allByValue ops = true) :
    reads { vnf := false, disk := disk } ops = specReads { committed := disk } (ops.filter (fun o => !isMutate o)) := by
  rw [C38_private_value_kinds ops _ rfl hv]
  apply C38_uncommitted_private
  intro op hop
  have := (List.mem_filter.1 hop).2
  simpa using this

/-! ## the variant in which the L1-miss/L2-hit fill stores the node it returns (`uncloned`): NOT the code -/

/-- value kind, values in the node: the node leaves L1 while L2 keeps it; a transaction updates a key and ROLLS BACK;
the next transaction of the process reads the rolled-back value (the cold process does not) … -/
def seedUpdate : List Op :=
  [.begin, .read 1 .byValue, .rollback, .evict1, .begin, .read 1 .byValue, .update 1 55, .rollback,
   .begin, .read 1 .byValue, .rollback, .cold 1]

/-- … values fetched from value blobs: a read-only transaction writes through the `[]byte` it fetched; the next
transaction of the process finds that cell hung on the slot -/
def seedFetched : List Op :=
  [.begin, .read 1 .byRef, .rollback, .evict1, .begin, .read 1 .byRef, .mutate 77, .rollback,
   .begin, .read 1 .byRef, .rollback, .cold 1]

/-- the theorems above are about the code (`uncloned = false`); with the uncloned fill `C38_node_private`,
`C38_uncommitted_private` and `C38_private_fetched` fail, on the tiny histories
the harness replays first (directed corpus `corpus-evict1-update-rollback`, `corpus-evict1-mutate-vnf`), while the
model of the code returns the committed content -/
theorem C38_uncloned_fill_witness :
    reads { vnf := false, disk := disk0, uncloned := true } seedUpdate = [some 11, some 11, some 55, some 11] ∧
    reads { vnf := false, disk := disk0 } seedUpdate = [some 11, some 11, some 11, some 11] ∧
    specReads { committed := disk0 } seedUpdate = [some 11, some 11, some 11, some 11] ∧
    reads { vnf := true, disk := disk0, uncloned := true } seedFetched = [some 11, some 11, some 77, some 11] ∧
    reads { vnf := true, disk := disk0 } seedFetched = [some 11, some 11, some 11, some 11] ∧
    -- and the invariant that fails (`Priv.txn`): the L1 entry IS the transaction's node object
    sharesNode (runFrom { vnf := false, disk := disk0, uncloned := true } (seedUpdate.take 6)).1 = true ∧
    sharesNode (runFrom { vnf := false, disk := disk0 } (seedUpdate.take 6)).1 = false := by decide +kernel

/-- the hypotheses are satisfiable by non-trivial histories -/
def sampleValue : List Op :=
  [.begin, .read 1 .byValue, .mutate 77, .update 2 55, .commit, .evict1, .begin, .read 1 .byValue, .read 2 .byValue, .update 1 66,
   .rollback, .evict2, .begin, .read 1 .byValue, .rollback, .clear, .cold 2]

example : allByValue sampleValue = true ∧
    reads { vnf := false, disk := disk0 } sampleValue = [some 11, some 11, some 55, some 11, some 55] := by decide +kernel

/-- a fetched store: someone writes through a `[]byte` it read, after an eviction of the L1 entry; the next transaction
reads the key -/
example : reads { vnf := true, disk := disk0 } jelloL2 = [some 11, some 11, some 11] ∧
    reads { vnf := true, disk := disk0 } jello = [some 11, some 11, some 11] := by decide +kernel

end Sop.C38
