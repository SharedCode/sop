import Sop.Model.Auth
import Sop.Lemmas.Assoc
/-! # C35 — session tokens cannot be forged, outlive expiry, or survive logout

The invariant holds for either value of `fixed`; the C35 theorems are about `fixed = true`, the code as it stands
(/repo 2df582e3; `fixed = false` is the tree before it); all for an arbitrary `mac`.
The revocation / rotation / current-secret conjuncts of the full statement are *false* for the code
(signed fast path, store fallback): see `Statement_C35` and the three counterexamples.

`Inv`: every entry of the session table is `EntryOk` (written by the server for an access token it issued);
`issuePair` is the tail that `CreateSession` and `Refresh` share. -/
namespace Sop.C35
open Sop.Auth
set_option linter.unusedSectionVars false

section
variable {Tag : Type} [DecidableEq Tag]

theorem tlookup_isLookup : Assoc.IsLookup (tlookup (Tag := Tag)) := ⟨fun _ => rfl, fun _ _ _ => rfl⟩

theorem tremove_isErase : Assoc.IsErase (tremove (Tag := Tag)) := ⟨fun _ => rfl, fun _ _ _ => rfl⟩

theorem tlookup_mem {tb : List (Token Tag × Record Tag)} {k : Token Tag} {r : Record Tag}
    (h : tlookup tb k = some r) : (k, r) ∈ tb :=
  Assoc.look_mem tlookup_isLookup h

theorem tlookup_tremove (tb : List (Token Tag × Record Tag)) (k k' : Token Tag) :
    tlookup (tremove tb k) k' = if k' = k then none else tlookup tb k' :=
  Assoc.look_erase tlookup_isLookup tremove_isErase tb k k'

theorem tlookup_tremove_none (tb : List (Token Tag × Record Tag)) {k k' : Token Tag}
    (h : tlookup tb k' = none) : tlookup (tremove tb k) k' = none := by
  rw [tlookup_tremove]
  split
  · rfl
  · exact h

theorem mem_tremove {tb : List (Token Tag × Record Tag)} {k : Token Tag} {e : Token Tag × Record Tag}
    (h : e ∈ tremove tb k) : e ∈ tb :=
  (List.mem_filter.1 (tremove_isErase.eq_filter tb k ▸ h)).1

theorem mem_removeRecord {tb : List (Token Tag × Record Tag)} {r : Record Tag} {e : Token Tag × Record Tag}
    (h : e ∈ removeRecord tb r) : e ∈ tb := by
  unfold removeRecord at h
  cases hr : r.refresh with
  | none => rw [hr] at h; exact mem_tremove h
  | some rt => rw [hr] at h; exact mem_tremove (mem_tremove h)

theorem tlookup_append (tb : List (Token Tag × Record Tag)) (k k' : Token Tag) (r : Record Tag) :
    tlookup (tb ++ [(k, r)]) k' = (tlookup tb k').or (if k = k' then some r else none) :=
  (Assoc.look_append tlookup_isLookup tb [(k, r)] k').trans (by rw [tlookup_isLookup.cons, tlookup_isLookup.nil])

theorem tlookup_removeRecord (tb : List (Token Tag × Record Tag)) (r : Record Tag) (k : Token Tag) :
    tlookup (removeRecord tb r) k = if k = r.token ∨ r.refresh = some k then none else tlookup tb k := by
  unfold removeRecord
  cases r.refresh with
  | none => simp [tlookup_tremove]
  | some ort =>
    rw [tlookup_tremove, tlookup_tremove]
    by_cases h1 : k = ort <;> by_cases h2 : k = r.token <;> simp [h1, h2, eq_comm]

theorem tadd_some {tb tb' : List (Token Tag × Record Tag)} {k : Token Tag} {r : Record Tag}
    (h : tadd tb k r = some tb') : tb' = tb ++ [(k, r)] ∧ tlookup tb k = none := by
  unfold tadd at h
  cases hl : tlookup tb k with
  | some x => rw [hl] at h; cases h
  | none => rw [hl] at h; simp only [Option.some.injEq] at h; exact ⟨h.symm, rfl⟩

def tokId : Token Tag → Option Nat
  | .opaque n => some n
  | .jwt _ p _ => p.claims.map (·.jti)

/-- the token carries a random id generated before the `n`-th `newToken` call -/
def Fresh (n : Nat) (t : Token Tag) : Prop := ∃ i, tokId t = some i ∧ i < n

structure EntryOk (issued : List (Token Tag)) (n : Nat) (k : Token Tag) (r : Record Tag) : Prop where
  key : k = r.token ∨ r.refresh = some k
  issued : r.token ∈ issued
  freshTok : Fresh n r.token
  freshRef : ∀ rt, r.refresh = some rt → Fresh n rt
  claims : ∃ c, claimsOf r.token = some c ∧ c.sub = r.user ∧ c.role = r.role ∧ c.exp = r.expiresAt

/-- every record of the session table was written by the server for an access token it issued -/
def Inv (s : State Tag) : Prop := ∀ k r, (k, r) ∈ s.table → EntryOk s.issued s.nextId k r

theorem Fresh.mono {n m : Nat} {t : Token Tag} (h : Fresh n t) (hnm : n ≤ m) : Fresh m t := by
  obtain ⟨i, hi, hlt⟩ := h; exact ⟨i, hi, by omega⟩

theorem EntryOk.mono {is is' : List (Token Tag)} {n m : Nat} {k : Token Tag} {r : Record Tag}
    (h : EntryOk is n k r) (his : ∀ t ∈ is, t ∈ is') (hnm : n ≤ m) : EntryOk is' m k r :=
  ⟨h.key, his _ h.issued, h.freshTok.mono hnm, fun rt hrt => (h.freshRef rt hrt).mono hnm, h.claims⟩

theorem EntryOk.freshKey {is : List (Token Tag)} {n : Nat} {k : Token Tag} {r : Record Tag}
    (h : EntryOk is n k r) : Fresh n k := by
  rcases h.key with hk | hk
  · rw [hk]; exact h.freshTok
  · exact h.freshRef k hk

theorem inv_init (secret : Nat) (ttl rttl : Int) : Inv (init secret ttl rttl : State Tag) := by
  intro k r h; simp [init] at h

theorem fresh_sign (mac : Nat → Msg → Tag) (sec : Nat) (c : Claims) (n : Nat) (h : c.jti < n) :
    Fresh n (sign mac sec c) := ⟨c.jti, rfl, h⟩

theorem inv_of_subtable {s s' : State Tag} (hi : Inv s) (hsub : ∀ e ∈ s'.table, e ∈ s.table)
    (his : ∀ t ∈ s.issued, t ∈ s'.issued) (hn : s.nextId ≤ s'.nextId) : Inv s' :=
  fun k r h => (hi k r (hsub _ h)).mono his hn

theorem inv_removeRecord {s : State Tag} (hi : Inv s) (r : Record Tag) (rv : List (Token Tag)) :
    Inv { s with table := removeRecord s.table r, revoked := rv } :=
  inv_of_subtable hi (fun _ h => mem_removeRecord h) (fun _ h => h) (Nat.le_refl _)

theorem inv_createToken (mac : Nat → Msg → Tag) (s : State Tag) (now : Int) (u ro : Nat) (hi : Inv s) :
    Inv (createToken mac s now u ro).1 := by
  unfold createToken
  simp only
  cases ha : tadd s.table (sign mac s.secret ⟨u, ro, now, now + s.ttl, s.nextId⟩)
      ⟨sign mac s.secret ⟨u, ro, now, now + s.ttl, s.nextId⟩, none, u, ro, now, now + s.ttl, none⟩ with
  | none => exact inv_of_subtable hi (fun e h => h) (fun t h => h) (Nat.le_succ _)
  | some tb =>
    obtain ⟨htb, _⟩ := tadd_some ha
    intro k r h
    simp only [htb, List.mem_append, List.mem_singleton] at h
    rcases h with h | h
    · exact (hi k r h).mono (fun t ht => List.mem_cons_of_mem _ ht) (Nat.le_succ _)
    · simp only [Prod.mk.injEq] at h
      obtain ⟨rfl, rfl⟩ := h
      exact ⟨Or.inl rfl, List.mem_cons_self, fresh_sign _ _ _ _ (Nat.lt_succ_self _),
        (fun rt hrt => by cases hrt), ⟨_, rfl, rfl, rfl, rfl⟩⟩

theorem entry_new_pair (mac : Nat → Msg → Tag) (is : List (Token Tag)) (sec n : Nat) (c : Claims) (hc : c.jti = n)
    (iat : Int) (rexp : Option Int) (k : Token Tag)
    (hk : k = sign mac sec c ∨ k = .opaque (n + 1)) :
    EntryOk (sign mac sec c :: is) (n + 2) k
      ⟨sign mac sec c, some (.opaque (n + 1)), c.sub, c.role, iat, c.exp, rexp⟩ := by
  refine ⟨?_, List.mem_cons_self, fresh_sign _ _ _ _ (by omega), ?_, ⟨c, rfl, rfl, rfl, rfl⟩⟩
  · rcases hk with hk | hk
    · exact Or.inl hk
    · exact Or.inr (by rw [hk])
  · intro rt hrt
    simp only [Option.some.injEq] at hrt
    subst hrt
    exact ⟨n + 1, rfl, by omega⟩

/-- the record `CreateSession` and `Refresh` store under the new access token and the new refresh token -/
def pairRecord (mac : Nat → Msg → Tag) (s : State Tag) (c : Claims) (iat : Int) (rexp : Option Int) : Record Tag :=
  ⟨sign mac s.secret c, some (.opaque (s.nextId + 1)), c.sub, c.role, iat, c.exp, rexp⟩

/-- the tail `CreateSession` and `Refresh` share; `f` is what `Refresh` then removes, `rot` its ghost list -/
def issuePair (mac : Nat → Msg → Tag) (s : State Tag) (c : Claims) (iat : Int) (rexp : Option Int)
    (f : List (Token Tag × Record Tag) → List (Token Tag × Record Tag)) (rot : List (Token Tag)) : State Tag × Out Tag :=
  let a := sign mac s.secret c
  let rt : Token Tag := .opaque (s.nextId + 1)
  let rec_ := pairRecord mac s c iat rexp
  let s1 := { s with nextId := s.nextId + 2 }
  match tadd s.table a rec_ with
  | none => (s1, .err .collision)
  | some tb =>
    match tadd tb rt rec_ with
    | none => (s1, .err .collision)
    | some tb2 => ({ s1 with table := f tb2, issued := a :: s.issued, rotated := rot }, .session a rt)

theorem createSession_eq (mac : Nat → Msg → Tag) (s : State Tag) (now : Int) (u ro : Nat) :
    createSession mac s now u ro =
      issuePair mac s ⟨u, ro, now, now + s.ttl, s.nextId⟩ now (some (now + s.refreshTtl)) id s.rotated := rfl

theorem refresh_eq (fixed : Bool) (mac : Nat → Msg → Tag) (s : State Tag) (now : Int) (tok : Token Tag) (r : Record Tag)
    (hl : tlookup s.table tok = some r) (hx : refreshExpired now r = false) :
    refresh fixed mac s now tok =
      issuePair mac s ⟨r.user, r.role, now, if fixed then now + s.ttl else r.expiresAt, s.nextId⟩ now r.refreshExpiresAt
        (removeRecord · r) (r.token :: (r.refresh.toList ++ s.rotated)) := by
  unfold refresh
  rw [hl]
  simp only [hx, Bool.false_eq_true, if_false]
  rfl

theorem issuePair_cases (mac : Nat → Msg → Tag) (s : State Tag) (c : Claims) (iat : Int) (rexp : Option Int)
    (f : List (Token Tag × Record Tag) → List (Token Tag × Record Tag)) (rot : List (Token Tag)) :
    issuePair mac s c iat rexp f rot = ({ s with nextId := s.nextId + 2 }, .err .collision) ∨
    (tlookup s.table (sign mac s.secret c) = none ∧
      issuePair mac s c iat rexp f rot =
        ({ s with nextId := s.nextId + 2,
                  table := f ((s.table ++ [(sign mac s.secret c, pairRecord mac s c iat rexp)]) ++
                    [(.opaque (s.nextId + 1), pairRecord mac s c iat rexp)]),
                  issued := sign mac s.secret c :: s.issued, rotated := rot },
         .session (sign mac s.secret c) (.opaque (s.nextId + 1)))) := by
  unfold issuePair
  dsimp only
  cases ha : tadd s.table (sign mac s.secret c) _ with
  | none => exact Or.inl rfl
  | some tb1 =>
    obtain ⟨h1, hn⟩ := tadd_some ha
    dsimp only
    cases hb : tadd tb1 (.opaque (s.nextId + 1)) _ with
    | none => exact Or.inl rfl
    | some tb2 => exact Or.inr ⟨hn, by rw [(tadd_some hb).1, h1]⟩

theorem inv_issuePair (mac : Nat → Msg → Tag) (s : State Tag) (c : Claims) (iat : Int) (rexp : Option Int)
    (f : List (Token Tag × Record Tag) → List (Token Tag × Record Tag)) (rot : List (Token Tag)) (hi : Inv s)
    (hc : c.jti = s.nextId) (hf : ∀ tb e, e ∈ f tb → e ∈ tb) : Inv (issuePair mac s c iat rexp f rot).1 := by
  rcases issuePair_cases mac s c iat rexp f rot with h | ⟨_, h⟩
  · rw [h]; exact inv_of_subtable hi (fun e h => h) (fun t h => h) (Nat.le_add_right _ _)
  · rw [h]
    intro k r hm
    have hm := hf _ _ hm
    simp only [List.mem_append, List.mem_singleton] at hm
    rcases hm with (hm | hm) | hm
    · exact (hi k r hm).mono (fun t ht => List.mem_cons_of_mem _ ht) (Nat.le_add_right _ _)
    · cases hm; exact entry_new_pair mac s.issued s.secret s.nextId c hc iat rexp _ (Or.inl rfl)
    · cases hm; exact entry_new_pair mac s.issued s.secret s.nextId c hc iat rexp _ (Or.inr rfl)

theorem inv_createSession (mac : Nat → Msg → Tag) (s : State Tag) (now : Int) (u ro : Nat) (hi : Inv s) :
    Inv (createSession mac s now u ro).1 := by
  rw [createSession_eq]
  exact inv_issuePair mac s _ _ _ _ _ hi rfl (fun _ _ h => h)

theorem inv_refresh (fixed : Bool) (mac : Nat → Msg → Tag) (s : State Tag) (now : Int) (tok : Token Tag) (hi : Inv s) :
    Inv (refresh fixed mac s now tok).1 := by
  cases hl : tlookup s.table tok with
  | none => unfold refresh; rw [hl]; exact hi
  | some r =>
    cases hx : refreshExpired now r with
    | true =>
      unfold refresh
      simp only [hl, hx, if_true]
      exact inv_removeRecord hi r _
    | false =>
      rw [refresh_eq fixed mac s now tok r hl hx]
      exact inv_issuePair mac s _ _ _ _ _ hi rfl (fun _ _ h => mem_removeRecord h)

theorem inv_validate (fixed : Bool) (mac : Nat → Msg → Tag) (s : State Tag) (now : Int) (tok : Token Tag) (hi : Inv s) :
    Inv (validate fixed mac s now tok).1 := by
  unfold validate
  cases verifyFast mac s now tok with
  | some c => exact hi
  | none =>
    simp only
    cases tlookup s.table tok with
    | none => exact hi
    | some r =>
      simp only
      split
      · exact hi
      · split
        · exact inv_removeRecord hi r _
        · exact hi

theorem inv_revoke (s : State Tag) (tok : Token Tag) (hi : Inv s) : Inv (revoke s tok).1 := by
  unfold revoke
  cases tlookup s.table tok with
  | none => exact hi
  | some r => exact inv_removeRecord hi r _

theorem inv_step (fixed : Bool) (mac : Nat → Msg → Tag) (s : State Tag) (o : Op Tag) (hi : Inv s) :
    Inv (step fixed mac s o).1 := by
  cases o with
  | createToken now u r => exact inv_createToken mac s now u r hi
  | createSession now u r => exact inv_createSession mac s now u r hi
  | refresh now t => exact inv_refresh fixed mac s now t hi
  | validate now t => exact inv_validate fixed mac s now t hi
  | revoke t => exact inv_revoke s t hi
  | setSecret n => exact hi

theorem inv_run (fixed : Bool) (mac : Nat → Msg → Tag) (s : State Tag) (ops : List (Op Tag)) (hi : Inv s) :
    Inv (run fixed mac s ops) := by
  induction ops generalizing s with
  | nil => exact hi
  | cons o os ih => exact ih _ (inv_step fixed mac s o hi)

/-- **Unforgeability hypothesis** for the presented token: if its signature verifies under the
server's current secret, the server produced that token ("a tag not obtained from the server
≠ `mac secret m`"). -/
def Unforged (mac : Nat → Msg → Tag) (s : State Tag) (tok : Token Tag) : Prop :=
  ∀ h p sig, tok = .jwt h p sig → sig = mac s.secret (h, p) → tok ∈ s.issued

/-- what the signed fast path (`parseAndVerifySignedAccessToken`) has checked when it returns claims -/
theorem verifyFast_some {mac : Nat → Msg → Tag} {s : State Tag} {now : Int} {tok : Token Tag} {c : Claims}
    (hf : verifyFast mac s now tok = some c) :
    ∃ h p, tok = .jwt h p (mac s.secret (h, p)) ∧ p.claims = some c ∧ now < c.exp := by
  cases tok with
  | «opaque» n => cases hf
  | jwt h p sig =>
    unfold verifyFast at hf
    dsimp only at hf
    split at hf
    · rename_i hs
      split at hf
      · cases hf
      · rename_i c' hp
        split at hf
        · cases hf
        · split at hf
          · cases hf
          · rename_i hx
            cases hf
            exact ⟨h, p, by rw [hs], hp, Int.not_le.1 hx⟩
    · cases hf

/-- the two ways `ValidateToken` answers a user: the signed fast path, or the store fallback on a record that has not expired -/
theorem validate_user_cases {fixed : Bool} {mac : Nat → Msg → Tag} {s : State Tag} {now : Int} {tok : Token Tag} {u ro : Nat}
    (hv : (validate fixed mac s now tok).2 = .user u ro) :
    (∃ c, verifyFast mac s now tok = some c ∧ c.sub = u ∧ c.role = ro) ∨
      ∃ r, tlookup s.table tok = some r ∧ (fixed = true → r.token = tok) ∧ now ≤ r.expiresAt ∧ r.user = u ∧ r.role = ro := by
  unfold validate at hv
  split at hv
  · rename_i c hc
    cases hv
    exact .inl ⟨c, hc, rfl, rfl⟩
  · split at hv
    · cases hv
    · rename_i r hl
      split at hv
      · cases hv
      · rename_i hk
        split at hv
        · cases hv
        · rename_i hx
          cases hv
          exact .inr ⟨r, hl, fun hf => Decidable.not_not.1 fun hne => hk ⟨hf, hne⟩, Int.not_lt.1 hx, rfl, rfl⟩

/-- **C35_valid_iff_partial.** In every reachable state, for every instant and every presented
string: if `ValidateToken` accepts, the string is — unmodified — an access token the server issued,
`now` is not past its expiry, and the identity returned is the one it was issued for. (No claim
about revocation, rotation or the secret being the current one: those conjuncts are false, see below.) -/
theorem C35_valid_iff_partial (mac : Nat → Msg → Tag) (s : State Tag) (now : Int) (tok : Token Tag) (u ro : Nat)
    (hi : Inv s) (hu : Unforged mac s tok)
    (hv : (validate true mac s now tok).2 = .user u ro) :
    tok ∈ s.issued ∧ ∃ c, claimsOf tok = some c ∧ u = c.sub ∧ ro = c.role ∧ now ≤ c.exp := by
  rcases validate_user_cases hv with ⟨c, hf, rfl, rfl⟩ | ⟨r, hl, hk, hx, rfl, rfl⟩
  · -- fast path: the signature verifies, so the server issued the token
    obtain ⟨h, p, rfl, hp, hlt⟩ := verifyFast_some hf
    exact ⟨hu h p _ rfl rfl, c, hp, rfl, rfl, Int.le_of_lt hlt⟩
  · -- store fallback: the record is keyed by its own access token, whose claims it copies
    have he := hi tok r (tlookup_mem hl)
    obtain ⟨c, hc, hsub, hrole, hexp⟩ := he.claims
    have hiss := he.issued
    rw [hk rfl] at hiss hc
    exact ⟨hiss, c, hc, hsub.symm, hrole.symm, hexp ▸ hx⟩

theorem refresh_of_absent (fixed : Bool) (mac : Nat → Msg → Tag) (s : State Tag) (now : Int) (tok : Token Tag)
    (h : tlookup s.table tok = none) : (refresh fixed mac s now tok).2 = .err .invalidRefresh := by
  unfold refresh; rw [h]

/-- the claims `Refresh` (repaired code) signs for the session of record `r` -/
def refreshClaims (s : State Tag) (now : Int) (r : Record Tag) : Claims := ⟨r.user, r.role, now, now + s.ttl, s.nextId⟩

/-- the state a successful `Refresh` of the session of record `r` leaves: the new pair stored, the old record removed -/
def refreshed (mac : Nat → Msg → Tag) (s : State Tag) (now : Int) (r : Record Tag) : State Tag :=
  { s with nextId := s.nextId + 2,
           table := removeRecord
             ((s.table ++ [(sign mac s.secret (refreshClaims s now r), pairRecord mac s (refreshClaims s now r) now r.refreshExpiresAt)]) ++
               [(.opaque (s.nextId + 1), pairRecord mac s (refreshClaims s now r) now r.refreshExpiresAt)]) r,
           issued := sign mac s.secret (refreshClaims s now r) :: s.issued,
           rotated := r.token :: (r.refresh.toList ++ s.rotated) }

theorem tlookup_refreshed (mac : Nat → Msg → Tag) (s : State Tag) (now : Int) (r : Record Tag) (k : Token Tag) :
    tlookup (refreshed mac s now r).table k =
      if k = r.token ∨ r.refresh = some k then none
      else ((tlookup s.table k).or
          (if sign mac s.secret (refreshClaims s now r) = k
            then some (pairRecord mac s (refreshClaims s now r) now r.refreshExpiresAt) else none)).or
        (if Token.opaque (s.nextId + 1) = k then some (pairRecord mac s (refreshClaims s now r) now r.refreshExpiresAt) else none) := by
  show tlookup (removeRecord _ r) k = _
  rw [tlookup_removeRecord, tlookup_append, tlookup_append]

theorem refresh_ok_form (mac : Nat → Msg → Tag) (s : State Tag) (now : Int) (tok a rt : Token Tag)
    (hr : (refresh true mac s now tok).2 = .session a rt) :
    ∃ r, tlookup s.table tok = some r ∧ a = sign mac s.secret (refreshClaims s now r) ∧ rt = .opaque (s.nextId + 1) ∧
      tlookup s.table a = none ∧ (refresh true mac s now tok).1 = refreshed mac s now r := by
  cases hl : tlookup s.table tok with
  | none => rw [refresh_of_absent true mac s now tok hl] at hr; cases hr
  | some r =>
    cases hx : refreshExpired now r with
    | true => unfold refresh at hr; simp [hl, hx] at hr
    | false =>
      rw [refresh_eq true mac s now tok r hl hx] at hr ⊢
      rcases issuePair_cases mac s _ now r.refreshExpiresAt (removeRecord · r) _ with h | ⟨hn, h⟩
      · rw [h] at hr; cases hr
      · rw [h] at hr ⊢
        simp only [Out.session.injEq] at hr
        obtain ⟨rfl, rfl⟩ := hr
        exact ⟨r, rfl, rfl, rfl, hn, rfl⟩

theorem validate_own_token (mac : Nat → Msg → Tag) (s : State Tag) (now : Int) (c : Claims) (r : Record Tag)
    (hl : tlookup s.table (sign mac s.secret c) = some r) (htok : r.token = sign mac s.secret c)
    (hu : r.user = c.sub) (hro : r.role = c.role) (hexp : r.expiresAt = c.exp) (hnow : now < c.exp) :
    (validate true mac s now (sign mac s.secret c)).2 = .user c.sub c.role := by
  unfold validate
  by_cases hz : c.sub = 0 ∨ c.role = 0
  · have hvf : verifyFast mac s now (sign mac s.secret c) = none := by simp [verifyFast, sign, hz]
    rw [hvf]
    simp only [hl, htok, ne_eq, not_true_eq_false, and_false, ↓reduceIte]
    have : ¬ now > r.expiresAt := by omega
    simp only [this, ↓reduceIte, hu, hro]
  · have hvf : verifyFast mac s now (sign mac s.secret c) = some c := by
      have : ¬ now ≥ c.exp := by omega
      simp [verifyFast, sign, hz, this]
    rw [hvf]

/-- **C35_refresh** (repaired code). In every reachable state with a positive
session TTL: when `Refresh` succeeds, the access token it returns validates at that same instant for
the session's user and role; the presented token is gone from the session table, so presenting it
to `Refresh` again fails at any later instant and it cannot validate through the store; and the
same holds for the session's previous refresh token. -/
theorem C35_refresh (mac : Nat → Msg → Tag) (s : State Tag) (now : Int) (tok a rt : Token Tag)
    (hi : Inv s) (httl : 0 < s.ttl)
    (hr : (refresh true mac s now tok).2 = .session a rt) :
    ∃ r, tlookup s.table tok = some r ∧
      (validate true mac (refresh true mac s now tok).1 now a).2 = .user r.user r.role ∧
      tlookup (refresh true mac s now tok).1.table tok = none ∧
      (∀ now', (refresh true mac (refresh true mac s now tok).1 now' tok).2 = .err .invalidRefresh) ∧
      (∀ ort, r.refresh = some ort → tlookup (refresh true mac s now tok).1.table ort = none) := by
  obtain ⟨r, hl, ha, hrt, hnone_a, hstate⟩ := refresh_ok_form mac s now tok a rt hr
  have he := hi tok r (tlookup_mem hl)
  have hfa : ∀ t : Token Tag, Fresh s.nextId t → a ≠ t := by
    intro t ⟨i, hi', hlt⟩ heq
    rw [← heq, ha] at hi'
    simp [sign, tokId, refreshClaims] at hi'
    omega
  have hgone : tlookup (refresh true mac s now tok).1.table tok = none := by
    rw [hstate, tlookup_refreshed, if_pos he.key]
  refine ⟨r, hl, ?_, hgone, fun now' => refresh_of_absent true mac _ now' tok hgone, fun ort hort => ?_⟩
  · -- the new access token is keyed by itself in the new table: it differs from both keys of the old record
    have hk : ¬ (a = r.token ∨ r.refresh = some a) :=
      fun h => h.elim (hfa _ he.freshTok) fun h => hfa _ (he.freshRef _ h) rfl
    rw [hstate, ha]
    refine validate_own_token mac (refreshed mac s now r) now (refreshClaims s now r)
      (pairRecord mac s (refreshClaims s now r) now r.refreshExpiresAt) ?_ rfl rfl rfl rfl ?_
    · show tlookup (refreshed mac s now r).table (sign mac s.secret (refreshClaims s now r)) = _
      rw [← ha, tlookup_refreshed, if_neg hk, hnone_a, ← ha, if_pos rfl]
      rfl
    · show now < now + s.ttl
      omega
  · rw [hstate, tlookup_refreshed, if_pos (Or.inr hort)]

/-- the statement at full strength (DESIGN.md §6 C35): acceptance additionally implies that the
token's session was not revoked, not rotated away, and that it was signed with the current secret -/
def Statement_C35 (mac : Nat → Msg → Tag) : Prop :=
  ∀ (secret : Nat) (ttl rttl : Int) (ops : List (Op Tag)) (now : Int) (tok : Token Tag) (u ro : Nat),
    0 < ttl →
    let s := run true mac (init secret ttl rttl) ops
    Unforged mac s tok →
    (validate true mac s now tok).2 = .user u ro →
    tok ∈ s.issued ∧ tok ∉ s.revoked ∧ tok ∉ s.rotated ∧
      (∃ c, claimsOf tok = some c ∧ tok = sign mac s.secret c ∧ now ≤ c.exp)

theorem C35_valid_iff_partial_run (mac : Nat → Msg → Tag) (secret : Nat) (ttl rttl : Int) (ops : List (Op Tag))
    (now : Int) (tok : Token Tag) (u ro : Nat)
    (hu : Unforged mac (run true mac (init secret ttl rttl) ops) tok)
    (hv : (validate true mac (run true mac (init secret ttl rttl) ops) now tok).2 = .user u ro) :
    tok ∈ (run true mac (init secret ttl rttl) ops).issued ∧
      ∃ c, claimsOf tok = some c ∧ u = c.sub ∧ ro = c.role ∧ now ≤ c.exp :=
  C35_valid_iff_partial mac _ now tok u ro (inv_run true mac _ ops (inv_init secret ttl rttl)) hu hv

end

def A1 : Token DTag := sign dmac 5 ⟨1, 1, 0, 1800, 0⟩

/-- (i) a revoked access token still validates: CreateSession, RevokeToken(access), ValidateToken(access). -/
theorem C35_counterexample :
    let s := run true dmac (init 5 1800 604800) [.createSession 0 1 1, .revoke A1]
    A1 ∈ s.issued ∧ A1 ∈ s.revoked ∧ s.table = [] ∧ (validate true dmac s 0 A1).2 = .user 1 1 := by
  decide +kernel

/-- the access token replaced by Refresh still validates -/
theorem C35_counterexample_rotated :
    let s := run true dmac (init 5 1800 604800) [.createSession 0 1 1, .refresh 60 (.opaque 1)]
    A1 ∈ s.rotated ∧ (validate true dmac s 60 A1).2 = .user 1 1 := by
  decide +kernel

/-- a token signed with the previous secret validates through the store fallback -/
theorem C35_counterexample_old_secret :
    let s := run true dmac (init 5 1800 604800) [.createSession 0 1 1, .setSecret 6]
    A1 ≠ sign dmac s.secret ⟨1, 1, 0, 1800, 0⟩ ∧ (validate true dmac s 0 A1).2 = .user 1 1 := by
  decide +kernel

theorem unforged_A1 (s : State DTag) (h : A1 ∈ s.issued) : Unforged dmac s A1 :=
  fun _ _ _ _ _ => h

/-- the full-strength statement is false for the code (even repaired): witness (i) -/
theorem C35_statement_fails : ¬ Statement_C35 dmac := by
  intro h
  have := h 5 1800 604800 [.createSession 0 1 1, .revoke A1] 0 A1 1 1 (by decide)
    (unforged_A1 _ (by decide +kernel)) (by decide +kernel)
  exact absurd this.2.1 (by decide +kernel)

/-- the code without the repair (`fixed = false`): (ii) the token returned by Refresh after the access
token's expiry is rejected at once; (iii) a refresh token passes ValidateToken -/
theorem C35_unrepaired_counterexamples :
    (let s := run false dmac (init 5 1800 604800) [.createSession 0 1 1]
     let r := refresh false dmac s 1860 (.opaque 1)
     r.2 = .session (sign dmac 5 ⟨1, 1, 1860, 1800, 2⟩) (.opaque 3) ∧
       (validate false dmac r.1 1860 (sign dmac 5 ⟨1, 1, 1860, 1800, 2⟩)).2 = .err .expiredSession) ∧
    (let s := run false dmac (init 5 1800 604800) [.createSession 0 2 2]
     (validate false dmac s 0 (.opaque 1)).2 = .user 2 2) := by
  decide +kernel

/-- Not a counterexample, a boundary of the statement (replayed on the real code by the corpus case
`corpus_expired_refresh_cleanup_removes_unexpired_access_token`):
`Refresh` gives the new access token a full `ttl` but the refresh lifetime is inherited, so the access token
(expiry 10680) outlives the refresh token (7200). The token is valid when issued (7080) and later (7440); it is
rejected at 7440 only after `Refresh` was presented with the session's expired refresh token at 7380, whose
cleanup removes both records - and only because its role is empty, which leaves it the store fallback alone
(with role 1 the signed fast path keeps accepting it). "Valid when issued" is what `C35_refresh` proves. -/
theorem C35_expired_refresh_cleanup_witness :
    (let A2 : Token DTag := sign dmac 0 ⟨2, 0, 7080, 10680, 2⟩
     let s := run true dmac (init 0 3600 7200) [.createSession 0 2 0, .refresh 7080 (.opaque 1)]
     let s' := (refresh true dmac s 7380 (.opaque 3)).1
     (validate true dmac s 7080 A2).2 = .user 2 0 ∧ (validate true dmac s 7440 A2).2 = .user 2 0 ∧
       (refresh true dmac s 7380 (.opaque 3)).2 = .err .expiredRefresh ∧ s'.table = [] ∧
       A2 ∉ s'.revoked ∧ A2 ∉ s'.rotated ∧
       (validate true dmac s' 7440 A2).2 = .err .invalidSession) ∧
    (let A2 : Token DTag := sign dmac 0 ⟨2, 1, 7080, 10680, 2⟩
     let s := run true dmac (init 0 3600 7200) [.createSession 0 2 1, .refresh 7080 (.opaque 1)]
     let s' := (refresh true dmac s 7380 (.opaque 3)).1
     s'.table = [] ∧ (validate true dmac s' 7440 A2).2 = .user 2 1) := by
  decide +kernel

/-- non-vacuity of `C35_valid_iff_partial` and `C35_refresh`: a reachable state with a live session -/
example :
    let s := run true dmac (init 5 1800 604800) [.createSession 0 1 1]
    Unforged dmac s A1 ∧ (validate true dmac s 10 A1).2 = .user 1 1 ∧ 0 < s.ttl ∧
      (refresh true dmac s 10 (.opaque 1)).2 = .session (sign dmac 5 ⟨1, 1, 10, 1810, 2⟩) (.opaque 3) :=
  ⟨unforged_A1 _ (by decide +kernel), by decide +kernel, by decide, by decide +kernel⟩

end Sop.C35
