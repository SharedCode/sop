import Sop.Model.Compare
import Sop.Lemmas.Compare
/-!
# C29 — built-in key comparison is a total preorder consistent with natural order

`cmp` is the model of `btree.Compare`, `coerce` of `btree.CoerceComparer` (`Sop/Model/Compare.lean`).
The statement is about keys of ONE supported type (`compat`): same Go type, `[]any` values with
pairwise same-typed elements, times whose monotonic readings (if both have one) agree with their wall
clocks. Outside that hypothesis the Go code is not an order (`hetero_not_antisymm`,
`stepped_clock_not_transitive`): it asserts the second argument to the type of the first and takes
the zero value when the assertion fails.
-/
namespace Sop.C29
open Sop.Compare

mutual
theorem cmp_tri : ∀ a b : Key, Tri (cmp a b)
  | .sint _ _, _ | .uint _ _, _ => cmpInt_tri _ _
  | .f32 _, _ | .f64 _, _ => (isOrder_cmpFloat _ _).tri _ _
  | .str _, _ | .guuid _, _ | .suuid _, _ | .bytes _, _ => isOrder_cmpBytes.tri _ _
  | .time _ _ _, _ => by
    simp only [cmp, cmpTime]
    split
    · exact cmpInt_tri _ _
    · exact isOrder_cmpWall.tri (_, _) (_, _)
  | .anys l, b => cmpAnys_tri l _
  | .strs _, _ => (isOrder_cmpSlice isOrder_cmpBytes).tri _ _
  | .ints _, _ => (isOrder_cmpSlice isOrder_cmpInt).tri _ _
  | .f64s _, _ | .f32s _, _ => (isOrder_cmpSlice (isOrder_cmpFloat _ _)).tri _ _
  | .nil, b => by cases b <;> simp [cmp, Tri]
theorem cmpAnys_tri : ∀ l m : List Key, Tri (cmpAnys l m)
  | [], [] | [], _ :: _ | _ :: _, [] => by simp [cmpAnys, Tri]
  | a :: l, b :: m => lex_tri (cmp_tri a b) (cmpAnys_tri l m)
end

/-- **`CoerceComparer(x)` is `Compare`** on every pair whose first argument has the type of `x`
(whatever the second argument is) -/
theorem coerce_eq_compare (x a b : Key) (h : sameTop x a = true) : coerce x a b = some (cmp a b) := by
  -- the cases are the clauses of `sameTop`, numbered in its order; those not named are one same-type pair each
  fun_cases sameTop x a
  case case1 t _ t' _ =>       -- `.sint t _`, `.sint t' _`
    obtain rfl : t = t' := by simpa [sameTop] using h
    simp [coerce, cmp, asSint]
  case case2 t _ t' _ =>       -- `.uint t _`, `.uint t' _`
    obtain rfl : t = t' := by simpa [sameTop] using h
    simp [coerce, cmp, asUint]
  case case15 => cases b <;> rfl   -- `.nil`, `.nil`
  case case16 => simp [sameTop, *] at h   -- the catch-all: different types
  all_goals rfl



def coerced (x a b : Key) : Int := (coerce x a b).getD 0

theorem cmp_eq_coerced {x a : Key} (b : Key) (h : sameTop x a = true) : cmp a b = coerced x a b := by
  rw [coerced, coerce_eq_compare x a b h]; rfl

/-- one order of the asserted values per flat type (`.time`, `.anys`, `.nil` need no arm: there `flat x = true` is
`false = true`) -/
theorem isOrder_coerced : ∀ x, flat x = true → IsOrder (coerced x)
  | .sint t _, _ => isOrder_comap isOrder_cmpInt (asSint t)
  | .uint t _, _ => isOrder_comap isOrder_cmpInt (fun a => (asUint t a : Int))
  | .f32 _, _ => isOrder_comap (isOrder_cmpFloat 8 23) asF32
  | .f64 _, _ => isOrder_comap (isOrder_cmpFloat 11 52) asF64
  | .str _, _ => isOrder_comap isOrder_cmpBytes asStr
  | .guuid _, _ => isOrder_comap isOrder_cmpBytes asGuuid
  | .suuid _, _ => isOrder_comap isOrder_cmpBytes asSuuid
  | .bytes _, _ => isOrder_comap isOrder_cmpBytes asBytes
  | .strs _, _ => isOrder_comap (isOrder_cmpSlice isOrder_cmpBytes) asStrs
  | .ints _, _ => isOrder_comap (isOrder_cmpSlice isOrder_cmpInt) asInts
  | .f64s _, _ => isOrder_comap (isOrder_cmpSlice (isOrder_cmpFloat 11 52)) asF64s
  | .f32s _, _ => isOrder_comap (isOrder_cmpSlice (isOrder_cmpFloat 8 23)) asF32s

/-- the third key is arbitrary: `Compare` asserts it to the type of the first -/
theorem cmp_flat {a b : Key} (hf : flat a = true) (h : sameTop a b = true) (c : Key) :
    cmp a b = -cmp b a ∧ Tr (cmp a b) (cmp b c) (cmp a c) := by
  rw [cmp_eq_coerced b (sameTop_refl a), cmp_eq_coerced a h, cmp_eq_coerced c h,
    cmp_eq_coerced c (sameTop_refl a)]
  exact ⟨(isOrder_coerced a hf).antisymm a b, (isOrder_coerced a hf).tr a b c⟩

theorem compat_time_left {s : Int} {n : Nat} {mo : Option Int} {b : Key}
    (h : compat (.time s n mo) b = true) : ∃ s' n' mo', b = .time s' n' mo' := by
  cases b <;> first | cases h | exact ⟨_, _, _, rfl⟩

theorem compat_anys_left {l : List Key} {b : Key} (h : compat (.anys l) b = true) :
    ∃ m, b = .anys m ∧ compatL l m = true := by
  cases b <;> first | cases h | exact ⟨_, rfl, h⟩

theorem cmpTime_antisymm (a b : Int × Nat × Option Int) : cmpTime a b = -cmpTime b a := by
  obtain ⟨s, n, mo⟩ := a
  obtain ⟨s', n', mo'⟩ := b
  match mo, mo' with
  | some _, some _ => exact cmpInt_antisymm _ _
  | none, none | none, some _ | some _, none => exact isOrder_cmpWall.antisymm (s, n) (s', n')

theorem cmpTime_eq_wall (s : Int) (n : Nat) (mo : Option Int) (s' : Int) (n' : Nat) (mo' : Option Int)
    (h : compat (.time s n mo) (.time s' n' mo') = true) :
    cmpTime (s, n, mo) (s', n', mo') = cmpWall s n s' n' := by
  cases mo <;> cases mo' <;> simp only [cmpTime]
  simp only [compat, beq_iff_eq] at h
  exact h

theorem cmp_antisymm_both :
    (∀ a b : Key, compat a b = true → cmp a b = -cmp b a) ∧
    (∀ l m : List Key, compatL l m = true → cmpAnys l m = -cmpAnys m l) := by
  refine compat_induct (leaf := fun a b hf h _ => (cmp_flat hf h b).1) (time := fun _ _ _ _ _ _ _ => cmpTime_antisymm _ _)
    (anys := fun l m ih => ih) (nil := rfl) (cons := fun a b l m h h' => lex_antisymm h h') (short := ?_)
  rintro l m (rfl | rfl)
  · cases m <;> rfl
  · cases l <;> rfl

theorem cmp_antisymm : ∀ a b : Key, compat a b = true → cmp a b = -cmp b a :=
  cmp_antisymm_both.1

theorem cmpAnys_antisymm : ∀ l m : List Key, compatL l m = true → cmpAnys l m = -cmpAnys m l :=
  cmp_antisymm_both.2

mutual
theorem compat_refl : ∀ a : Key, compat a a = true
  | .sint _ _ | .uint _ _ | .f32 _ | .f64 _ | .str _ | .guuid _ | .suuid _ | .bytes _ | .strs _ | .ints _
  | .f64s _ | .f32s _ | .nil => by simp [compat]
  | .time s n mo => by
    cases mo
    · rfl
    · exact beq_iff_eq.2 ((cmpInt_refl _).trans (isOrder_cmpWall.refl (s, n)).symm)
  | .anys l => by simp only [compat]; exact compatL_refl l
theorem compatL_refl : ∀ l : List Key, compatL l l = true
  | [] => by simp [compatL]
  | a :: l => by simp [compatL, compat_refl a, compatL_refl l]
end

/-- **reflexive** (NaN included: `cmp.Compare(NaN, NaN) = 0`) -/
theorem cmp_refl : ∀ a : Key, cmp a a = 0 := fun a => by
  have := cmp_antisymm a a (compat_refl a); omega

theorem cmpAnys_refl : ∀ l : List Key, cmpAnys l l = 0 := fun l => by
  have := cmpAnys_antisymm l l (compatL_refl l); omega

theorem cmp_tr_both :
    (∀ a b : Key, compat a b = true → ∀ c, compat b c = true → compat a c = true →
      Tr (cmp a b) (cmp b c) (cmp a c)) ∧
    (∀ l m : List Key, compatL l m = true → ∀ n, compatL m n = true → compatL l n = true →
      Tr (cmpAnys l m) (cmpAnys m n) (cmpAnys l n)) := by
  refine compat_induct (leaf := fun a b hf h _ c _ _ => (cmp_flat hf h c).2) (time := ?_) (anys := ?_) (nil := ?_)
    (cons := ?_) (short := ?_)
  · intro s n mo s' n' mo' h1 c h2 h3
    obtain ⟨s'', n'', mo'', rfl⟩ := compat_time_left h2
    simp only [cmp, asTime]
    rw [cmpTime_eq_wall _ _ _ _ _ _ h1, cmpTime_eq_wall _ _ _ _ _ _ h2, cmpTime_eq_wall _ _ _ _ _ _ h3]
    exact isOrder_cmpWall.tr (s, n) (s', n') (s'', n'')
  · intro l m ih c h2 h3
    obtain ⟨n, rfl, h2'⟩ := compat_anys_left h2
    exact ih n h2' h3
  · intro c _ _
    exact Tr.zero_left (cmp .nil c)
  · intro a b l m ihP ihQ n h2 h3
    cases n with
    | nil => cases l <;> simp [cmpAnys, Tr]
    | cons d n =>
      simp only [compatL, Bool.and_eq_true] at h2 h3
      exact lex_tr (ihP d h2.1 h3.1) (ihQ n h2.2 h3.2)
  · rintro l m (rfl | rfl) n _ _
    · cases m <;> cases n <;> simp [cmpAnys, Tr]
    · cases l <;> cases n <;> simp [cmpAnys, Tr]

theorem cmpAnys_tr : ∀ l m n : List Key, compatL l m = true → compatL m n = true → compatL l n = true →
    Tr (cmpAnys l m) (cmpAnys m n) (cmpAnys l n) :=
  fun l m n h1 => cmp_tr_both.2 l m h1 n

theorem cmp_trans_strict (a b c : Key) (h1 : compat a b = true) (h2 : compat b c = true) (h3 : compat a c = true) :
    (cmp a b < 0 → cmp b c ≤ 0 → cmp a c < 0) ∧ (cmp a b ≤ 0 → cmp b c < 0 → cmp a c < 0) ∧
    (cmp a b = 0 → cmp b c = 0 → cmp a c = 0) :=
  -- this is `Tr (cmp a b) (cmp b c) (cmp a c)` written out
  cmp_tr_both.1 a b h1 c h2 h3

theorem cmp_trans (a b c : Key) (h1 : compat a b = true) (h2 : compat b c = true) (h3 : compat a c = true)
    (hab : cmp a b ≤ 0) (hbc : cmp b c ≤ 0) : cmp a c ≤ 0 :=
  Tr.le (x := cmp a b) (y := cmp b c) (z := cmp a c) (cmp_trans_strict a b c h1 h2 h3) hab hbc

theorem cmp_total (a b : Key) (h : compat a b = true) :
    (cmp a b = -1 ∨ cmp a b = 0 ∨ cmp a b = 1) ∧ (cmp a b ≤ 0 ∨ cmp b a ≤ 0) := by
  exact (cmp_tri a b).total (cmp_antisymm a b h)

/-! `compat` is symmetric (and reflexive: `compat_refl`), so "all keys of a store are pairwise compatible" is a sensible
hypothesis. -/

theorem compat_symm_both :
    (∀ a b : Key, compat a b = true → compat b a = true) ∧
    (∀ l m : List Key, compatL l m = true → compatL m l = true) := by
  refine compat_induct (leaf := fun _ _ _ _ h => h) (time := ?_) (anys := fun l m ih => ih) (nil := rfl)
    (cons := ?_) (short := ?_)
  · intro s n mo s' n' mo' h
    cases mo <;> cases mo' <;> first | rfl | skip
    simp only [compat, beq_iff_eq] at h ⊢
    rw [cmpInt_antisymm, h]
    exact (isOrder_cmpWall.antisymm (s', n') (s, n)).symm
  · intro a b l m h h'
    simp only [compatL, Bool.and_eq_true]
    exact ⟨h, h'⟩
  · rintro l m (rfl | rfl)
    · cases m <;> rfl
    · rfl

theorem compat_symm : ∀ a b : Key, compat a b = true → compat b a = true :=
  compat_symm_both.1

theorem compatL_symm : ∀ l m : List Key, compatL l m = true → compatL m l = true :=
  compat_symm_both.2

/-- **natural order**, type by type; integers of one Go type -/
theorem cmp_natural_sint (t : Nat) (x y : Int) :
    (cmp (.sint t x) (.sint t y) = -1 ↔ x < y) ∧ (cmp (.sint t x) (.sint t y) = 0 ↔ x = y) ∧
    (cmp (.sint t x) (.sint t y) = 1 ↔ y < x) := by
  simp only [cmp, asSint, ↓reduceIte]
  exact ⟨cmpInt_lt_iff _ _, cmpInt_eq_iff _ _, cmpInt_gt_iff _ _⟩

theorem cmp_natural_uint (t : Nat) (x y : Nat) :
    (cmp (.uint t x) (.uint t y) = -1 ↔ x < y) ∧ (cmp (.uint t x) (.uint t y) = 0 ↔ x = y) ∧
    (cmp (.uint t x) (.uint t y) = 1 ↔ y < x) := by
  simp only [cmp, asUint, ↓reduceIte]
  refine ⟨?_, ?_, ?_⟩
  · rw [cmpInt_lt_iff]; omega
  · rw [cmpInt_eq_iff]; omega
  · rw [cmpInt_gt_iff]; omega

/-- floats: NaN (any payload) is below every non-NaN and equal to every NaN; non-NaN values are
ordered by the key `fKey` (`-0` and `+0` have the same key; landmarks: `fKey64_landmarks`) -/
theorem cmp_natural_float (e m a b : Nat) :
    (fIsNaN e m a = true → fIsNaN e m b = true → cmpFloat e m a b = 0) ∧
    (fIsNaN e m a = true → fIsNaN e m b = false → cmpFloat e m a b = -1) ∧
    (fIsNaN e m a = false → fIsNaN e m b = true → cmpFloat e m a b = 1) ∧
    (fIsNaN e m a = false → fIsNaN e m b = false →
      (cmpFloat e m a b = -1 ↔ fKey e m a < fKey e m b) ∧
      (cmpFloat e m a b = 0 ↔ fKey e m a = fKey e m b) ∧
      (cmpFloat e m a b = 1 ↔ fKey e m b < fKey e m a)) := by
  unfold cmpFloat
  refine ⟨?_, ?_, ?_, ?_⟩
  · intro ha hb; simp [ha, hb]
  · intro ha hb; simp [ha, hb]
  · intro ha hb; simp [ha, hb]
  · intro ha hb; simp only [ha, hb, Bool.false_eq_true, ↓reduceIte]
    exact ⟨cmpInt_lt_iff _ _, cmpInt_eq_iff _ _, cmpInt_gt_iff _ _⟩

theorem cmp_f64 (a b : Nat) : cmp (.f64 a) (.f64 b) = cmpFloat 11 52 a b := by simp [cmp, asF64, cmpF64]
theorem cmp_f32 (a b : Nat) : cmp (.f32 a) (.f32 b) = cmpFloat 8 23 a b := by simp [cmp, asF32, cmpF32]

/-- sanity of the key map on the named IEEE-754 binary64 values -/
theorem fKey64_landmarks :
    fKey 11 52 0x0000000000000000 = 0 ∧ fKey 11 52 0x8000000000000000 = 0 ∧          -- +0, -0
    fKey 11 52 0x8000000000000001 < 0 ∧ 0 < fKey 11 52 0x0000000000000001 ∧          -- ∓ smallest denormal
    fKey 11 52 0xFFF0000000000000 < fKey 11 52 0xFFEFFFFFFFFFFFFF ∧                  -- -Inf < -MaxFloat
    fKey 11 52 0x7FEFFFFFFFFFFFFF < fKey 11 52 0x7FF0000000000000 ∧                  -- MaxFloat < +Inf
    fIsNaN 11 52 0x7FF0000000000000 = false ∧ fIsNaN 11 52 0xFFF0000000000000 = false ∧
    fIsNaN 11 52 0x7FF8000000000001 = true ∧ fIsNaN 11 52 0xFFF0000000000001 = true := by
  decide

/-- byte-lexicographic order: strings, `[]byte`, both UUID types -/
theorem cmpBytes_natural (a b : List Nat) :
    (cmpBytes a b = -1 ↔ SliceLt (fun (x y : Nat) => cmpInt x y) a b) ∧ (cmpBytes a b = 0 ↔ a = b) := by
  refine ⟨?_, cmpBytes_eq_iff a b⟩
  have h := cmpSlice_lt_iff (fun (x y : Nat) => cmpInt x y) a b
  have t := isOrder_cmpBytes.tri a b
  unfold cmpBytes Tri at *
  rw [← h]; omega

theorem cmp_natural_str (a b : List Nat) : cmp (.str a) (.str b) = cmpBytes a b := by simp [cmp, asStr]
theorem cmp_natural_bytes (a b : List Nat) : cmp (.bytes a) (.bytes b) = cmpBytes a b := by simp [cmp, asBytes]
theorem cmp_natural_guuid (a b : List Nat) : cmp (.guuid a) (.guuid b) = cmpBytes a b := by simp [cmp, asGuuid]
theorem cmp_natural_suuid (a b : List Nat) : cmp (.suuid a) (.suuid b) = cmpBytes a b := by simp [cmp, asSuuid]

theorem bytes_head_lt (x y : Nat) (l m : List Nat) (h : x < y) : cmpBytes (x :: l) (y :: m) = -1 := by
  have : cmpInt (x:Int) (y:Int) = -1 := (cmpInt_lt_iff _ _).mpr (by omega)
  simp [cmpBytes, cmpSlice, lex, this]
theorem bytes_prefix_lt (l : List Nat) (y : Nat) (m : List Nat) : cmpBytes l (l ++ y :: m) = -1 := by
  induction l with
  | nil => simp [cmpBytes, cmpSlice]
  | cons a l ih =>
    have : cmpInt (a:Int) (a:Int) = 0 := cmpInt_refl _
    simp only [cmpBytes, List.cons_append, cmpSlice, lex, this]
    simpa [cmpBytes] using ih

/-- times (zone-independent: the model holds the instant): order of `sec·10⁹ + nsec` -/
theorem cmp_natural_time (s : Int) (n : Nat) (mo : Option Int) (s' : Int) (n' : Nat) (mo' : Option Int)
    (h : compat (.time s n mo) (.time s' n' mo') = true) (hn : n < 1000000000) (hn' : n' < 1000000000) :
    cmp (.time s n mo) (.time s' n' mo') = cmpInt (s * 1000000000 + n) (s' * 1000000000 + n') := by
  simp only [cmp, asTime]
  rw [cmpTime_eq_wall _ _ _ _ _ _ h]
  exact cmpWall_instant _ _ _ _ hn hn'

theorem cmpAnys_eq : ∀ l m : List Key, cmpAnys l m = cmpSlice cmp l m
  | [], [] | [], _ :: _ | _ :: _, [] => by simp [cmpAnys, cmpSlice]
  | a :: l, b :: m => by simp [cmpAnys, cmpSlice, cmpAnys_eq l m]

/-- slices: lexicographic by the element order, a proper prefix first -/
theorem cmp_natural_slices :
    (∀ l m, cmp (.anys l) (.anys m) < 0 ↔ SliceLt cmp l m) ∧
    (∀ l m, cmp (.strs l) (.strs m) < 0 ↔ SliceLt cmpBytes l m) ∧
    (∀ l m, cmp (.ints l) (.ints m) < 0 ↔ SliceLt cmpInt l m) ∧
    (∀ l m, cmp (.f64s l) (.f64s m) < 0 ↔ SliceLt cmpF64 l m) ∧
    (∀ l m, cmp (.f32s l) (.f32s m) < 0 ↔ SliceLt cmpF32 l m) := by
  refine ⟨?_, ?_, ?_, ?_, ?_⟩ <;> intro l m
  · simp only [cmp, asAnys, cmpAnys_eq]; exact cmpSlice_lt_iff _ _ _
  · simp only [cmp, asStrs]; exact cmpSlice_lt_iff _ _ _
  · simp only [cmp, asInts]; exact cmpSlice_lt_iff _ _ _
  · simp only [cmp, asF64s]; exact cmpSlice_lt_iff _ _ _
  · simp only [cmp, asF32s]; exact cmpSlice_lt_iff _ _ _

/-- `[]any` values whose elements have different types are not ordered: `[[1] 2]` vs `[2]` compare
`1` in both directions (`Compare([1], 2)` asserts `2` to `[]any` → nil slice →
longer wins, and `Compare(2, [1])` asserts `[1]` to `int` → 0) -/
theorem hetero_not_antisymm :
    cmp (.anys [.anys [.sint 0 1], .sint 0 2]) (.anys [.sint 0 2]) = 1 ∧
    cmp (.anys [.sint 0 2]) (.anys [.anys [.sint 0 1], .sint 0 2]) = 1 ∧
    compat (.anys [.anys [.sint 0 1], .sint 0 2]) (.anys [.sint 0 2]) = false := by
  simp [cmp, cmpAnys, asAnys, asSint, cmpInt, lex, compat, compatL]

/-- times with monotonic readings taken around a backward step of the wall clock are not ordered
transitively: `a < b` (monotonic), `b < c` (wall, `c` has no reading), `c < a` (wall) -/
theorem stepped_clock_not_transitive :
    cmp (.time 100 0 (some 1)) (.time 50 0 (some 2)) = -1 ∧
    cmp (.time 50 0 (some 2)) (.time 60 0 none) = -1 ∧
    cmp (.time 100 0 (some 1)) (.time 60 0 none) = 1 ∧
    compat (.time 100 0 (some 1)) (.time 50 0 (some 2)) = false := by
  simp [cmp, asTime, cmpTime, cmpWall, cmpInt, compat]

def sampleA : Key := .anys [.str [97], .f64 0x7FF8000000000001, .anys [.sint 3 (-5)], .time 10 999999999 none]
def sampleB : Key := .anys [.str [97], .f64 0x8000000000000000, .anys [.sint 3 7, .nil]]
def sampleC : Key := .anys [.str [97, 0], .f64 0]

example : compat sampleA sampleB = true ∧ compat sampleB sampleC = true ∧ compat sampleA sampleC = true := by
  simp [sampleA, sampleB, sampleC, compat, compatL]

example : cmp sampleA sampleC ≤ 0 :=
  cmp_trans sampleA sampleB sampleC (by simp [sampleA, sampleB, compat, compatL]) (by simp [sampleB, sampleC, compat, compatL])
    (by simp [sampleA, sampleC, compat, compatL])
    (by simp [sampleA, sampleB, cmp, cmpAnys, asAnys, asStr, asF64, cmpBytes, cmpSlice, cmpInt, lex, cmpF64, cmpFloat, fIsNaN])
    (by simp [sampleB, sampleC, cmp, cmpAnys, asAnys, asStr, cmpBytes, cmpSlice, cmpInt, lex])

example : compat (.time 5 0 (some 10)) (.time 6 0 (some 20)) = true := by simp [compat, cmpInt, cmpWall]

end Sop.C29
