import Sop.Lemmas.BTreeRunSteps
import Sop.Lemmas.BTreeRemoveExact
/-!
# C17 — a B-tree store behaves as a correctly ordered collection

Model B (`Sop/Model/BTree.lean`) is a structural transcription of `/repo/btree`. Proved for every tree, every slot
length, unique and duplicate stores, with leaf load balancing OFF and the three proposed repairs on: from a state
satisfying the invariant `Inv` (`WF`, not panicked, readable cursor, no pending promote/distribute action, fresh id
counter) each of the 19 public calls leads to a state satisfying `Inv` again and returns what the ordered multiset/map
specification `Spec.accepts` allows (`C17_inv`; along runs, `C17_run`). Every path of the code is covered: for `Add`
the duplicate rejection, `addItemOnNodeWithNilChild`, `insertSlotItem`, the root-leaf split, the split of a non-root
leaf with `promote` cascading through any number of full ancestors (ending in an ancestor with room or in a root
split); for the removal the leaf shift, root emptied, `unlink`, nil-child neighbour, successor copy-up,
`promoteSingleChildAsParentChild`, root collapse.

With leaf load balancing ON the statement is FALSE for the code as it is (open finding C17-F1,
`C17_lb_counterexample`): `distributeToLeft/Right` (`unprovenRoutines`) break the order. There only
`C17_refines_partial` applies; the driver evaluates its hypothesis (the checker accepts every visited state) and
`Spec.accepts` after every explored step. Without the repair `fixFast`, `Find`'s fast path trusts a cursor whose cached
item pointer sees a vacated slot (`C17_stale_cursor_counterexample`).
-/
namespace Sop.C17
open Sop.BTree
set_option maxRecDepth 100000

/-- The statement without side conditions: every public call on a well-formed tree yields a well-formed tree whose
    in-order contents and result are what the ordered multiset/map specification allows. FALSE as it stands
    (`C17_statement_false`: leaf load balancing). -/
def Statement_C17 : Prop :=
  ∀ (t : BTree) (op : Op), WF t → t.panicked = false →
    WF (t.step op).1 ∧ (t.step op).1.panicked = false ∧
      Spec.accepts t.unique t.abs op (t.step op).2 (t.step op).1.abs = true

/-- The statement with its side conditions made explicit (`Inv`: load balancing off, repairs on, readable cursor,
    no pending action, fresh ids). Proved: `C17_inv`. -/
def Statement_C17_inv : Prop :=
  ∀ (t : BTree) (op : Op), Inv t →
    Inv (t.step op).1 ∧ Spec.accepts t.unique t.abs op (t.step op).2 (t.step op).1.abs = true

theorem checkWF_sound (t : BTree) (h : checkWF t = true) : WF t := Sop.BTree.checkWF_sound t h

/-- A well-formed tree scans in key order, visits only live items, and its
    `Count` is the number of items. -/
theorem C17_scan_sorted (t : BTree) (h : WF t) :
    Sorted t.abs ∧ (∀ x ∈ t.abs, x.id ≠ 0) ∧ t.count = (t.abs.length : Int) :=
  abs_sorted_of_WF t h

theorem spec_insert_sorted (it : Item) (l : List Item) (h : Sorted l) : Sorted (insertSorted it l) :=
  insertSorted_sorted it l h
theorem spec_insert_perm (it : Item) (l : List Item) : (insertSorted it l).Perm (it :: l) :=
  insertSorted_perm it l
theorem spec_erase_sorted (l : List Item) (x : Item) (h : Sorted l) : Sorted (l.erase x) :=
  erase_sorted l x h
theorem spec_sorted_iff (l : List Item) : keysSorted l = true ↔ Sorted l := keysSorted_iff l

/-- The update routines whose preservation lemma is NOT proved: only the leaf-load-balancing rotations, for which
    the statement is false on the code as it is (C17-F1). -/
def unprovenRoutines : List String := ["distributeToLeft", "distributeToRight"]

/-- Every public call keeps the invariant and meets the
    specification. -/
theorem C17_inv : Statement_C17_inv := fun _ op h => step_inv h op

theorem C17_step (t : BTree) (op : Op) (h : Inv t) :
    WF (t.step op).1 ∧ (t.step op).1.panicked = false ∧
      Spec.accepts t.unique t.abs op (t.step op).2 (t.step op).1.abs = true :=
  ⟨(step_inv h op).1.wf, (step_inv h op).1.ok, (step_inv h op).2⟩

/-- the nine read-only calls need only `WF`, a readable cursor and the two read-side repairs -/
theorem C17_read_ops (t : BTree) (op : Op) (hro : isReadOp op = true) (hwf : WF t) (hp : t.panicked = false)
    (hv : CursorValid t) (hix : t.cur.node = 0 ∨ 0 ≤ t.cur.idx) (hff : t.fixFast = true) (hfi : t.fixId = true) :
    WF (t.step op).1 ∧ (t.step op).1.panicked = false ∧ (t.step op).1.abs = t.abs ∧
      Spec.accepts t.unique t.abs op (t.step op).2 (t.step op).1.abs = true := by
  obtain ⟨h1, h2, h3, _, h5⟩ := read_op_accepts hwf hp ⟨hv, hix⟩ hff hfi op hro
  exact ⟨h1, h2, h3, h5⟩

/-- `Add` (every path): well-formed result, `Count + 1`, and the contents are the ORDERED INSERTION of the new item
    at the lower bound of its key; in a unique store holding the key it is rejected and nothing changes -/
theorem C17_add (t : BTree) (uniq : Bool) (key : Int) (val : Nat) (h : Inv t) :
    Inv (t.addU uniq key val).1 ∧
    (((uniq && hasKey t.abs key) = true ∧ (t.addU uniq key val).2 = false ∧ (t.addU uniq key val).1.abs = t.abs) ∨
     ((uniq && hasKey t.abs key) = false ∧ (t.addU uniq key val).2 = true ∧
        (t.addU uniq key val).1.count = t.count + 1 ∧
        ∃ L R, t.abs = L ++ R ∧ (t.addU uniq key val).1.abs = L ++ (⟨t.nextId, key, val⟩ : Item) :: R ∧
          (∀ x ∈ L, x.key < key) ∧ (∀ x ∈ R, key ≤ x.key))) := by
  obtain ⟨h1, h2⟩ := inv_addU h uniq key val
  refine ⟨h1, ?_⟩
  rcases h2 with h2 | ⟨hc, hok⟩
  · exact Or.inl h2
  · exact Or.inr ⟨hc, hok.ret, hok.count, hok.abs⟩

/-- `RemoveCurrentItem`, EVERY branch: nothing happens without a current item; otherwise the result is well-formed
    (hence key-sorted), `Count` drops by one and the contents are the old ones minus the cursor's item, up to order -/
theorem C17_remove_current (t : BTree) (h : Inv t) :
    Inv t.removeCurrent.1 ∧
    ((t.removeCurrent.2 = .ok false ∧ t.removeCurrent.1 = t) ∨
     (t.removeCurrent.2 = .ok true ∧ t.removeCurrent.1.count = t.count - 1 ∧
        ∃ L R, t.abs = L ++ t.curItem :: R ∧ (L ++ R).Perm t.removeCurrent.1.abs)) :=
  inv_removeCurrent' h

/-- with pairwise different item ids (a hypothesis: `Inv` says only that the ids are below the counter) the contents after
    `RemoveCurrentItem` are exactly the old ones with the cursor's item cut out -/
theorem C17_remove_current_exact (t : BTree) (h : Inv t) {nd : Node} (hcn : t.curNode? = some nd)
    (hids : (t.abs.map (·.id)).Nodup) :
    ∃ L R, t.abs = L ++ t.curItem :: R ∧ t.removeCurrent.1.abs = L ++ R := by
  have hc := h.wf.cursorOn_of_curNode hcn (h.cur.idx hcn)
  exact (Rem.removeCurrent_ok_exact t h.wf h.ok hc hids).2.2.2.2.2

/-- The run: along any operation sequence every visited state satisfies `Inv` (so it is well-formed, scans sorted,
    has not panicked) and every call meets the specification. -/
theorem C17_run (t : BTree) (ops : List Op) (h : Inv t) :
    ∀ k, k ≤ ops.length →
      Inv (t.run (ops.take k)) ∧ WF (t.run (ops.take k)) ∧ Sorted (t.run (ops.take k)).abs ∧
      (∀ (hk : k < ops.length), Spec.accepts (t.run (ops.take k)).unique (t.run (ops.take k)).abs ops[k]
        ((t.run (ops.take k)).step ops[k]).2 ((t.run (ops.take k)).step ops[k]).1.abs = true) := by
  intro k hk
  obtain ⟨h1, h2⟩ := run_inv ops t h k hk
  exact ⟨h1, h1.wf, (abs_sorted_of_WF _ h1.wf).1, h2⟩

theorem roundSlotLength_ok (req : Int) : 2 ≤ roundSlotLength req ∧ roundSlotLength req % 2 = 0 := by
  unfold roundSlotLength
  simp only
  -- one stage of the normalisation at a time: made even, then at least 2, then capped
  generalize (if req ≤ 0 then (2000 : Int) else req) = s
  generalize hs' : (if s % 2 ≠ 0 then s - 1 else s) = s'
  have he : s' % 2 = 0 := by
    rw [← hs']
    rcases Int.emod_two_eq s with h | h
    · rw [if_neg (by rw [h]; decide)]; exact h
    · rw [if_pos (by rw [h]; decide), Int.sub_emod, h]; rfl
  generalize hs'' : (if s' < 2 then 2 else s') = s''
  have h2 : 2 ≤ s'' ∧ s'' % 2 = 0 := by
    rw [← hs'']
    split
    · exact ⟨Int.le_refl _, rfl⟩
    · rename_i h; exact ⟨Int.not_lt.mp h, he⟩
  generalize hs3 : (if s'' > 20000 then 20000 else s'') = s3
  have h3 : 2 ≤ s3 ∧ s3 % 2 = 0 := by
    rw [← hs3]
    split
    · exact ⟨by decide, by decide⟩
    · exact h2
  omega

/-- the empty store satisfies the invariant (non-vacuity of `Inv`) -/
theorem inv_new (req : Int) (unique : Bool) : Inv (BTree.new req unique false true) := by
  have hsl := roundSlotLength_ok req
  refine ⟨?_, rfl, ⟨Or.inl rfl, Or.inl rfl⟩, ⟨rfl, rfl⟩, ⟨Nat.one_pos, ?_⟩, ?_, rfl, rfl, rfl, rfl⟩
  · exact WF.of_root_eq rfl hsl rfl rfl
  · intro nd hnd; simp [BTree.new] at hnd
  · intro x hx; simp [BTree.new, BTree.abs, absNode] at hx

/-- the run theorem from the empty store: whatever is called, in whatever order, every state is well-formed,
    nothing panics, and every answer is the specification's -/
theorem C17_run_from_new (req : Int) (unique : Bool) (ops : List Op) :
    ∀ k, k ≤ ops.length →
      WF ((BTree.new req unique false true).run (ops.take k)) ∧
      ((BTree.new req unique false true).run (ops.take k)).panicked = false ∧
      (∀ (hk : k < ops.length),
        Spec.accepts ((BTree.new req unique false true).run (ops.take k)).unique
          ((BTree.new req unique false true).run (ops.take k)).abs ops[k]
          (((BTree.new req unique false true).run (ops.take k)).step ops[k]).2
          (((BTree.new req unique false true).run (ops.take k)).step ops[k]).1.abs = true) := by
  intro k hk
  obtain ⟨h1, _, _, h4⟩ := C17_run _ ops (inv_new req unique) k hk
  exact ⟨h1.wf, h1.ok, h4⟩

/-- Any configuration, incl. leaf load balancing ON: if the verified checker accepts every state visited
    by `ops` from `t` (this is what the driver evaluates after every step), then every visited state is well-formed,
    scans in key order over live items only, and reports the right count. -/
theorem C17_refines_partial (t : BTree) (ops : List Op)
    (hexplored : ∀ k, k ≤ ops.length → checkWF (t.run (ops.take k)) = true) :
    ∀ k, k ≤ ops.length →
      WF (t.run (ops.take k)) ∧ Sorted (t.run (ops.take k)).abs ∧
      (∀ x ∈ (t.run (ops.take k)).abs, x.id ≠ 0) ∧
      (t.run (ops.take k)).count = ((t.run (ops.take k)).abs.length : Int) := by
  intro k hk
  have hw := checkWF_sound _ (hexplored k hk)
  exact ⟨hw, C17_scan_sorted _ hw⟩

/-- a concrete run (root split, rejected duplicate, searches, update, removal, range; slot length 2, unique) -/
def sampleRun : List Op :=
  [.add 10 1, .add 20 2, .add 30 3, .add 20 9, .find 20 true, .update 20 5, .next, .remove 30, .range 0 100]

theorem sampleRun_states : ((BTree.new 2 true false true).run sampleRun).abs.map (·.key) = [10, 20] ∧
    ((BTree.new 2 true false true).run (sampleRun.take 3)).nodes.length = 3 := by decide +kernel

theorem sampleRun_wf : ∀ k, k ≤ sampleRun.length → WF ((BTree.new 2 true false true).run (sampleRun.take k)) :=
  fun k hk => (C17_run_from_new 2 true sampleRun k hk).1

/-- slot length 2, unique, leaf load balancing on -/
def lbWitness : List Op :=
  [.add 4 1, .add 2 2, .add 6 3, .add 1 4, .add 8 5, .add 9 6, .remove 4, .remove 9, .add 4 7, .add 7 8,
   .remove 1, .remove 2, .add 2 9, .add 5 10]

/-- the state after the first 13 steps of the witness (three levels, nil children) -/
def lbState : BTree := (BTree.new 2 true true true).run (lbWitness.take 13)

/-- the hypothesis of `C17_refines_partial` is satisfiable by a non-trivial run: the first 13 steps of
    the witness are all accepted by the checker … -/
theorem lbState_explored : ∀ k, k ≤ 13 → checkWF ((BTree.new 2 true true true).run ((lbWitness.take 13).take k)) = true := by
  decide +kernel

theorem lbState_checked : checkWF lbState = true := lbState_explored 13 (Nat.le_refl 13)
/-- one evaluation of the 14th step serves both facts -/
theorem lbState_next :
    lbState.panicked = false ∧ (lbState.step (.add 5 10)).1.abs.map (·.key) = [2, 4, 5, 7, 8, 6] := by decide +kernel

/-- … and the 14th (a `distributeToRight` rotation) produces a tree that scans `2 4 5 7 8 6`:
    the code as it is violates C17 with load balancing on. -/
theorem C17_lb_counterexample :
    WF lbState ∧ (lbState.step (.add 5 10)).1.abs.map (·.key) = [2, 4, 5, 7, 8, 6] ∧
      ¬ Sorted (lbState.step (.add 5 10)).1.abs := by
  refine ⟨checkWF_sound lbState lbState_checked, lbState_next.2, ?_⟩
  intro hs
  have hk : ((lbState.step (.add 5 10)).1.abs.map (·.key)).Pairwise (· ≤ ·) := List.pairwise_map.mpr hs
  rw [lbState_next.2] at hk
  exact absurd hk (by decide)

/-- so `Statement_C17` is false for the code as it is -/
theorem C17_statement_false : ¬ Statement_C17 := by
  intro h
  have h1 := (h lbState (.add 5 10) (checkWF_sound lbState lbState_checked) lbState_next.1).1
  exact C17_lb_counterexample.2.2 (C17_scan_sorted _ h1).1

/-- slot length 2, unique, balancing off; `remove 3` is a miss that parks the cursor -/
def staleWitness : List Op :=
  [.upsert 7 1, .add 4 2, .upsert 1 3, .upsert 0 4, .remove 3, .upsert 2 5]

def staleState (fixed : Bool) : BTree := (BTree.new 2 true false fixed).run staleWitness

/-- the code as it is (`fixed := false`): `Remove(0)` answers false although key 0 is stored -/
theorem C17_stale_cursor_counterexample :
    checkWF (staleState false) = true ∧ hasKey (staleState false).abs 0 = true ∧
      ((staleState false).step (.remove 0)).2 = .ok false := by
  decide +kernel

/-- repaired `Find` (`fixed := true`): the same call removes the item, and the result is what the
    specification allows -/
theorem C17_stale_cursor_repaired :
    ((staleState true).step (.remove 0)).2 = .ok true ∧ checkWF ((staleState true).step (.remove 0)).1 = true ∧
      Spec.accepts true (staleState true).abs (.remove 0) ((staleState true).step (.remove 0)).2
        ((staleState true).step (.remove 0)).1.abs = true := by
  decide +kernel

end Sop.C17
