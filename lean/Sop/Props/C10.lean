import Sop.Lemmas.Commit
import Sop.Lemmas.CommitWitness
import Sop.Lemmas.CommitPhase1
import Sop.Lemmas.CommitSuccess
import Sop.Lemmas.CommitPhase2After
import Sop.Lemmas.CommitPreSound
/-!
# C10 — no live item or node ever refers to deleted or partially written data

On Model P a node is *loadable* when its registry handle exists and the blob under the handle's ACTIVE id exists
(`State.view`). Every deletion the commit code performs targets (a) staged blobs = inactive ids it allocated,
(b) after the flip, the previous active ids = inactive ids of the flipped handles, (c) the active ids of handles it
has marked removed (unreachable after the flip). The lemmas below are the algebraic content: such deletions never
remove a loadable node's data, for any batch.

`C10_phase1_keeps_loadable`, `C10_failed_commit_keeps_loadable`, `C10_any_failed_commit_keeps_loadable` are
`phase1_keeps_views`, `commit_phase1_failure_keeps_views`, `commit_err_keeps_views` of Model P read for this property.
-/
namespace Sop.C10
open Sop.Commit

/-- deleting ids that are no registered handle's active id keeps every node loadable exactly as before -/
theorem delete_nonactive_keeps_all (s : State) (ids : List UUID)
    (h : ∀ lid hd, s.reg lid = some hd → hd.active ∉ ids) (lid : UUID) :
    (s.delBlobs ids).view lid = s.view lid :=
  view_delBlobs_of_inactive s ids lid (fun hd e => h lid hd e)

/-- after the flip, the id cleanup deletes for an updated node (the flipped handle's inactive id) is the OLD active
id, never the new one, as long as the two physical ids of the handle differ -/
theorem cleanup_target_is_old (h : Handle) (hne : h.active ≠ h.inactive) :
    (activate h).inactive = h.active ∧ (activate h).inactive ≠ (activate h).active := by
  obtain ⟨_, a2, a3, _, _⟩ := activate_spec h
  exact ⟨a3, by rw [a2, a3]; exact hne⟩

/-- undoing a reservation deletes the staged id only: the reserved image's inactive id is the fresh id, and the
active id is the one readers use -/
theorem rollback_target_is_staged (now hour : Int) (f : UUID) (h h' : Handle) (v : Int)
    (e : reserveOne now hour f h v = some h') (hf : f ≠ h.active) : h'.inactive = f ∧ h'.inactive ≠ h'.active := by
  obtain ⟨_, r2, _, r4, _, _, _⟩ := reserveOne_spec now hour f h h' v e
  exact ⟨r4, by rw [r4, r2]; exact hf⟩

/-- **Nothing the commit code deletes or overwrites before its commit point is live data**: for every write set,
every start state satisfying `Pre` and every fault, when phase 1 ends (normally, or by raising at the failing
call) every node that was loadable at the start still loads, under the same blob id. The proof goes through every
deletion of phase 1 and of the live rollback (`SInv.delBlobs_static`, `SInv.delRegs`): their targets are ids with
inactive provenance, new-node ids or value-blob ids, never a pre-existing node's active id. -/
theorem C10_phase1_keeps_loadable (s0 : State) (w : WS) (fresh0 : List (UUID × UUID)) (pre : Pre s0 w fresh0)
    (fault : Option Fault) {cs0 : Step} (tid : Tid) (n : Nat) :
    match phase1 w n { s := s0, tid := tid, fault := fault, fresh := fresh0, cs := cs0 } with
    | .ok (_, r) => ∀ lid, (s0.view lid).isSome → r.s.view lid = s0.view lid
    | .error r => ∀ lid, (s0.view lid).isSome → r.s.view lid = s0.view lid :=
  phase1_keeps_views pre fault tid n

/-- and the same after the live rollback of a failed phase 1 -/
theorem C10_failed_commit_keeps_loadable (s0 : State) (w : WS) (fresh0 : List (UUID × UUID)) (pre : Pre s0 w fresh0)
    (fault : Option Fault) {cs0 : Step} (tid : Tid) (n : Nat) (r1 : Run)
    (hf : phase1 w n { s := s0, tid := tid, fault := fault, fresh := fresh0, cs := cs0 } = .error r1) :
    ∀ lid, (s0.view lid).isSome →
      (commit w n { s := s0, tid := tid, fault := fault, fresh := fresh0, cs := cs0 }).2.s.view lid = s0.view lid :=
  commit_phase1_failure_keeps_views pre fault tid n r1 hf

/-- **A successful commit's cleanup never deletes data a committed state references**: after `Commit` returned ok
(whatever cleanup call failed or not), every node the transaction updated loads under its new blob id, and every
other node that was loadable before and was not removed by this transaction still loads under the same blob id. The
cleanup's targets (old active ids of flipped nodes, active ids of removed nodes, obsolete value blobs) are shown
disjoint from both (`FlippedS.delBlobs`, `FlippedS.delRegs`). -/
theorem C10_committed_nodes_load (s0 : State) (w : WS) (fresh0 : List (UUID × UUID)) (pre : Pre s0 w fresh0)
    (pre2 : Pre2 s0 w fresh0) (fault : Option Fault) {cs0 : Step} (tid : Tid) (n : Nat) (r2 : Run)
    (hok : commit w n { s := s0, tid := tid, fault := fault, fresh := fresh0, cs := cs0 } = (.ok, r2)) :
    ∃ r1, phase1 w n { s := s0, tid := tid, fault := fault, fresh := fresh0, cs := cs0 } = .ok ((), r1) ∧
      (∀ h ∈ r1.reserved, h.inactive ≠ 0 → (r2.s.view h.lid).isSome) ∧
      (∀ lid, (s0.view lid).isSome → (∀ h ∈ r1.reserved, h.lid ≠ lid) → (∀ g ∈ r1.removedH, g.lid ≠ lid) →
        r2.s.view lid = s0.view lid) := by
  obtain ⟨r1, a, _, c, d⟩ := commit_ok_installs pre pre2 fault tid n r2 hok
  exact ⟨r1, a, fun h hm hz => by rw [c h hm hz]; rfl, d⟩

/-- **A commit that returns an error — wherever it failed, under every fault — leaves every node loadable as
before**: phase 1, live rollback, phase 2's log write, the flip failing with or without effect (then the priority
rollback puts the logged images back before the undo routines delete the staged blobs). -/
theorem C10_any_failed_commit_keeps_loadable (s0 : State) (w : WS) (fresh0 : List (UUID × UUID)) (pre : Pre s0 w fresh0)
    (pre2 : Pre2 s0 w fresh0) (fault : Option Fault) {cs0 : Step} (tid : Tid) (n : Nat)
    (herr : (commit w n { s := s0, tid := tid, fault := fault, fresh := fresh0, cs := cs0 }).1 = .err) :
    ∀ lid, (s0.view lid).isSome →
      (commit w n { s := s0, tid := tid, fault := fault, fresh := fresh0, cs := cs0 }).2.s.view lid = s0.view lid :=
  commit_err_keeps_views pre pre2 fault tid n herr

theorem C10_premises_satisfiable : Pre Witness.s0 Witness.wSplit [(1, 9)] := Witness.pre_wSplit

/-- a successful commit of the witness transaction leaves node 1 loadable under its new id, the old blob deleted -/
theorem commit_keeps_loadable :
    let r := commit Witness.wSplit 30 { s := Witness.s0, tid := 1, fault := none, fresh := [(1, 9)] }
    r.1 = .ok ∧ r.2.s.view 1 = some (9, 2) ∧ r.2.s.view 2 = some (2, 1) ∧ r.2.s.blob 1 = false := by
  refine ⟨?_, ?_, ?_, ?_⟩ <;> decide +kernel

end Sop.C10
