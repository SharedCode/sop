import Sop.Model.MapKey
import Sop.Lemmas.Compare
/-!
# C30 — JSON map-key stores order keys consistently, regardless of history

**The code violates the statement** (`C30_counterexample`): the comparer an `IndexSpecification`
(or the default comparer) uses for a field is chosen by the FIRST left key it ever compares and kept
for the life of the instance, so two instances with different pasts order the same two keys
differently. What does hold (`C30_partial_idx`, `C30_partial_default`): if, in every LEFT key compared
(those of the instance's past and the one at hand; the right keys are free), each indexed field selects
the same comparer (one JSON type per field; null/absent and bool may mix), every instance, whatever its
past, computes one fixed function `refCmp`, and `refCmp` is a total preorder on all keys
(`refCmp_refl/_antisymm/_trans/_total`).
-/
namespace Sop.C30
open Sop.Compare Sop.MapKey

/-- a new index comparer applied once -/
def idx0 (spec : List (String × Bool)) (x y : Doc) : Int := (cmpIdx (fresh spec) x y).1
/-- a new default comparer applied once -/
def def0 (x y : Doc) : Int := (cmpDefault none x y).1

/-- the property at full strength: the result for two keys does not depend on what the instance
compared before, and a new instance is antisymmetric and transitive — for both comparers -/
def Statement_C30 : Prop :=
  (∀ (spec : List (String × Bool)) (h₁ h₂ : List (Doc × Doc)) (x y : Doc),
    (cmpIdx (runIdx (fresh spec) h₁) x y).1 = (cmpIdx (runIdx (fresh spec) h₂) x y).1) ∧
  (∀ (h₁ h₂ : List (Doc × Doc)) (x y : Doc),
    (cmpDefault (runDefault none h₁) x y).1 = (cmpDefault (runDefault none h₂) x y).1) ∧
  (∀ spec x y, idx0 spec x y = -idx0 spec y x) ∧
  (∀ spec x y z, idx0 spec x y ≤ 0 → idx0 spec y z ≤ 0 → idx0 spec x z ≤ 0) ∧
  (∀ x y, def0 x y = -def0 y x) ∧
  (∀ x y z, def0 x y ≤ 0 → def0 y z ≤ 0 → def0 x z ≤ 0)

/-! The witnesses below are each replayed on the Go code by the harness's directed cases. -/

def specA : List (String × Bool) := [("a", true)]
/-- `{"a":10}`, `{"a":9}` as `json.Unmarshal` delivers them (float64, `%v` = "10", "9") -/
def k10 : Doc := [("a", .num 0x4024000000000000 [49, 48])]
def k9 : Doc := [("a", .num 0x4022000000000000 [57])]
def kEmpty : Doc := []
def kStrA : Doc := [("a", .str [97])]
def kStrB : Doc := [("a", .str [98])]
def k1 : Doc := [("a", .num 0x3FF0000000000000 [49])]
def kA1B1 : Doc := [("a", .num 0x3FF0000000000000 [49]), ("b", .num 0x3FF0000000000000 [49])]
def kA1B2 : Doc := [("a", .num 0x3FF0000000000000 [49]), ("b", .num 0x4000000000000000 [50])]

/-- a new index on `a` says `{a:10} > {a:9}` … -/
theorem fresh_10_gt_9 : (cmpIdx (runIdx (fresh specA) []) k10 k9).1 = 1 := by decide
/-- … one whose first comparison saw a key without `a` says `{a:10} < {a:9}` forever after
(numbers compared by their `%v` strings, `"10" < "9"`) -/
theorem after_missing_10_lt_9 : (cmpIdx (runIdx (fresh specA) [(kEmpty, kEmpty)]) k10 k9).1 = -1 := by decide

/-- **the property fails**: same spec, same two keys, two pasts, two answers -/
theorem C30_counterexample : ¬ Statement_C30 := by
  intro h
  have h1 := h.1 specA [] [(kEmpty, kEmpty)] k10 k9
  rw [fresh_10_gt_9, after_missing_10_lt_9] at h1
  exact absurd h1 (by decide)

/-- an index that first saw numbers compares all strings equal (`x.(float64)` fails → 0) -/
theorem after_numbers_strings_equal :
    (cmpIdx (runIdx (fresh specA) []) kStrB kStrA).1 = 1 ∧
    (cmpIdx (runIdx (fresh specA) [(k10, k9)]) kStrB kStrA).1 = 0 := by decide

/-- even new instances are not antisymmetric on mixed types: the LEFT key's field type selects
the comparer (`{a:1}` vs `{a:"a"}` is `1` both ways) -/
theorem fresh_left_type_selects : idx0 specA k1 kStrA = 1 ∧ idx0 specA kStrA k1 = 1 := by decide

/-- the default comparer keeps the field list of its first left key: after comparing `{}` it
ignores every field; after `{a}` it ignores `b` -/
theorem default_first_key_fixes_fields :
    (cmpDefault (runDefault none []) kA1B1 kA1B2).1 = -1 ∧
    (cmpDefault (runDefault none [(k1, k1)]) kA1B1 kA1B2).1 = 0 ∧
    (cmpDefault (runDefault none [(kEmpty, kEmpty)]) k10 k9).1 = 0 := by decide

theorem isOrder_applyKind (k : Kind) : IsOrder (applyKind k) := by
  cases k
  · have e : applyKind .dflt = botFirst MapKey.isNil (fun x y => cmpBytes (fmtV x) (fmtV y)) := by
      funext x y
      unfold applyKind botFirst
      cases MapKey.isNil x <;> cases MapKey.isNil y <;> rfl
    rw [e]
    exact isOrder_botFirst MapKey.isNil (isOrder_comap isOrder_cmpBytes fmtV)
  · exact isOrder_comap (isOrder_cmpFloat 11 52) asNum
  · exact isOrder_comap isOrder_cmpInt asInt
  · exact isOrder_comap isOrder_cmpBytes MapKey.asStr

/-- one field's contribution under a fixed assignment `κ` of comparers to field names -/
def fieldCmp (κ : String → Kind) (p : String × Bool) (x y : Doc) : Int :=
  dir p.2 (applyKind (κ p.1) (get x p.1) (get y p.1))

/-- **the history-free order**: fields in index order, first non-zero decides, descending fields negated -/
def refCmp (κ : String → Kind) : List (String × Bool) → Doc → Doc → Int
  | [], _, _ => 0
  | p :: sp, x, y => lex (fieldCmp κ p x y) (refCmp κ sp x y)

theorem refCmp_cons (κ : String → Kind) (p : String × Bool) (sp : List (String × Bool)) (x y : Doc) :
    refCmp κ (p :: sp) x y = lex (fieldCmp κ p x y) (refCmp κ sp x y) := rfl

theorem dir_eq_zero (asc : Bool) (r : Int) : dir asc r = 0 ↔ r = 0 := by
  unfold dir; split <;> omega

theorem isOrder_fieldCmp (κ : String → Kind) (p : String × Bool) : IsOrder (fieldCmp κ p) := by
  have h := isOrder_comap (isOrder_applyKind (κ p.1)) (fun d : Doc => get d p.1)
  obtain ⟨f, asc⟩ := p
  cases asc
  · exact isOrder_neg h
  · exact h

theorem isOrder_refCmp (κ : String → Kind) : ∀ sp, IsOrder (refCmp κ sp)
  | [] => ⟨fun _ _ => Or.inr (Or.inl rfl), fun _ _ => rfl, fun _ _ _ => Tr.zero_left 0⟩
  | p :: sp => isOrder_lex (isOrder_fieldCmp κ p) (isOrder_refCmp κ sp)

theorem refCmp_refl (κ : String → Kind) : ∀ sp x, refCmp κ sp x x = 0 :=
  fun sp => (isOrder_refCmp κ sp).refl

theorem refCmp_antisymm (κ : String → Kind) : ∀ sp x y, refCmp κ sp x y = -refCmp κ sp y x :=
  fun sp => (isOrder_refCmp κ sp).antisymm

theorem refCmp_trans (κ : String → Kind) (sp : List (String × Bool)) (x y z : Doc)
    (h1 : refCmp κ sp x y ≤ 0) (h2 : refCmp κ sp y z ≤ 0) : refCmp κ sp x z ≤ 0 :=
  ((isOrder_refCmp κ sp).tr x y z).le h1 h2

theorem refCmp_total (κ : String → Kind) (sp : List (String × Bool)) (x y : Doc) :
    (refCmp κ sp x y = -1 ∨ refCmp κ sp x y = 0 ∨ refCmp κ sp x y = 1) ∧
    (refCmp κ sp x y ≤ 0 ∨ refCmp κ sp y x ≤ 0) :=
  (isOrder_refCmp κ sp).total x y

def specOf (fs : List Field) : List (String × Bool) := fs.map fun f => (f.name, f.asc)

/-- every cache is empty or holds the comparer `κ` assigns -/
def StOK (κ : String → Kind) (fs : List Field) : Prop :=
  ∀ f ∈ fs, f.cached = none ∨ f.cached = some (κ f.name)

/-- in key `d`, every indexed field selects the comparer `κ` assigns (i.e. has the JSON type `κ`
stands for: number, string, Go int, or null/absent/bool) -/
def Uniform (κ : String → Kind) (sp : List (String × Bool)) (d : Doc) : Prop :=
  ∀ p ∈ sp, kindOf (get d p.1) = κ p.1

theorem specOf_cons (f : Field) (fs : List Field) : specOf (f :: fs) = (f.name, f.asc) :: specOf fs := rfl

theorem specOf_fresh (spec : List (String × Bool)) : specOf (fresh spec) = spec := by
  induction spec with
  | nil => rfl
  | cons p sp ih => simp only [fresh, List.map_cons, specOf] at *; rw [ih]

theorem stOK_fresh (κ : String → Kind) (spec : List (String × Bool)) : StOK κ (fresh spec) := by
  intro f hf
  simp only [fresh, List.mem_map] at hf
  obtain ⟨p, _, rfl⟩ := hf
  exact Or.inl rfl

theorem cmpIdx_uniform (κ : String → Kind) : ∀ (fs : List Field) (x y : Doc),
    StOK κ fs → Uniform κ (specOf fs) x →
    (cmpIdx fs x y).1 = refCmp κ (specOf fs) x y ∧ specOf (cmpIdx fs x y).2 = specOf fs ∧
    StOK κ (cmpIdx fs x y).2
  | [], _, _, _, _ => by
    refine ⟨by simp [cmpIdx, specOf, refCmp], by simp [cmpIdx], ?_⟩
    intro f hf; simp [cmpIdx] at hf
  | f :: fs, x, y, hs, hu => by
    have hk : fieldKind f x = κ f.name := by
      unfold fieldKind
      rcases hs f (List.mem_cons_self) with h | h
      · rw [h]; exact hu (f.name, f.asc) (by simp [specOf])
      · rw [h]
    have hs' : StOK κ fs := fun g hg => hs g (List.mem_cons_of_mem _ hg)
    have hu' : Uniform κ (specOf fs) x := fun p hp => hu p (by simp only [specOf, List.map_cons]; exact List.mem_cons_of_mem _ hp)
    obtain ⟨ih1, ih2, ih3⟩ := cmpIdx_uniform κ fs x y hs' hu'
    have hst : ∀ fs', StOK κ fs' → StOK κ ({ f with cached := some (κ f.name) } :: fs') := by
      intro fs' h g hg
      rcases List.mem_cons.1 hg with rfl | hg
      · exact Or.inr rfl
      · exact h g hg
    simp only [cmpIdx, hk]
    split
    · -- this field decides
      rename_i hr
      have hne : fieldCmp κ (f.name, f.asc) x y ≠ 0 := fun h0 => hr ((dir_eq_zero _ _).1 h0)
      refine ⟨?_, by simp [specOf], hst fs hs'⟩
      rw [specOf_cons, refCmp_cons, lex, if_pos hne]
      rfl
    · -- a tie on this field: the later ones decide
      rename_i hr
      have hr0 : fieldCmp κ (f.name, f.asc) x y = 0 := (dir_eq_zero _ _).2 (Decidable.not_not.1 hr)
      refine ⟨?_, by simp only [specOf, List.map_cons] at ih2 ⊢; rw [ih2], hst _ ih3⟩
      rw [specOf_cons, refCmp_cons, lex, if_neg (fun h => h hr0), ih1]

theorem runIdx_uniform (κ : String → Kind) : ∀ (h : List (Doc × Doc)) (fs : List Field),
    StOK κ fs → (∀ p ∈ h, Uniform κ (specOf fs) p.1) →
    StOK κ (runIdx fs h) ∧ specOf (runIdx fs h) = specOf fs
  | [], fs, hs, _ => ⟨hs, rfl⟩
  | p :: h, fs, hs, hu => by
    obtain ⟨_, e2, e3⟩ := cmpIdx_uniform κ fs p.1 p.2 hs (hu p List.mem_cons_self)
    have := runIdx_uniform κ h (cmpIdx fs p.1 p.2).2 e3
      (fun q hq => by rw [e2]; exact hu q (List.mem_cons_of_mem _ hq))
    simp only [runIdx]
    exact ⟨this.1, this.2.trans e2⟩

/-- **C30, restricted (index specification)**: if in every left key ever compared each indexed field
selects the comparer `κ` assigns, then an instance with ANY such past returns `refCmp κ spec x y` —
a fixed total preorder (`refCmp_refl/_antisymm/_trans/_total`), the same in every process. -/
theorem C30_partial_idx (κ : String → Kind) (spec : List (String × Bool)) (h : List (Doc × Doc)) (x y : Doc)
    (hh : ∀ p ∈ h, Uniform κ spec p.1) (hx : Uniform κ spec x) :
    (cmpIdx (runIdx (fresh spec) h) x y).1 = refCmp κ spec x y := by
  have r := runIdx_uniform κ h (fresh spec) (stOK_fresh κ spec) (by rw [specOf_fresh]; exact hh)
  rw [specOf_fresh] at r
  have c := cmpIdx_uniform κ (runIdx (fresh spec) h) x y r.1 (by rw [r.2]; exact hx)
  rw [c.1, r.2]

theorem C30_partial_history_free (κ : String → Kind) (spec : List (String × Bool)) (h₁ h₂ : List (Doc × Doc)) (x y : Doc)
    (hh₁ : ∀ p ∈ h₁, Uniform κ spec p.1) (hh₂ : ∀ p ∈ h₂, Uniform κ spec p.1) (hx : Uniform κ spec x) :
    (cmpIdx (runIdx (fresh spec) h₁) x y).1 = (cmpIdx (runIdx (fresh spec) h₂) x y).1 := by
  rw [C30_partial_idx κ spec h₁ x y hh₁ hx, C30_partial_idx κ spec h₂ x y hh₂ hx]

/-! The default comparer: additionally all keys must have the same field names. -/

def ascSpec (ks : List String) : List (String × Bool) := ks.map fun k => (k, true)

/-- once its field list is fixed, a default comparer is an index comparer -/
theorem runDefault_some : ∀ (h : List (Doc × Doc)) (fs : List Field), runDefault (some fs) h = some (runIdx fs h)
  | [], _ => rfl
  | p :: h, fs => runDefault_some h (cmpIdx fs p.1 p.2).2

/-- … and the first left key fixes it -/
theorem runDefault_none_cons (p : Doc × Doc) (h : List (Doc × Doc)) :
    runDefault none (p :: h) = some (runIdx (fresh (ascSpec (sortedKeys p.1))) (p :: h)) :=
  runDefault_some h _

/-- **C30, restricted (default comparer)**: if all left keys ever compared have the field names `ks`
and each field selects one comparer in all of them, every instance returns `refCmp κ (ks ascending)`. -/
theorem C30_partial_default (κ : String → Kind) (ks : List String) (h : List (Doc × Doc)) (x y : Doc)
    (hh : ∀ p ∈ h, sortedKeys p.1 = ks ∧ Uniform κ (ascSpec ks) p.1)
    (hk : sortedKeys x = ks) (hx : Uniform κ (ascSpec ks) x) :
    (cmpDefault (runDefault none h) x y).1 = refCmp κ (ascSpec ks) x y := by
  cases h with
  | nil => exact hk ▸ C30_partial_idx κ (ascSpec (sortedKeys x)) [] x y (fun _ hp => nomatch hp) (hk ▸ hx)
  | cons p h =>
    rw [runDefault_none_cons, (hh p List.mem_cons_self).1]
    exact C30_partial_idx κ (ascSpec ks) (p :: h) x y (fun q hq => (hh q hq).2) hx

/-! Non-vacuity: a two-field index (number ascending, string descending) over typed keys. -/

def specAB : List (String × Bool) := [("a", true), ("b", false)]
def κAB : String → Kind := fun n => if n = "a" then .f64 else .str
def d1 : Doc := [("a", .num 0x4024000000000000 [49, 48]), ("b", .str [120])]
def d2 : Doc := [("b", .str [121]), ("a", .num 0x4024000000000000 [49, 48])]

example : Uniform κAB specAB d1 ∧ Uniform κAB specAB d2 := by
  constructor <;> intro p hp <;> simp [specAB] at hp <;> rcases hp with rfl | rfl <;> decide

example : (cmpIdx (runIdx (fresh specAB) [(d2, d1), (d1, d1)]) d1 d2).1 = 1 ∧ refCmp κAB specAB d1 d2 = 1 := by decide

example : sortedKeys d1 = ["a", "b"] ∧ sortedKeys d2 = ["a", "b"] := by decide

end Sop.C30
