import Sop.Model.Retry
import Sop.Gen.FactsC15
import Sop.Lemmas.Assoc
import Sop.Lemmas.Basics
/-!
# C15 — commits end within their time budget and never deadlock (partial)

Theorems about Model R (`Sop/Model/Retry.lean`), for every script of backend decisions and every clock advance.
A sector-lock wait is capped by its own 3 minutes, NOT by `maxTime` (`C15_counterexample`); for Model R-items, no
item lock record of the transaction survives the end of Commit unless a `lock` call returns early or a refetch
fails part-way (`Benign`; findings C15-F4/F5).

Not a theorem: wall-clock duration, scheduling, file-system latency — measured by the harness.
-/
namespace Sop.C15
open Sop.Retry

def beforeBody : Pc → Bool
  | .wantLock | .wantIsLocked | .wantRefetch | .wantDualLock => true
  | _ => false

def isDone : Pc → Bool
  | .done _ => true
  | _ => false

/-- The ways one decision changes the state of the loop; `s1` is `s` with the clock advanced by the time the call
was in flight. `goto` asks for what the consumers of a plain jump need: it does not enter an iteration
(`loop_checks_time_first`), it does not go back in front of the body (`CapInv.before`), and a sector wait that goes on
is within its cap (`TimeInv.wait_cap`). `again` is every way through the loop head: from in front of the body, or
after an unsuccessful body with `retryCount` bumped and still below the cap; at the cap the loop ends (`capped`). -/
inductive Move (c : Cfg) (s s1 : St) : St → Prop
  | stay : isDone s.pc = true → Move c s s1 s
  | goto {held need hasKeys : Bool} {p : Pc} :
      isDone s.pc = false → p ≠ .wantLock → (beforeBody p = true → beforeBody s.pc = true) →
      (∀ t0, p = .inBody (some t0) → s1.clock ≤ t0 + c.sectorTimeout ∧ ctxDone c s1.clock = false) →
      Move c s s1 { s1 with held := held, need := need, hasKeys := hasKeys, pc := p }
  | again {held need hasKeys : Bool} (r : Nat) :
      (beforeBody s.pc = true ∧ r = s1.retry) ∨ (isDone s.pc = false ∧ r = s1.retry + 1 ∧ r < c.maxRetry) →
      Move c s s1 (head c { s1 with held := held, need := need, hasKeys := hasKeys, retry := r })
  | body {held : Bool} : beforeBody s.pc = true → Move c s s1 (enterBody { s1 with held := held })
  | capped : isDone s.pc = false → c.maxRetry ≤ s1.retry + 1 →
      Move c s s1 { s1 with retry := s1.retry + 1, pc := .done .retryCap }

theorem isDone_eq_false {p : Pc} (h : ∀ x, p = .done x → False) : isDone p = false := by
  cases p <;> first | rfl | exact (h _ rfl).elim

theorem isDone_of_beforeBody {p : Pc} (h : beforeBody p = true) : isDone p = false := by
  cases p <;> first | rfl | cases h

theorem unsuccessful_move {c : Cfg} {s s1 : St} (h : isDone s.pc = false) : Move c s s1 (unsuccessful c s1) := by
  show Move c s s1 (if s1.retry + 1 ≥ c.maxRetry then _ else _)
  split
  · exact .capped h ‹_›
  · exact .again (s1.retry + 1) (.inr ⟨h, rfl, Nat.lt_of_not_ge ‹_›⟩)

theorem step_move (c : Cfg) (s : St) (e : Ev) : Move c s { s with clock := s.clock + e.dt } (step c s e) := by
  fun_cases step c s e
  -- done
  · exact .stay (‹s.pc = _› ▸ rfl)
  -- wantLock: Lock granted / refused / error
  · exact .goto (‹s.pc = _› ▸ rfl) nofun (fun _ => ‹s.pc = _› ▸ rfl) nofun
  · exact .again _ (.inl ⟨‹s.pc = _› ▸ rfl, rfl⟩)
  · exact .goto (‹s.pc = _› ▸ rfl) nofun nofun nofun
  -- wantIsLocked: yes and a refetch is due / yes / no
  · exact .goto (‹s.pc = _› ▸ rfl) nofun (fun _ => ‹s.pc = _› ▸ rfl) nofun
  · exact .body (‹s.pc = _› ▸ rfl)
  · exact .again _ (.inl ⟨‹s.pc = _› ▸ rfl, rfl⟩)
  -- wantRefetch; wantDualLock: yes / no
  · exact .goto (‹s.pc = _› ▸ rfl) nofun (fun _ => ‹s.pc = _› ▸ rfl) nofun
  · exact .body (‹s.pc = _› ▸ rfl)
  · exact .again _ (.inl ⟨‹s.pc = _› ▸ rfl, rfl⟩)
  -- inBody, a sector attempt: free / context done / cap reached / the wait goes on
  · exact .goto (‹s.pc = _› ▸ rfl) nofun nofun nofun
  · exact .goto (‹s.pc = _› ▸ rfl) nofun nofun nofun
  · exact .goto (‹s.pc = _› ▸ rfl) nofun nofun nofun
  · next h t0 _ s1 hctx hcap =>
    refine .goto (h ▸ rfl) nofun nofun fun _ ht => ?_
    cases ht
    exact ⟨Nat.sub_le_iff_le_add'.mp (Nat.le_of_not_gt hcap), by simpa using hctx⟩
  -- inBody: body ok / conflict
  · exact .goto (‹s.pc = _› ▸ rfl) nofun nofun nofun
  · exact unsuccessful_move (‹s.pc = _› ▸ rfl)
  -- wantHandle: recoverable / not
  · exact unsuccessful_move (‹s.pc = _› ▸ rfl)
  · exact .goto (‹s.pc = _› ▸ rfl) nofun nofun nofun
  -- a failing call; a decision nobody waits for
  · exact .goto (isDone_eq_false ‹_›) nofun nofun nofun
  · exact .goto (isDone_eq_false ‹_›) nofun nofun nofun

theorem head_enters (c : Cfg) (s : St) (h : (head c s).pc = .wantLock) :
    timedOut c (head c s).start (head c s).clock = false ∧ (head c s).iter = s.iter + 1 ∧
      (head c s).headAt = (head c s).clock := by
  unfold head at h ⊢; split <;> simp_all

theorem head_clock_start (c : Cfg) (s : St) : (head c s).clock = s.clock ∧ (head c s).start = s.start := by
  unfold head; split <;> simp

theorem step_clock_start (c : Cfg) (s : St) (e : Ev) :
    s.clock ≤ (step c s e).clock ∧ (step c s e).start = s.start := by
  match step c s e, step_move c s e with
  | _, .stay _ => exact ⟨Nat.le_refl _, rfl⟩
  | _, .goto .. => exact ⟨Nat.le_add_right _ _, rfl⟩
  | _, .again .. => rw [(head_clock_start c _).1, (head_clock_start c _).2]; exact ⟨Nat.le_add_right _ _, rfl⟩
  | _, .body .. => exact ⟨Nat.le_add_right _ _, rfl⟩
  | _, .capped .. => exact ⟨Nat.le_add_right _ _, rfl⟩

theorem run_keeps (c : Cfg) {I : St → Prop} (hstep : ∀ s e, I s → I (step c s e)) (es : List Ev) (s : St) (h : I s) :
    I (run c s es) := by
  induction es generalizing s with
  | nil => exact h
  | cons e es ih => exact ih _ (hstep s e h)

theorem run_start (c : Cfg) (es : List Ev) (s : St) : (run c s es).start = s.start :=
  run_keeps c (I := fun t => t.start = s.start) (fun t e ht => (step_clock_start c t e).2.trans ht) es s rfl

/-- Every iteration begins with the `timedOut` check: whenever a step leaves the machine about to call
`Lock(nodesKeys)`, a new iteration was counted and `sop.TimedOut` was false at exactly that clock reading. -/
theorem loop_checks_time_first (c : Cfg) (s : St) (e : Ev) (h : (step c s e).pc = .wantLock) :
    timedOut c (step c s e).start (step c s e).clock = false ∧
    (step c s e).iter = s.iter + 1 ∧ (step c s e).headAt = (step c s e).clock := by
  match step c s e, step_move c s e, h with
  | _, .stay hd, h => rw [h] at hd; cases hd
  | _, .goto _ hp _ _, h => exact (hp h).elim
  | _, .again .., h => exact head_enters c _ h

theorem first_iteration_checks_time (c : Cfg) (start : Nat) (hk : Bool) (h : (init c start hk).pc = .wantLock) :
    timedOut c start start = false := by
  have := (head_enters c _ h).1
  rwa [(head_clock_start c _).1, (head_clock_start c _).2] at this

theorem timedOut_mono (c : Cfg) (st a b : Nat) (hab : a ≤ b) (h : timedOut c st a = true) :
    timedOut c st b = true := by
  simp only [timedOut, Bool.or_eq_true, decide_eq_true_eq] at h ⊢
  rcases h with h | h
  · left
    unfold ctxDone at h ⊢
    cases hd : c.deadline with
    | none => rw [hd] at h; exact h
    | some d => rw [hd] at h; exact decide_eq_true (Nat.le_trans (of_decide_eq_true h) hab)
  · exact .inr (Nat.lt_of_lt_of_le h (Nat.sub_le_sub_right hab st))

theorem head_iter_of_timedOut (c : Cfg) (s : St) (h : timedOut c s.start s.clock = true) :
    (head c s).iter = s.iter := by
  unfold head; simp [h]

theorem step_iter_of_timedOut (c : Cfg) (s : St) (e : Ev) (h : timedOut c s.start s.clock = true) :
    (step c s e).iter = s.iter := by
  have h1 : timedOut c s.start (s.clock + e.dt) = true := timedOut_mono c _ _ _ (Nat.le_add_right _ _) h
  match step c s e, step_move c s e with
  | _, .stay _ => rfl
  | _, .goto .. => rfl
  | _, .again .. => exact head_iter_of_timedOut c _ h1
  | _, .body .. => rfl
  | _, .capped .. => rfl

/-- Once `sop.TimedOut` would report a timeout, no iteration begins any more, whatever the backends answer: the
iteration in flight is the only one that can still be running after the deadline. -/
theorem at_most_one_iteration_after_deadline (c : Cfg) (es : List Ev) (s : St)
    (h : timedOut c s.start s.clock = true) : (run c s es).iter = s.iter :=
  -- the timeout, once reached, stays reached (the clock only grows), and under it `iter` does not move
  (run_keeps c (I := fun t => timedOut c t.start t.clock = true ∧ t.iter = s.iter)
    (fun t e ht =>
      have hc := step_clock_start c t e
      ⟨by rw [hc.2]; exact timedOut_mono c _ _ _ hc.1 ht.1, (step_iter_of_timedOut c t e ht.1).trans ht.2⟩)
    es s ⟨h, rfl⟩).2

example : timedOut ⟨2000, none, 30, 180000⟩ 0 2001 = true ∧ timedOut ⟨2000, some 1500, 30, 180000⟩ 0 1500 = true ∧
    timedOut ⟨2000, some 1500, 30, 180000⟩ 0 1499 = false := by decide

/-- The body is entered before `retryCount` is bumped: `bodies ≤ retry` in front of the body, `≤ retry + 1` inside it. -/
structure CapInv (c : Cfg) (s : St) : Prop where
  retry_le : s.retry ≤ c.maxRetry
  bodies_le : s.bodies ≤ c.maxRetry
  live : isDone s.pc = false → s.retry < c.maxRetry
  before : beforeBody s.pc = true → s.bodies ≤ s.retry
  bodies_retry : s.bodies ≤ s.retry + 1

theorem capInv_of {c : Cfg} {s : St} (h1 : s.retry < c.maxRetry) (h2 : s.bodies ≤ s.retry) : CapInv c s :=
  ⟨Nat.le_of_lt h1, Nat.le_trans h2 (Nat.le_of_lt h1), fun _ => h1, fun _ => h2, Nat.le_succ_of_le h2⟩

theorem capInv_head (c : Cfg) (s : St) (h1 : s.retry < c.maxRetry) (h2 : s.bodies ≤ s.retry) :
    CapInv c (head c s) := by
  unfold head; split <;> exact capInv_of h1 h2

theorem capInv_step (c : Cfg) (s : St) (e : Ev) (h : CapInv c s) : CapInv c (step c s e) := by
  match step c s e, step_move c s e with
  | _, .stay _ => exact h
  | _, .goto hd _ hb _ =>
    exact ⟨h.retry_le, h.bodies_le, fun _ => h.live hd, fun hp => h.before (hb hp), h.bodies_retry⟩
  | _, .again _ hr =>
    rcases hr with ⟨hb, rfl⟩ | ⟨_, rfl, hlt⟩
    · exact capInv_head c _ (h.live (isDone_of_beforeBody hb)) (h.before hb)
    · exact capInv_head c _ hlt h.bodies_retry
  | _, .body hb =>
    have h1 := h.live (isDone_of_beforeBody hb)
    have h2 := h.before hb
    exact ⟨h.retry_le, Nat.lt_of_le_of_lt h2 h1, fun _ => h1, fun hp => (by cases hp), Nat.succ_le_succ h2⟩
  | _, .capped hd _ => exact ⟨h.live hd, h.bodies_le, nofun, nofun, Nat.le_succ_of_le h.bodies_retry⟩

theorem capInv_init (c : Cfg) (start : Nat) (hk : Bool) (hpos : 0 < c.maxRetry) : CapInv c (init c start hk) := by
  unfold init; apply capInv_head <;> simp_all

theorem capInv_run (c : Cfg) (es : List Ev) (s : St) (h : CapInv c s) : CapInv c (run c s es) :=
  run_keeps c (capInv_step c) es s h

/-- Cap and sector timeout are regenerated from the Go source. -/
def cfgOf (maxTime : Nat) (deadline : Option Nat) : Cfg :=
  ⟨maxTime, deadline, Sop.FactsC15.phase1MaxRetry, Sop.FactsC15.lockSectorRetryTimeoutMs⟩

/-- The body of the loop (the part that writes) runs at most `phase1CommitMaxRetryCount` (regenerated: 30) times.
Iterations that end at a refused `Lock` are not counted by the code; they are bounded by time only
(`at_most_one_iteration_after_deadline`). -/
theorem retry_cap (maxTime : Nat) (deadline : Option Nat) (start : Nat) (hk : Bool) (es : List Ev) :
    (run (cfgOf maxTime deadline) (init (cfgOf maxTime deadline) start hk) es).bodies ≤ 30 ∧
    (run (cfgOf maxTime deadline) (init (cfgOf maxTime deadline) start hk) es).retry ≤ 30 := by
  have hfact : Sop.FactsC15.phase1MaxRetry ≤ 30 ∧ 0 < Sop.FactsC15.phase1MaxRetry := by decide
  have := capInv_run (cfgOf maxTime deadline) es _ (capInv_init _ start hk hfact.2)
  have h1 := this.bodies_le
  have h2 := this.retry_le
  have hm : (cfgOf maxTime deadline).maxRetry = Sop.FactsC15.phase1MaxRetry := rfl
  rw [hm] at h1 h2
  exact ⟨by omega, by omega⟩

def conflictRound : List Ev := [.lock 0 .granted, .isLocked 0 true, .refetch 0 true, .dualLock 0 true, .body 0 .conflict]

/-- The bound is tight: 30 conflicts end the loop with `retryCap`. -/
theorem retry_cap_reached :
    (run (cfgOf 900000 none) (init (cfgOf 900000 none) 0 true)
      ([.lock 0 .granted, .isLocked 0 true, .body 0 .conflict] ++ (List.replicate 29 conflictRound).flatten)).pc
      = .done .retryCap := by decide +kernel

/-- `headAt` is the ghost that carries the last head check forward. -/
structure TimeInv (c : Cfg) (s : St) : Prop where
  head_le : s.headAt ≤ s.clock
  in_budget : 0 < s.iter → budgetOk c s.start s.headAt
  wait_cap : ∀ t0, s.pc = .inBody (some t0) → s.clock ≤ t0 + c.sectorTimeout ∧ ctxDone c s.clock = false

theorem budgetOk_of_not_timedOut (c : Cfg) (st now : Nat) (h : timedOut c st now = false) : budgetOk c st now := by
  unfold timedOut ctxDone at h
  unfold budgetOk
  cases hd : c.deadline <;> simp_all <;> omega

theorem timeInv_head (c : Cfg) (s : St) (h0 : s.headAt ≤ s.clock)
    (h : 0 < s.iter → budgetOk c s.start s.headAt) : TimeInv c (head c s) := by
  unfold head
  split
  · exact ⟨h0, h, nofun⟩
  · next hto => exact ⟨Nat.le_refl _, fun _ => budgetOk_of_not_timedOut c _ _ (by simpa using hto), nofun⟩

theorem timeInv_step (c : Cfg) (s : St) (e : Ev) (h : TimeInv c s) : TimeInv c (step c s e) := by
  have hle : s.headAt ≤ s.clock + e.dt := Nat.le_trans h.head_le (Nat.le_add_right _ _)
  match step c s e, step_move c s e with
  | _, .stay _ => exact h
  | _, .goto _ _ _ hw => exact ⟨hle, h.in_budget, hw⟩
  | _, .again .. => exact timeInv_head c _ hle h.in_budget
  | _, .body .. => exact ⟨hle, h.in_budget, fun _ ht => by cases ht⟩
  | _, .capped .. => exact ⟨hle, h.in_budget, nofun⟩

theorem timeInv_init (c : Cfg) (start : Nat) (hk : Bool) : TimeInv c (init c start hk) := by
  unfold init; apply timeInv_head <;> simp

theorem timeInv_run (c : Cfg) (es : List Ev) (s : St) (h : TimeInv c s) : TimeInv c (run c s es) :=
  run_keeps c (timeInv_step c) es s h

/-- The last iteration begins within the budget: `headAt`, the clock at the last head check that let an iteration in,
is at most `start + maxTime` and before the deadline. How long that iteration then takes is not bounded here. -/
theorem last_iteration_starts_in_budget (c : Cfg) (start : Nat) (hk : Bool) (es : List Ev) :
    (run c (init c start hk) es).headAt ≤ (run c (init c start hk) es).clock ∧
    (0 < (run c (init c start hk) es).iter →
      (run c (init c start hk) es).headAt ≤ start + c.maxTime ∧
      ∀ d, c.deadline = some d → (run c (init c start hk) es).headAt < d) := by
  have hi := timeInv_run c es _ (timeInv_init c start hk)
  have hs : (run c (init c start hk) es).start = start := by
    rw [run_start]; unfold init; rw [(head_clock_start c _).2]
  refine ⟨hi.head_le, fun h => ?_⟩
  have := hi.in_budget h
  rw [hs] at this
  exact this

/-- One sector-lock wait of the registry is capped by `lockSectorRetryTimeoutDuration` (regenerated: 3 min) and
by the context. -/
theorem sector_wait_capped (maxTime : Nat) (deadline : Option Nat) (start : Nat) (hk : Bool) (es : List Ev) (t0 : Nat)
    (h : (run (cfgOf maxTime deadline) (init (cfgOf maxTime deadline) start hk) es).pc = .inBody (some t0)) :
    (run (cfgOf maxTime deadline) (init (cfgOf maxTime deadline) start hk) es).clock ≤ t0 + 180000 ∧
    ctxDone (cfgOf maxTime deadline) (run (cfgOf maxTime deadline) (init (cfgOf maxTime deadline) start hk) es).clock = false := by
  have hi := timeInv_run (cfgOf maxTime deadline) es _ (timeInv_init (cfgOf maxTime deadline) start hk)
  have := hi.wait_cap t0 h
  have hf : (cfgOf maxTime deadline).sectorTimeout = 180000 := by
    show Sop.FactsC15.lockSectorRetryTimeoutMs = 180000; decide
  rw [hf] at this
  exact this

/-- so a wait lasts at most the cap plus its last attempt -/
theorem sector_wait_ends (c : Cfg) (s : St) (t0 dt : Nat) (rec : Bool) (h : s.pc = .inBody (some t0))
    (hlate : s.clock + dt - t0 > c.sectorTimeout) (t : Nat) :
    (step c s (.sector dt true rec)).pc ≠ .inBody (some t) := by
  unfold step; rw [h]
  show (if ctxDone c (s.clock + dt) = true then _ else if s.clock + dt - t0 > c.sectorTimeout then _ else _ : St).pc ≠ _
  rw [if_pos hlate]
  split <;> nofun

/-- Full-strength form of "the commit ends within its budget": whenever the code goes on waiting for a sector
lock, the transaction's own budget (maxTime, context deadline) is not yet exhausted. FALSE for the code as it is
(finding C15-F1): the wait loops of `fs/hashmap.fileregion.go` consult only their own 3-minute cap. -/
def Statement_C15 (c : Cfg) : Prop :=
  ∀ (start : Nat) (hk : Bool) (es : List Ev) (t0 : Nat),
    (run c (init c start hk) es).pc = .inBody (some t0) →
    timedOut c start (run c (init c start hk) es).clock = false

/-- maxTime = 2 s, no context deadline, the sector lock stays busy: after three attempts the commit is 180 s
into a wait it still continues. Replayed on the real code as the first case of the harness. -/
def witness : List Ev := [.lock 0 .granted, .isLocked 0 true, .sector 60000 true true, .sector 60000 true true, .sector 60000 true true]

theorem C15_counterexample : ¬ Statement_C15 (cfgOf 2000 none) := by
  intro h
  have := h 0 true witness 0 (by rfl)
  revert this
  decide

theorem head_held (c : Cfg) (s : St) : (head c s).held = s.held := by
  unfold head; split <;> rfl

theorem step_lock_refused {c : Cfg} {s : St} (dt : Nat) (h : s.pc = .wantLock) :
    step c s (.lock dt .refused) = head c { s with clock := s.clock + dt, held := false, need := true } := by
  unfold step; rw [h]; rfl

theorem step_dualLock_refused {c : Cfg} {s : St} (dt : Nat) (h : s.pc = .wantDualLock) :
    step c s (.dualLock dt false) = head c { s with clock := s.clock + dt, held := false, need := true } := by
  unfold step; rw [h]; rfl

theorem step_isLocked_no {c : Cfg} {s : St} (dt : Nat) (h : s.pc = .wantIsLocked) :
    step c s (.isLocked dt false) = head c { s with clock := s.clock + dt } := by
  unfold step; rw [h]; rfl

/-- The loop sleeps after a refused `Lock` / `DualLock` only after `Unlock(nodesKeys)`: it holds none of its node
locks while it waits. -/
theorem no_hold_and_wait (c : Cfg) (s : St) (dt : Nat) :
    (s.pc = .wantLock → (step c s (.lock dt .refused)).held = false) ∧
    (s.pc = .wantDualLock → (step c s (.dualLock dt false)).held = false) :=
  ⟨fun h => by rw [step_lock_refused dt h, head_held], fun h => by rw [step_dualLock_refused dt h, head_held]⟩

/-- The only other sleep inside the loop (IsLocked answered "no") happens with the complete set: `held` was set by
a granted Lock over all keys. -/
theorem isLocked_no_keeps_all (c : Cfg) (s : St) (dt : Nat) (h : s.pc = .wantIsLocked) :
    (step c s (.isLocked dt false)).held = s.held := by
  rw [step_isLocked_no dt h, head_held]

/-! ## the lock table (`lockAll`): all-or-nothing, TTL -/

theorem find_erase (t : Table) (k k' : String) :
    (t.erase k').find? k = if k' = k then none else t.find? k := by
  unfold Table.erase Table.find?
  split
  · next h => exact Assoc.find?_filter_drop fun l _ hl => by simp [h, beq_iff_eq.mp hl]
  · next h => exact Assoc.find?_filter_keep fun l _ hl => by simp [beq_iff_eq.mp hl, Ne.symm h]

theorem find_put (t : Table) (l : Lk) (k : String) :
    (t.put l).find? k = if l.key = k then some l else t.find? k := by
  have := find_erase t k l.key
  unfold Table.put
  unfold Table.find? at *
  by_cases h : l.key = k <;> simp_all

theorem find_foldl_erase (acq : List String) (t : Table) (k : String) :
    (acq.foldl (fun t k => t.erase k) t).find? k = if k ∈ acq then none else t.find? k := by
  induction acq generalizing t with
  | nil => simp
  | cons a acq ih =>
    simp only [List.foldl, List.mem_cons]
    rw [ih, find_erase]
    by_cases h1 : k ∈ acq
    · simp [h1]
    · by_cases h2 : a = k
      · simp [h2]
      · simp [h1, h2, show ¬ k = a from fun h => h2 h.symm]

/-- `hrel`: entries of keys outside `acq` are those of the table at entry, `t0` -/
theorem lockKeys_refused (now ttl o : Nat) (t0 : Table) (ks : List String) (t : Table) (acq : List String) (t' : Table)
    (hrel : ∀ k, k ∈ acq ∨ t.find? k = t0.find? k) (h : lockKeys now ttl o t acq ks = (false, t')) :
    ∀ k, t'.find? k = none ∨ t'.find? k = t0.find? k := by
  have hput {t : Table} {acq : List String} (k : String) (hrel : ∀ k', k' ∈ acq ∨ t.find? k' = t0.find? k') :
      ∀ k', k' ∈ k :: acq ∨ (t.put ⟨k, o, now + ttl⟩).find? k' = t0.find? k' := by
    intro k'
    by_cases hk : k = k'
    · exact .inl (hk ▸ List.mem_cons_self)
    · exact (hrel k').imp (List.mem_cons_of_mem _) fun h1 => by rw [find_put, if_neg hk, h1]
  fun_induction lockKeys now ttl o t acq ks
  · cases h
  · next ih => exact ih (hput _ hrel) h
  · next ih => exact ih (hput _ hrel) h
  · next ih => exact ih hrel h
  · intro k'
    cases h
    rw [find_foldl_erase]
    split
    · exact .inl rfl
    · next hm => exact .inr ((hrel k').resolve_left hm)

/-- `Lock` is all-or-nothing: when it is refused, the caller holds nothing it did not hold before, whatever the
number and order of keys. -/
theorem lock_all_or_nothing (t : Table) (now ttl o : Nat) (ks : List String) (t' : Table)
    (h : lockAll t now ttl o ks = (false, t')) (k : String) :
    t'.heldBy now k o = true → t.heldBy now k o = true := by
  have := lockKeys_refused now ttl o t (sortKeys ks) t [] t' (fun _ => Or.inr rfl) h k
  unfold Table.heldBy
  rcases this with h1 | h1 <;> simp [h1]

theorem refused_holds_nothing (t : Table) (now ttl o : Nat) (ks : List String) (t' : Table)
    (h : lockAll t now ttl o ks = (false, t')) (hnone : ∀ k, t.heldBy now k o = false) (k : String) :
    t'.heldBy now k o = false := by
  cases hh : t'.heldBy now k o
  · rfl
  · have := lock_all_or_nothing t now ttl o ks t' h k hh
    simp [hnone k] at this

/-- refused on the second of two keys, it keeps nothing of the first -/
example : lockAll [⟨"k2", 1, 100⟩] 10 50 2 ["k2", "k1"] = (false, [⟨"k2", 1, 100⟩]) := by decide

structure Tx where
  held : List String
  waiting : Option String   -- the key whose refusal it is sleeping on

def waitsFor (a b : Tx) : Prop := ∃ k, a.waiting = some k ∧ k ∈ b.held

/-- the reading of `no_hold_and_wait` for a refused `Lock`; no lemma ties `Tx` to `St` -/
def NoHoldAndWait (a : Tx) : Prop := a.waiting.isSome = true → a.held = []

/-- Among transactions that all satisfy `NoHoldAndWait` the wait-for graph has no cycle: a cycle, even a
self-loop, contains two consecutive edges. -/
theorem wait_for_acyclic (a b c : Tx) (hb : NoHoldAndWait b) : ¬ (waitsFor a b ∧ waitsFor b c) := by
  rintro ⟨⟨k, _, hk⟩, ⟨k', hw, _⟩⟩
  have := hb (by simp [hw])
  simp [this] at hk

example : NoHoldAndWait ⟨[], some "k"⟩ ∧ NoHoldAndWait ⟨["a", "b"], none⟩ := by
  constructor <;> simp [NoHoldAndWait]

theorem mem_insertSorted (k x : String) (xs : List String) : k ∈ insertSorted x xs ↔ k = x ∨ k ∈ xs :=
  (Ins.ins_perm (ins := insertSorted) (fun _ => rfl)
    (fun x y r => ite_ind (fun z => z = x :: y :: r ∨ z = y :: insertSorted x r) (fun _ => .inl rfl) fun _ => .inr rfl)
    x xs).mem_iff.trans List.mem_cons

theorem mem_sortKeys (k : String) (ks : List String) : k ∈ sortKeys ks ↔ k ∈ ks := by
  induction ks with
  | nil => simp [sortKeys]
  | cons x xs ih =>
    have : sortKeys (x :: xs) = insertSorted x (sortKeys xs) := rfl
    rw [this, mem_insertSorted, ih]; simp

theorem lockKeys_granted (now ttl o : Nat) (ks : List String) (t : Table) (acq : List String)
    (h : ∀ k ∈ ks, ∀ l, t.find? k = some l → now > l.exp ∨ l.owner = o) :
    (lockKeys now ttl o t acq ks).1 = true := by
  have hput {t : Table} {k : String} {ks : List String}
      (h : ∀ k' ∈ k :: ks, ∀ l, t.find? k' = some l → now > l.exp ∨ l.owner = o) :
      ∀ k' ∈ ks, ∀ l, (t.put ⟨k, o, now + ttl⟩).find? k' = some l → now > l.exp ∨ l.owner = o := by
    intro k' hk' l hl
    rw [find_put] at hl
    split at hl
    · cases hl; exact .inr rfl
    · exact h k' (List.mem_cons_of_mem _ hk') l hl
  fun_induction lockKeys now ttl o t acq ks
  · rfl
  · next ih => exact ih (hput h)
  · next ih => exact ih (hput h)
  · next ih => exact ih fun k' hk' => h k' (List.mem_cons_of_mem _ hk')
  · next k _ l hl hne1 hne2 =>
    rcases h k List.mem_cons_self l hl with h1 | h1
    · exact absurd h1 hne1
    · exact absurd (by simp [h1]) hne2

/-- A dead owner's lock is free after its TTL (`exp` = lock instant + TTL): nobody has to release. -/
theorem ttl_bounded (t : Table) (now ttl o : Nat) (ks : List String)
    (h : ∀ k ∈ ks, ∀ l, t.find? k = some l → now > l.exp ∨ l.owner = o) :
    (lockAll t now ttl o ks).1 = true :=
  lockKeys_granted now ttl o (sortKeys ks) t [] (fun k hk => h k ((mem_sortKeys k ks).1 hk))

/-- before the TTL has elapsed a foreign lock refuses -/
example : (lockAll [⟨"k", 1, 100⟩] 100 50 2 ["k"]).1 = false ∧ (lockAll [⟨"k", 1, 100⟩] 101 50 2 ["k"]).1 = true := by
  decide

/-! ## item lock records (`lockItems`, `unlockItems`, the replay after a refetch) -/

/-- no record in the cache is under one of this transaction's LockIDs -/
def OwnFree (c : RCache) : Prop := ∀ j l a, c j = some (l, a) → l.own = false

/-- every record under one of this transaction's LockIDs is one the tracker holds under that LockID and marks as owned,
so that `unlockItems` deletes it -/
def Known (c : RCache) (trk : List Trk) : Prop :=
  ∀ j l a, c j = some (l, a) → l.own = true → ∃ t ∈ trk, t.item = j ∧ t.lid = l ∧ t.owner = true ∧ t.act ≠ .add

theorem known_env (c : RCache) (trk : List Trk) (op : EnvOp) (h : Known c trk) : Known (envApply c op) trk := by
  intro j l a hj hown
  cases op with
  | put i n act =>
    simp only [envApply, RCache.put] at hj
    split at hj
    · simp at hj; rw [← hj.1] at hown; simp at hown
    · exact h j l a hj hown
  | del i =>
    simp only [envApply, RCache.del] at hj
    split at hj
    · simp at hj
    · exact h j l a hj hown

theorem OwnFree.known {c : RCache} (h : OwnFree c) (trk : List Trk) : Known c trk := fun j l a hj ho => by
  rw [h j l a hj] at ho; cases ho

theorem ownFree_env (c : RCache) (op : EnvOp) (h : OwnFree c) : OwnFree (envApply c op) := fun j l a hj => by
  cases ho : l.own with
  | false => rfl
  | true => obtain ⟨t, ht, _⟩ := known_env c [] op (h.known []) j l a hj ho; cases ht

theorem unlock_ownFree (c : RCache) (trk : List Trk) (h : Known c trk) : OwnFree (unlockItems c trk) := by
  intro j l a hj
  simp only [unlockItems] at hj
  split at hj
  · simp at hj
  · rename_i hany
    cases ho : l.own with
    | false => rfl
    | true =>
      obtain ⟨t, ht, h1, _, h3, h4⟩ := h j l a hj ho
      exfalso; apply hany
      rw [List.any_eq_true]
      exact ⟨t, ht, by simp [h1, h3, h4]⟩

theorem scanA_spec (c : RCache) (trk toSet : List Trk) (h : scanA c trk = some toSet) :
    (∀ t ∈ toSet, t ∈ trk ∧ t.act ≠ .add) ∧
    ((trk.map (·.item)).Nodup → (toSet.map (·.item)).Nodup) := by
  have skip {t : Trk} {ts r : List Trk}
      (ih : (∀ x ∈ r, x ∈ ts ∧ x.act ≠ .add) ∧ ((ts.map (·.item)).Nodup → (r.map (·.item)).Nodup)) :
      (∀ x ∈ r, x ∈ t :: ts ∧ x.act ≠ .add) ∧
        (((t :: ts).map (·.item)).Nodup → (r.map (·.item)).Nodup) :=
    ⟨fun x hx => ⟨List.mem_cons_of_mem _ (ih.1 x hx).1, (ih.1 x hx).2⟩, fun hn => ih.2 (List.nodup_cons.mp hn).2⟩
  fun_induction scanA c trk generalizing toSet
  · cases h; exact ⟨nofun, fun hn => hn⟩
  · next ih => exact skip (ih _ h)
  · next ih => exact skip (ih _ h)
  · next ih => exact skip (ih _ h)
  · cases h
  · next t ts hadd hnone ih =>
    obtain ⟨r, hr, rfl⟩ := Option.map_eq_some_iff.mp h
    obtain ⟨h1, h2⟩ := ih r hr
    refine ⟨fun x hx => ?_, fun hn => ?_⟩
    · rcases List.mem_cons.mp hx with rfl | hx
      · exact ⟨List.mem_cons_self, hadd⟩
      · exact ⟨List.mem_cons_of_mem _ (h1 x hx).1, (h1 x hx).2⟩
    · simp only [List.map_cons, List.nodup_cons] at hn ⊢
      refine ⟨fun hmem => hn.1 ?_, h2 hn.2⟩
      obtain ⟨x, hx, hxe⟩ := List.mem_map.mp hmem
      exact List.mem_map.mpr ⟨x, (h1 x hx).1, hxe⟩

theorem writeRecs_get (c : RCache) (ts : List Trk) (j : Nat) :
    writeRecs c ts j = ((ts.reverse.find? (fun t => t.item == j)).map fun t => (t.lid, t.act)).or (c j) := by
  have := foldl_get_last (α := Trk) (get := fun (c : RCache) k => c k) (w := fun c t => c.put t.item (t.lid, t.act))
    (key := fun t => t.item) (val := fun t => (t.lid, t.act)) (fun s x k => by simp only [RCache.put, eq_comm]) ts c j
  rw [writeRecs, this]; split <;> simp [*]

theorem writeRecs_cases (ts : List Trk) (c : RCache) (j : Nat) (v : Lid × Act) (h : writeRecs c ts j = some v) :
    c j = some v ∨ ∃ t ∈ ts, t.item = j ∧ v = (t.lid, t.act) := by
  rw [writeRecs_get] at h
  cases hf : ts.reverse.find? (fun t => t.item == j) with
  | none => rw [hf] at h; exact .inl h
  | some t =>
    rw [hf] at h
    exact .inr ⟨t, List.mem_reverse.1 (List.mem_of_find?_eq_some hf), by simpa using List.find?_some hf, (Option.some.inj h).symm⟩

theorem writeRecs_mem (ts : List Trk) (c : RCache) (hn : (ts.map (·.item)).Nodup) (t : Trk) (ht : t ∈ ts) :
    writeRecs c ts t.item = some (t.lid, t.act) := by
  rw [writeRecs_get]
  cases hf : ts.reverse.find? (fun x => x.item == t.item) with
  | none => exact absurd (beq_self_eq_true _) (List.find?_eq_none.1 hf t (List.mem_reverse.2 ht))
  | some x =>
    rw [inj_of_nodup_map hn (List.mem_reverse.1 (List.mem_of_find?_eq_some hf)) ht (by simpa using List.find?_some hf)]; rfl
theorem verifyC_all (c : RCache) : ∀ (sub : List Trk), (∀ t ∈ sub, c t.item = some (t.lid, t.act)) →
    verifyC c sub = (true, sub.map (·.item)) := by
  intro sub
  induction sub with
  | nil => intro _; rfl
  | cons t ts ih =>
    intro h
    have ht := h t List.mem_cons_self
    have := ih (fun x hx => h x (List.mem_cons_of_mem _ hx))
    simp [verifyC, ht, this]

theorem markOwners_items (m : List Nat) (trk : List Trk) : (markOwners m trk).map (·.item) = trk.map (·.item) := by
  simp only [markOwners, List.map_map]
  apply List.map_congr_left
  intro t _; simp only [Function.comp]; split <;> rfl

theorem markOwners_mem (m : List Nat) (trk : List Trk) (t : Trk) (ht : t ∈ trk) :
    ∃ t' ∈ markOwners m trk, t'.item = t.item ∧ t'.lid = t.lid ∧ t'.act = t.act ∧
      ((t.owner = true ∨ t.item ∈ m) → t'.owner = true) := by
  refine ⟨if t.item ∈ m then { t with owner := true } else t, List.mem_map.mpr ⟨t, ht, rfl⟩, ?_⟩
  split
  · simp
  · rename_i hm; simp [hm]

theorem lockItems_good (c : RCache) (trk : List Trk) (hk : Known c trk) (hn : (trk.map (·.item)).Nodup) :
    Known (lockItems c trk Window.none).2.1 (lockItems c trk Window.none).2.2 ∧
    (lockItems c trk Window.none).2.2.map (·.item) = trk.map (·.item) := by
  unfold lockItems
  cases hs : scanA c trk with
  | none => exact ⟨hk, rfl⟩
  | some toSet =>
    obtain ⟨h1, h2⟩ := scanA_spec c trk toSet hs
    have hv : verifyC (writeRecs c toSet) toSet = (true, toSet.map (·.item)) :=
      verifyC_all _ _ (fun t ht => writeRecs_mem toSet c (h2 hn) t ht)
    have key : Known (writeRecs c toSet) (markOwners (toSet.map (·.item)) trk) := by
      intro j l a hj hown
      rcases writeRecs_cases toSet c j (l, a) hj with h | ⟨t, ht, hi, hv⟩
      · obtain ⟨t, ht, e1, e2, e3, e4⟩ := hk j l a h hown
        obtain ⟨t', ht', f1, f2, f3, f4⟩ := markOwners_mem (toSet.map (·.item)) trk t ht
        exact ⟨t', ht', f1.trans e1, f2.trans e2, f4 (Or.inl e3), by rw [f3]; exact e4⟩
      · obtain ⟨g1, g2⟩ := h1 t ht
        obtain ⟨t', ht', f1, f2, f3, f4⟩ := markOwners_mem (toSet.map (·.item)) trk t g1
        simp only [Prod.mk.injEq] at hv
        exact ⟨t', ht', f1.trans hi, f2.trans hv.1.symm, f4 (Or.inr (List.mem_map.mpr ⟨t, ht, rfl⟩)), by rw [f3]; exact g2⟩
    simp only [Window.none, List.foldl_nil, Bool.false_eq_true, if_false]
    split
    · rename_i he
      have : toSet = [] := by simpa using he
      subst this
      exact ⟨hk, rfl⟩
    · rw [hv]; exact ⟨key, markOwners_items _ _⟩

theorem checkOne_fields (c : RCache) (t : Trk) :
    (checkOne c t).1.item = t.item ∧ (checkOne c t).1.lid = t.lid ∧ (checkOne c t).1.act = t.act := by
  fun_cases checkOne c t <;> exact ⟨rfl, rfl, rfl⟩

theorem checkItems_items (c : RCache) (trk : List Trk) : (checkItems c trk).1.map (·.item) = trk.map (·.item) := by
  simp only [checkItems, List.map_map]
  apply List.map_congr_left
  intro t _; exact (checkOne_fields c t).1

theorem checkItems_known (c : RCache) (trk : List Trk) (hk : Known c trk) : Known c (checkItems c trk).1 := by
  intro j l a hj hown
  obtain ⟨t, ht, e1, e2, e3, e4⟩ := hk j l a hj hown
  refine ⟨(checkOne c t).1, List.mem_map.mpr ⟨t, ht, rfl⟩, (checkOne_fields c t).1.trans e1,
    (checkOne_fields c t).2.1.trans e2, ?_, by rw [(checkOne_fields c t).2.2]; exact e4⟩
  unfold checkOne
  rw [if_neg e4, e1, hj]
  simp [e2]

theorem reReg_keepAll (n : Nat) (trk : List Trk) : (reReg keepAll n trk).1 = trk := by
  induction trk generalizing n with
  | nil => rfl
  | cons t ts ih => simp [reReg, keepAll, ih]

/-- the invariant of the item side of a commit: the records are `Known`, and there is none while `logged` is unset or
once the commit has ended -/
structure Good (i : ISt) : Prop where
  known : Known i.cache i.trk
  nodup : (i.trk.map (·.item)).Nodup
  unlogged : i.logged = false → OwnFree i.cache
  ended : i.ended = true → OwnFree i.cache

theorem unlock_good (i : ISt) (h : Good i) (l e : Bool) :
    Good { i with cache := unlockItems i.cache i.trk, logged := l, ended := e } :=
  ⟨(unlock_ownFree _ _ h.known).known _, h.nodup, fun _ => unlock_ownFree _ _ h.known, fun _ => unlock_ownFree _ _ h.known⟩

theorem rollbackEnd_good (i : ISt) (h : Good i) : Good (rollbackEnd i) := by
  unfold rollbackEnd
  cases hl : i.logged with
  | true => exact unlock_good i h true true
  | false => exact ⟨h.known, h.nodup, fun _ => h.unlogged hl, fun _ => h.unlogged hl⟩

theorem lockStep_good (i : ISt) (h : Good i) (he : i.ended = false) (n : Nat) :
    Good { i with cache := (lockItems i.cache i.trk Window.none).2.1, trk := (lockItems i.cache i.trk Window.none).2.2,
                  next := n, logged := true } := by
  obtain ⟨k, e⟩ := lockItems_good i.cache i.trk h.known h.nodup
  exact ⟨k, by rw [e]; exact h.nodup, fun hh => by simp at hh, fun hh => by simp [he] at hh⟩

def Benign : REv → Bool
  | .ev _ w => w.ops.isEmpty && !w.readErr
  | .refetchFail _ _ => false
  | _ => true

theorem window_none (w : Window) (h : (w.ops.isEmpty && !w.readErr) = true) : w = Window.none := by
  cases w with
  | mk ops re =>
    simp only [Bool.and_eq_true, List.isEmpty_iff, Bool.not_eq_true'] at h
    simp [Window.none, h.1, h.2]

theorem stepR_good (c : Cfg) (s : RSt) (e : REv) (hb : Benign e = true) (h : Good s.i) : Good (stepR keepAll c s e).i := by
  cases e with
  | env op =>
    exact ⟨known_env _ _ _ h.known, h.nodup, fun hl => ownFree_env _ _ (h.unlogged hl), fun he => ownFree_env _ _ (h.ended he)⟩
  | refetchFail dt r => simp [Benign] at hb
  | ev e w =>
    have hw := window_none w hb
    subst hw
    simp only [stepR]
    split
    · exact h
    · rename_i hne
      simp only [Bool.or_eq_true, not_or, Bool.not_eq_true] at hne
      split
      · -- refetch + lockTrackedItems
        unfold refetchStep
        simp only [reReg_keepAll]
        have g := lockStep_good s.i h hne.1 (reReg keepAll s.i.next s.i.trk).2
        split
        · exact g
        · exact rollbackEnd_good _ g
      · have g1 : Good (if (step c s.l e).retry ≠ s.l.retry ∧ (step c s.l e).pc ≠ .done .retryCap
            then inLoopRollback s.i else s.i) := by
          split
          · exact unlock_good _ h false _
          · exact h
        show Good (if isDoneOther (step c s.l e).pc = true then rollbackEnd _ else _)
        split
        · exact rollbackEnd_good _ g1
        · exact g1
  | tail r =>
    simp only [stepR]
    split
    · exact h
    · have hc : Good { s.i with trk := (checkItems s.i.cache s.i.trk).1 } :=
        ⟨checkItems_known _ _ h.known, by rw [checkItems_items]; exact h.nodup, h.unlogged, h.ended⟩
      cases r with
      | failEarly => exact rollbackEnd_good _ h
      | failLate => exact rollbackEnd_good _ hc
      | ok =>
        unfold tailStep
        simp only []
        split
        · exact unlock_good _ hc _ true
        · exact rollbackEnd_good _ hc

theorem runR_good (c : Cfg) (es : List REv) (s : RSt) (hb : es.all Benign = true) (h : Good s.i) :
    Good (runR keepAll c s es).i := by
  induction es generalizing s with
  | nil => exact h
  | cons e es ih =>
    simp only [List.all_cons, Bool.and_eq_true] at hb
    exact ih _ hb.2 (stepR_good c s e hb.1 h)

theorem initR_good (c : Cfg) (start : Nat) (hk : Bool) (trk : List Trk) (cache : RCache) (n : Nat)
    (h0 : OwnFree cache) (hn : (trk.map (·.item)).Nodup) : Good (initR c start hk trk cache n Window.none).i := by
  have g0 : Good { cache := cache, trk := trk, next := n, logged := true, ended := false } :=
    ⟨h0.known trk, hn, nofun, nofun⟩
  have g := lockStep_good _ g0 rfl n
  unfold initR
  simp only []
  split
  · exact g
  · exact rollbackEnd_good _ g

/-- **No lock left behind.** For every tracker, every initial cache without a record of this transaction
(`OwnFree`), and every script that is `Benign` — loop decisions of any kind and other transactions' actions between
them, but no write or read error inside a `lock` call's window and no refetch that fails part-way — with the replay
keeping every lock identity (`keepAll`): once Commit has returned, no lock record under one of the transaction's
own LockIDs is in the cache. -/
theorem no_lock_left_behind (c : Cfg) (start : Nat) (hk : Bool) (trk : List Trk) (cache : RCache) (n : Nat)
    (h0 : OwnFree cache) (hn : (trk.map (·.item)).Nodup) (es : List REv) (hb : es.all Benign = true) :
    (runR keepAll c (initR c start hk trk cache n Window.none) es).i.ended = true →
      OwnFree (runR keepAll c (initR c start hk trk cache n Window.none) es).i.cache :=
  (runR_good c es _ hb (initR_good c start hk trk cache n h0 hn)).ended

/-- At every moment of the commit, a record under one of the transaction's LockIDs is one its tracker knows under
that LockID and believes it owns (so the next unlock deletes it). -/
theorem records_always_owned (c : Cfg) (start : Nat) (hk : Bool) (trk : List Trk) (cache : RCache) (n : Nat)
    (h0 : OwnFree cache) (hn : (trk.map (·.item)).Nodup) (es : List REv) (hb : es.all Benign = true) :
    Known (runR keepAll c (initR c start hk trk cache n Window.none) es).i.cache
          (runR keepAll c (initR c start hk trk cache n Window.none) es).i.trk :=
  (runR_good c es _ hb (initR_good c start hk trk cache n h0 hn)).known

theorem scanA_free (c : RCache) (trk : List Trk) (h : ∀ t ∈ trk, c t.item = none) : scanA c trk ≠ none := by
  fun_induction scanA c trk
  · nofun
  · next ih => exact ih fun x hx => h x (List.mem_cons_of_mem _ hx)
  · exact nomatch (h _ List.mem_cons_self).symm.trans ‹c _ = some _›
  · exact nomatch (h _ List.mem_cons_self).symm.trans ‹c _ = some _›
  · exact nomatch (h _ List.mem_cons_self).symm.trans ‹c _ = some _›
  · next ih =>
    cases hs : scanA c _ with
    | none => exact absurd hs (ih fun x hx => h x (List.mem_cons_of_mem _ hx))
    | some r => nofun

/-- Behavioural form: a later transaction's `lock` (first pass) is not refused on account of the finished
transaction — `hothers`: no third party has a record on the follower's items, so whatever is there would be the
finished transaction's, and nothing of it is left. -/
theorem follower_not_refused (c : Cfg) (start : Nat) (hk : Bool) (trk : List Trk) (cache : RCache) (n : Nat)
    (h0 : OwnFree cache) (hn : (trk.map (·.item)).Nodup) (es : List REv) (hb : es.all Benign = true)
    (hend : (runR keepAll c (initR c start hk trk cache n Window.none) es).i.ended = true)
    (follower : List Trk)
    (hothers : ∀ t ∈ follower, ∀ l a,
      (runR keepAll c (initR c start hk trk cache n Window.none) es).i.cache t.item = some (l, a) → l.own = true) :
    scanA (runR keepAll c (initR c start hk trk cache n Window.none) es).i.cache follower ≠ none := by
  apply scanA_free
  intro t ht
  have hof := no_lock_left_behind c start hk trk cache n h0 hn es hb hend
  cases hc : (runR keepAll c (initR c start hk trk cache n Window.none) es).i.cache t.item with
  | none => rfl
  | some v =>
    obtain ⟨l, a⟩ := v
    have h1 := hof t.item l a hc
    have h2 := hothers t ht l a hc
    rw [h1] at h2; simp at h2

/-- a transaction that READ item 0 and UPDATED item 1 -/
def trkRW : List Trk := [⟨0, ⟨true, 0⟩, .get, false⟩, ⟨1, ⟨true, 1⟩, .update, false⟩]
def noRecs : RCache := fun _ => none

def refusedOnce : List REv :=
  [.ev (.lock 0 .refused) .none, .ev (.lock 0 .granted) .none, .ev (.isLocked 0 true) .none,
   .ev (.refetch 0 true) .none, .ev (.dualLock 0 true) .none, .ev (.body 0 .ok) .none]

/-- Non-vacuity: the records ARE there while the commit runs, and nothing is left once it has ended. -/
theorem no_lock_left_behind_nonvacuous :
    let s1 := runR keepAll (cfgOf 900000 none) (initR (cfgOf 900000 none) 0 true trkRW noRecs 2 .none) refusedOnce
    let s2 := stepR keepAll (cfgOf 900000 none) s1 (.tail .ok)
    s1.i.cache 0 = some (⟨true, 0⟩, .get) ∧ s1.i.cache 1 = some (⟨true, 1⟩, .update) ∧ s1.i.ended = false ∧
    s2.i.ended = true ∧ s2.i.cache 0 = none ∧ s2.i.cache 1 = none := by decide +kernel

/-- `keepLockIdentity` not called for items that were only read (the get branch of the replay): the code before
commit bcf67b37 (findings C15-F2/F3). -/
def keepNotGet : Act → Bool := fun a => a != .get

/-- Dropping the identity for READ items breaks the property: after one refused node lock the read item's record
(old LockID) is neither conflicting (get/get) nor owned, the commit SUCCEEDS and the record stays. -/
theorem identity_dropped_for_reads_leaks :
    let s := runR keepNotGet (cfgOf 900000 none) (initR (cfgOf 900000 none) 0 true trkRW noRecs 2 .none)
              (refusedOnce ++ [.tail .ok])
    s.l.pc = .done .success ∧ s.i.ended = true ∧ s.i.cache 0 = some (⟨true, 0⟩, .get) ∧ s.i.cache 1 = none := by
  decide +kernel

/-- the same when the transaction gives up after the refetch (error in the body) -/
theorem identity_dropped_for_reads_leaks_on_giveup :
    let s := runR keepNotGet (cfgOf 900000 none) (initR (cfgOf 900000 none) 0 true trkRW noRecs 2 .none)
              (refusedOnce.take 5 ++ [.ev (.fail 0) .none])
    s.l.pc = .done .error ∧ s.i.ended = true ∧ s.i.cache 0 = some (⟨true, 0⟩, .get) := by
  decide +kernel

/-- `no_lock_left_behind` without the `Benign` hypothesis and for any window of the first `lock` call. FALSE on the
tree under test, two ways: -/
def Statement_C15_items : Prop :=
  ∀ (c : Cfg) (start : Nat) (hk : Bool) (trk : List Trk) (cache : RCache) (n : Nat) (w : Window) (es : List REv),
    OwnFree cache → (trk.map (·.item)).Nodup →
    (runR keepAll c (initR c start hk trk cache n w) es).i.ended = true →
    OwnFree (runR keepAll c (initR c start hk trk cache n w) es).i.cache

def trkWW : List Trk := [⟨0, ⟨true, 0⟩, .update, false⟩, ⟨1, ⟨true, 1⟩, .update, false⟩]

/-- finding C15-F4: another writer's record lands on item 0 between this transaction's write and its verifying
read: `lock` returns "conflict" at item 0 and never marks item 1 (written, intact) as owned; the rollback
skips it. -/
theorem C15_items_counterexample_lock_early_return : ¬ Statement_C15_items := by
  intro h
  have := h (cfgOf 900000 none) 0 true trkWW noRecs 2 ⟨[.put 0 9 .update], false⟩ [] nofun (by decide)
    (by decide +kernel)  -- Commit has ended
    1 ⟨true, 1⟩ .update (by decide +kernel)  -- and item 1's record is still there
  cases this

/-- finding C15-F5: the refetch fails after it has re-registered item 1 only (e.g. a replayed add hits a key
another transaction has added meanwhile): the tracker has forgotten item 0, whose record stays. -/
theorem C15_items_counterexample_failed_refetch : ¬ Statement_C15_items := by
  intro h
  have := h (cfgOf 900000 none) 0 true trkRW noRecs 2 .none
    [.ev (.lock 0 .refused) .none, .ev (.lock 0 .granted) .none, .ev (.isLocked 0 true) .none, .refetchFail 0 [1]]
    nofun (by decide)
    (by decide +kernel)  -- Commit has ended
    0 ⟨true, 0⟩ .get (by decide +kernel)  -- and item 0's record is still there
  cases this

end Sop.C15
