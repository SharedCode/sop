import Sop.Model.HandleProto
import Sop.Lemmas.Commit
/-!
# C37 — the commit protocol never installs two successors of one node version

`Sop/Model/HandleProto.lean`: any number of committers acting on one registry handle through the same per-handle
functions as Model P. Theorem `C37_single_successor`: under the node-lock discipline (a transaction reads, reserves,
stages, flips or undoes only while it holds the node's lock, and a lock is granted only when free — C28, plus
"a live holder's lock does not expire", DESIGN.md A-time), for EVERY interleaving of any number of transactions
(including transactions that crash and keep their lock), two installs are never based on the same version.
`C37_lock_needed` shows the hypothesis is needed: without the lock two installs from one version happen.
-/
namespace Sop.C37
open Sop.Commit Sop.HandleProto

structure Inv (v0 : Int) (s : Sys) : Prop where
  imgVer : ∀ t i, (s.txns t).img = some i → i.version = (s.txns t).readVersion
  holderCur : ∀ t i, s.lock = some t → (s.txns t).img = some i → s.h = i
  onlyHolder : ∀ t, ((s.txns t).img.isSome ∨ (s.txns t).got.isSome) → s.lock = some t
  gotVer : ∀ t g, s.lock = some t → (s.txns t).installed = false → (s.txns t).got = some g → g.version = s.h.version
  ver : s.h.version = v0 + s.flips.length
  flipsVer : ∀ (k : Nat) (p : Nat × Int), s.flips[k]? = some p → p.2 = v0 + (k : Int)

/-- histories in which no install is taken back (by crash recovery or by the transaction's own failed phase 2) and the lock
service never forgets the node's lock (`Op.lose`) -/
def NoRecover (ops : List Op) : Prop := ∀ o ∈ ops, (∀ t, o ≠ Op.recover t ∧ o ≠ Op.restore t) ∧ o ≠ Op.lose

@[simp] theorem setTxn_txns (s : Sys) (t k : Nat) (x : Txn) : (s.setTxn t x).txns k = if k = t then x else s.txns k := rfl
@[simp] theorem setTxn_h (s : Sys) (t : Nat) (x : Txn) : (s.setTxn t x).h = s.h := rfl
@[simp] theorem setTxn_lock (s : Sys) (t : Nat) (x : Txn) : (s.setTxn t x).lock = s.lock := rfl
@[simp] theorem setTxn_flips (s : Sys) (t : Nat) (x : Txn) : (s.setTxn t x).flips = s.flips := rfl

theorem held_lock {s : Sys} {t : Nat} (h : held s t true = true) : s.lock = some t ∧ (s.txns t).crashed = false := by
  unfold held at h
  simp only [Bool.not_true, Bool.false_or, Bool.and_eq_true, Bool.not_eq_true', beq_iff_eq] at h
  exact ⟨h.2, h.1⟩

theorem Inv.idle {v0 : Int} {s : Sys} (inv : Inv v0 s) {k : Nat} (hk : s.lock ≠ some k) :
    (s.txns k).img = none ∧ (s.txns k).got = none := by
  constructor
  · cases hi : (s.txns k).img with
    | none => rfl
    | some i => exact absurd (inv.onlyHolder k (.inl (by rw [hi]; rfl))) hk
  · cases hg : (s.txns k).got with
    | none => rfl
    | some g => exact absurd (inv.onlyHolder k (.inr (by rw [hg]; rfl))) hk

/-- the others have read and reserved nothing, so only `x` has to be checked against the new handle -/
theorem Inv.holder {v0 : Int} {s s' : Sys} (inv : Inv v0 s) {t : Nat} {x : Txn} (hl : ∀ k, k ≠ t → s.lock ≠ some k)
    (et : s'.txns = fun k => if k = t then x else s.txns k) (el : s'.lock = some t)
    (himg : ∀ i, x.img = some i → i.version = x.readVersion ∧ s'.h = i)
    (hgot : x.installed = false → ∀ g, x.got = some g → g.version = s'.h.version)
    (hver : s'.h.version = v0 + s'.flips.length)
    (hfl : ∀ (k : Nat) (p : Nat × Int), s'.flips[k]? = some p → p.2 = v0 + (k : Int)) : Inv v0 s' := by
  have other : ∀ k, k ≠ t → (s'.txns k).img = none ∧ (s'.txns k).got = none := fun k hk => by
    rw [et]
    simp only [hk, ↓reduceIte]
    exact inv.idle (hl k hk)
  have self : s'.txns t = x := by rw [et]; simp only [↓reduceIte]
  have holds : ∀ k, s'.lock = some k → k = t := fun k h => by rw [el] at h; exact (Option.some.inj h).symm
  refine ⟨?_, ?_, ?_, ?_, hver, hfl⟩
  · intro k i hi
    by_cases hk : k = t
    · rw [hk, self] at hi ⊢; exact (himg i hi).1
    · rw [(other k hk).1] at hi; cases hi
  · intro k i hl' hi
    rw [holds k hl', self] at hi
    exact (himg i hi).2
  · intro k hi
    by_cases hk : k = t
    · rw [hk]; exact el
    · rw [(other k hk).1, (other k hk).2] at hi; simp at hi
  · intro k g hl' hin hg
    rw [holds k hl', self] at hin hg
    exact hgot hin g hg

theorem Inv.of_same {v0 : Int} {s s' : Sys} (inv : Inv v0 s) (eh : s'.h = s.h) (el : s'.lock = s.lock) (ef : s'.flips = s.flips)
    (et : ∀ k, (s'.txns k).img = (s.txns k).img ∧ (s'.txns k).got = (s.txns k).got ∧
      (s'.txns k).installed = (s.txns k).installed ∧ (s'.txns k).readVersion = (s.txns k).readVersion) : Inv v0 s' := by
  refine ⟨?_, ?_, ?_, ?_, by rw [eh, ef]; exact inv.ver, by rw [ef]; exact inv.flipsVer⟩
  · intro k i hi; rw [(et k).1] at hi; rw [(et k).2.2.2]; exact inv.imgVer k i hi
  · intro k i hl hi; rw [el] at hl; rw [(et k).1] at hi; rw [eh]; exact inv.holderCur k i hl hi
  · intro k hi; rw [(et k).1, (et k).2.1] at hi; rw [el]; exact inv.onlyHolder k hi
  · intro k g hl hin hg; rw [el] at hl; rw [(et k).2.2.1] at hin; rw [(et k).2.1] at hg; rw [eh]; exact inv.gotVer k g hl hin hg

theorem Inv.free {v0 : Int} {s s' : Sys} (inv : Inv v0 s) (eh : s'.h = s.h) (el : s'.lock = none) (ef : s'.flips = s.flips)
    (et : ∀ k, (s'.txns k).img = none ∧ (s'.txns k).got = none) : Inv v0 s' := by
  refine ⟨?_, ?_, ?_, ?_, by rw [eh, ef]; exact inv.ver, by rw [ef]; exact inv.flipsVer⟩
  · intro k i hi; rw [(et k).1] at hi; cases hi
  · intro k i hl; rw [el] at hl; cases hl
  · intro k hi; rw [(et k).1, (et k).2] at hi; simp at hi
  · intro k g hl; rw [el] at hl; cases hl

theorem setTxn_same (s : Sys) (t : Nat) (x : Txn) (h : x.img = (s.txns t).img ∧ x.got = (s.txns t).got ∧
    x.installed = (s.txns t).installed ∧ x.readVersion = (s.txns t).readVersion) (k : Nat) :
    ((s.setTxn t x).txns k).img = (s.txns k).img ∧ ((s.setTxn t x).txns k).got = (s.txns k).got ∧
      ((s.setTxn t x).txns k).installed = (s.txns k).installed ∧ ((s.setTxn t x).txns k).readVersion = (s.txns k).readVersion := by
  rw [setTxn_txns]
  split
  · rename_i hk; rw [hk]; exact h
  · exact ⟨rfl, rfl, rfl, rfl⟩

theorem Inv.ite {v0 : Int} {c : Prop} [Decidable c] {a b : Sys} (ha : c → Inv v0 a) (hb : ¬ c → Inv v0 b) :
    Inv v0 (if c then a else b) :=
  ite_ind (Inv v0) ha hb

/-- a history whose `k`-th entry records version `v0 + k` stays one when the next version is appended -/
theorem flipsVer_snoc {v0 : Int} {l : List (Nat × Int)} {q : Nat × Int}
    (h : ∀ (k : Nat) (p : Nat × Int), l[k]? = some p → p.2 = v0 + (k : Int)) (hq : q.2 = v0 + (l.length : Int))
    (k : Nat) (p : Nat × Int) (hp : (l ++ [q])[k]? = some p) : p.2 = v0 + (k : Int) := by
  rcases Nat.lt_trichotomy k l.length with hlt | rfl | hgt
  · rw [List.getElem?_append_left hlt] at hp; exact h k p hp
  · rw [List.getElem?_concat_length] at hp; cases hp; exact hq
  · rw [List.getElem?_eq_none (by rw [List.length_append]; exact hgt)] at hp; cases hp

theorem inv_step (v0 : Int) (s : Sys) (o : Op) (hno : (∀ t, o ≠ Op.recover t ∧ o ≠ Op.restore t) ∧ o ≠ Op.lose) (inv : Inv v0 s) : Inv v0 (step true s o) := by
  -- under the discipline the acting transaction holds the lock, so nobody else does
  have sole : ∀ {t : Nat}, s.lock = some t → ∀ k, k ≠ t → s.lock ≠ some k :=
    fun hl k hk e => hk (Option.some.inj (e.symm.trans hl))
  cases o with
  | recover t => exact absurd rfl (hno.1 t).1
  | restore t => exact absurd rfl (hno.1 t).2
  | lose => exact absurd rfl hno.2
  | crash t => exact inv.of_same rfl rfl rfl (setTxn_same s t _ ⟨rfl, rfl, rfl, rfl⟩)
  | lock t =>
    refine Inv.ite (fun _ => inv) fun _ => ?_
    split
    · rename_i hnone
      exact inv.holder (fun k _ => by rw [hnone]; exact nofun) rfl rfl (fun _ hi => nomatch hi) (fun _ _ hg => nomatch hg)
        inv.ver inv.flipsVer
    · exact inv
  | unlock t =>
    refine Inv.ite (fun hc => ?_) fun _ => inv
    simp only [Bool.and_eq_true, beq_iff_eq, Bool.not_eq_true'] at hc
    refine inv.free rfl rfl rfl fun k => ?_
    rw [setTxn_txns]
    split
    · exact ⟨rfl, rfl⟩
    · rename_i hk; exact inv.idle (sole hc.1 k hk)
  | get t =>
    refine Inv.ite (fun hh => ?_) fun _ => inv
    obtain ⟨hl, _⟩ := held_lock hh
    exact inv.holder (sole hl) rfl hl (fun i hi => ⟨inv.imgVer t i hi, inv.holderCur t i hl hi⟩)
      (fun _ g hg => (congrArg Handle.version (Option.some.inj hg)).symm) inv.ver inv.flipsVer
  | reserve t =>
    refine Inv.ite (fun hc => ?_) fun _ => inv
    simp only [Bool.and_eq_true, Option.isNone_iff_eq_none, Bool.not_eq_true'] at hc
    obtain ⟨⟨hh, hnone⟩, hinst⟩ := hc
    obtain ⟨hl, _⟩ := held_lock hh
    split
    · exact inv
    · rename_i g hg
      split
      · exact inv
      · rename_i i hi
        obtain ⟨_, _, r3, _, r5, _, _⟩ := reserveOne_spec _ _ _ _ _ _ hi
        have hgv := inv.gotVer t g hl hinst hg
        refine inv.holder (sole hl) rfl hl (fun i' hi' => ?_) (fun _ g' hg' => ?_) ?_ inv.flipsVer
        · obtain rfl := Option.some.inj hi'
          exact ⟨by rw [r3, r5], rfl⟩
        · rw [show g' = g from Option.some.inj (hg'.symm.trans hg)]
          exact r3.symm
        · show i.version = _
          rw [r3, hgv]; exact inv.ver
  | stage t =>
    refine Inv.ite (fun _ => ?_) fun _ => inv
    split
    · exact inv
    · exact inv.of_same rfl rfl rfl (setTxn_same s t _ ⟨rfl, rfl, rfl, rfl⟩)
  | logPre t =>
    refine Inv.ite (fun _ => ?_) fun _ => inv
    split
    · exact inv
    · exact inv.of_same rfl rfl rfl fun _ => ⟨rfl, rfl, rfl, rfl⟩
  | flip t =>
    refine Inv.ite (fun hc => ?_) fun _ => inv
    simp only [Bool.and_eq_true, Bool.not_eq_true'] at hc
    obtain ⟨⟨hh, _⟩, hinst⟩ := hc
    obtain ⟨hl, _⟩ := held_lock hh
    split
    · exact inv
    · rename_i i hi
      have hcur := inv.holderCur t i hl hi
      have hiv := inv.imgVer t i hi
      -- the new entry records the version the install was based on, which is the current one
      refine inv.holder (sole hl) rfl hl (fun _ h => nomatch h) (fun h => nomatch h) ?_
        (flipsVer_snoc inv.flipsVer (by show (s.txns t).readVersion = _; rw [← hiv, ← hcur]; exact inv.ver))
      -- the activated image is one version on, the history one install longer
      show (activate i).version = v0 + ((s.flips ++ [(t, (s.txns t).readVersion)]).length : Int)
      rw [(activate_spec i).2.2.2.1, ← hcur, inv.ver, List.length_append, Int.natCast_add, Int.add_assoc]
      rfl
  | undo t =>
    refine Inv.ite (fun hc => ?_) fun _ => inv
    simp only [Bool.and_eq_true, Bool.not_eq_true'] at hc
    obtain ⟨⟨hh, hinst⟩, _⟩ := hc
    obtain ⟨hl, _⟩ := held_lock hh
    have hv : (if s.h.inactive = 0 then { s.h with wip := 0 } else s.h.clearInactive).version = s.h.version := by
      split
      · rfl
      · exact (Handle.clearInactive_spec s.h).2.2.2.1
    exact inv.holder (sole hl) rfl hl (fun _ h => nomatch h) (fun hin g hg => (inv.gotVer t g hl hin hg).trans hv.symm)
      (hv.trans inv.ver) inv.flipsVer

theorem inv_run (v0 : Int) (ops : List Op) (s : Sys) (hno : NoRecover ops) (inv : Inv v0 s) : Inv v0 (run true s ops) := by
  unfold run
  induction ops generalizing s with
  | nil => exact inv
  | cons o t ih =>
    simp only [List.foldl_cons]
    exact ih _ (fun o' ho' => hno o' (List.mem_cons_of_mem _ ho')) (inv_step v0 s o (hno o (List.mem_cons_self ..)) inv)

def Fresh (s : Sys) : Prop := s.lock = none ∧ s.flips = [] ∧ ∀ t, (s.txns t).img = none ∧ (s.txns t).got = none

theorem inv_init (s : Sys) (hf : Fresh s) : Inv s.h.version s := by
  obtain ⟨h1, h2, h3⟩ := hf
  refine ⟨?_, ?_, ?_, ?_, ?_, ?_⟩
  · intro t i hi; rw [(h3 t).1] at hi; cases hi
  · intro t i hl; rw [h1] at hl; cases hl
  · intro t hi; rw [(h3 t).1, (h3 t).2] at hi; simp at hi
  · intro t g hl; rw [h1] at hl; cases hl
  · rw [h2]; simp
  · intro k p hp; rw [h2] at hp; simp at hp

/-- **C37**: for every interleaving (any op list, any number of transactions, crashes included, no lock ever
expiring under a holder), two installs are never based on the same version of the node. -/
theorem C37_single_successor (s : Sys) (hf : Fresh s) (ops : List Op) (hno : NoRecover ops)
    (t1 t2 : Nat) (v : Int) (h1 : (t1, v) ∈ (run true s ops).flips) (h2 : (t2, v) ∈ (run true s ops).flips) :
    t1 = t2 := by
  have inv := inv_run s.h.version ops s hno (inv_init s hf)
  obtain ⟨k1, hk1⟩ := List.getElem?_of_mem h1
  obtain ⟨k2, hk2⟩ := List.getElem?_of_mem h2
  have e1 := inv.flipsVer k1 _ hk1
  have e2 := inv.flipsVer k2 _ hk2
  simp only at e1 e2
  have : k1 = k2 := by omega
  subst this
  rw [hk1] at hk2
  exact (Prod.mk.inj (Option.some.inj hk2)).1

/-- the node's version only grows, by exactly one per install -/
theorem C37_version_counts_installs (s : Sys) (hf : Fresh s) (ops : List Op) (hno : NoRecover ops) :
    (run true s ops).h.version = s.h.version + (run true s ops).flips.length :=
  (inv_run s.h.version ops s hno (inv_init s hf)).ver

/-- **recovery returns a crashed commit's node to its pre-commit image**: whatever the crashed transaction did to
the handle after logging the pre-flip image (nothing, or the flip), the priority rollback writes that image back -/
theorem C37_recovery_restores (s : Sys) (t : Nat) (i : Handle) (hc : (s.txns t).crashed = true) (hp : s.plog t = some i)
    (hv : i.version = s.h.version ∨ i.version = s.h.version - 1) :
    (step true s (.recover t)).h = i ∧ (step true s (.recover t)).plog t = none := by
  unfold step
  simp [hc, hp, hv]

/-- two transactions based on version 1 of the same node -/
def two : Sys :=
  { h := { lid := 1, idA := 1, version := 1 }, blob := fun k => k == 1,
    txns := fun k => { readVersion := 1, fresh := 10 + k } }

theorem two_fresh : Fresh two := ⟨rfl, rfl, fun _ => ⟨rfl, rfl⟩⟩

/-- **the lock hypothesis is needed**: with the discipline off, both transactions read, both reserve (the second
blind write replaces the first), both flip — two successors of version 1 -/
theorem C37_lock_needed :
    (run false two [.get 0, .get 1, .reserve 0, .reserve 1, .stage 0, .stage 1, .flip 0, .flip 1]).flips = [(0, 1), (1, 1)] := by
  decide +kernel

/-- with the discipline the same eager schedule installs once; the second transaction must wait for the lock
and then finds the version changed -/
theorem C37_disciplined_example :
    (run true two [.lock 0, .lock 1, .get 0, .get 1, .reserve 0, .reserve 1, .stage 0, .stage 1, .flip 0, .flip 1,
                   .unlock 0, .lock 1, .get 1, .reserve 1, .stage 1, .flip 1]).flips = [(0, 1)] := by
  decide +kernel

/-- a live claim on the node -/
structure Claimed (s : Sys) (owner : Nat) : Prop where
  both : s.h.bothInUse = true
  live : s.h.expiredInactive s.now s.hour = false
  nz : s.h.inactive ≠ 0

/-- every transaction other than the owner comes after the claim -/
def Latecomers (s : Sys) (owner : Nat) (h0 : Handle) : Prop :=
  ∀ k, k ≠ owner → ((s.txns k).got = none ∨ (s.txns k).got = some h0) ∧ (s.txns k).img = none ∧ (s.txns k).staged = false ∧
    s.plog k = none ∧ (s.txns k).fresh ≠ h0.inactive

theorem reserveOne_claimed (now hour : Int) (f : UUID) (h : Handle) (v : Int) (hb : h.bothInUse = true)
    (he : h.expiredInactive now hour = false) : reserveOne now hour f h v = none := by
  unfold reserveOne
  split
  · rfl
  · simp [he, Handle.allocate, hb]

def Quiet (owner : Nat) (s s' : Sys) : Prop :=
  s'.h = s.h ∧ s'.now = s.now ∧ s'.hour = s.hour ∧ Latecomers s' owner s.h

theorem Quiet.ite {owner : Nat} {s : Sys} {c : Prop} [Decidable c] {a b : Sys} (ha : c → Quiet owner s a)
    (hb : ¬ c → Quiet owner s b) : Quiet owner s (if c then a else b) := by
  split
  · exact ha ‹_›
  · exact hb ‹_›

theorem claim_step (owner : Nat) (s : Sys) (o : Op) (ho : o.txn ≠ some owner) (hc : Claimed s owner)
    (hl : Latecomers s owner s.h) : Quiet owner s (step false s o) := by
  have upd : ∀ (k : Nat) (x : Txn) (lk : Option Nat), k ≠ owner →
      ((x.got = none ∨ x.got = some s.h) ∧ x.img = none ∧ x.staged = false ∧ x.fresh = (s.txns k).fresh) →
      Quiet owner s { (s.setTxn k x) with lock := lk } := by
    intro k x lk hk hx
    refine ⟨rfl, rfl, rfl, fun j hj => ?_⟩
    by_cases e : j = k
    · subst e
      simp only [setTxn_txns, ↓reduceIte]
      exact ⟨hx.1, hx.2.1, hx.2.2.1, (hl j hj).2.2.2.1, by rw [hx.2.2.2]; exact (hl j hj).2.2.2.2⟩
    · simp only [setTxn_txns, e, ↓reduceIte]
      exact hl j hj
  have idle : Quiet owner s s := ⟨rfl, rfl, rfl, hl⟩
  have ne : ∀ t, o.txn = some t → t ≠ owner := fun t e h => ho (by rw [e, h])
  cases o with
  | lose => exact idle
  | lock t =>
    refine .ite (fun _ => idle) fun _ => ?_
    split
    · exact upd t _ _ (ne t rfl) ⟨.inl rfl, rfl, rfl, rfl⟩
    · exact idle
  | unlock t => exact .ite (fun _ => upd t _ _ (ne t rfl) ⟨.inl rfl, rfl, rfl, rfl⟩) fun _ => idle
  | get t =>
    have ht := ne t rfl
    exact .ite (fun _ => upd t _ s.lock ht ⟨.inr rfl, (hl t ht).2.1, (hl t ht).2.2.1, rfl⟩) fun _ => idle
  | reserve t =>
    refine .ite (fun _ => ?_) fun _ => idle
    split
    · exact idle
    · rename_i g hg
      have : g = s.h := by
        rcases (hl t (ne t rfl)).1 with e | e
        · rw [e] at hg; cases hg
        · rw [e] at hg; exact (Option.some.inj hg).symm
      rw [this, reserveOne_claimed _ _ _ _ _ hc.both hc.live]
      exact idle
  | stage t =>
    simp only [step, (hl t (ne t rfl)).2.1]
    split <;> exact idle
  | logPre t =>
    simp only [step, (hl t (ne t rfl)).2.1]
    split <;> exact idle
  | flip t =>
    simp only [step, (hl t (ne t rfl)).2.2.1, Bool.and_false, Bool.false_and, Bool.false_eq_true, ↓reduceIte]
    exact idle
  | undo t =>
    have h1 : (s.h.inactive == 0) = false := by simpa using hc.nz
    have h2 : (s.h.inactive == (s.txns t).fresh) = false := by
      simpa using fun e => (hl t (ne t rfl)).2.2.2.2 e.symm
    simp only [step, h1, h2, Bool.or_self, Bool.and_false, Bool.false_eq_true, ↓reduceIte]
    exact idle
  | crash t =>
    have ht := ne t rfl
    exact upd t _ s.lock ht ⟨(hl t ht).1, (hl t ht).2.1, (hl t ht).2.2.1, rfl⟩
  | recover t =>
    simp only [step, (hl t (ne t rfl)).2.2.2.1]
    split <;> exact idle
  | restore t =>
    simp only [step, (hl t (ne t rfl)).2.2.2.1]
    split <;> exact idle

/-- **The reservation is a claim** (`AllocateID` + the version/in-use test of `commitUpdatedNodes` + "a reservation is
released by its owner only"): while a claim is live, NO operation sequence of transactions that come after it — any
number of them, in any interleaving, WITH OR WITHOUT the node lock (the lock service may even forget the lock) —
changes the node's handle: they cannot reserve, flip or clear it. Only the owner (or, after a crash, recovery; or the
one-hour expiry) moves the node on. This is what makes a lost lock between phase 1 and phase 2 harmless. -/
theorem C37_claim_respected (owner : Nat) (ops : List Op) (s : Sys) (ho : ∀ o ∈ ops, o.txn ≠ some owner)
    (hc : Claimed s owner) (hl : Latecomers s owner s.h) : (run false s ops).h = s.h := by
  unfold run
  induction ops generalizing s with
  | nil => rfl
  | cons o t ih =>
    simp only [List.foldl_cons]
    obtain ⟨e1, e2, e3, l'⟩ := claim_step owner s o (ho o (List.mem_cons_self ..)) hc hl
    have hc' : Claimed (step false s o) owner := ⟨by rw [e1]; exact hc.both, by rw [e1, e2, e3]; exact hc.live, by rw [e1]; exact hc.nz⟩
    rw [ih (step false s o) (fun o' ho' => ho o' (List.mem_cons_of_mem _ ho')) hc' (by rw [e1]; exact l'), e1]

/-- transaction 0 has reserved id 10 on version 1 of node 1; every other transaction comes later -/
def claimed : Sys :=
  { h := { lid := 1, idA := 1, idB := 10, version := 1, wip := 1000000000 }, blob := fun k => k == 1 || k == 10,
    txns := fun k => { readVersion := 1, fresh := 10 + k } }

/-- the hypotheses of `C37_claim_respected` are satisfiable, by a state the protocol itself reaches -/
example : Claimed claimed 0 ∧ Latecomers claimed 0 claimed.h := by
  refine ⟨⟨by decide +kernel, by decide +kernel, by decide +kernel⟩, ?_⟩
  intro k hk
  refine ⟨.inl rfl, rfl, rfl, rfl, ?_⟩
  show 10 + k ≠ 10
  omega

example : (run true two [.lock 0, .get 0, .reserve 0, .stage 0]).h = claimed.h := by decide +kernel

end Sop.C37
