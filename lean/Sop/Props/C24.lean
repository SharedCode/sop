import Sop.Model.Handle
/-! # C24 — handle records round-trip and fit their disk block without overlap -/
namespace Sop.C24
open Sop.Handle

theorem toLE_length (k n : Nat) : (toLE k n).length = k := by
  induction k generalizing n with
  | zero => rfl
  | succ k ih => simp [toLE, ih]

theorem toLE_bytes (k n : Nat) : bytesOk (toLE k n) := by
  induction k generalizing n with
  | zero => intro b hb; simp [toLE] at hb
  | succ k ih =>
    intro b hb
    simp only [toLE, List.mem_cons] at hb
    rcases hb with rfl | hb
    · omega
    · exact ih _ b hb

theorem ofLE_toLE (k n : Nat) : ofLE (toLE k n) = n % 256^k := by
  induction k generalizing n with
  | zero => simp [toLE, ofLE, Nat.mod_one]
  | succ k ih =>
    simp only [toLE, ofLE, ih]
    rw [Nat.pow_succ, Nat.mul_comm (256^k) 256, Nat.mod_mul]

theorem ofU_toU_32 (v : Int) (h : -(2:Int)^31 ≤ v ∧ v < (2:Int)^31) : ofU 32 (toU 32 v % 256^4) = v := by
  unfold ofU toU
  split <;> omega

theorem ofU_toU_64 (v : Int) (h : -(2:Int)^63 ≤ v ∧ v < (2:Int)^63) : ofU 64 (toU 64 v % 256^8) = v := by
  unfold ofU toU
  split <;> omega

/-- every encoded record has exactly the size the source declares (`sop.HandleSizeInBytes`) -/
theorem encode_length (h : Handle) (wf : h.WF) : (encode h).length = Facts.handleSizeInBytes := by
  simp [encode, toLE_length, wf.lidLen, wf.aLen, wf.bLen, Facts.handleSizeInBytes]

theorem encode_bytes (h : Handle) (wf : h.WF) : bytesOk (encode h) := by
  intro b hb
  simp only [encode, List.mem_append, List.mem_singleton] at hb
  rcases hb with (((((hb | hb) | hb) | hb) | hb) | hb) | hb
  · exact wf.lidB b hb
  · exact wf.aB b hb
  · exact wf.bB b hb
  · subst hb; unfold boolByte; split <;> omega
  · exact toLE_bytes _ _ b hb
  · exact toLE_bytes _ _ b hb
  · subst hb; unfold boolByte; split <;> omega

theorem boolByte_beq_one (b : Bool) : (boolByte b == 1) = b := by cases b <;> rfl

theorem decode_append (a b c v w : List Nat) (x y : Nat) (ha : a.length = 16) (hb : b.length = 16)
    (hc : c.length = 16) (hv : v.length = 4) (hw : w.length = 8) :
    decode (a ++ b ++ c ++ [x] ++ v ++ w ++ [y]) =
      some ⟨a, b, c, x == 1, ofU 32 (ofLE v), ofU 64 (ofLE w), y == 1⟩ := by
  simp [decode, List.drop_append, ha, hb, hc, hv, hw, List.drop_of_length_le]

/-- **round trip**: every handle decodes back to itself, for all ids, flags and the full int32/int64 ranges -/
theorem decode_encode (h : Handle) (wf : h.WF) : decode (encode h) = some h := by
  unfold encode
  rw [decode_append _ _ _ _ _ _ _ wf.lidLen wf.aLen wf.bLen (toLE_length _ _) (toLE_length _ _),
    ofLE_toLE, ofLE_toLE, ofU_toU_32 _ wf.ver, ofU_toU_64 _ wf.wip, boolByte_beq_one, boolByte_beq_one]

/-- the slots and the checksum trailer fit in one block -/
theorem layout : Facts.handlesPerBlock * Facts.handleSizeInBytes + 4 ≤ Facts.blockSize := by
  decide

theorem slot_disjoint (i j k : Nat) (hij : i ≠ j) : ¬ (inSlot i k ∧ inSlot j k) := by
  unfold inSlot
  simp only [Facts.handleSizeInBytes]
  omega

theorem slot_crc_disjoint (i k : Nat) (hi : i < Facts.handlesPerBlock) : ¬ (inSlot i k ∧ inCrc k) := by
  unfold inSlot inCrc
  simp only [Facts.handleSizeInBytes, Facts.handlesPerBlock, Facts.blockSize] at *
  omega

/-- every id's computed offsets are block-aligned and leave room for the record before the checksum -/
theorem offset_in_bounds (high low md : Nat) (hmd : 0 < md) :
    (offsets high low md).1 % Facts.blockSize = 0 ∧
    (offsets high low md).1 + Facts.blockSize ≤ md * Facts.blockSize ∧
    (offsets high low md).2 + Facts.handleSizeInBytes ≤ Facts.blockSize - 4 ∧
    ∃ i, i < Facts.handlesPerBlock ∧ (offsets high low md).2 = i * Facts.handleSizeInBytes := by
  unfold offsets
  refine ⟨by simp, ?_, ?_, ⟨low % Facts.handlesPerBlock, Nat.mod_lt _ (by decide), rfl⟩⟩
  · have := Nat.mod_lt high hmd
    have : (high % md + 1) * Facts.blockSize ≤ md * Facts.blockSize := Nat.mul_le_mul_right _ this
    simp only [Nat.add_mul, Nat.one_mul] at this
    exact this
  · have := Nat.mod_lt low (show 0 < Facts.handlesPerBlock by decide)
    simp only [Facts.handlesPerBlock, Facts.handleSizeInBytes, Facts.blockSize] at *
    omega

theorem writeAt_length (blk rec : List Nat) (off : Nat) (h : off + rec.length ≤ blk.length) :
    (writeAt blk off rec).length = blk.length := by
  simp [writeAt]; omega

theorem writeAt_getElem?_of_lt (blk rec : List Nat) {off k : Nat} (hk : k < off) (ho : off ≤ blk.length) :
    (writeAt blk off rec)[k]? = blk[k]? := by
  unfold writeAt
  rw [List.append_assoc, List.getElem?_append_left (by rw [List.length_take]; omega), List.getElem?_take_of_lt hk]

theorem writeAt_getElem?_of_ge (blk rec : List Nat) {off k : Nat} (hk : off + rec.length ≤ k) (ho : off ≤ blk.length) :
    (writeAt blk off rec)[k]? = blk[k]? := by
  have hl : (blk.take off ++ rec).length = off + rec.length := by
    rw [List.length_append, List.length_take, Nat.min_eq_left ho]
  unfold writeAt
  rw [List.getElem?_append_right (by omega), hl, List.getElem?_drop]
  congr 1
  omega

theorem writeAt_reads_back (blk rec : List Nat) {off : Nat} (ho : off ≤ blk.length) :
    ((writeAt blk off rec).drop off).take rec.length = rec := by
  unfold writeAt
  rw [List.append_assoc, List.drop_left' (by rw [List.length_take, Nat.min_eq_left ho]), List.take_left' rfl]

/-- **frame**: writing slot `i` changes no byte outside slot `i` (so no other slot and not the checksum area) -/
theorem writeSlot_frame (blk rec : List Nat) (i k : Nat)
    (hr : rec.length = Facts.handleSizeInBytes)
    (hb : (i+1) * Facts.handleSizeInBytes ≤ blk.length)
    (hk : ¬ inSlot i k) :
    (writeAt blk (i * Facts.handleSizeInBytes) rec)[k]? = blk[k]? := by
  unfold inSlot at hk
  rw [Nat.add_mul, Nat.one_mul] at hb hk
  by_cases h1 : k < i * Facts.handleSizeInBytes
  · exact writeAt_getElem?_of_lt blk rec h1 (by omega)
  · exact writeAt_getElem?_of_ge blk rec (by omega) (by omega)

theorem writeSlot_reads_back (blk rec : List Nat) (i : Nat)
    (hr : rec.length = Facts.handleSizeInBytes)
    (hb : (i+1) * Facts.handleSizeInBytes ≤ blk.length) :
    ((writeAt blk (i * Facts.handleSizeInBytes) rec).drop (i * Facts.handleSizeInBytes)).take Facts.handleSizeInBytes = rec := by
  rw [Nat.add_mul, Nat.one_mul] at hb
  have h := writeAt_reads_back blk rec (off := i * Facts.handleSizeInBytes) (by omega)
  rwa [hr] at h

/-- non-vacuity: a concrete extreme handle meets `WF` -/
def sample : Handle :=
  { lid := List.replicate 16 255, idA := List.replicate 16 0, idB := List.replicate 16 171,
    activeB := true, version := -(2:Int)^31, wip := (2:Int)^63 - 1, deleted := true }

theorem sample_wf : sample.WF := by
  refine ⟨by decide, by decide, by decide, ?_, ?_, ?_, by decide, by decide⟩ <;>
  · intro b hb; simp [sample] at hb; omega

example : decode (encode sample) = some sample := decode_encode _ sample_wf

end Sop.C24
