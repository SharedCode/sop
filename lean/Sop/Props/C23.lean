import Sop.Lemmas.Crc32
import Sop.Lemmas.BlockCowSeq
/-! # C23 — corrupted registry data is reported, never served

The code VIOLATES the property at full strength (`C23_counterexample`): when the block's checksum fails and the
backup is absent, empty or unusable, `readAndRestoreBlock` returns `nil` and every caller goes on with the unverified
buffer (`C23_defect`). What holds for the code as it is: `C23_partial`, and after the writer's own crashes
`C23_writer_crash_verified`; the repaired reader `readAndRestoreFixed` satisfies the full statement
(`C23_reject_fixed`). The link from "corrupted" to "fails the checksum" is proved for one changed byte of a block that
passed, when neither the written nor the corrupted block is all zero (an all-zero block passes without a checksum,
`valid_zero`): in the data part for the concrete CRC-32 and bytes below 256 (`C23_data_byte_corruption_detected`), in the
trailer for any checksum (`C23_trailer_byte_corruption_detected`). A single-bit flip of a byte is such a change
(`flip_is_byte_change`); no theorem here combines it with the two. -/
namespace Sop.C23
open Sop.BlockCow Sop.Handle

/-- "reported, never served": the read fails, so does every operation that touches the block, and nothing on
disk changes -/
def Rejects (P : Params) (rd : Bool → Disk → Res × Disk) (d : Disk) : Prop :=
  (∀ rw, rd rw d = (.err, d)) ∧
  (∀ rw id, getOpW rd rw d id = (.err, d)) ∧
  (∀ h, setOpW P rd d h = (.err, d)) ∧
  (∀ h, addOpW P rd d h = (.err, d)) ∧
  (∀ id, rmOpW P rd d id = (.err, d))

/-- C23 at full strength, about the code as it is -/
def Statement_C23 : Prop :=
  ∀ (P : Params) (d : Disk), d.blk.length = P.n → valid P d.blk = false → usableCow P d.cow = false →
    Rejects P (readAndRestore P) d

/-- **The defect, exactly**: checksum fails and no usable backup → the unverified block is handed to the caller
as if it were good, and nothing is reported. -/
theorem C23_defect (P : Params) (rw : Bool) (d : Disk) (hl : d.blk.length = P.n)
    (hv : valid P d.blk = false) (hc : usableCow P d.cow = false) :
    readAndRestore P rw d = (.ok d.blk, d) :=
  read_defect rw hl hv hc

/-- a 5-byte toy block format: one data byte, checksum = data byte + 1 -/
def toy : Params := { n := 5, crc := fun d => d.headD 0 + 1 }

/-- **C23 is violated**: a block failing its checksum, with no backup file, is served. -/
theorem C23_counterexample : ¬ Statement_C23 := by
  intro h
  have h1 := (h toy ⟨[7, 9, 0, 0, 0], none⟩ rfl (by decide) (by decide)).1 true
  revert h1
  decide

/-- **What holds for the code as it is**: if the block is valid or a usable backup exists, the buffer handed to
the caller passed its checksum. -/
theorem C23_partial (P : Params) (rw : Bool) (d : Disk) (hl : d.blk.length = P.n)
    (h : valid P d.blk = true ∨ usableCow P d.cow = true) :
    ∃ buf, (readAndRestore P rw d).1 = .ok buf ∧ valid P buf = true ∧
      (buf = d.blk ∨ d.cow = some buf) := by
  rcases read_cases P rw d with ⟨hn, _⟩ | ⟨_, hv, e⟩ | ⟨b, _, _, hc, _, hvb, e⟩ | ⟨_, hv, hu, _⟩
  · exact absurd hl hn
  · exact ⟨d.blk, by rw [e], hv, .inl rfl⟩
  · exact ⟨b, by rw [e], hvb, .inr hc⟩
  · rcases h with h | h
    · exact nomatch hv.symm.trans h
    · exact nomatch hu.symm.trans h

/-- non-vacuity of `C23_partial`: an invalid block with a usable backup -/
example : valid toy [7, 9, 0, 0, 0] = false ∧ usableCow toy (some [1, 2, 0, 0, 0]) = true ∧
    readAndRestore toy true ⟨[7, 9, 0, 0, 0], some [1, 2, 0, 0, 0]⟩ = (.ok [1, 2, 0, 0, 0], ⟨[1, 2, 0, 0, 0], some [1, 2, 0, 0, 0]⟩) := by
  decide

/-! `crashDisk skipZero old new cp` (model) is what `writeBlockRegionPayload` leaves behind when the process dies at
`cp`. The code as it is has `skipZero = false`: the backup is written for EVERY pre-image, the all-zero one of a
never written block included. -/

def Verified (P : Params) (r : Res) : Prop := r = .err ∨ ∃ buf, r = .ok buf ∧ valid P buf = true

/-- "a writer that dies anywhere leaves nothing unverified to be served", for a variant of the writer -/
def Statement_C23_writer (skipZero : Bool) : Prop :=
  ∀ (P : Params) (old new : Block), old.length = P.n → valid P old = true → new.length = P.n →
    valid P new = true → ∀ (cp : CrashPoint) (rw : Bool),
      Verified P (readAndRestore P rw (crashDisk skipZero old new cp)).1

theorem verified_of_servable (P : Params) (rw : Bool) (d : Disk)
    (h : valid P d.blk = true ∨ usableCow P d.cow = true) : Verified P (readAndRestore P rw d).1 := by
  by_cases hl : d.blk.length = P.n
  · obtain ⟨buf, h1, h2, _⟩ := C23_partial P rw d hl h
    exact Or.inr ⟨buf, h1, h2⟩
  · exact .inl (by rw [read_short rw hl])

/-- whatever a dead writer leaves (`C22.Crash`: any prefix of the backup, any byte-wise mixture in the block), a reader is
handed a block that passed its checksum, or an error. No `Detects` here: a mixture that passes is served, one that fails
is restored from the backup of `old`. -/
theorem crash_verified (P : Params) (old new : Block) (hlo : old.length = P.n) (hvo : valid P old = true)
    (hvn : valid P new = true) (rw : Bool) {c : Disk} (hc : C22.Crash old new c) :
    Verified P (readAndRestore P rw c).1 := by
  cases hc with
  | before | cowPartial k => exact verified_of_servable P rw _ (.inl hvo)
  | after => exact verified_of_servable P rw _ (.inl hvn)
  | tornWrite t hm =>
    have h4 := valid_len hvo
    exact verified_of_servable P rw _ (.inr (by simp [usableCow, hlo, hvo]; omega))

/-- **C23 for the writer's own crashes, code as it is**: every crash point — before / inside the backup write (any
prefix), inside the block write (any prefix, any set of sectors), after it —, every pre-image (all-zero = never
written block included), read-write or read-only reader. -/
theorem C23_writer_crash_verified : Statement_C23_writer false := fun P old new hlo hvo hln hvn cp rw =>
  crash_verified P old new hlo hvo hvn rw (C22.crash_of_crashDisk old new (hln.trans hlo.symm) cp)

/-- an all-zero block of at least four bytes passes `unmarshalData` -/
theorem valid_zero (P : Params) (z : Block) (hz : isZero z = true) (h4 : 4 ≤ z.length) : valid P z = true := by
  unfold valid
  have : ¬ z.length < 4 := by omega
  simp [this, hz]

/-- **a torn FIRST write of a never written block is restored to the all-zero pre-image**: whenever the block the
dead writer left fails its checksum, the reader is handed the all-zero block (so no record of the never committed
write exists), and a read-write reader puts it back on disk. -/
theorem C23_torn_first_write_restored (P : Params) (z new : Block) (hz : isZero z = true) (hl : z.length = P.n)
    (h4 : 4 ≤ P.n) (hvn : valid P new = true) (cp : CrashPoint) (rw : Bool)
    (hlen : (crashDisk false z new cp).blk.length = P.n)
    (hbad : valid P (crashDisk false z new cp).blk = false) :
    (readAndRestore P rw (crashDisk false z new cp)).1 = .ok z ∧
    (rw = true → (readAndRestore P rw (crashDisk false z new cp)).2.blk = z) := by
  have hv : valid P z = true := valid_zero P z hz (by omega)
  cases cp with
  | before | cow k => simp [crashDisk] at hbad; rw [hv] at hbad; exact absurd hbad (by decide)
  | torn L | mask s bits =>
    rw [read_restore rw hlen hbad (b := z) rfl hl hv]
    cases rw
    · exact ⟨rfl, fun e => nomatch e⟩
    · exact ⟨rfl, fun _ => rfl⟩
  | after =>
    simp only [crashDisk] at hbad
    rw [hvn] at hbad; exact absurd hbad (by decide)

/-- the next writer merges its record into a buffer that passed its checksum (or fails) -/
theorem C23_next_writer_merges_verified (P : Params) (old new : Block) (hlo : old.length = P.n)
    (hvo : valid P old = true) (hln : new.length = P.n) (hvn : valid P new = true) (cp : CrashPoint)
    (off : Nat) (rec : List Nat) :
    (updateBlock P (crashDisk false old new cp) off rec).1 = .err ∨
    ∃ buf, valid P buf = true ∧
      updateBlock P (crashDisk false old new cp) off rec =
        (.ok (newImage P buf off rec), ⟨newImage P buf off rec, none⟩) := by
  have h := C23_writer_crash_verified P old new hlo hvo hln hvn cp true
  unfold updateBlock updateBlockW
  cases hr : readAndRestore P true (crashDisk false old new cp) with
  | mk r d' =>
    rw [hr] at h
    rcases h with e | ⟨buf, e, hv⟩ <;> simp only at e <;> subst e
    · exact .inl rfl
    · exact .inr ⟨buf, hv, rfl⟩

/-- **The variant that skips the backup of an all-zero pre-image violates it**: a never written toy block, first
write `[7, 8, 0, 0, 0]` torn after one byte: no backup, the reader is handed `[7, 0, 0, 0, 0]`, which fails its
checksum. -/
theorem C23_skip_zero_backup_counterexample : ¬ Statement_C23_writer true := by
  intro h
  have h1 := h toy [0, 0, 0, 0, 0] [7, 8, 0, 0, 0] rfl (by decide) rfl (by decide) (.torn 1) true
  have h2 : (readAndRestore toy true (crashDisk true [0, 0, 0, 0, 0] [7, 8, 0, 0, 0] (.torn 1))).1 =
      .ok [7, 0, 0, 0, 0] := by decide +kernel
  rw [h2] at h1
  rcases h1 with e | ⟨buf, e, hv⟩
  · exact absurd e (by decide)
  · injection e with e
    subst e
    exact absurd hv (by decide)

/-- non-vacuity: under the code's own discipline the same torn first write is restored to the all-zero block -/
example : readAndRestore toy true (crashDisk false [0, 0, 0, 0, 0] [7, 8, 0, 0, 0] (.torn 1)) =
    (.ok [0, 0, 0, 0, 0], ⟨[0, 0, 0, 0, 0], some [0, 0, 0, 0, 0]⟩) := by decide +kernel

/-- **C23 for the repaired reader** (error instead of the two `return nil`): lookups and updates on a block
that fails its checksum and has no usable backup fail, and neither the block nor the backup file changes. -/
theorem C23_reject_fixed (P : Params) (d : Disk) (hl : d.blk.length = P.n)
    (hv : valid P d.blk = false) (hc : usableCow P d.cow = false) :
    Rejects P (readAndRestoreFixed P) d := by
  have hr : ∀ rw, readAndRestoreFixed P rw d = (.err, d) := fun rw => by
    unfold readAndRestoreFixed
    rcases checkCow_unusable P d.cow hc with e | e <;> simp [hl, hv, e]
  refine ⟨hr, ?_, ?_, ?_, ?_⟩
  · intro rw id; simp [getOpW, hr, lookupRes]
  · intro h; simp [setOpW, hr]
  · intro h; simp [addOpW, hr]
  · intro id; simp [rmOpW, hr]

/-- and it still serves everything the present reader serves legitimately -/
theorem fixed_agrees_when_servable (P : Params) (rw : Bool) (d : Disk)
    (h : valid P d.blk = true ∨ usableCow P d.cow = true) :
    readAndRestoreFixed P rw d = readAndRestore P rw d := by
  unfold readAndRestoreFixed
  rcases read_cases P rw d with ⟨hl, e⟩ | ⟨hl, hv, e⟩ | ⟨b, hl, hv, hc, hlb, hvb, e⟩ | ⟨_, hv, hu, _⟩
  · rw [e, if_pos hl]
  · rw [e, if_neg (fun h => h hl), if_pos hv]
  · rw [e]; simp [hl, hv, hc, checkCow_valid P b hlb hvb, valid_ne_nil hvb]
  · rcases h with h | h
    · exact nomatch hv.symm.trans h
    · exact nomatch hu.symm.trans h

theorem ofLE_single_byte (pre suf : List Nat) (x y : Nat) (hxy : x ≠ y) :
    ofLE (pre ++ x :: suf) ≠ ofLE (pre ++ y :: suf) := by
  induction pre with
  | nil => simp only [List.nil_append, ofLE]; omega
  | cons a l ih => simp only [List.cons_append, ofLE]; omega

theorem valid_split (P : Params) (data tr : List Nat) (ht : tr.length = 4) :
    valid P (data ++ tr) = (isZero (data ++ tr) || (P.crc data == ofLE tr)) := by
  unfold valid
  have h1 : ¬ (data ++ tr).length < 4 := by simp [ht]
  have h2 : (data ++ tr).length - 4 = data.length := by simp [ht]
  rw [if_neg h1, h2, List.take_left' rfl, List.drop_left' rfl]

/-- one byte of the DATA part changed (any single-bit flip there is such a change): the stored checksum no longer
matches. `hnz`: the written block is a checksummed one (not the all-zero sparse block); `hnz'`: the corrupted
block is not all zero. -/
theorem C23_data_byte_corruption_detected (n : Nat) (pre suf tr : List Nat) (x y : Nat)
    (hpre : bytesOk pre) (hsuf : bytesOk suf) (hx : x < 256) (hy : y < 256) (hxy : x ≠ y) (ht : tr.length = 4)
    (hnz : isZero ((pre ++ x :: suf) ++ tr) = false) (hnz' : isZero ((pre ++ y :: suf) ++ tr) = false)
    (hv : valid ⟨n, crc32⟩ ((pre ++ x :: suf) ++ tr) = true) :
    valid ⟨n, crc32⟩ ((pre ++ y :: suf) ++ tr) = false := by
  rw [valid_split _ _ _ ht, hnz] at hv
  rw [valid_split _ _ _ ht, hnz']
  simp only [Bool.false_or, beq_iff_eq] at hv
  simp only [Bool.false_or, beq_eq_false_iff_ne, ne_eq]
  intro e
  exact crc32_single_byte pre suf x y hpre hsuf hx hy hxy (hv.trans e.symm)

theorem C23_trailer_byte_corruption_detected (P : Params) (data tpre tsuf : List Nat) (x y : Nat)
    (hxy : x ≠ y) (ht : (tpre ++ x :: tsuf).length = 4)
    (hnz : isZero (data ++ (tpre ++ x :: tsuf)) = false) (hnz' : isZero (data ++ (tpre ++ y :: tsuf)) = false)
    (hv : valid P (data ++ (tpre ++ x :: tsuf)) = true) :
    valid P (data ++ (tpre ++ y :: tsuf)) = false := by
  have ht' : (tpre ++ y :: tsuf).length = 4 := by simpa using ht
  rw [valid_split _ _ _ ht, hnz] at hv
  rw [valid_split _ _ _ ht', hnz']
  simp only [Bool.false_or, beq_iff_eq] at hv
  simp only [Bool.false_or, beq_eq_false_iff_ne, ne_eq]
  intro e
  exact ofLE_single_byte tpre tsuf x y hxy (hv.symm.trans e)

theorem flip_is_byte_change (x j : Nat) (hx : x < 256) (hj : j < 8) : x ^^^ 2 ^ j ≠ x ∧ x ^^^ 2 ^ j < 256 := by
  constructor
  · intro e
    have : x ^^^ 2 ^ j = x ^^^ 0 := by rw [Nat.xor_zero]; exact e
    have := xor_cancel_left _ _ _ this
    have hp : 0 < 2 ^ j := Nat.two_pow_pos j
    omega
  · have h2 : 2 ^ j < 2 ^ 8 := Nat.pow_lt_pow_right (by decide) hj
    exact Nat.xor_lt_two_pow (n := 8) hx h2

/-- non-vacuity: a concrete checksummed block under the real CRC-32 -/
example : valid ⟨8, crc32⟩ ([1, 2, 3, 4] ++ toLE 4 (crc32 [1, 2, 3, 4])) = true := by decide

end Sop.C23
