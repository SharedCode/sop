import Sop.Lemmas.BlockCowLock
/-! # C22 — registry block writes survive a crash as either the old or the new block

`old` is the block on disk before the write, `new` the image `writeBlockRegionPayload` puts there. The writer is
`createCow old; writeAt new; deleteCow` and may die anywhere, including inside `os.WriteFile` of the backup
(any prefix of `old`, possibly empty) and inside the block write (any byte-wise mixture of `old` and `new`: the
relation `Crash`; the crash points of the model, `crashDisk` with "the first `L` bytes" and "some sectors", are
instances, `crash_of_crashDisk`).

* a dead writer and readers that run one after the other: HOLDS (`C22_old_or_new`, `C22_sequential_readers`), under
  the explicit checksum-detection hypothesis `Detects`.
* a dead writer and three readers whose steps interleave: FAILS (`C22_interleaved_counterexample`; the C23
  fall-through is what lets the torn bytes out).
* any number of writers on the same block, lock and backup file as shared state, every interleaving, deaths anywhere,
  lock expiry: HOLDS when every writer enters at `updateFileBlockRegion` and the backup is deleted inside the critical
  section (`C22_writers_old_or_new`, `C22_later_writer_completes`); FAILS with the backup deleted after the unlock
  (`C22_late_delete_counterexample`) and with the registry's unlocked block check in front, the code as it is
  (`C22_unlocked_check_counterexample`).
 -/
namespace Sop.C22
open Sop.BlockCow

/-- **C22 for one reader after the writer's death**: it is handed the old block or the new block. -/
theorem C22_old_or_new (P : Params) (old new : Block)
    (hlo : old.length = P.n) (hln : new.length = P.n)
    (hold : valid P old = true) (hnew : valid P new = true) (hdet : Detects P old new)
    (rw : Bool) (c : Disk) (hc : Crash old new c) :
    (readAndRestore P rw c).1 = .ok old ∨ (readAndRestore P rw c).1 = .ok new :=
  (crash_stable hlo hdet hc).imp (fun hs => (stable_read hlo hold hs rw).1) (fun hs => (stable_read hln hnew hs rw).1)

/-- **C22 for any number of sequential readers** (read-write or read-only, in any order): all are handed the same
block, the old one or the new one. -/
theorem C22_sequential_readers (P : Params) (old new : Block)
    (hlo : old.length = P.n) (hln : new.length = P.n)
    (hold : valid P old = true) (hnew : valid P new = true) (hdet : Detects P old new)
    (c : Disk) (hc : Crash old new c) (rws : List Bool) :
    ∃ b, (b = old ∨ b = new) ∧ ∀ r ∈ readMany P rws c, r = .ok b := by
  rcases crash_stable hlo hdet hc with hs | hs
  · exact ⟨old, .inl rfl, readMany_stable hlo hold rws c hs⟩
  · exact ⟨new, .inr rfl, readMany_stable hln hnew rws c hs⟩

theorem rw_reader_serves_disk (P : Params) (d : Disk) (hl : d.blk.length = P.n) :
    (readAndRestore P true d).1 = .ok (readAndRestore P true d).2.blk := by
  rcases read_cases P true d with ⟨hn, _⟩ | ⟨_, _, e⟩ | ⟨b, _, _, _, _, _, e⟩ | ⟨_, _, _, e⟩
  · exact absurd hl hn
  · rw [e]
  · rw [e]; rfl
  · rw [e]

theorem C22_disk_after_rw_reader (P : Params) (old new : Block)
    (hlo : old.length = P.n) (hln : new.length = P.n)
    (hold : valid P old = true) (hnew : valid P new = true)
    (c : Disk) (hc : Crash old new c) :
    (readAndRestore P true c).1 = .ok (readAndRestore P true c).2.blk := by
  apply rw_reader_serves_disk
  cases hc with
  | before | cowPartial k => exact hlo
  | after => exact hln
  | tornWrite t hm => exact hm.1.trans hlo

theorem solo_reader_is_atomic (P : Params) (rw : Bool) (d : Disk) :
    let s1 := ({ rw := rw } : Reader).step P d
    let s2 := s1.1.step P s1.2
    let s3 := s2.1.step P s2.2
    s3.1.pc = .done ∧ s3.1.res = some (readAndRestore P rw d).1 ∧ s3.2 = (readAndRestore P rw d).2 := by
  rcases read_cases P rw d with ⟨hl, e⟩ | ⟨hl, hv, e⟩ | ⟨b, hl, hv, hc, hlb, hvb, e⟩ | ⟨hl, hv, hu, e⟩
  · rw [e]; simp [Reader.step, hl]
  · rw [e]; simp [Reader.step, hl, hv]
  · rw [e]
    cases rw
    · simp [Reader.step, hl, hv, hc, checkCow_valid P b hlb hvb, valid_ne_nil hvb]
    · simp [Reader.step, hl, hv, hc, checkCow_valid P b hlb hvb, valid_ne_nil hvb]
  · rw [e]
    rcases checkCow_unusable P d.cow hu with ec | ec
    · simp [Reader.step, hl, hv, ec]
    · simp [Reader.step, hl, hv, ec]

/-- C22 as stated ("… while other processes read the same block concurrently"): whatever the interleaving of
the readers' steps, every reader that has finished was handed the old or the new block. -/
def Statement_C22_concurrent : Prop :=
  ∀ (P : Params) (old new : Block), old.length = P.n → new.length = P.n →
    valid P old = true → valid P new = true → Detects P old new →
    ∀ c, Crash old new c → ∀ (k : Nat) (sched : List Nat),
      ∀ r ∈ (runSchedule P (List.replicate k ({} : Reader)) c sched).1,
        r.res = none ∨ r.res = some (.ok old) ∨ r.res = some (.ok new)

/-- a 5-byte toy block format: one data byte, checksum = data byte + 1 -/
def toy : Params := { n := 5, crc := fun d => d.headD 0 + 1 }
def toyOld : Block := [1, 2, 0, 0, 0]
def toyNew : Block := [2, 3, 0, 0, 0]

theorem toy_detects : Detects toy toyOld toyNew := by
  intro t ⟨hl, hb⟩
  match t, hl with
  | [a, b, c, d, e], _ =>
    -- `hb i` at the five positions; the last three bytes are 0 in both images
    have h0 : a = 1 ∨ a = 2 := (hb 0).imp Option.some.inj Option.some.inj
    have h1 : b = 2 ∨ b = 3 := (hb 1).imp Option.some.inj Option.some.inj
    obtain rfl : c = 0 := (hb 2).elim Option.some.inj Option.some.inj
    obtain rfl : d = 0 := (hb 3).elim Option.some.inj Option.some.inj
    obtain rfl : e = 0 := (hb 4).elim Option.some.inj Option.some.inj
    rcases h0 with rfl | rfl <;> rcases h1 with rfl | rfl <;> decide

/-- **The concurrent-reader form of C22 is false for this code.** Writer died after one byte of the block write;
reader 0 reads the torn block; reader 1 reads it, finds the backup, restores `old`; reader 2 reads `old`, finds it
valid and deletes the backup; reader 0 now finds no backup and returns the torn block `[2, 2, 0, 0, 0]`. -/
theorem C22_interleaved_counterexample : ¬ Statement_C22_concurrent := by
  intro h
  have h1 := h toy toyOld toyNew rfl rfl (by decide) (by decide) toy_detects
    ⟨torn toyOld toyNew 1, some toyOld⟩ (crash_torn toyOld toyNew rfl 1) 3 [0, 1, 1, 1, 2, 2, 0]
    { rw := true, pc := .done, buf := [2, 2, 0, 0, 0], res := some (.ok [2, 2, 0, 0, 0]) } (by decide)
  revert h1
  decide

/-- non-vacuity of the positive theorems' hypotheses: a torn toy block is repaired from the backup -/
example : (readAndRestore toy true ⟨torn toyOld toyNew 1, some toyOld⟩) = (.ok toyOld, ⟨toyOld, some toyOld⟩) := by decide

example : ∃ b, (b = toyOld ∨ b = toyNew) ∧
    ∀ r ∈ readMany toy [true, false, true] ⟨torn toyOld toyNew 1, some toyOld⟩, r = .ok b :=
  C22_sequential_readers toy toyOld toyNew rfl rfl (by decide) (by decide) toy_detects _ (crash_torn toyOld toyNew rfl 1) _

/-- **C22 for any number of writers that enter at `updateFileBlockRegion`, any interleaving of their lock / file
operations, any process deaths (also inside the backup write and between the two pieces of the block write, at any
cut), any lock expiries.** Whatever the schedule, there is a list `applied` of writers such that every later reader
(any number, read-write or read-only) is handed the initial block with exactly the updates of `applied` applied in
that order — or, while a writer holds the lock, possibly that plus the holder's update —, never a mixture; and
every acknowledged update (lock released after a complete write by a live writer) is in `applied`, in
acknowledgement order. The actors may start anywhere outside the critical section (`outside`) or be dead. -/
theorem C22_writers_old_or_new (P : Params) (G : Block → Prop) (O : Nat → List Nat → Prop) (hg : GoodSet P G O)
    (v0 : Block) (hv0 : G v0) (d0 : Disk) (hd0 : Stable P v0 d0) (as0 : Nat → Actor)
    (hpc : ∀ j, outside (as0 j).pc = true ∨ (as0 j).dead = true) (hops : ∀ j, O (as0 j).off (as0 j).rcd)
    (sched : List Ev) :
    ∃ (applied : List Nat) (v : Block),
      (ackLog P false ⟨⟨d0, none⟩, as0⟩ sched).Sublist applied ∧ G v ∧
      (v = applyAll P (fun j => ((as0 j).off, (as0 j).rcd)) v0 applied ∨
        ∃ i, (Sys.run P false ⟨⟨d0, none⟩, as0⟩ sched).sh.lock = some i ∧
          v = newImage P (applyAll P (fun j => ((as0 j).off, (as0 j).rcd)) v0 applied) (as0 i).off (as0 i).rcd) ∧
      ∀ rws, ∀ r ∈ readMany P rws (Sys.run P false ⟨⟨d0, none⟩, as0⟩ sched).sh.disk, r = .ok v := by
  obtain ⟨b', ext, h', hb', hsub, ho'⟩ := inv_run hg (fun j => ((as0 j).off, (as0 j).rcd)) v0 sched ⟨⟨d0, none⟩, as0⟩ v0 []
    ⟨hv0, hops, fun j _ => hpc j, fun _ => hd0, fun _ hi => nomatch hi⟩ (fun _ => ⟨rfl, rfl⟩) rfl
  obtain ⟨v, hgv, hv, hr⟩ := inv_view hg h'
  refine ⟨ext, v, hsub, hgv, ?_, hr⟩
  rcases hv with e | ⟨i, hl, e⟩
  · exact Or.inl (e.trans hb')
  · exact Or.inr ⟨i, hl, by rw [e, hb', (ho' i).1, (ho' i).2]; rfl⟩

/-- the lock of a dead holder does expire (`LockFileRegionDuration`; modelled as the event `expire`) -/
theorem dead_holder_expires (P : Params) (late : Bool) (s : Sys) (i : Nat) (hl : s.sh.lock = some i)
    (hd : (s.as i).dead = true) : (s.ev P late .expire).sh.lock = none := by
  simp [Sys.ev, hl, hd]

/-- **A later writer is not blocked.** After any such history, once the lock is free (released, or expired after
its holder's death), a live writer entering `updateFileBlockRegion` and running alone succeeds within 12 steps; the
block is then the version `v` every reader was handed before with this writer's update, no backup is left and the
lock is free again. -/
theorem C22_later_writer_completes (P : Params) (G : Block → Prop) (O : Nat → List Nat → Prop) (hg : GoodSet P G O)
    (v0 : Block) (hv0 : G v0) (d0 : Disk) (hd0 : Stable P v0 d0) (as0 : Nat → Actor)
    (hpc : ∀ j, outside (as0 j).pc = true ∨ (as0 j).dead = true) (hops : ∀ j, O (as0 j).off (as0 j).rcd)
    (sched : List Ev) (k : Nat)
    (hfree : (Sys.run P false ⟨⟨d0, none⟩, as0⟩ sched).sh.lock = none)
    (hk : ((Sys.run P false ⟨⟨d0, none⟩, as0⟩ sched).as k).pc = .lockPre)
    (hlive : ((Sys.run P false ⟨⟨d0, none⟩, as0⟩ sched).as k).dead = false) :
    ∃ v, G v ∧ (∀ rws, ∀ r ∈ readMany P rws (Sys.run P false ⟨⟨d0, none⟩, as0⟩ sched).sh.disk, r = .ok v) ∧
      ((Sys.run P false (Sys.run P false ⟨⟨d0, none⟩, as0⟩ sched) (List.replicate 12 (.step k))).as k).pc = .done ∧
      ((Sys.run P false (Sys.run P false ⟨⟨d0, none⟩, as0⟩ sched) (List.replicate 12 (.step k))).as k).res = some .ok ∧
      (Sys.run P false (Sys.run P false ⟨⟨d0, none⟩, as0⟩ sched) (List.replicate 12 (.step k))).sh =
        ⟨⟨newImage P v (as0 k).off (as0 k).rcd, none⟩, none⟩ := by
  obtain ⟨b', _, h', _, _, ho'⟩ := inv_run hg (fun j => ((as0 j).off, (as0 j).rcd)) v0 sched ⟨⟨d0, none⟩, as0⟩ v0 []
    ⟨hv0, hops, fun j _ => hpc j, fun _ => hd0, fun _ hi => nomatch hi⟩ (fun _ => ⟨rfl, rfl⟩) rfl
  have hs := h'.free hfree
  have hl := hg.len b' h'.good
  have hv := hg.val b' h'.good
  refine ⟨b', h'.good, fun rws => readMany_stable hl hv rws _ hs, ?_⟩
  obtain ⟨r1, r2⟩ := run_solo P k 12 (Sys.run P false ⟨⟨d0, none⟩, as0⟩ sched) hlive
  have hsh : ∀ sh : Shared, sh.lock = none → sh = ⟨sh.disk, none⟩ := by rintro ⟨d, l⟩ rfl; rfl
  rw [hsh _ hfree] at r1 r2
  obtain ⟨c1, c2, c3⟩ := solo_completes hg h'.good k _ _ (h'.ops k) hk hs
  rw [r2, r1, c3, (ho' k).1, (ho' k).2]
  exact ⟨c1, c2, rfl⟩

/-- the same as a statement about a variant of the writer (`late`: backup deleted after the unlock) and an entry
point (`entry = lockPre`: `updateFileBlockRegion`; `entry = aRead`: the registry call with its unlocked
`findOneFileRegion` block check in front), all writers alive at the start -/
def Statement_C22_writers (late : Bool) (entry : WPc) : Prop :=
  ∀ (P : Params) (G : Block → Prop) (O : Nat → List Nat → Prop), GoodSet P G O →
    ∀ (v0 : Block), G v0 → ∀ (as0 : Nat → Actor),
      (∀ j, (as0 j).pc = entry ∧ (as0 j).dead = false ∧ (as0 j).op = .raw (as0 j).off (as0 j).rcd ∧
        O (as0 j).off (as0 j).rcd) →
      ∀ (sched : List Ev), ∃ v, G v ∧
        ∀ rws, ∀ r ∈ readMany P rws (Sys.run P late ⟨⟨⟨v0, none⟩, none⟩, as0⟩ sched).sh.disk, r = .ok v

theorem C22_writers_statement_holds : Statement_C22_writers false .lockPre := by
  intro P G O hg v0 hv0 as0 h0 sched
  obtain ⟨_, v, _, hgv, _, hr⟩ := C22_writers_old_or_new P G O hg v0 hv0 ⟨v0, none⟩ (Or.inl rfl) as0
    (fun j => Or.inl (by rw [(h0 j).1]; rfl)) (fun j => (h0 j).2.2.2) sched
  exact ⟨v, hgv, hr⟩

def toyG (b : Block) : Prop := b = toyOld ∨ b = toyNew
def toyO (off : Nat) (rec : List Nat) : Prop := off = 0 ∧ (rec = [1] ∨ rec = [2])

theorem detects_self (P : Params) (b : Block) : Detects P b b := by
  intro t hm
  left
  apply List.ext_getElem?
  intro i
  rcases hm.2 i with e | e <;> exact e

theorem toy_good : GoodSet toy toyG toyO := by
  refine ⟨?_, ?_, ?_, ?_⟩
  · intro b hb; rcases hb with rfl | rfl <;> rfl
  · intro b hb; rcases hb with rfl | rfl <;> decide
  · intro b off rec hb ho
    obtain ⟨rfl, hr⟩ := ho
    rcases hb with rfl | rfl <;> rcases hr with rfl | rfl
    · exact Or.inl (by decide)
    · exact Or.inr (by decide)
    · exact Or.inl (by decide)
    · exact Or.inr (by decide)
  · intro b off rec hb ho
    obtain ⟨rfl, hr⟩ := ho
    rcases hb with rfl | rfl <;> rcases hr with rfl | rfl
    · have : newImage toy toyOld 0 [1] = toyOld := by decide
      rw [this]; exact detects_self _ _
    · have : newImage toy toyOld 0 [2] = toyNew := by decide
      rw [this]; exact toy_detects
    · have : newImage toy toyNew 0 [1] = toyOld := by decide
      rw [this]; exact detects_symm rfl toy_detects
    · have : newImage toy toyNew 0 [2] = toyNew := by decide
      rw [this]; exact detects_self _ _

/-- toy writers, one for every number: number 0 writes record `[2]`, every other one record `[1]`; block writes split after 1 byte -/
def toyActors (entry : WPc) : Nat → Actor := fun j =>
  if j = 0 then { op := .raw 0 [2], off := 0, rcd := [2], cut := 1, pc := entry }
  else { op := .raw 0 [1], off := 0, rcd := [1], cut := 1, pc := entry }

theorem toyActors_ok (entry : WPc) (j : Nat) :
    (toyActors entry j).pc = entry ∧ (toyActors entry j).dead = false ∧
    (toyActors entry j).op = .raw (toyActors entry j).off (toyActors entry j).rcd ∧
    toyO (toyActors entry j).off (toyActors entry j).rcd := by
  unfold toyActors
  by_cases hj : j = 0 <;> simp [hj, toyO]

/-- non-vacuity of `C22_writers_old_or_new`: writer 0 completes and is acknowledged, writer 1 dies between the two
pieces of its block write, its lock expires: every reader gets writer 0's block, restored from writer 1's backup -/
example :
    let sched := List.replicate 11 (Ev.step 0) ++ List.replicate 7 (Ev.step 1) ++ [Ev.kill 1, Ev.expire]
    let s := Sys.run toy false ⟨⟨⟨toyOld, none⟩, none⟩, toyActors .lockPre⟩ sched
    s.sh = ⟨⟨[1, 3, 0, 0, 0], some toyNew⟩, none⟩ ∧
    ackLog toy false ⟨⟨⟨toyOld, none⟩, none⟩, toyActors .lockPre⟩ sched = [0] ∧
    readMany toy [true, false] s.sh.disk = [.ok toyNew, .ok toyNew] := by
  decide +kernel

/-- **With the backup deleted after the unlock the statement fails.** Writer 0 writes, unlocks and is parked
before its `deleteCow`; writer 1 takes the lock, makes its backup, writes the first piece of its block and dies;
writer 0's late `deleteCow` removes writer 1's backup: the reader finds a torn block and nothing to restore it
from, and is handed `[1, 3, 0, 0, 0]` — neither version. -/
theorem C22_late_delete_counterexample : ¬ Statement_C22_writers true .lockPre := by
  intro h
  obtain ⟨v, hgv, hr⟩ := h toy toyG toyO toy_good toyOld (Or.inl rfl) (toyActors .lockPre) (toyActors_ok _)
    (List.replicate 10 (Ev.step 0) ++ List.replicate 7 (Ev.step 1) ++ [Ev.step 0, Ev.kill 1, Ev.expire])
  have h1 := hr [true] (.ok [1, 3, 0, 0, 0]) (by decide +kernel)
  injection h1 with h1
  subst h1
  rcases hgv with e | e <;> exact absurd e (by decide)

/-- **With the registry's unlocked block check in front (the code as it is) the statement fails too** (finding
C22-F2). Writer 0 has made its backup and is about to write; writer 1's `findOneFileRegion` reads the still valid
block and "cleans up" the backup (`readAndRestoreBlock`: valid block → `deleteCow`); writer 0 writes the first
piece and dies: torn block, no backup, the reader is handed `[2, 2, 0, 0, 0]`. -/
theorem C22_unlocked_check_counterexample : ¬ Statement_C22_writers false .aRead := by
  intro h
  obtain ⟨v, hgv, hr⟩ := h toy toyG toyO toy_good toyOld (Or.inl rfl) (toyActors .aRead) (toyActors_ok _)
    (List.replicate 8 (Ev.step 0) ++ [Ev.step 1, Ev.step 1, Ev.step 0, Ev.kill 0, Ev.expire])
  have h1 := hr [true] (.ok [2, 2, 0, 0, 0]) (by decide +kernel)
  injection h1 with h1
  subst h1
  rcases hgv with e | e <;> exact absurd e (by decide)

end Sop.C22
