import Sop.Lemmas.Merge
/-!
# C06 — a store's item count always equals the number of items it contains

Composition over the commit-loop model `Sop.Merge` (see `DESIGN.md` §6 C06):

* `delta_eq`: a transaction's count delta `Count − count-at-fetch` equals |adds| − |removes| of the
  changes in its local tree, at `Commit` and after every refetch-and-merge (both counters are reset to
  the stored count before the replay);
* installing valid changes moves the number of items by exactly that delta (`applyAll_length`);
* a failed commit leaves count and items alone, a failure after `beforeFinalize` applies the delta and
  its exact reverse (`late`); the only exception is the `count` fault (`StoreRepository.Update`
  reports an error after applying the delta), which is `C06_counterexample_count_kept`.

The invariant is `Inv'` (`Inv s` = `Inv'` of the three components of `s` it reads), kept by `begin_inv` and `step_inv`
(through `commitPhase_inv`, `refetch_inv`) along `runEv_inv`.

Premise of `C06`: every install writes changes that are valid for the store at that moment (`InstallsValid`; this is
what page validation plus the B-tree give, C02/C17) and no `count` fault is injected.
-/
namespace Sop.C06
open Sop.Merge

inductive Ev where
  | begin (i : Nat) (trs : List Tr) (adv : List (Nat × PAct)) (fault : Fault) (abort : Bool)
  | step (i : Nat) (adv : List (Nat × PAct))

def applyEv (fixed : Bool) (s : State) : Ev → State
  | .begin i trs adv f ab => Merge.begin s i trs adv f ab
  | .step i adv => Merge.step fixed s i adv

def runEv (fixed : Bool) : State → List Ev → State
  | s, [] => s
  | s, e :: rest => runEv fixed (applyEv fixed s e) rest

def InstallOK (db : DB) (ts : List Tr) : Prop :=
  (ts.map (·.key)).Nodup ∧ ∀ t ∈ ts, valid db t = true

/-- this step of writer `i` validates and writes the writer's changes -/
def willInstall (s : State) (i : Nat) : Bool :=
  let w := s.ws i
  match w.pc with
  | .atHold => !w.needsRefetch && validate s w.pages && effectiveFault w == .none
  | .atDual => canLock s.pageLocks i w.nodeKeys && validate s w.pages && effectiveFault w == .none
  | _ => false

def evOK (s : State) : Ev → Prop
  | .begin _ _ _ f _ => f ≠ .count
  | .step i _ => willInstall s i = true → InstallOK s.db (s.ws i).pending

def InstallsValid (fixed : Bool) : State → List Ev → Prop
  | _, [] => True
  | s, e :: rest => evOK s e ∧ InstallsValid fixed (applyEv fixed s e) rest

instance (db : DB) (ts : List Tr) : Decidable (InstallOK db ts) := by unfold InstallOK; exact inferInstance

instance (s : State) (e : Ev) : Decidable (evOK s e) := by
  cases e <;> simp only [evOK] <;> exact inferInstance

instance decInstallsValid (fixed : Bool) : (s : State) → (es : List Ev) → Decidable (InstallsValid fixed s es)
  | _, [] => isTrue trivial
  | s, e :: rest =>
    have := decInstallsValid fixed (applyEv fixed s e) rest
    by unfold InstallsValid; exact inferInstance

/-- stated over the three components it reads, so that it transfers to states that differ in locks only -/
structure Inv' (db : DB) (count : Int) (ws : Nat → Writer) : Prop where
  count_eq : count = db.length
  delta : ∀ i, (ws i).count - (ws i).count0 = net (ws i).pending
  nofault : ∀ i, (ws i).fault ≠ .count

def Inv (s : State) : Prop := Inv' s.db s.count s.ws

section
variable {fixed : Bool} {s : State} {i : Nat} {w : Writer}

theorem inv_update {db : DB} {c : Int} {ws : Nat → Writer} (h : Inv' db c ws) (i : Nat) (w : Writer)
    (hd : w.count - w.count0 = net w.pending) (hf : w.fault ≠ .count) :
    Inv' db c (fun j => if j = i then w else ws j) :=
  ⟨h.count_eq, forall_setW (P := fun _ x => x.count - x.count0 = net x.pending) ws w hd fun j _ => h.delta j,
   forall_setW (P := fun _ x => x.fault ≠ .count) ws w hf fun j _ => h.nofault j⟩

theorem delta_reset (c n : Int) : c + n - c = n := by omega

theorem net_lockSet : ∀ (ts : List Tr) (ls : List LockRec), net (lockSet ls ts).2 = net ts
  | [], _ => rfl
  | t :: r, ls => by
    by_cases h : t.act = .add ∨ (lockFind ls t.key).isSome
    · rw [lockSet_cons_skip h, net, net, net_lockSet r ls]
    · rw [lockSet_cons_new h, net, net, net_lockSet r _]; rfl

theorem net_lockTracked {ls ls' : List LockRec} {ts ts' : List Tr} (h : lockTracked ls ts = some (ls', ts')) :
    net ts' = net ts := by
  unfold lockTracked at h
  obtain ⟨_, h⟩ := Option.ite_none_left_eq_some.mp h
  rw [← (Prod.mk.inj (Option.some.inj h)).2]; exact net_lockSet ts ls

theorem finish_inv {r : Res} (h : Inv' s.db s.count s.ws)
    (hd : w.count - w.count0 = net w.pending) (hf : w.fault ≠ .count) : Inv (finish s i w r) :=
  inv_update h i _ hd hf

theorem begin_inv (h : Inv s) (i : Nat) (trs : List Tr) (adv : List (Nat × PAct)) (f : Fault) (ab : Bool)
    (hf : f ≠ .count) : Inv (Merge.begin s i trs adv f ab) := by
  unfold Merge.begin; simp only
  refine ite_ind Inv (fun _ => inv_update h i _ (delta_reset _ _) hf) fun _ => ?_
  refine ite_ind Inv (fun _ => inv_update h i _ (delta_reset _ _) hf) fun _ => ?_
  split
  · exact finish_inv h (delta_reset _ _) hf
  · rename_i heq
    exact inv_update h i _ ((delta_reset _ _).trans (net_lockTracked heq).symm) hf

theorem effectiveFault_count (h : w.fault ≠ .count) : effectiveFault w ≠ .count :=
  (effectiveFault_eq w).elim (fun e => e ▸ nofun) fun e => e ▸ h

theorem commitPhase_inv (h : Inv' s.db s.count s.ws)
    (hd : w.count - w.count0 = net w.pending) (hf : w.fault ≠ .count)
    (hok : validate s w.pages = true → effectiveFault w = .none → InstallOK s.db w.pending) :
    Inv (commitPhase s i w) := by
  unfold commitPhase; simp only
  refine ite_ind Inv (fun hval => ?_) fun _ => ?_
  · have hef : effectiveFault { w with passes := w.passes + 1 } = effectiveFault w := rfl
    rw [hef]
    cases hfa : effectiveFault w with
    | none =>
      have ok := hok hval hfa
      refine inv_update ⟨?_, h.delta, h.nofault⟩ i _ hd hf
      show s.count + (w.count - w.count0) = ((applyAll s.db w.pending).length : Int)
      rw [applyAll_length ok.1 ok.2, hd, h.count_eq]
    | clean => exact finish_inv h hd hf
    | count => exact absurd hfa (effectiveFault_count hf)
    | late =>
      refine inv_update ⟨?_, h.delta, h.nofault⟩ i _ hd hf
      show s.count + (w.count - w.count0) + (w.count0 - w.count) = (s.db.length : Int)
      rw [h.count_eq]; omega
  · exact ite_ind Inv (fun _ => finish_inv h hd hf) fun _ => inv_update h i _ hd hf

theorem refetch_inv {adv : List (Nat × PAct)}
    (h : Inv' s.db s.count s.ws) (hd : w.count - w.count0 = net w.pending) (hf : w.fault ≠ .count) :
    Inv (refetch fixed s i w adv) := by
  unfold refetch
  split
  · exact finish_inv h hd hf
  · simp only
    split
    · exact finish_inv (s := { s with nextLock := _ }) h (delta_reset _ _) hf
    · exact inv_update h i _ (delta_reset _ _) hf

theorem step_inv (h : Inv s) (i : Nat) (adv : List (Nat × PAct))
    (hok : willInstall s i = true → InstallOK s.db (s.ws i).pending) : Inv (Merge.step fixed s i adv) := by
  have hd := h.delta i
  have hf := h.nofault i
  unfold willInstall at hok
  unfold Merge.step; simp only at hok ⊢
  cases hpc : (s.ws i).pc with
  | done r => exact h
  | atLock => exact ite_ind Inv (fun _ => inv_update h i _ hd hf) fun _ => inv_update h i _ hd hf
  | atHold =>
    rw [hpc] at hok
    refine ite_ind Inv (fun _ => refetch_inv h hd hf) fun hnr => commitPhase_inv h hd hf fun hv he => hok ?_
    simp [hnr, hv, he]
  | atDual =>
    rw [hpc] at hok
    refine ite_ind Inv (fun hcl => ?_) fun _ => inv_update h i _ hd hf
    refine commitPhase_inv (s := { s with pageLocks := _ }) h hd hf fun hv he => hok ?_
    have hv' : validate s (s.ws i).pages = true := hv
    simp [hcl, hv', he]

theorem applyEv_inv (h : Inv s) (e : Ev) (hok : evOK s e) : Inv (applyEv fixed s e) := by
  cases e with
  | begin i trs adv f ab => exact begin_inv h i trs adv f ab hok
  | step i adv => exact step_inv h i adv hok

theorem runEv_inv : ∀ (es : List Ev) {s : State}, Inv s → InstallsValid fixed s es → Inv (runEv fixed s es) := by
  intro es
  induction es with
  | nil => intro s h _; exact h
  | cons e rest ih =>
    intro s h hv
    exact ih (applyEv_inv h e hv.1) hv.2

end

def initial (db : DB) : State := { db := db, count := db.length }

theorem initial_inv (db : DB) : Inv (initial db) :=
  ⟨rfl, fun _ => by simp [initial, net], fun _ => by simp [initial]⟩

/-- C06: after any history of `begin` and `step` events (any number of writers beginning at any time, any interleaving of their
commit steps, conflicts, refetch-and-merge rounds, item-lock failures, retry exhaustion, aborts,
injected `clean`/`late` failures), with the pinned or the repaired merge, the count a new transaction
reads from the store repository equals the number of items in the store. The first-root race (`rootFinish`) is not an
event: `C06_counterexample_first_root`. -/
theorem C06 (fixed : Bool) (db : DB) (es : List Ev) (hv : InstallsValid fixed (initial db) es) :
    (runEv fixed (initial db) es).count = ((runEv fixed (initial db) es).db.length : Int) :=
  (runEv_inv es (initial_inv db) hv).count_eq

theorem delta_eq (fixed : Bool) (db : DB) (es : List Ev) (hv : InstallsValid fixed (initial db) es) (i : Nat) :
    let w := (runEv fixed (initial db) es).ws i
    w.count - w.count0 = net w.pending :=
  (runEv_inv es (initial_inv db) hv).delta i

def it (k v : Nat) : Item := ⟨k, v, 0, k⟩
def db0 : DB := [it 10 10, it 20 20]
def addTr (k : Nat) : Tr := { key := k, act := .add, val := k, id := 100 + k }
def rmTr (k : Nat) : Tr := { key := k, act := .rm, id := k }

/-- writer 0 adds 1 and removes 10, writer 1 adds 2 on the same page; 1 installs first, 0 conflicts,
refetches, merges and installs -/
def hist : List Ev :=
  [.begin 0 [addTr 1, rmTr 10] [(1, .upd)] .none false, .begin 1 [addTr 2] [(1, .upd)] .none false,
   .step 1 [], .step 1 [], .step 0 [], .step 0 [], .step 0 [], .step 0 [(1, .upd)], .step 0 []]

example : InstallsValid true (initial db0) hist := by decide +kernel
example : ((runEv true (initial db0) hist).ws 0).pc = .done .ok ∧ ((runEv true (initial db0) hist).ws 0).passes = 2
    ∧ (runEv true (initial db0) hist).count = 3 ∧ (runEv true (initial db0) hist).db.length = 3 := by decide +kernel

def InstallsValidAnyFault (fixed : Bool) : State → List Ev → Prop
  | _, [] => True
  | s, e :: rest =>
    (match e with
      | .begin .. => True
      | .step i _ => willInstall s i = true → InstallOK s.db (s.ws i).pending) ∧
    InstallsValidAnyFault fixed (applyEv fixed s e) rest

instance decAnyFault (fixed : Bool) : (s : State) → (es : List Ev) → Decidable (InstallsValidAnyFault fixed s es)
  | _, [] => isTrue trivial
  | s, e :: rest =>
    have := decAnyFault fixed (applyEv fixed s e) rest
    by
      unfold InstallsValidAnyFault
      cases e <;> exact inferInstance

/-- no restriction on the injected failures -/
def Statement_C06 : Prop :=
  ∀ (fixed : Bool) (db : DB) (es : List Ev), InstallsValidAnyFault fixed (initial db) es →
    (runEv fixed (initial db) es).count = ((runEv fixed (initial db) es).db.length : Int)

/-- `StoreRepository.Update` applies the delta and then reports an error: the commit fails, `rollback`
(log still at `commitStoreInfo`) restores the nodes but not the count -/
def histCount : List Ev := [.begin 0 [addTr 1, addTr 2] [(1, .upd)] .count false, .step 0 [], .step 0 []]

theorem C06_counterexample_count_kept :
    ((runEv true (initial db0) histCount).ws 0).pc = .done .errInjected ∧
    (runEv true (initial db0) histCount).count = 4 ∧ (runEv true (initial db0) histCount).db.length = 2 := by decide +kernel

/-- false for the code as it is, and the repair of the merge does not change that -/
theorem C06_counterexample : ¬ Statement_C06 := by
  intro h
  have := h true db0 histCount (by decide +kernel)
  revert this
  decide +kernel

/-- the same fault on an EMPTIED store: count 2 and no item at all. (Before repo commit c348069d this was the state
in which a new transaction's `Find` indexed the empty root node's slot array at -1 and panicked:
finding C06-F3, fixed; the directed case `count-kept-empty-root` replays it.) -/
theorem C06_counterexample_count_kept_empty_root :
    ((runEv true (initial []) histCount).ws 0).pc = .done .errInjected ∧
    (runEv true (initial []) histCount).count = 2 ∧ (runEv true (initial []) histCount).db = [] := by decide +kernel

/-- first-root race: the store ends with the winner's count and the loser's uncommitted item -/
theorem C06_counterexample_first_root :
    let s0 : State := initial []
    let s1 := Merge.begin s0 0 [addTr 1, addTr 2] [(1, .root)] .none false
    let s2 := Merge.begin s1 1 [addTr 7] [(1, .root)] .none false
    let s3 := rootFinish s2 0
    let s4 := rootFinish s3 1
    (s4.ws 0).pc = .done .ok ∧ (s4.ws 1).pc = .done .errTimeout ∧ s4.count = 2 ∧ s4.db.map (·.key) = [7] := by decide +kernel

end Sop.C06
