import Sop.Lemmas.CommitPhase1
import Sop.Lemmas.CommitFlip
import Sop.Lemmas.CommitPreSound
/-!
# C03 — uncommitted and rolled-back writes are never visible to other transactions

On Model P a reader's view of a node is `State.view` (registry first, then the blob under the ACTIVE id), and of a
store's size `State.cnt`. The writer can be stopped right before ANY of its backend calls (`Run.stopAt`); the
harness parks the real writer at the same points and lets a real reader look.

Proved: at every stop point of phase 1, at the end of phase 1 (the gap in which external two-phase participants
work) and at every stop point of a following `Rollback`, every node that existed before reads exactly as before —
for every write set, start state (under the id-freshness premises) and every fault.
Proved too (`C03_phase2_all_or_nothing`): during phase 2 — stopped before any of its calls, under any fault — a reader
sees either every node as before or every updated node at its new version; never a mixture.
Refuted (the full statement is false for the code as it is): the store COUNT is updated in phase 1, and a brand-new
root (first item of an empty store) is registered in phase 1; both are visible in the gap and vanish on Rollback.
-/
namespace Sop.C03
open Sop.Commit

/-- the shared state when a (partial) run ends, however it ends -/
def endS (x : Except Run (Unit × Run)) : State := match x with | .ok (_, r) => r.s | .error r => r.s

/-- full-strength statement on the model: when phase 1 has ended (commit point not reached) a reader sees
every node and every count exactly as before the transaction -/
def Statement_C03_gap : Prop :=
  ∀ (s : State) (w : WS) (fresh : List (UUID × UUID)) (tid : Tid),
    (∀ lid, (endS (phase1 w 30 { s := s, tid := tid, fresh := fresh })).view lid = s.view lid) ∧
    (∀ st, (endS (phase1 w 30 { s := s, tid := tid, fresh := fresh })).cnt st = s.cnt st)

/-- **No dirty read of an existing node, at any point of phase 1.** The run may start with any bookkeeping, any
fault and ANY stop point: whether `phase1` finishes, raises at a failing call, or is halted right before its k-th
call of any class, every node loadable at the start shows the same blob id and version. -/
theorem C03_nodes_unchanged_at_every_call {s0 : State} {w : WS} {fresh0 : List (UUID × UUID)} (pre : Pre s0 w fresh0)
    (r0 : Run) (hs : r0.s = s0) (hf : r0.fresh = fresh0) (n : Nat) :
    match phase1 w n r0 with
    | .ok (_, r) => ∀ lid, (s0.view lid).isSome → r.s.view lid = s0.view lid
    | .error r => ∀ lid, (s0.view lid).isSome → r.s.view lid = s0.view lid := by
  have h := pres_phase1 pre n r0 (.init pre hs hf)
  cases hr : phase1 w n r0 with
  | error r => rw [hr] at h; exact h.sinv.stable
  | ok p => obtain ⟨a, r⟩ := p; rw [hr] at h; exact h.sinv.stable

/-- **…and none during or after a Rollback that follows phase 1** (the sequence external participants cause):
from the end of phase 1, the live rollback — stopped anywhere, with any fault — keeps every such node's view. -/
theorem C03_nodes_unchanged_through_rollback {s0 : State} {w : WS} {fresh0 : List (UUID × UUID)} (pre : Pre s0 w fresh0)
    (r0 : Run) (hs : r0.s = s0) (hf : r0.fresh = fresh0) (n : Nat) (r1 : Run) (u : Unit)
    (h1 : phase1 w n r0 = .ok (u, r1)) (stop : Option (Cls × Nat)) (fault : Option Fault) (values : Bool) :
    match rollback w values { r1 with stopAt := stop, fault := fault } with
    | .ok (_, r) => ∀ lid, (s0.view lid).isSome → r.s.view lid = s0.view lid
    | .error r => ∀ lid, (s0.view lid).isSome → r.s.view lid = s0.view lid := by
  have h := (pres_phase1 pre n).of_ok (.init pre hs hf) h1
  have h2 := pres_rollback pre values { r1 with stopAt := stop, fault := fault } ⟨h.1, h.2⟩
  cases hr : rollback w values { r1 with stopAt := stop, fault := fault } with
  | error r => rw [hr] at h2; exact h2.sinv.stable
  | ok p => obtain ⟨a, r⟩ := p; rw [hr] at h2; exact h2.sinv.stable

/-- **During phase 2 a reader sees all of the commit or none of it.** From the end of a successful phase 1, let
phase 2 run with any fault and be stopped right before ANY of its calls (or run to its end): the state a reader
finds is either the old one — every node that existed before exactly as before — or the new one — every node the
transaction updated at its new blob and version + 1, every node it did not touch as before. Never a mixture. -/
theorem C03_phase2_all_or_nothing {s0 : State} {w : WS} {fresh0 : List (UUID × UUID)} (pre : Pre s0 w fresh0)
    (pre2 : Pre2 s0 w fresh0) {cs0 : Step} (tid : Tid) (f1 : Option Fault) (n : Nat) (r1 : Run) (u : Unit)
    (h1 : phase1 w n { s := s0, tid := tid, fault := f1, fresh := fresh0, cs := cs0 } = .ok (u, r1))
    (stop : Option (Cls × Nat)) (fault : Option Fault) :
    let seesOld (r : Run) := ∀ lid, (s0.view lid).isSome → r.s.view lid = s0.view lid
    let seesNew (r : Run) :=
      (∀ h ∈ r1.reserved, h.inactive ≠ 0 → r.s.view h.lid = some (h.inactive, h.version + 1)) ∧
      (∀ lid, (s0.view lid).isSome → (∀ h ∈ r1.reserved, h.lid ≠ lid) → (∀ g ∈ r1.removedH, g.lid ≠ lid) →
        r.s.view lid = s0.view lid)
    match phase2 w { r1 with stopAt := stop, fault := fault } with
    | .ok (_, r) => seesNew r
    | .error r => seesOld r ∨ seesNew r := by
  intro seesOld seesNew
  have hj0 : Unstaged s0 w fresh0 { s := s0, tid := tid, fault := f1, fresh := fresh0, cs := cs0 } :=
    (.init pre rfl rfl rfl rfl)
  have hst := staged_phase1 pre pre2 n _ hj0
  rw [h1] at hst
  have hst' : Staged s0 w fresh0 { r1 with stopAt := stop, fault := fault } :=
    Frame.frame r1 _ hst.1 rfl rfl rfl rfl rfl
  have h2 := phase2_atomic pre pre2 (hst.1.lists pre2) { r1 with stopAt := stop, fault := fault } ⟨hst', rfl, rfl⟩
  cases hp : phase2 w { r1 with stopAt := stop, fault := fault } with
  | ok q =>
    obtain ⟨u', r⟩ := q
    rw [hp] at h2
    exact ⟨fun h hm hz => h2.view_new hm hz, h2.old⟩
  | error r =>
    rw [hp] at h2
    rcases h2 with a | b
    · exact .inl a.rinv.sinv.stable
    · exact .inr ⟨fun h hm hz => b.view_new hm hz, b.old⟩

theorem C03_premises_satisfiable : Pre Witness.s0 Witness.wSplit [(1, 9)] := Witness.pre_wSplit

/-- **F1: the count is visible before the commit point**: after phase 1 of the witness writer (count 5, delta +1)
the stored count is already 6 -/
theorem C03_counterexample_count :
    (endS (phase1 Witness.wUpd 30 { s := Witness.s0, tid := 1, fresh := [(1, 9)] })).cnt 0 = 6 := by decide +kernel

/-- **F2: a brand-new root is visible before the commit point**: the first item of an empty store registers the
root handle and writes its blob in phase 1 (`commitNewRootNodes`); a reader finds it in the gap -/
theorem C03_counterexample_new_root :
    (endS (phase1 Witness.wRoot 30 { s := Witness.sEmpty, tid := 1, fresh := [] })).view 3 = some (3, 0) := by
  decide +kernel

theorem C03_counterexample : ¬ Statement_C03_gap := by
  intro h
  have h1 := (h Witness.s0 Witness.wUpd [(1, 9)] 1).2 0
  rw [C03_counterexample_count] at h1
  have e3 : Witness.s0.cnt 0 = 5 := by decide +kernel
  rw [e3] at h1
  exact absurd h1 (by decide)

end Sop.C03
