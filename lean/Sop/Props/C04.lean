import Sop.Lemmas.MergeDisjoint
import Sop.Gen.FactsMerge
/-!
# C04 — concurrent transactions with disjoint changes to one store all commit

Model: `Sop.Merge` (the phase-1 commit loop at the logical level, page partition chosen by an
adversary).  `fixed = false` is the pinned tree (before repo commits dcc2da0c and bcf67b37), `fixed = true` the
tree after `proposed_fixes/C04-refetch-keeps-tracker.diff`.
-/
namespace Sop.C04
open Sop.Merge

def it (k : Nat) : Item := ⟨k, k, 0, k⟩
def addTr (k : Nat) : Tr := { key := k, act := .add, val := k, id := 100 + k, lockId := k }

/-- three writers add keys 1, 2, 3 into the same leaf (page 1) of a store holding 10 and 20 -/
def start3 : State :=
  let s0 : State := { db := [it 10, it 20], count := 2 }
  let s1 := Merge.begin s0 0 [addTr 1] [(1, .upd)] .none false
  let s2 := Merge.begin s1 1 [addTr 2] [(1, .upd)] .none false
  Merge.begin s2 2 [addTr 3] [(1, .upd)] .none false

/-- B commits; A conflicts, refetches and stands before `DualLock`; C (conflicting with B, one round)
commits; A conflicts a second time, refetches again, and commits -/
def twoRounds : List (Nat × List (Nat × PAct)) :=
  [(1, []), (1, []), (0, []), (0, []), (0, []), (0, [(1, .upd)]),
   (2, []), (2, []), (2, []), (2, [(1, .upd)]), (2, []),
   (0, []), (0, []), (0, [(1, .upd)]), (0, [])]

/-- Pinned tree: After two conflict rounds in one commit loop writer A's `Commit` returns nil,
its key is not in the store: the first refetch-and-merge dropped the add from the item tracker, the
second replayed nothing. -/
theorem C04_counterexample :
    let s := run false start3 twoRounds
    (s.ws 0).pc = .done .ok ∧ (s.ws 1).pc = .done .ok ∧ (s.ws 2).pc = .done .ok ∧
    (s.ws 0).passes = 3 ∧ find s.db 1 = none ∧ s.db.length = 4 ∧ s.count = 4 := by decide +kernel

theorem C04_two_rounds_repaired :
    let s := run true start3 twoRounds
    (s.ws 0).pc = .done .ok ∧ (s.ws 1).pc = .done .ok ∧ (s.ws 2).pc = .done .ok ∧
    (s.ws 0).passes = 3 ∧ (find s.db 1).map (·.val) = some 1 ∧ (find s.db 2).map (·.val) = some 2 ∧
    (find s.db 3).map (·.val) = some 3 ∧ s.db.length = 5 ∧ s.count = 5 := by decide +kernel

/-- writer A removes 10 and updates 20, writer B adds 2; B holds the node lock when A first asks -/
def start2 : State :=
  let s0 : State := { db := [it 10, it 20, it 30, it 40], count := 4 }
  let s1 := Merge.begin s0 1 [addTr 2] [(1, .upd)] .none false
  Merge.begin s1 0 [{ key := 10, act := .rm, id := 10, lockId := 91 }, { key := 20, act := .upd, val := 99, id := 20, lockId := 92 }] [(1, .upd)] .none false

def refused : List (Nat × List (Nat × PAct)) :=
  [(1, []), (0, []), (1, []), (0, []), (0, [(1, .upd)]), (0, [])]

/-- Pinned tree: A writer (remove, update) whose node lock was refused once fails its commit on
its OWN item lock records: the replay registered its items under fresh lock ids. -/
theorem C04_counterexample_self_lock :
    let s := run false start2 refused
    (s.ws 1).pc = .done .ok ∧ (s.ws 0).pc = .done .errItemLock ∧ (find s.db 10).isSome := by decide +kernel

theorem C04_refused_lock_repaired :
    let s := run true start2 refused
    (s.ws 1).pc = .done .ok ∧ (s.ws 0).pc = .done .ok ∧ find s.db 10 = none ∧
    (find s.db 20).map (·.val) = some 99 ∧ (find s.db 2).map (·.val) = some 2 ∧ s.count = 4 ∧ s.db.length = 4 := by decide +kernel

/-- First-root race (both trees): two writers create the first root of an empty store; the one
that registers second fails, and the root blob on disk is the loser's. -/
theorem C04_counterexample_first_root :
    let s0 : State := {}
    let s1 := Merge.begin s0 0 [addTr 1, addTr 2] [(1, .root)] .none false
    let s2 := Merge.begin s1 1 [addTr 7] [(1, .root)] .none false
    let s4 := rootFinish (rootFinish s2 0) 1
    (s4.ws 0).pc = .done .ok ∧ (s4.ws 1).pc = .done .errTimeout ∧ s4.db.map (·.key) = [7] := by decide +kernel

/-- "valid for the refetched store" is what pairwise disjoint writers guarantee (`valid_after_foreign_install`); the
replay then never hits the "duplicate key" / "not found" / "newer version" exits. -/
theorem merge_never_exits {db : DB} {n : Nat} {ts : List Tr} (hn : (ts.map (·.key)).Nodup)
    (hv : ∀ t ∈ ts, valid db t = true) :
    ∃ r, replay true db n ts = some r ∧ r.pending = ts.map restamp ∧ r.tracked = ts.map restamp ∧
      net r.pending = net ts :=
  let ⟨r, h, hp, ht, _⟩ := replay_ok (n := n) hn hv
  ⟨r, h, hp, ht, replay_net h⟩

theorem valid_after_foreign_install {db : DB} {ts : List Tr} {t : Tr} (hk : t.key ∉ ts.map (·.key)) :
    valid (applyAll db ts) t = valid db t :=
  valid_congr (find_applyAll_ne hk)

/-! `Setting.OK` is the property's premise, as decidable conditions on the input: each writer's keys are pairwise
different, different writers' keys are disjoint, and every action is valid for `db0` (adds of absent keys,
get/update/remove of the very item, at the version read).

`Disj S s0 ∧ Prog S.n s0`: `s0` is any state that satisfies the run invariants (every writer carries its
actions, the published lock records belong to active writers, whoever has installed has written its
changes, `n ≤ phase1CommitMaxRetryCount`), in particular the state in which every writer has called
`Commit` and nobody has installed (`disj_of_fresh`, `prog_of_fresh`).  `start3_disj`, `start3_prog`: the state built
by the model's own `begin` for three concrete writers is such a state.

The schedule `sched` and the adversary's page choices inside it are arbitrary: ANY interleaving, ANY
page partition (so including splits and merges of the same page).  Time is not modelled: the theorem
is about schedules in which no writer reaches `maxTime` or its context deadline; "the schedule was
fair and long enough" is the hypothesis `allDone` of `C04_union`. -/

/-- C04, safety half: in every reachable state whoever has finished has result `ok`: the merge replay never took
an error exit, no writer met a lock-record conflict (its own records included), no writer ran out of
retries (each conflict round is paid for by another writer's install, `run_prog`). -/
theorem C04_disjoint_commit (S : Setting) (hS : S.OK) (s0 : State) (hd : Disj S s0) (hp : Prog S.n s0)
    (sched : List (Nat × List (Nat × PAct))) (hb : schedBelow S.n sched) :
    ∀ i, i < S.n → ∀ r, ((run true s0 sched).ws i).pc = .done r → r = .ok := by
  intro i hi r hr
  obtain ⟨hd', hp'⟩ := run_disj hS sched hd hp hb
  exact (hd'.done_ok hp' hi hr).1

/-- The retry budget is never the reason a commit ends: conflict rounds ≤ installs < `n`. Needs no disjointness and
holds for the pinned merge as well. -/
theorem C04_conflict_rounds_bounded (fixed : Bool) (n : Nat) (s0 : State) (hp : Prog n s0)
    (sched : List (Nat × List (Nat × PAct))) (hb : schedBelow n sched) (i : Nat) (hi : i < n)
    (hact : ∀ r, ((run fixed s0 sched).ws i).pc ≠ .done r) :
    ((run fixed s0 sched).ws i).retry ≤ (run fixed s0 sched).epoch ∧ (run fixed s0 sched).epoch < n ∧
    n ≤ (run fixed s0 sched).maxRetry := by
  have h := run_prog (fixed := fixed) sched hp hb
  refine ⟨Nat.le_trans (h.retry_le i) (h.fetch_le i), ?_, h.budget⟩
  rw [h.epoch_eq]
  exact cnt_lt_of_false hi (not_installed_of_active h hact)

/-- what a fair, long enough schedule reaches before any time limit -/
def allDone (n : Nat) (s : State) : Prop := ∀ i, i < n → ∃ r, (s.ws i).pc = .done r

/-- C04, union half: When all writers have finished, all of them committed and the store is the
initial store with every writer's changes applied: each key written by a writer carries that writer's
change (`eff`), every other key is as it was, and keys are still unique. -/
theorem C04_union (S : Setting) (hS : S.OK) (s0 : State) (hd : Disj S s0) (hp : Prog S.n s0)
    (sched : List (Nat × List (Nat × PAct))) (hb : schedBelow S.n sched)
    (hall : allDone S.n (run true s0 sched)) :
    let s := run true s0 sched
    (∀ i, i < S.n → (s.ws i).pc = .done .ok) ∧
    (∀ i, i < S.n → ∀ t ∈ S.spec i, valAt s.db t.key = eff t (valAt S.db0 t.key)) ∧
    (∀ k, (∀ i, i < S.n → k ∉ (S.spec i).map (·.key)) → find s.db k = find S.db0 k) ∧
    UniqueKeys s.db := by
  obtain ⟨hd', hp'⟩ := run_disj hS sched hd hp hb
  have hinst : ∀ i, i < S.n → ((run true s0 sched).ws i).installed = true := by
    intro i hi
    obtain ⟨r, hr⟩ := hall i hi
    exact (hd'.done_ok hp' hi hr).2
  refine ⟨?_, fun i hi => hd'.written i hi (hinst i hi), hd'.foreign, hd'.uniq⟩
  intro i hi
  obtain ⟨r, hr⟩ := hall i hi
  rw [hr, (hd'.done_ok hp' hi hr).1]

def S3 : Setting := { n := 3, db0 := [it 10, it 20], spec := fun i => if i = 0 then [addTr 1] else if i = 1 then [addTr 2] else if i = 2 then [addTr 3] else [] }

theorem forall_lt_three {P : Nat → Prop} (h0 : P 0) (h1 : P 1) (h2 : P 2) : ∀ i, i < 3 → P i
  | 0, _ => h0
  | 1, _ => h1
  | 2, _ => h2

theorem S3_ok : S3.OK :=
  ⟨by decide +kernel,
   fun i j hi hj => forall_lt_three (P := fun i => ∀ j, j < 3 → i ≠ j → ∀ k ∈ (S3.spec i).map (·.key), k ∉ (S3.spec j).map (·.key))
     (by decide +kernel) (by decide +kernel) (by decide +kernel) i hi j hj,
   by decide +kernel⟩

theorem start3_ws (i : Nat) : (start3.ws i).pc = .atLock ∧ (start3.ws i).installed = false ∧ (start3.ws i).fetchEpoch = 0 ∧
    (start3.ws i).retry = 0 ∧ validate start3 (start3.ws i).pages = true := by
  match i with
  | 0 => decide +kernel
  | 1 => decide +kernel
  | 2 => decide +kernel
  | k + 3 =>
    have : start3.ws (k + 3) = {} := rfl
    rw [this]
    decide

theorem start3_prog : Prog 3 start3 := prog_of_fresh (by decide) (by decide) start3_ws

theorem start3_disj : Disj S3 start3 :=
  disj_of_fresh rfl (by unfold UniqueKeys; decide)
    (fun l hl => by rw [(by decide : start3.itemLocks = [])] at hl; cases hl)
    (forall_lt_three (by decide +kernel) (by decide +kernel) (by decide +kernel))

example (sched : List (Nat × List (Nat × PAct))) (hb : schedBelow 3 sched) (i : Nat) (hi : i < 3) (r : Res)
    (hr : ((run true start3 sched).ws i).pc = .done r) : r = .ok :=
  C04_disjoint_commit S3 S3_ok start3 start3_disj start3_prog sched hb i hi r hr

end Sop.C04
