import Sop.Model.Replication
import Sop.Lemmas.Replication
/-!
# C27 — the passive copy stays a faithful replica and can be reinstated

Over `Sop.Replication` (the model of the replication tracker, `fileIO.replicate`, `Registry.Replicate`,
`StoreRepository.Replicate`, `ReinstateFailedDrives`, `TriggerFailover`), which transcribes the code as it is.

* Replica (`C27_replica`, `C27_replica_files`, `C27_same_configuration`): with no fault ever recorded and the passive
  folder writable, every history of repository opens, store creations, commits, `RemoveBtree`s and process restarts
  keeps the passive folder equal to the active one.
* Isolation holds for commits (`C27_isolation_commit`, `C27_failed_commit_no_passive_write`) and is **false** for
  catalogue operations (`isolation_catalogue_counterexample`, `isolation_create_counterexample`).
* `Statement_C27_reinstate` is **false** (`reinstate_counterexample`, `reinstate_log_flag_counterexample`,
  `failover_forgotten_counterexample`, `reinstate_omits_hashmod`).

The invariant of fault-free histories is `Replica` (`Healthy`, and `SideEq` of the two folders); every fault-free write has the
shape `write_both`; the commit is the five equations `commitT_*`.
-/
namespace Sop.C27
open Sop.Replication

def NotFailed (o : Option Flags) : Prop := ∀ f, o = some f → f.failed = false

structure Healthy (s : State) : Prop where
  g : NotFailed s.g
  l2 : NotFailed s.l2
  st0 : NotFailed s.f0.status
  st1 : NotFailed s.f1.status
  br : s.broken = Broken.none

/-- the two folders agree as maps, for every replicated kind of file (the hash modulus is `reghashmod.txt`) -/
def Rep (s : State) : Prop :=
  s.f0.list = s.f1.list ∧ MapEq s.f0.infos s.f1.infos ∧ MapEq s.f0.reg s.f1.reg ∧ s.f0.hashmod = s.f1.hashmod

theorem notFailed_some {f : Flags} (h : f.failed = false) : NotFailed (some f) :=
  fun _ e => Option.some.inj e ▸ h

theorem readHome_notFailed (s : State) (h0 : NotFailed s.f0.status) (h1 : NotFailed s.f1.status) :
    (readHome s).failed = false := by
  unfold readHome
  cases e0 : s.f0.status with
  | none =>
    cases e1 : s.f1.status with
    | none => rfl
    | some f => exact h1 f e1
  | some fa =>
    cases e1 : s.f1.status with
    | none => exact h0 fa e0
    | some fp =>
      show (if s.newer1 = true then fp else fa).failed = false
      split
      · exact h1 fp e1
      · exact h0 fa e0

theorem newTracker_l2 (s : State) (f : Flags) (el : s.l2 = some f) : newTracker s = ({ s with g := some f }, f) := by
  simp only [newTracker, pull, el]

theorem newTracker_g (s : State) (f : Flags) (el : s.l2 = none) (eg : s.g = some f) : newTracker s = (s, f) := by
  simp only [newTracker, pull, el, eg]

theorem newTracker_none (s : State) (el : s.l2 = none) (eg : s.g = none) :
    newTracker s = ({ s with g := some (readHome s), l2 := some (readHome s) }, readHome s) := by
  simp only [newTracker, pull, push, el, eg]

theorem newTracker_healthy (s : State) (h : Healthy s) :
    (newTracker s).2.failed = false ∧ Healthy (newTracker s).1 ∧
    (newTracker s).1.f0 = s.f0 ∧ (newTracker s).1.f1 = s.f1 ∧ (newTracker s).1.logs = s.logs := by
  cases el : s.l2 with
  | some f =>
    rw [newTracker_l2 s f el]
    exact ⟨h.l2 f el, ⟨notFailed_some (h.l2 f el), h.l2, h.st0, h.st1, h.br⟩, rfl, rfl, rfl⟩
  | none =>
    cases eg : s.g with
    | some f =>
      rw [newTracker_g s f el eg]
      exact ⟨h.g f eg, h, rfl, rfl, rfl⟩
    | none =>
      have hf := readHome_notFailed s h.st0 h.st1
      rw [newTracker_none s el eg]
      exact ⟨hf, ⟨notFailed_some hf, notFailed_some hf, h.st0, h.st1, h.br⟩, rfl, rfl, rfl⟩

/-- a commit's handle sets are well formed for a registry when every record to remove is there after the upserts -/
def CommitWF (roots added updated : List (RKey × String)) (removed : List RKey) (r : Reg) : Prop :=
  removed.all (fun k => (get k (putAll updated (putAll added (putAll roots r)))).isSome) = true

/-- fault-free operations (`openv` = repository open, `cold` = process restart) -/
inductive FaultFree : State → Op → Prop
  | create (s n sl u) : FaultFree s (.create n sl u)
  | commit (s n c ro ad up rm) :
      CommitWF ro ad up rm (active (newTracker s).1 (newTracker s).2).reg → FaultFree s (.commit n c ro ad up rm)
  | remove (s n) : FaultFree s (.remove n)
  | openv (s v) : FaultFree s (.openv v)
  | cold (s) : FaultFree s .cold

theorem side_cases (s : State) (b : Bool) : (side s b = s.f0 ∧ side s (!b) = s.f1) ∨ (side s b = s.f1 ∧ side s (!b) = s.f0) := by
  cases b
  · exact .inr ⟨rfl, rfl⟩
  · exact .inl ⟨rfl, rfl⟩

theorem active_setActive (s : State) (rt : Flags) (x : Side) : active (setActive s rt x) rt = x := by
  unfold active setActive; cases rt.toggler <;> rfl

theorem passive_setActive (s : State) (rt : Flags) (x : Side) : passive (setActive s rt x) rt = passive s rt := by
  unfold passive setActive; cases rt.toggler <;> rfl

theorem active_setPassive (s : State) (rt : Flags) (x : Side) : active (setPassive s rt x) rt = active s rt := by
  unfold active setPassive; cases rt.toggler <;> rfl

theorem setSide_fields (s : State) (b : Bool) (x : Side) :
    (setSide s b x).broken = s.broken ∧ (setSide s b x).g = s.g ∧ (setSide s b x).l2 = s.l2 := by
  cases b <;> exact ⟨rfl, rfl, rfl⟩

theorem setActive_fields (s : State) (rt : Flags) (x : Side) :
    (setActive s rt x).broken = s.broken ∧ (setActive s rt x).g = s.g ∧ (setActive s rt x).l2 = s.l2 :=
  setSide_fields s rt.toggler x

/-- no user in the development -/
theorem setPassive_fields (s : State) (rt : Flags) (x : Side) :
    (setPassive s rt x).broken = s.broken ∧ (setPassive s rt x).g = s.g ∧ (setPassive s rt x).l2 = s.l2 :=
  setSide_fields s (!rt.toggler) x

theorem setActive_broken (s : State) (rt : Flags) (x : Side) : (setActive s rt x).broken = s.broken :=
  (setActive_fields s rt x).1

/-- `Rep s` is `SideEq s.f0 s.f1` (`rep_iff`); the proofs need it of (active, passive), which is the two folders in either order -/
structure SideEq (x y : Side) : Prop where
  list : x.list = y.list
  infos : MapEq x.infos y.infos
  reg : MapEq x.reg y.reg
  hashmod : x.hashmod = y.hashmod

theorem SideEq.symm {x y : Side} (h : SideEq x y) : SideEq y x :=
  ⟨h.list.symm, h.infos.symm, h.reg.symm, h.hashmod.symm⟩

theorem rep_iff {s : State} : Rep s ↔ SideEq s.f0 s.f1 :=
  ⟨fun h => ⟨h.1, h.2.1, h.2.2.1, h.2.2.2⟩, fun h => ⟨h.list, h.infos, h.reg, h.hashmod⟩⟩

/-- the invariant of fault-free histories: no fault recorded, the two folders equal -/
structure Replica (s : State) : Prop where
  healthy : Healthy s
  same : SideEq s.f0 s.f1

theorem Replica.sides {s : State} (h : Replica s) (rt : Flags) : SideEq (active s rt) (passive s rt) := by
  unfold active passive
  cases rt.toggler
  · exact h.same.symm
  · exact h.same

/-- every operation starts by building a tracker: it touches no folder and is not failed -/
theorem Replica.tracker {s s1 : State} {rt : Flags} (h : Replica s) (e : newTracker s = (s1, rt)) :
    Replica s1 ∧ rt.failed = false := by
  obtain ⟨hnf, hh, e0, e1, -⟩ := newTracker_healthy s h.healthy
  rw [e] at hnf hh e0 e1
  exact ⟨⟨hh, by rw [e0, e1]; exact h.same⟩, hnf⟩

/-- the shape of every fault-free write: the same change to the active and to the passive folder -/
theorem write_both {s : State} (h : Replica s) (rt : Flags) {x y : Side} (hx : x.status = (active s rt).status)
    (hy : y.status = (passive s rt).status) (hxy : SideEq x y) : Replica (setPassive (setActive s rt x) rt y) := by
  have hh := h.healthy
  unfold setPassive setActive
  unfold active at hx
  unfold passive at hy
  generalize rt.toggler = b at hx hy
  cases b
  · exact ⟨⟨hh.g, hh.l2, fun f e => hh.st0 f (hy.symm.trans e), fun f e => hh.st1 f (hx.symm.trans e), hh.br⟩, hxy.symm⟩
  · exact ⟨⟨hh.g, hh.l2, fun f e => hh.st0 f (hx.symm.trans e), fun f e => hh.st1 f (hy.symm.trans e), hh.br⟩, hxy⟩

/-- the folder `a` after a commit's own writes (`i` is the store info found in the active folder): the same function
for both folders, which is why they stay equal -/
def newActive (a : Side) (n : String) (c : Option Int) (i : Info) (ro ad up : List (RKey × String)) (rm : List RKey) : Side :=
  { a with
    infos := if c.isSome then put n (match c with | some c => { i with count := c } | none => i) a.infos else a.infos,
    reg := regApply ro ad up rm a.reg }

def commitLog (n : String) (c : Option Int) (ro ad up : List (RKey × String)) (rm : List RKey) : Log :=
  { stores := match c with
      | some c => [(n, c)]
      | none => [],
    roots := ro, added := ad, updated := up, removed := rm }

def logged (rt : Flags) (l : Log) (s : State) : State :=
  if rt.logc then { s with logs := s.logs ++ [l] } else s

theorem active_logged (rt : Flags) (l : Log) (s : State) (rt' : Flags) : active (logged rt l s) rt' = active s rt' := by
  unfold logged; split <;> rfl

theorem passive_logged (rt : Flags) (l : Log) (s : State) (rt' : Flags) : passive (logged rt l s) rt' = passive s rt' := by
  unfold logged; split <;> rfl

theorem logged_rep (rt : Flags) (l : Log) {s : State} (h : Replica s) : Replica (logged rt l s) := by
  unfold logged
  split
  · exact ⟨⟨h.healthy.g, h.healthy.l2, h.healthy.st0, h.healthy.st1, h.healthy.br⟩, h.same⟩
  · exact h

section commitT
variable {s : State} {rt : Flags} {n : String} {c : Option Int} {ro ad up : List (RKey × String)} {rm : List RKey}

theorem commitT_none (hget : get n (active s rt).infos = none) : commitT s rt n c ro ad up rm = (s, "bad-op") := by
  unfold commitT
  simp only [hget]

variable {i : Info} (hget : get n (active s rt).infos = some i)
include hget

theorem commitT_failed (hf : rt.failed = true) :
    commitT s rt n c ro ad up rm =
      (logged rt (commitLog n c ro ad up rm) (setActive s rt (newActive (active s rt) n c i ro ad up rm)), "ok") := by
  unfold commitT
  simp only [hget, hf, if_true]
  rfl

theorem commitT_blocked (hf : rt.failed = false) (hb : passiveBlocked s.broken n = true) :
    commitT s rt n c ro ad up rm =
      (logged rt (commitLog n c ro ad up rm)
        (handleFailed (setActive s rt (newActive (active s rt) n c i ro ad up rm)) rt).1, "ok") := by
  unfold commitT
  simp only [hget, hf, setActive_broken, hb, if_true, Bool.false_eq_true, if_false]
  rfl

theorem commitT_replicated (hf : rt.failed = false) (hb : passiveBlocked s.broken n = false)
    (hwf : CommitWF ro ad up rm (passive s rt).reg) :
    commitT s rt n c ro ad up rm =
      (logged rt (commitLog n c ro ad up rm)
        (setPassive (setActive s rt (newActive (active s rt) n c i ro ad up rm)) rt
          (newActive (passive s rt) n c i ro ad up rm)), "ok") := by
  unfold commitT
  simp only [hget, hf, setActive_broken, hb, passive_setActive, regReplicate_ok hwf, if_true,
    Bool.false_eq_true, if_false]
  rfl

theorem commitT_regfail (hf : rt.failed = false) (hb : passiveBlocked s.broken n = false)
    (hwf : ¬ CommitWF ro ad up rm (passive s rt).reg) :
    commitT s rt n c ro ad up rm =
      (logged rt (commitLog n c ro ad up rm)
        (handleFailed (setPassive (setActive s rt (newActive (active s rt) n c i ro ad up rm)) rt
          { passive s rt with reg := putAll up (putAll ad (putAll ro (passive s rt).reg)) }) rt).1, "ok") := by
  unfold commitT
  simp only [hget, hf, setActive_broken, hb, passive_setActive, regReplicate_fail hwf,
    Bool.false_eq_true, if_false]
  rfl

end commitT

def FaultFreeRun : State → List Op → Prop
  | _, [] => True
  | s, op :: ops => FaultFree s op ∧ FaultFreeRun (step s op).1 ops

theorem rep_create (s : State) (n sl u) (h : Replica s) : Replica (create s n sl u).1 := by
  rcases e : newTracker s with ⟨s1, rt⟩
  obtain ⟨h1, -⟩ := h.tracker e
  have he := h1.sides rt
  unfold create
  rw [e]
  simp only [h1.healthy.br, passive_setActive]
  split
  · exact h1
  · exact write_both h1 rt rfl rfl ⟨rfl, he.infos.put n _, he.reg, he.hashmod⟩

theorem rep_remove (s : State) (n) (h : Replica s) : Replica (remove s n).1 := by
  rcases e : newTracker s with ⟨s1, rt⟩
  obtain ⟨h1, -⟩ := h.tracker e
  have he := h1.sides rt
  unfold remove
  rw [e]
  simp only [setActive_broken, h1.healthy.br, passive_setActive]
  exact write_both h1 rt rfl rfl ⟨rfl, he.infos.del n, he.reg.dropTable n, he.hashmod⟩

theorem rep_commit (s : State) (n c ro ad up rm) (h : Replica s)
    (hwf : CommitWF ro ad up rm (active (newTracker s).1 (newTracker s).2).reg) : Replica (commit s n c ro ad up rm).1 := by
  rcases e : newTracker s with ⟨s1, rt⟩
  obtain ⟨h1, hnf⟩ := h.tracker e
  rw [e] at hwf
  have he := h1.sides rt
  unfold commit
  rw [e]
  show Replica (commitT s1 rt n c ro ad up rm).1
  cases hg : get n (active s1 rt).infos with
  | none =>
    rw [commitT_none hg]
    exact h1
  | some inf =>
    -- the records to remove are in the passive registry too, as it agrees with the active one
    have hwf' : CommitWF ro ad up rm (passive s1 rt).reg :=
      (MapEq.all_isSome (((he.reg.putAll ro).putAll ad).putAll up) rm).symm.trans hwf
    rw [commitT_replicated hg hnf (by rw [h1.healthy.br]; rfl) hwf']
    refine logged_rep _ _ (write_both h1 rt rfl rfl ⟨he.list, ?_, he.reg.regApply ro ad up rm, he.hashmod⟩)
    show MapEq (if c.isSome = true then put n _ _ else _) (if c.isSome = true then put n _ _ else _)
    split
    · exact he.infos.put n _
    · exact he.infos

/-- opening the store repository (every transaction, `RemoveBtree`) keeps the folders equal: the hash modulus is
written to both folders or to neither -/
theorem rep_open (s : State) (v : Nat) (h : Replica s) : Replica (openRepo s v) := by
  rcases e : newTracker s with ⟨s1, rt⟩
  obtain ⟨h1, -⟩ := h.tracker e
  have he := h1.sides rt
  unfold openRepo openRepoWith
  rw [e]
  simp only [setActive_broken, h1.healthy.br, passive_setActive, Bool.not_true, Bool.false_eq_true, if_false]
  split
  · exact h1
  · split
    · exact h1
    · exact write_both h1 rt rfl rfl ⟨he.list, he.infos, he.reg, rfl⟩

theorem rep_step (s : State) (op : Op) (hop : FaultFree s op) (h : Replica s) : Replica (step s op).1 := by
  cases hop with
  | create n sl u => exact rep_create s n sl u h
  | commit n c ro ad up rm hwf => exact rep_commit s n c ro ad up rm h hwf
  | remove n => exact rep_remove s n h
  | openv v => exact rep_open s v h
  | cold => exact ⟨⟨nofun, nofun, h.healthy.st0, h.healthy.st1, h.healthy.br⟩, h.same⟩

theorem replica_run (ops : List Op) : ∀ (s : State), Replica s → FaultFreeRun s ops → Replica (run s ops) := by
  induction ops with
  | nil => intro s h _; exact h
  | cons op ops ih => intro s h hrun; exact ih _ (rep_step s op hrun.1 h) hrun.2

/-- **C27_replica.** No fault recorded, passive folder writable, folders equal as maps: after any fault-free history
(repository opens, store creations, commits with arbitrary well-formed handle sets, `RemoveBtree`s, process restarts)
the passive folder still equals the active one, and still no fault is recorded. -/
theorem C27_replica (ops : List Op) : ∀ (s : State), Healthy s → Rep s → FaultFreeRun s ops →
    Healthy (run s ops) ∧ Rep (run s ops) := fun s h hr hrun =>
  have hrep := replica_run ops s ⟨h, rep_iff.1 hr⟩ hrun
  ⟨hrep.healthy, rep_iff.2 hrep.same⟩

/-- the hypotheses of `C27_replica` hold of a history with every kind of operation -/
example : Healthy {} ∧ Rep {} ∧
    FaultFreeRun {} [.openv 400, .create "sa" 4 true, .commit "sa" (some 1) [(("sa", "1"), "1/0/0/0/0")] [] [] [], .cold,
      .openv 250, .remove "sa"] := by
  refine ⟨⟨by simp [NotFailed], by simp [NotFailed], by simp [NotFailed], by simp [NotFailed], rfl⟩, ⟨rfl, fun _ => rfl, fun _ => rfl, rfl⟩, ?_⟩
  refine ⟨.openv _ _, .create _ _ _ _, .commit _ _ _ _ _ _ _ (by unfold CommitWF; decide +kernel), .cold _, .openv _ _, .remove _ _, trivial⟩

/-! The replica as a set of files: every file the active side persists that a later open depends on, by kind, addressed
by its path relative to the base folder.  Registry records are the content of the segment files of a table, record by
record; how records are placed in blocks is C21's matter.  `replstat.txt` and the commit-change logs are per-folder by
design and are not replicated kinds. -/

inductive Kind
  | storeList | hashMod | storeInfo | regRecord
deriving DecidableEq, Repr

inductive Content
  | names (l : List String)
  | num (n : Nat)
  | info (i : Info)
  | image (h : String)
deriving DecidableEq, Repr

/-- the content found at relative path `(folder, name)` of kind `k` in one base folder (`none` = no such file) -/
def fileAt (x : Side) : Kind → String × String → Option Content
  | .storeList, p => if p = ("", "storelist.txt") then x.list.map .names else none
  | .hashMod, p => if p = ("", "reghashmod.txt") then x.hashmod.map .num else none
  | .storeInfo, p => if p.2 = "storeinfo.txt" then (get p.1 x.infos).map .info else none
  | .regRecord, p => (get p x.reg).map .image

theorem fileAt_of_rep {s : State} (hr : Rep s) (k : Kind) (p : String × String) : fileAt s.f0 k p = fileAt s.f1 k p := by
  have h := rep_iff.1 hr
  cases k with
  | storeList => simp only [fileAt, h.list]
  | hashMod => simp only [fileAt, h.hashmod]
  | storeInfo => simp only [fileAt, h.infos p.1]
  | regRecord => simp only [fileAt, h.reg p]

theorem rep_of_fileAt {s : State} (h : ∀ k p, fileAt s.f0 k p = fileAt s.f1 k p) : Rep s := by
  refine rep_iff.2
    { list := (Option.map_inj_right fun _ _ => Content.names.inj).1 ?_
      infos := fun n => (Option.map_inj_right fun _ _ => Content.info.inj).1 ?_
      reg := fun k => (Option.map_inj_right fun _ _ => Content.image.inj).1 (h .regRecord k)
      hashmod := (Option.map_inj_right fun _ _ => Content.num.inj).1 ?_ }
  · simpa only [fileAt, if_true] using h .storeList ("", "storelist.txt")
  · simpa only [fileAt, if_true] using h .storeInfo (n, "storeinfo.txt")
  · simpa only [fileAt, if_true] using h .hashMod ("", "reghashmod.txt")

/-- **C27_replica_files.** After any fault-free history from a healthy replicated state, the two base folders hold the
same set of (relative path, content) pairs for every replicated kind. -/
theorem C27_replica_files (ops : List Op) (s : State) (h : Healthy s) (hr : Rep s) (hrun : FaultFreeRun s ops)
    (k : Kind) (p : String × String) : fileAt (run s ops).f0 k p = fileAt (run s ops).f1 k p :=
  fileAt_of_rep (C27_replica ops s h hr hrun).2 k p

/-- **C27_same_configuration.** After such a history a process that opens the database from the passive side (after a failover),
with or without passing a hash-mod value, computes the same registry hash modulus as one opening the active side. -/
theorem C27_same_configuration (ops : List Op) (s : State) (h : Healthy s) (hr : Rep s) (hrun : FaultFreeRun s ops)
    (v : Nat) : effectiveMod (run s ops).f1 v = effectiveMod (run s ops).f0 v := by
  have hm := (replica_run ops s ⟨h, rep_iff.1 hr⟩ hrun).same.hashmod
  unfold effectiveMod
  rw [hm]

/-- the variant (NOT the code) whose repository open does not replicate the hash-mod file -/
def stepNoHashModReplication (s : State) : Op → State × String
  | .openv v => (openRepoWith false s v, "ok")
  | op => step s op

def runNoHashModReplication (s : State) : List Op → State
  | [] => s
  | op :: ops => runNoHashModReplication (stepNoHashModReplication s op).1 ops

/-- the variant (`trackActions = false` in `NewStoreRepository`) with no fault at all: the passive folder lacks
`reghashmod.txt`, and a process opening the passive side without passing the value computes 250 instead of 400.  The
code as it is (`run`) gives 400 on both sides. -/
theorem hashmod_not_replicated_variant :
    let ops := [Op.openv 400, .create "sa" 4 true, .commit "sa" (some 1) [(("sa", "1"), "1/0/0/0/0")] [] [] []]
    fileAt (runNoHashModReplication {} ops).f0 .hashMod ("", "reghashmod.txt") = some (.num 400) ∧
    fileAt (runNoHashModReplication {} ops).f1 .hashMod ("", "reghashmod.txt") = none ∧
    fileAt (runNoHashModReplication {} ops).f1 .storeInfo ("sa", "storeinfo.txt") =
      fileAt (runNoHashModReplication {} ops).f0 .storeInfo ("sa", "storeinfo.txt") ∧
    effectiveMod (runNoHashModReplication {} ops).f0 0 = 400 ∧
    effectiveMod (runNoHashModReplication {} ops).f1 0 = 250 ∧
    effectiveMod (run {} ops).f1 0 = 400 := by
  decide +kernel

/-- the part of a folder the isolation property talks about -/
def content (x : Side) : Option (List String) × List (String × Info) × Reg := (x.list, x.infos, x.reg)

theorem push_same (s : State) : (∀ b, side (push s) b = side s b) ∧ (push s).g = s.g := by
  unfold push
  split
  · exact ⟨fun _ => rfl, rfl⟩
  · split
    · exact ⟨fun _ => rfl, rfl⟩
    · split <;> exact ⟨fun _ => rfl, rfl⟩

theorem pull_side (s : State) (b : Bool) : side (pull s) b = side s b := by
  unfold pull
  cases s.l2 <;> rfl

theorem writeStatus_content (s : State) (first : Bool) (f : Flags) (b : Bool) :
    content (side (writeStatus s first f) b) = content (side s b) := by
  cases b <;> cases first <;> rfl

/-- recording a failure touches status copies only -/
theorem handleFailed_content (s : State) (rt : Flags) (b : Bool) :
    content (side (handleFailed s rt).1 b) = content (side s b) := by
  unfold handleFailed
  split
  · rfl
  · simp only
    split
    · rw [pull_side]
    · split
      · rw [pull_side]
      · rw [(push_same _).1, writeStatus_content]
        exact congrArg content (pull_side s b)

theorem handleFailed_records (s : State) (rt : Flags) (hrt : rt.failed = false) (hg : (pull s).g.isSome = true) :
    ∃ f, (handleFailed s rt).1.g = some f ∧ f.failed = true := by
  unfold handleFailed
  simp only [hrt, Bool.false_eq_true, ↓reduceIte]
  cases e : (pull s).g with
  | none => rw [e] at hg; cases hg
  | some gf =>
    simp only
    by_cases hf : gf.failed = true
    · simp only [hf, ↓reduceIte]; exact ⟨gf, e, hf⟩
    · have hf' : gf.failed = false := by simpa using hf
      simp only [hf', Bool.false_eq_true, ↓reduceIte]
      refine ⟨{ gf with failed := true }, (push_same _).2.trans ?_, rfl⟩
      cases rt.toggler <;> rfl

theorem handleFailed_active (s : State) (rt : Flags) :
    content (active (handleFailed s rt).1 rt) = content (active s rt) := handleFailed_content s rt rt.toggler

/-- The commit-time isolation statement. `(pull s).g.isSome`: the failure is recorded into the process-wide status, which
must exist (every transaction's tracker creates it). -/
def Statement_C27_isolation_commit : Prop :=
  ∀ (s : State) (rt : Flags) (n : String) (c : Option Int) (ro ad up : List (RKey × String)) (rm : List RKey),
    rt.failed = false → passiveBlocked s.broken n = true → (pull s).g.isSome = true →
    let faulty := commitT s rt n c ro ad up rm
    let clean := commitT { s with broken := Broken.none } rt n c ro ad up rm
    faulty.2 = clean.2 ∧
    content (active faulty.1 rt) = content (active clean.1 rt) ∧
    content (passive faulty.1 rt) = content (passive s rt) ∧
    ((get n (active s rt).infos).isSome = true → ∃ f, faulty.1.g = some f ∧ f.failed = true)

theorem commitT_active (s : State) (rt : Flags) (n c ro ad up rm) (i : Info) (hget : get n (active s rt).infos = some i) :
    (commitT s rt n c ro ad up rm).2 = "ok" ∧
    content (active (commitT s rt n c ro ad up rm).1 rt) = content (newActive (active s rt) n c i ro ad up rm) := by
  cases hf : rt.failed with
  | true =>
    rw [commitT_failed hget hf, active_logged, active_setActive]
    exact ⟨rfl, rfl⟩
  | false =>
    cases hb : passiveBlocked s.broken n with
    | true =>
      rw [commitT_blocked hget hf hb, active_logged, handleFailed_active, active_setActive]
      exact ⟨rfl, rfl⟩
    | false =>
      by_cases hwf : CommitWF ro ad up rm (passive s rt).reg
      · rw [commitT_replicated hget hf hb hwf, active_logged, active_setPassive, active_setActive]
        exact ⟨rfl, rfl⟩
      · rw [commitT_regfail hget hf hb hwf, active_logged, handleFailed_active, active_setPassive,
          active_setActive]
        exact ⟨rfl, rfl⟩

/-- **C27_isolation_commit.** A transaction whose tracker is not failed commits while the passive store folder (or
drive) is unwritable: the commit answers what it answers without the fault, the active folder's content is what it is
without the fault, the passive folder's content does not change, and — when the store exists in the active folder,
so that the commit gets as far as replication — the failure is recorded in the process-wide status. -/
theorem C27_isolation_commit : Statement_C27_isolation_commit := by
  intro s rt n c ro ad up rm hrt hb hg faulty clean
  have hact : active { s with broken := Broken.none } rt = active s rt := rfl
  cases hget : get n (active s rt).infos with
  | none =>
    have e1 : faulty = (s, "bad-op") := commitT_none hget
    have e2 : clean = ({ s with broken := Broken.none }, "bad-op") := commitT_none hget
    rw [e1, e2]
    exact ⟨rfl, rfl, rfl, nofun⟩
  | some i =>
    have hF := commitT_active s rt n c ro ad up rm i hget
    have hC := commitT_active { s with broken := Broken.none } rt n c ro ad up rm i hget
    have hB : faulty = _ := commitT_blocked hget hrt hb
    refine ⟨hF.1.trans hC.1.symm, hF.2.trans hC.2.symm, ?_, fun _ => ?_⟩
    · rw [hB, passive_logged]
      exact (handleFailed_content _ rt (!rt.toggler)).trans (congrArg content (passive_setActive ..))
    · have hg' : (pull (setActive s rt (newActive (active s rt) n c i ro ad up rm))).g.isSome = true := by
        unfold pull at hg ⊢
        rw [(setActive_fields s rt _).2.2]
        cases hl : s.l2 with
        | some f => rfl
        | none => rw [hl] at hg; exact (setActive_fields s rt _).2.1 ▸ hg
      obtain ⟨f, hf, hff⟩ := handleFailed_records _ rt hrt hg'
      exact ⟨f, by rw [hB]; unfold logged; split <;> exact hf, hff⟩

/-- **C27_failed_commit_no_passive_write.** A transaction whose tracker has `FailedToReplicate` set writes nothing
to the passive folder at commit. -/
theorem C27_failed_commit_no_passive_write (s : State) (rt : Flags) (n c ro ad up rm) (hrt : rt.failed = true) :
    passive (commitT s rt n c ro ad up rm).1 rt = passive s rt := by
  cases hget : get n (active s rt).infos with
  | none => rw [commitT_none hget]
  | some i => rw [commitT_failed hget hrt, passive_logged, passive_setActive]

def base : State :=
  run {} [.create "sa" 4 true, .commit "sa" (some 1) [(("sa", "1"), "1/0/0/0/0")] [] [] []]

/-- After the failure was recorded (a commit hit the broken store folder), creating another store still writes the
passive folder: `fileIO.replicate` does not consult `FailedToReplicate`. -/
theorem isolation_catalogue_counterexample :
    let s := run base [.brk (.store "sa"), .commit "sa" (some 2) [] [] [(("sa", "1"), "2/1/1/0/0")] []]
    (∃ f, s.g = some f ∧ f.failed = true) ∧
    (get "sb" (step s (.create "sb" 4 true)).1.f1.infos).isSome = true := by
  decide +kernel

/-- With the passive drive unreachable a store creation fails (and is rolled back on the active folder), and nothing
records the fault. -/
theorem isolation_create_counterexample :
    let s := run base [.brk .drive]
    (step s (.create "sb" 4 true)).2 = "err:create" ∧
    (get "sb" (step s (.create "sb" 4 true)).1.f0.infos).isSome = false ∧
    (step s (.create "sb" 4 true)).1.g = some { failed := false, toggler := true, logc := false } := by
  decide +kernel

/-- **Statement_C27_reinstate** (the property): after a fault was recorded, the drive repaired and
`ReinstateFailedDrives` run with nothing else going on, the folders agree as maps. -/
def Statement_C27_reinstate : Prop :=
  ∀ s : State, s.broken = Broken.none → s.logs = [] → (∃ f, s.g = some f ∧ f.failed = true) →
    (reinstate s).2 = "ok" → Rep (reinstate s).1

/-- The drive is replaced by an empty one: the copier reads each store's info from the passive folder (it flipped the
tracker's toggler first), finds none and skips the store — only the store list arrives. -/
theorem reinstate_counterexample : ¬ Statement_C27_reinstate := by
  intro h
  have hs := h (run base [.brk .drive, .commit "sa" (some 2) [] [] [(("sa", "1"), "2/1/1/0/0")] [], .heal false])
    (by decide) (by decide) ⟨{ failed := true, toggler := true, logc := false }, by decide, by decide⟩ (by decide)
  exact absurd (hs.2.1 "sa") (by decide +kernel)

/-- A commit made while a reinstate is in progress is not logged when the L2 cache holds a status entry: `isEqual`
ignores `LogCommitChanges`, so the push keeps the old entry and the next transaction's tracker pulls it back. -/
theorem reinstate_log_flag_counterexample :
    let s := run base [.brk (.store "sa"), .commit "sa" (some 2) [] [] [(("sa", "1"), "2/1/1/0/0")] [], .heal true, .rphase 1]
    (∃ f, s.g = some f ∧ f.logc = true) ∧
    (step s (.commit "sa" (some 3) [] [] [(("sa", "1"), "3/2/2/0/0")] [])).1.logs.length = 0 := by
  decide +kernel

/-- After a fault and a reinstate (so both folders carry a status file), a failover is forgotten by a freshly started
process: the status file was written before the toggler was flipped and the reader takes the file's toggler. -/
theorem failover_forgotten_counterexample :
    let s := run base [.brk (.store "sa"), .commit "sa" (some 2) [] [] [(("sa", "1"), "2/1/1/0/0")] [], .heal true, .reinstate, .failover]
    (∃ f, s.g = some f ∧ f.toggler = false) ∧ (readHome (cold s)).toggler = true := by
  decide +kernel

/-- The first failover of a layout that never failed is seen by a fresh process. -/
theorem failover_seen_when_never_failed :
    (readHome (cold (run base [.failover]))).toggler = false := by
  decide +kernel

/-- `CopyToPassiveFolders` does not copy `reghashmod.txt`, and `NewStoreRepository` rewrites it only when the ACTIVE
folder lacks it: after a reinstate onto an empty replacement drive the passive folder has no hash-mod file (C27-F10);
a failover later makes a process that does not pass the value fall back to modulus 250. -/
theorem reinstate_omits_hashmod :
    let s := run {} [.openv 400, .create "sa" 4 true, .commit "sa" (some 1) [(("sa", "1"), "1/0/0/0/0")] [] [] [],
      .brk .drive, .openv 400, .commit "sa" (some 2) [] [] [(("sa", "1"), "2/1/1/0/0")] [], .heal false, .reinstate]
    s.f0.hashmod = some 400 ∧ s.f1.hashmod = none ∧ effectiveMod s.f1 0 = 250 := by
  decide +kernel

/-! Outside the property: the drive is swapped before any write met the fault.  `brk` and `heal` are steps of the
environment, not of the code.  When the passive drive fails, no operation of the code runs while it is down, and it is
swapped for an empty one, the passive folder is empty solely because of the `heal false` step: the code performed no
passive write that failed, so nothing is recorded, and `ReinstateFailedDrives` refuses (`FailedToReplicate is false`).
The property's quantifier (failures *at a replication step*) does not cover this, and the harness does not expect the
folders to agree from then on. -/

theorem heal_not_faultFree (s : State) (k : Bool) : ¬ FaultFree s (.heal k) := by
  intro h; cases h

theorem unobserved_wipe (s : State) (f : Flags) (hg : s.g = some f) :
    (run s [.brk .drive, .heal false]).g = s.g ∧ (run s [.brk .drive, .heal false]).l2 = s.l2 ∧
    (run s [.brk .drive, .heal false]).logs = s.logs ∧
    active (run s [.brk .drive, .heal false]) f = active s f ∧
    content (passive (run s [.brk .drive, .heal false]) f) = content {} := by
  cases ht : f.toggler <;>
    simp [run, step, breakPassive, heal, hg, setSide, active, passive, side, ht, content]

def wipedUnobserved : State := run base [.brk .drive, .heal false]

/-- the witness the harness replays (`caseUnobservedWipe`) -/
theorem unobserved_wipe_witness :
    wipedUnobserved.g = some { failed := false, toggler := true, logc := false } ∧
    content base.f1 = content base.f0 ∧
    content wipedUnobserved.f0 = content base.f0 ∧ content wipedUnobserved.f1 = content {} ∧
    (reinstate wipedUnobserved).2 = "err:not-failed" := by
  refine ⟨?_, ?_, ?_, ?_, ?_⟩ <;> decide +kernel

end Sop.C27
