import Sop.Lemmas.Commit
import Sop.Lemmas.CommitWitness
import Sop.Lemmas.CommitPhase1
import Sop.Lemmas.CommitSuccess
import Sop.Lemmas.CommitPhase2Fail
import Sop.Lemmas.CommitPhase2After
import Sop.Lemmas.CommitGap
import Sop.Lemmas.CommitNew
import Sop.Lemmas.CommitPreSound
/-!
# C01 — a committed transaction's changes appear all-or-nothing across every store

Model P (`Sop/Model/Commit.lean`) is the executable model of the commit code; it is tied to the code on every run
by replaying thousands of real commits (one injected fault each) and diffing backend-call traces and final state.

What is proved here (all for arbitrary handles, write sets and batches):
* handle by handle: staging is invisible (`reserve_keeps_view`, `stage_keeps_view`, `undo_keeps_view`) and the flip makes
  exactly the staged version visible (`flip_shows_staged`);
* the ERROR half at node level (`C01_failed_commit_keeps_every_node`): whenever `Commit` returns an error, under every
  fault, every node that was loadable before is unchanged;
* the SUCCESS half (`C01_ok_installs_every_update`, `C01_ok_new_nodes_visible`, `C01_ok_applies_count_deltas`): whenever
  `Commit` returns ok — with or without a (tolerated) fault in lock release or cleanup — every updated node (staged under
  an id other than the nil id) shows its staged blob at version + 1, every new node is visible, every other node is as it
  was, the counts move by the write set's deltas.
What is refuted (the full statement `Statement_C01_err` is false for the code as it is): a store-count update that
is applied but reported as failed is not undone (`C01_counterexample`).
-/
namespace Sop.C01
open Sop.Commit

/-- full-strength error half of C01 on the model: whatever single fault hits, an `err` outcome leaves every
reader view and every store count as it was. -/
def Statement_C01_err : Prop :=
  ∀ (s : State) (w : WS) (fresh : List (UUID × UUID)) (f : Fault) (tid : Tid),
    let r := commit w 30 { s := s, tid := tid, fault := some f, fresh := fresh }
    r.1 = .err → (∀ lid, r.2.s.view lid = s.view lid) ∧ (∀ st, r.2.s.cnt st = s.cnt st)

/-- the reservation write of phase 1 (`commitUpdatedNodes`: registry.UpdateNoLocks of the reserved images) changes
no reader's view, for any batch of handles -/
theorem reserve_keeps_view (s : State) (now hour : Int) (pairs : List (Handle × Int)) (fr fr' : List (UUID × UUID))
    (res : List Handle) (hres : reserveAll now hour fr pairs = some (res, fr'))
    (hreg : ∀ p ∈ pairs, s.reg p.1.lid = some p.1) (lid : UUID) :
    (s.setRegs res).view lid = s.view lid := by
  apply view_setRegs_same
  intro h' hm
  have key : ∀ h' ∈ res, ∃ p ∈ pairs, ∃ f, reserveOne now hour f p.1 p.2 = some h' := by
    refine reserveAll_induct (motive := fun _ pairs res _ => ∀ h' ∈ res, ∃ p ∈ pairs, ∃ f, reserveOne now hour f p.1 p.2 = some h')
      (fun _ => nofun) ?_ pairs fr res fr' hres
    intro fr h v rest h1 hs fr' e1 _ ih x hm
    rcases List.mem_cons.mp hm with rfl | hm'
    · exact ⟨(h, v), List.mem_cons_self .., _, e1⟩
    · obtain ⟨p, hp, f, hf⟩ := ih x hm'
      exact ⟨p, List.mem_cons_of_mem _ hp, f, hf⟩
  obtain ⟨p, hp, f, hf⟩ := key h' hm
  obtain ⟨r1, r2, r3, _⟩ := reserveOne_spec now hour f p.1 h' p.2 hf
  exact ⟨p.1, by rw [r1]; exact hreg p hp, r2, r3⟩

/-- writing the staged blobs (under the new, inactive ids) hides nothing that was loadable -/
theorem stage_keeps_view (s : State) (ids : List UUID) (lid : UUID) (hl : (s.view lid).isSome) :
    (s.addBlobs ids).view lid = s.view lid := view_addBlobs_of_loadable s ids lid hl

/-- deleting blobs that are no handle's active id (what every undo routine and the cleanup delete) changes no view -/
theorem undo_keeps_view (s : State) (ids : List UUID) (lid : UUID) (hin : ∀ h, s.reg lid = some h → h.active ∉ ids) :
    (s.delBlobs ids).view lid = s.view lid := view_delBlobs_of_inactive s ids lid hin

/-- the phase-2 flip shows exactly the staged version: the active id becomes the staged id, the version goes up by one -/
theorem flip_shows_staged (s : State) (h : Handle) (hb : s.blob h.inactive = true) :
    ((s.setReg (activate h)).view h.lid) = some (h.inactive, h.version + 1) := by
  obtain ⟨a1, a2, _, a4, _⟩ := activate_spec h
  unfold State.view
  simp [State.setReg_reg, a1, a2, a4, hb]

/-- **C01 is false of the code as it is**: `StoreRepository.Update` applied but reported as failed (`failAfter`) at
commit step 9 — `Commit` returns an error, yet the store count stays changed (rollback undoes the count only when
`committedState > commitStoreInfo`). Replayed on the implementation by the harness (finding C01-F1). -/
theorem C01_counterexample : ¬ Statement_C01_err := by
  intro h
  have h1 := h Witness.s0 Witness.wUpd [(1, 9)] ⟨.srUpdate, 1, .failAfter⟩ 1
  have e1 : (commit Witness.wUpd 30 { s := Witness.s0, tid := 1, fault := some ⟨.srUpdate, 1, .failAfter⟩, fresh := [(1, 9)] }).1 = .err := by
    decide +kernel
  have e2 : (commit Witness.wUpd 30 { s := Witness.s0, tid := 1, fault := some ⟨.srUpdate, 1, .failAfter⟩, fresh := [(1, 9)] }).2.s.cnt 0 = 6 := by
    decide +kernel
  have e3 : Witness.s0.cnt 0 = 5 := by decide +kernel
  have := (h1 e1).2 0
  rw [e2, e3] at this
  exact absurd this (by decide)

/-- **The error half of C01 at node level, for every fault**: a commit that fails in phase 1 — at ANY backend
call, failing before or after taking effect, or in a conflict round — ends (after its live rollback, whose own
calls may fail too) with every node that was loadable before still loadable, same blob, same version. What this
does not cover is exactly what the findings list: the store COUNT (C01-F1), handles and blobs of nodes that did not
exist before (C11), and leftover reservations in inactive slots (C07). -/
theorem C01_failed_phase1_keeps_every_node (s0 : State) (w : WS) (fresh0 : List (UUID × UUID)) (pre : Pre s0 w fresh0)
    (fault : Option Fault) {cs0 : Step} (tid : Tid) (n : Nat) (r1 : Run)
    (hf : phase1 w n { s := s0, tid := tid, fault := fault, fresh := fresh0, cs := cs0 } = .error r1) :
    ∀ lid, (s0.view lid).isSome →
      (commit w n { s := s0, tid := tid, fault := fault, fresh := fresh0, cs := cs0 }).2.s.view lid = s0.view lid :=
  commit_phase1_failure_keeps_views pre fault tid n r1 hf

/-- **The error half of C01 at node level, for every fault**: whenever `Commit` returns an error — the failure may
be in phase 1, in the live rollback, in phase 2's log write, in the flip write failing without effect, or in the flip
write failing AFTER its effect (then the priority rollback restores the logged pre-flip images: the node keys are still
held, the priority log exists, and the run's one fault being spent the restoring write succeeds); further failures
may hit the error handling itself in all but the last case — every node that was loadable before is unchanged. What
the full statement `Statement_C01_err` says beyond this is the store count, which is finding C01-F1. -/
theorem C01_failed_commit_keeps_every_node (s0 : State) (w : WS) (fresh0 : List (UUID × UUID))
    (pre : Pre s0 w fresh0) (pre2 : Pre2 s0 w fresh0) (fault : Option Fault) {cs0 : Step} (tid : Tid) (n : Nat)
    (herr : (commit w n { s := s0, tid := tid, fault := fault, fresh := fresh0, cs := cs0 }).1 = .err) :
    ∀ lid, (s0.view lid).isSome →
      (commit w n { s := s0, tid := tid, fault := fault, fresh := fresh0, cs := cs0 }).2.s.view lid = s0.view lid :=
  commit_err_keeps_views pre pre2 fault tid n herr

/-- the flip-failure witness: the flip write of the split transaction takes effect and reports an error; `Commit`
returns an error and node 1 is back at (blob 1, version 1) -/
example :
    let r := commit Witness.wSplit 30 { s := Witness.s0, tid := 1, fault := some ⟨.regUpdateNoLocks, 2, .failAfter⟩, fresh := [(1, 9)] }
    r.1 = .err ∧ r.2.s.view 1 = some (1, 1) := by
  refine ⟨?_, ?_⟩ <;> decide +kernel

/-- **The success half of C01 at node level.** If `Commit` returns ok — under no fault or under any single fault it
tolerates — then (1) the handles the transaction reserved are exactly the write set's updated nodes, at the versions
read; (2) each of them now shows the staged blob at version + 1; (3) every node that was loadable at the start and is
neither updated nor removed by this transaction is unchanged. `Pre2` states the write set is well formed (no node
updated twice or both updated and removed) and that physical ids are not shared between handles. -/
theorem C01_ok_installs_every_update (s0 : State) (w : WS) (fresh0 : List (UUID × UUID)) (pre : Pre s0 w fresh0)
    (pre2 : Pre2 s0 w fresh0) (fault : Option Fault) {cs0 : Step} (tid : Tid) (n : Nat) (r2 : Run)
    (hok : commit w n { s := s0, tid := tid, fault := fault, fresh := fresh0, cs := cs0 } = (.ok, r2)) :
    ∃ r1, phase1 w n { s := s0, tid := tid, fault := fault, fresh := fresh0, cs := cs0 } = .ok ((), r1) ∧
      (w.hasTracked = true → r1.reserved.map (fun h => (h.lid, h.version)) = w.updated) ∧
      (∀ h ∈ r1.reserved, h.inactive ≠ 0 → r2.s.view h.lid = some (h.inactive, h.version + 1)) ∧
      (∀ lid, (s0.view lid).isSome → (∀ h ∈ r1.reserved, h.lid ≠ lid) → (∀ g ∈ r1.removedH, g.lid ≠ lid) →
        r2.s.view lid = s0.view lid) :=
  commit_ok_installs pre pre2 fault tid n r2 hok

/-- the same, read per node of the write set: an updated node `(lid, v)` of a successful commit ends at version
`v + 1` under a blob id the transaction staged (when the id generator did not hand out the nil id) -/
theorem C01_ok_every_updated_node_advances (s0 : State) (w : WS) (fresh0 : List (UUID × UUID)) (pre : Pre s0 w fresh0)
    (pre2 : Pre2 s0 w fresh0) (fault : Option Fault) {cs0 : Step} (tid : Tid) (n : Nat) (r2 : Run) (hT : w.hasTracked = true)
    (hok : commit w n { s := s0, tid := tid, fault := fault, fresh := fresh0, cs := cs0 } = (.ok, r2))
    (x : UUID × Int) (hx : x ∈ w.updated) :
    ∃ newId, newId = 0 ∨ r2.s.view x.1 = some (newId, x.2 + 1) := by
  obtain ⟨r1, _, hcov, hnew, _⟩ := commit_ok_installs pre pre2 fault tid n r2 hok
  rw [← hcov hT] at hx
  obtain ⟨h, hm, rfl⟩ := List.mem_map.mp hx
  refine ⟨h.inactive, ?_⟩
  by_cases hz : h.inactive = 0
  · exact .inl hz
  · exact .inr (hnew h hm hz)

/-- **…every NEW node is visible**: after a commit that returned ok the first root of an empty store reads at
version 0 and every node added by a split at version 1, each under the blob written for it — nothing in phase 2 or in
the cleanup touches them (`Pre3`: the new ids are distinct and no obsolete value blob carries one of them). -/
theorem C01_ok_new_nodes_visible (s0 : State) (w : WS) (fresh0 : List (UUID × UUID)) (pre : Pre s0 w fresh0)
    (pre2 : Pre2 s0 w fresh0) (p3 : Pre3 w) (fault : Option Fault) {cs0 : Step} (tid : Tid) (n : Nat) (r2 : Run)
    (ht : w.hasTracked = true)
    (hok : commit w n { s := s0, tid := tid, fault := fault, fresh := fresh0, cs := cs0 } = (.ok, r2)) :
    (∀ i ∈ w.rootIds, r2.s.view i = some (i, 0)) ∧ (∀ i ∈ w.addedIds, r2.s.view i = some (i, 1)) :=
  commit_ok_new_nodes pre pre2 p3 fault tid n r2 ht hok

example : Pre3 Witness.wSplit := ⟨by decide, by intro i _ hm; simp [WS.obsoleteValues, Witness.wSplit] at hm⟩

/-- **…and the store counts move by exactly the write set's deltas, in every store at once**: after a commit that
returned ok (under any tolerated fault) the count of every store is its old count plus that store's delta — the one
`StoreRepository.Update` of `commitStores` is the only thing on the success path that touches a count. (A write set
without tracked items commits nothing: the counts stay.) -/
theorem C01_ok_applies_count_deltas (s0 : State) (w : WS) (fresh0 : List (UUID × UUID)) (fault : Option Fault)
    {cs0 : Step} (tid : Tid) (n : Nat) (r2 : Run)
    (hok : commit w n { s := s0, tid := tid, fault := fault, fresh := fresh0, cs := cs0 } = (.ok, r2)) :
    r2.s.cnt = if w.hasTracked then w.countsAfter s0 else s0.cnt := by
  obtain ⟨r1, h1, h2⟩ := commit_ok_inv hok
  have a : (fun r => NoLists r ∧ CNT s0.cnt r) { s := s0, tid := tid, fault := fault, fresh := fresh0, cs := cs0 } := ⟨⟨rfl, rfl⟩, rfl⟩
  -- phase 2 writes no count (its footprint), phase 1 exactly the deltas (`gap_phase1`)
  have b : CNT r1.s.cnt r1 := rfl
  exact (((foot_phase2 w).keeps Reads.cnt).of_ok b h2).trans ((gap_phase1 s0 w n).of_ok a h1).cnt

example : (Witness.wSplit.countsAfter Witness.s0) 0 = 6 := by decide +kernel

/-- **The premises are checked on the real inputs.** The driver evaluates `hypViolations` on every real commit the
correspondence run replays (registered handles, write set and fresh ids read off the real transaction) and the
evidence counts the commits whose premises hold (`model:hyp:ok`); an empty answer implies `Pre`, `Pre2`, `Pre3`. -/
theorem C01_premise_check_sound (lids : List UUID) (s : State) (w : WS) (fresh : List (UUID × UUID))
    (hcl : ∀ i, i ∉ lids → s.reg i = none) (hv : hypViolations lids s w fresh = []) :
    Pre s w fresh ∧ Pre2 s w fresh ∧ Pre3 w := hypCheck_sound lids s w fresh hcl hv

/-- the premises are satisfiable by a non-trivial state (node updated + node added + staged id) -/
theorem C01_premises_satisfiable : Pre Witness.s0 Witness.wSplit [(1, 9)] := Witness.pre_wSplit

/-- `Pre2` holds of the split witness (its commit returns ok: the example below) -/
theorem C01_success_premises_satisfiable : Pre2 Witness.s0 Witness.wSplit [(1, 9)] := Witness.pre2_wSplit

example : (commit Witness.wSplit 30 { s := Witness.s0, tid := 1, fault := none, fresh := [(1, 9)] }).1 = .ok := by
  decide +kernel

/-- non-vacuity of `reserve_keeps_view`'s hypotheses: the witness state reserves node 1 -/
example : (reserveAll Witness.s0.now Witness.s0.hour [(1, 9)] [({ lid := 1, idA := 1, version := 1 }, 1)]).isSome = true := by
  decide +kernel

end Sop.C01
