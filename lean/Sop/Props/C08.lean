import Sop.Lemmas.RecoveryAtomic
/-!
# C08 — a crash during commit leaves all-or-nothing, with earlier commits intact

Model: `Sop.Recovery` (crash = Model P's fault-free commit truncated between two durable calls; recovery =
`doPriorityRollbacks` + `processExpiredTransactionLogs → transactionLog.rollback`, transcribed with their defects).

The code does NOT have the property: `Statement_C08` is refuted by three independent mechanisms, each with a
concrete witness that the harness replays on the real code (directed programs 0, 3 of `crashx.Directed`):

* `C08_counterexample_flip`  — crash after the phase-2 flip and the priority-log removal, before cleanup logs
  `deleteObsoleteEntries`: the log's last line is `finalizeCommit`, the rollback treats the transaction as
  uncommitted and deletes the staged blob — the ACTIVE blob of the committed handle;
* `C08_counterexample_count` — crash after `StoreRepository.Update`, before the flip: the nodes are rolled back,
  the count is not (the reverse delta is not in the log: `CountDelta` is `json:"-"`; not even attempted at `last = 9`);
* `C08_counterexample_root`  — crash after the first root of an empty store was registered: recovery deletes the
  root blob and leaves the handle (`rollbackNewRootNodes` looks at the recovering transaction's `committedState`).

A fourth mechanism concerned later WRITERS, not readers (C08-F4, repaired by 212dd4ca): see the last section.

What does hold (proved for every state / write set / crash point, not for samples):
* `C08_atomic_outside_windows` — for every start state, write set (`WF`) and crash point OUTSIDE the three finding
  windows (`crashWindow`, decidable): after priority rollback + expired-log rollback every node loadable before reads
  as before with the old counts, or — only after cleanup's first log line, hence after the flip — every reserved node
  shows the staged blob at the next version, every node marked removed is gone, every node outside the write set
  reads as before, the new roots / added nodes are visible, with the new counts; a registered new root is loadable;
  both log files are gone. For each window there is a witness and a crash point inside it where the statement fails
  (`C08_window_F1_fails`, `…F2…`, `…F3…`); that the windows are exactly the bad points is shown on the witness `wU 1`
  only (`C08_windows_exact_on_witness`), not for every write set;
* recovery always removes the dead transaction's log, and its priority log when the version check passes;
* once cleanup has logged `deleteObsoleteEntries` the recovery does exactly the rest of the cleanup.
-/
namespace Sop.C08
open Sop.Commit Sop.Recovery

/-- the write set can be committed from `s` without a conflict (what a single writer's Commit needs) -/
def Ready (s : State) (fresh : List (UUID × UUID)) (w : WS) : Bool :=
  w.hasTracked
  && w.updated.all (fun (id, v) => match s.reg id with
      | some h => h.version == v && !h.deleted && !h.bothInUse && s.blob h.active
      | none => false)
  && w.removed.all (fun (id, v) => match s.reg id with
      | some h => h.version == v && !h.deleted && s.blob h.active
      | none => false)
  && w.rootIds.all (fun i => (s.reg i).isNone && !s.blob i)
  && w.addedIds.all (fun i => (s.reg i).isNone && !s.blob i)
  && (reservedOf s fresh w).length == w.updated.length
  && (reservedOf s fresh w).all (fun h => h.inactive != 0 && !s.blob h.inactive)
  && w.stores.all (fun st => st.created || s.storeExists st.store)

/-- a later writer (clock past the one-hour window) can reserve every node the dead transaction touched -/
def usable (a : State) (w : WS) : Bool :=
  (upLids w).all (fun i => match a.reg i with
    | some h => (reserveOne (a.now + 3 * a.hour) a.hour 1000000 h h.version).isSome
    | none => true)

/-- The property, at full strength: for every state, write set and crash point (every prefix of the commit's
durable calls, phase 2 and cleanup included), after recovery with the ages past their thresholds a cold reader
sees the state before or the state after, nothing reachable dangles, both logs are gone and the nodes are usable. -/
def Statement_C08 : Prop :=
  ∀ (s : State) (fresh : List (UUID × UUID)) (w : WS) (m : Nat), Ready s fresh w = true →
    let d := (recover (crashAt s 1 fresh w m)).1
    let fin := (committed s 1 fresh w).s
    (isBefore d.s s w = true ∨ isAfter d.s fin w = true)
    ∧ reachableOk d.s fin w = true
    ∧ d.s.tlog 1 = false ∧ d.plg = none
    ∧ usable d.s w = true

/-- one existing node (lid 1, blob 1, version 0) in store 0 (2 items); the transaction rewrites it, count +1 -/
def s1 : State :=
  let s0 : State := (({} : State).setReg ⟨1, 1, 0, false, 0, 0, false⟩).setBlob 1 true
  { s0 with cnt := fun k => if k = 0 then 2 else 0, storeExists := fun k => k == 0 }
def w1 : WS := { stores := [{ store := 0, updated := [(1, 0)], delta := 1 }] }
def f1 : List (UUID × UUID) := [(1, 2)]

/-- empty store 0; the transaction adds its first root (lid 3) -/
def s3 : State := { ({} : State) with storeExists := fun k => k == 0 }
def w3 : WS := { stores := [{ store := 0, root := [3], delta := 1 }] }

theorem ready1 : Ready s1 f1 w1 = true := by decide +kernel
theorem ready3 : Ready s3 [] w3 = true := by decide +kernel

/-- crash point 16 of witness 1 = after `reg.UpdateNoLocks aon` (flip) and `plog.Remove`, before `tlog.Add 12`:
recovery leaves handle 1 pointing at blob 2, which it has deleted. -/
theorem flip_window_dangles :
    let d := (recover (crashAt s1 1 f1 w1 16)).1
    d.s.reg 1 = some ⟨1, 1, 2, true, 1, 1, false⟩ ∧ d.s.blob 2 = false ∧ d.s.view 1 = none
    ∧ s1.view 1 = some (1, 0) ∧ (committed s1 1 f1 w1).s.view 1 = some (2, 1) := by decide +kernel

theorem C08_counterexample_flip : ¬ Statement_C08 := by
  intro h
  have := h s1 f1 w1 16 ready1
  revert this
  decide +kernel

/-- crash point 11 of witness 1 = right after `sr.Update`: nodes as before, count as after -/
theorem count_not_undone :
    let d := (recover (crashAt s1 1 f1 w1 11)).1
    d.s.view 1 = s1.view 1 ∧ d.s.cnt 0 = 3 ∧ s1.cnt 0 = 2 := by decide +kernel

theorem C08_counterexample_count : ¬ Statement_C08 := by
  intro h
  have := h s1 f1 w1 11 ready1
  revert this
  decide +kernel

/-- crash point 6 of witness 3 = after the root's `blob.Add`, `reg.Add` and `tlog.Add 5`: the blob is deleted, the handle stays -/
theorem root_handle_left :
    let d := (recover (crashAt s3 1 [] w3 6)).1
    d.s.reg 3 = some (Handle.new 3) ∧ d.s.blob 3 = false := by decide +kernel

theorem C08_counterexample_root : ¬ Statement_C08 := by
  intro h
  have := h s3 [] w3 6 ready3
  revert this
  decide +kernel

/-- outside the three windows the same witness does satisfy the statement's body (so the refutations are not an
artefact of `Ready` or of the observation functions): every crash point before `sr.Update` and every one from
`tlog.Add 12` on. -/
theorem witness1_good_points :
    ∀ m ∈ [0, 1, 2, 3, 4, 5, 6, 7, 8, 9, 10, 17, 18, 19, 20, 21],
      let d := (recover (crashAt s1 1 f1 w1 m)).1
      let fin := (committed s1 1 f1 w1).s
      (isBefore d.s s1 w1 = true ∨ isAfter d.s fin w1 = true) ∧ reachableOk d.s fin w1 = true
      ∧ d.s.tlog 1 = false ∧ d.plg = none ∧ usable d.s w1 = true := by decide +kernel

/-- **Recovery always removes the dead transaction's log** -/
theorem C08_recovery_removes_log (d : DState) : (recover d).1.s.tlog d.tid = false ∧ (recover d).1.tid = d.tid :=
  ⟨recover_removes_log d, recover_tid d⟩

/-- … and its priority log, when the logged pre-flip images fit the registry versions (for a crash up to
the phase-2 registry write this is `Sop.Recovery.cinv_pre` (fields `vers`, `plg`): the images were taken from the registry by the dead
transaction itself). -/
theorem C08_recovery_removes_plog_partial (d : DState) (h : plogFits d = true) : (recover d).1.plg = none :=
  recover_removes_plog d h

example : plogFits (crashAt s1 1 f1 w1 14) = true ∧ (crashAt s1 1 f1 w1 14).plg.isSome = true := by decide +kernel

/-- If the log reads `… finalizeCommit(dead, unused, vals); deleteObsoleteEntries [; deleteTrackedItemsValues]`
the expired-log rollback deletes the obsolete value blobs (only at `last = 13`), the unused blobs and the removed
handles, removes the log, and touches nothing else. -/
theorem C08_cleanup_only_finishes_partial (d : DState) (pre post : List Entry) (dead unused vals : List UUID) (l : Entry)
    (hlog : d.log = pre ++ ⟨.finalizeCommit, .obsolete dead unused vals⟩ :: post)
    (hpost : ∀ e ∈ post, cleanupLine e = true) (hne : post.getLast? = some l) (htl : d.s.tlog d.tid = true) :
    (expiredRollback (d, [])).1 =
      (removeLog (deleteObsolete dead unused
        (if l.step.ord == Step.deleteTrackedItemsValues.ord && !vals.isEmpty then blobRemove vals (d, []) else (d, [])))).1 := by
  rw [expired_finishes_cleanup (d, []) pre post dead unused vals l hlog hpost hne htl]

/-- non-vacuity: crash point 18 of witness 1 (after `tlog.Add 12` and the `blob.Remove` that follows it) has that shape -/
example : (crashAt s1 1 f1 w1 18).log = ((crashAt s1 1 f1 w1 18).log.take 9) ++ ⟨.finalizeCommit, .obsolete [] [1] []⟩ :: [⟨.deleteObsoleteEntries, .none⟩]
    ∧ (∀ e ∈ [(⟨.deleteObsoleteEntries, .none⟩ : Entry)], cleanupLine e = true) ∧ (crashAt s1 1 f1 w1 18).s.tlog 1 = true := by decide +kernel

/-- a reservation (`commitUpdatedNodes`) shows readers the same node: same logical id, active id and version -/
theorem reserve_keeps_view (now hour : Int) (f : UUID) (h h' : Handle) (v : Int)
    (hr : reserveOne now hour f h v = some h') : h'.lid = h.lid ∧ h'.active = h.active ∧ h'.version = h.version :=
  have ⟨a, b, c, _⟩ := reserveOne_spec now hour f h h' v hr
  ⟨a, b, c⟩

/-- the phase-2 flip (`activateInactiveNodes`) shows readers the staged blob under the next version -/
theorem activate_shows_staged (h : Handle) :
    (activate h).lid = h.lid ∧ (activate h).active = h.inactive ∧ (activate h).inactive = h.active
    ∧ (activate h).version = h.version + 1 :=
  have ⟨a, b, c, d, _⟩ := activate_spec h
  ⟨a, b, c, d⟩

/-- writing a logged pre-flip image back over its flipped image (`doPriorityRollbacks`) restores what readers saw -/
theorem restore_image_keeps_view (s : State) (h : Handle) :
    (s.setReg h).reg h.lid = some h ∧ ((s.setReg (activate h)).setReg h).reg h.lid = some h := by
  simp [State.setReg, activate, Handle.flip]

/-- the crash point `m` (number of durable calls of `Commit` made before the process died) lies in one of the three
finding windows (`inF1`, `inF2`, `inF3`) -/
def crashWindow (s : State) (fresh : List (UUID × UUID)) (w : WS) (m : Nat) : Bool :=
  inWindow w ((commitOps s fresh w).take m)

/-- when every updated node could be reserved and every removed node was registered, `NewOutcome` speaks about
every node of the write set -/
theorem C08_new_covers_write_set {s0 : State} {w : WS} {fresh : List (UUID × UUID)} (wf : WF s0 w fresh) {a : State}
    (hN : NewOutcome s0 fresh w a)
    (hlen : (reservedOf s0 fresh w).length = w.updated.length)
    (hreg : ∀ i ∈ w.removed.map (·.1), (s0.reg i).isSome = true) :
    (∀ i ∈ w.updated.map (·.1), ∃ h ∈ reservedOf s0 fresh w, h.lid = i ∧ a.view i = some (h.inactive, h.version + 1))
    ∧ ∀ i ∈ w.removed.map (·.1), a.view i = none := by
  have heq : (reservedOf s0 fresh w).map (·.lid) = w.updated.map (·.1) :=
    wf.resSub.eq_of_length (by simp [hlen])
  refine ⟨?_, ?_⟩
  · intro i hi
    rw [← heq] at hi
    obtain ⟨h, hh, rfl⟩ := List.mem_map.mp hi
    exact ⟨h, hh, rfl, hN.upd h hh⟩
  · intro i hi
    have hs := hreg i hi
    cases hr : s0.reg i with
    | none => rw [hr] at hs; cases hs
    | some h =>
      obtain ⟨x, hx, rfl⟩ := List.mem_map.mp hi
      have hm : ({ h with deleted := true, wip := s0.now } : Handle) ∈ markedOf s0 w := by
        unfold markedOf
        exact List.mem_map_of_mem (List.mem_filterMap.mpr ⟨x, hx, hr⟩)
      have := hN.rem _ hm
      have hl : h.lid = x.1 := wf.pre.regwf _ _ hr
      simpa [hl] using this

/-- **C08 outside the three finding windows** (see `Sop.Recovery.atomic_outside_windows`). -/
theorem C08_atomic_outside_windows {s0 : State} {w : WS} {fresh : List (UUID × UUID)} (wf : WF s0 w fresh) (tid : Tid)
    (m : Nat) (hw : crashWindow s0 fresh w m = false) :
    (OldOutcome s0 (recover (crashAt s0 tid fresh w m)).1.s ∨
      (hasLog .deleteObsoleteEntries ((commitOps s0 fresh w).take m) = true ∧
        NewOutcome s0 fresh w (recover (crashAt s0 tid fresh w m)).1.s))
    ∧ RootsOK w (recover (crashAt s0 tid fresh w m)).1.s
    ∧ (recover (crashAt s0 tid fresh w m)).1.plg = none
    ∧ (recover (crashAt s0 tid fresh w m)).1.s.tlog tid = false :=
  atomic_outside_windows wf tid m hw

/-- the node/count half needs only the flip window and the count window to be excluded -/
theorem C08_views_and_counts_outside_F1_F2 {s0 : State} {w : WS} {fresh : List (UUID × UUID)} (wf : WF s0 w fresh)
    (tid : Tid) (m : Nat)
    (h1 : inF1 ((commitOps s0 fresh w).take m) = false) (h2 : inF2 ((commitOps s0 fresh w).take m) = false) :
    (OldOutcome s0 (recover (crashAt s0 tid fresh w m)).1.s ∨
      (hasLog .deleteObsoleteEntries ((commitOps s0 fresh w).take m) = true ∧
        NewOutcome s0 fresh w (recover (crashAt s0 tid fresh w m)).1.s))
    ∧ (recover (crashAt s0 tid fresh w m)).1.plg = none
    ∧ (recover (crashAt s0 tid fresh w m)).1.s.tlog tid = false :=
  atomic_outside_F1_F2 wf tid m h1 h2

/-- the new-root half needs only the root window to be excluded -/
theorem C08_roots_outside_F3 {s0 : State} {w : WS} {fresh : List (UUID × UUID)} (wf : WF s0 w fresh) (tid : Tid) (m : Nat)
    (h3 : inF3 w ((commitOps s0 fresh w).take m) = false) : RootsOK w (recover (crashAt s0 tid fresh w m)).1.s :=
  roots_outside_F3 wf tid m h3

/-- non-vacuity: the premises hold of the witnesses, and crash points outside the windows exist before the flip,
between the flip and the priority-log removal, and in cleanup -/
example : WF Witness.s0 (wU 1) [(1, 9)] ∧ crashWindow Witness.s0 [(1, 9)] (wU 1) 7 = false
    ∧ crashWindow Witness.s0 [(1, 9)] (wU 0) 14 = false ∧ crashWindow Witness.s0 [(1, 9)] (wU 1) 18 = false :=
  ⟨wf_upd 1, by decide +kernel, by decide +kernel, by decide +kernel⟩

/-- **the statement fails at a crash point inside the flip window (C08-F1) alone**: after `plog.Remove`, before
`tlog.Add 12`, the recovered state is neither old nor new — node 1 cannot be loaded -/
theorem C08_window_F1_fails :
    WF Witness.s0 (wU 0) [(1, 9)]
    ∧ inF1 ((commitOps Witness.s0 [(1, 9)] (wU 0)).take 15) = true
    ∧ inF2 ((commitOps Witness.s0 [(1, 9)] (wU 0)).take 15) = false
    ∧ inF3 (wU 0) ((commitOps Witness.s0 [(1, 9)] (wU 0)).take 15) = false
    ∧ ¬ (OldOutcome Witness.s0 (recover (crashAt Witness.s0 1 [(1, 9)] (wU 0) 15)).1.s ∨
        (hasLog .deleteObsoleteEntries ((commitOps Witness.s0 [(1, 9)] (wU 0)).take 15) = true ∧
          NewOutcome Witness.s0 [(1, 9)] (wU 0) (recover (crashAt Witness.s0 1 [(1, 9)] (wU 0) 15)).1.s)) := by
  refine ⟨wf_upd 0, ?_⟩
  rw [← and_assoc, ← and_assoc]
  refine ⟨by decide +kernel, ?_⟩
  rintro (h | ⟨h, _⟩)
  · have := h.views 1 (by decide +kernel)
    revert this; decide +kernel
  · revert h; decide +kernel

/-- **… inside the count window (C08-F2) alone**: right after `sr.Update` the recovered state has the old node with the
new count -/
theorem C08_window_F2_fails :
    WF Witness.s0 (wU 1) [(1, 9)]
    ∧ inF2 ((commitOps Witness.s0 [(1, 9)] (wU 1)).take 11) = true
    ∧ inF1 ((commitOps Witness.s0 [(1, 9)] (wU 1)).take 11) = false
    ∧ inF3 (wU 1) ((commitOps Witness.s0 [(1, 9)] (wU 1)).take 11) = false
    ∧ ¬ (OldOutcome Witness.s0 (recover (crashAt Witness.s0 1 [(1, 9)] (wU 1) 11)).1.s ∨
        (hasLog .deleteObsoleteEntries ((commitOps Witness.s0 [(1, 9)] (wU 1)).take 11) = true ∧
          NewOutcome Witness.s0 [(1, 9)] (wU 1) (recover (crashAt Witness.s0 1 [(1, 9)] (wU 1) 11)).1.s)) := by
  refine ⟨wf_upd 1, ?_⟩
  rw [← and_assoc, ← and_assoc]
  refine ⟨by decide +kernel, ?_⟩
  rintro (h | ⟨h, _⟩)
  · have := congrFun h.cnt 0
    revert this; decide +kernel
  · revert h; decide +kernel

/-- **… inside the root window (C08-F3) alone**: the new root's handle is registered, its blob is gone -/
theorem C08_window_F3_fails :
    WF Witness.sEmpty Witness.wRoot []
    ∧ inF3 Witness.wRoot ((commitOps Witness.sEmpty [] Witness.wRoot).take 6) = true
    ∧ inF1 ((commitOps Witness.sEmpty [] Witness.wRoot).take 6) = false
    ∧ inF2 ((commitOps Witness.sEmpty [] Witness.wRoot).take 6) = false
    ∧ ¬ RootsOK Witness.wRoot (recover (crashAt Witness.sEmpty 1 [] Witness.wRoot 6)).1.s := by
  refine ⟨wf_root, ?_⟩
  rw [← and_assoc, ← and_assoc]
  refine ⟨by decide +kernel, ?_⟩
  intro h
  have := h 3 (by decide)
  revert this; decide +kernel

/-- on the witness (node 1 rewritten, count +1) the windows are EXACTLY the crash points where the recovered state
is neither (old node, old count) nor (new node, new count): all 22 crash points -/
theorem C08_windows_exact_on_witness :
    ∀ m ∈ List.range 22,
      crashWindow Witness.s0 [(1, 9)] (wU 1) m =
        !(((recover (crashAt Witness.s0 1 [(1, 9)] (wU 1) m)).1.s.view 1 == some (1, 1)
              && (recover (crashAt Witness.s0 1 [(1, 9)] (wU 1) m)).1.s.cnt 0 == 5)
          || ((recover (crashAt Witness.s0 1 [(1, 9)] (wU 1) m)).1.s.view 1 == some (9, 2)
              && (recover (crashAt Witness.s0 1 [(1, 9)] (wU 1) m)).1.s.cnt 0 == 6)) := by
  decide +kernel

/-! ## C08-F4 (repaired by 212dd4ca): a removed node must stay reservable after the removal is undone

Not a view defect — every reader sees the old state — but the last conjunct of `Statement_C08` (`usable`). Before the
repair recovery's `rollbackRemovedNodes` cleared the deleted mark and ZEROED `WorkInProgressTimestamp`; on a handle that
an earlier commit had updated (both physical ids in use, timestamp 1 = "the inactive id may be reused") this removed the
only thing that lets a later `commitUpdatedNodes` reuse the slot: `AllocateID` returns nil and `IsExpiredInactive()` is
false for ever (`stuck_never_reservable`, `legacy_undo_image_stuck`). The repaired code puts the marker 1 back when the
handle still carries two ids; the model follows it, and the image it writes is never `stuck` (`undo_image_not_stuck`,
for every handle); on the witness no crash point leaves the removed node stuck or unusable (`C08_F4_repaired_on_witness`). -/

/-- a `stuck` handle is refused by `commitUpdatedNodes` whatever the clock, the generated id and the version read -/
theorem stuck_never_reservable (h : Handle) (hs : stuck h = true) (now hour : Int) (f : UUID) (v : Int) :
    reserveOne now hour f h v = none := by
  unfold stuck at hs
  simp only [Bool.and_eq_true, Bool.or_eq_true, decide_eq_true_eq] at hs
  obtain ⟨hdb, hw⟩ := hs
  have hexp : h.expiredInactive now hour = false := by
    unfold Handle.expiredInactive
    have : ¬ (h.wip > 0) := by omega
    simp [this]
  unfold reserveOne
  rcases hdb with hd | hb
  · simp [hd, hexp]
  · by_cases hd : h.deleted = true
    · simp [hd, hexp]
    · have hd' : h.deleted = false := by simpa using hd
      simp only [hd', hexp, Bool.false_and, Bool.not_false, Bool.and_true, Bool.false_or, Bool.false_eq_true, ↓reduceIte]
      split
      · rfl
      · simp [Handle.allocate, hb]

/-- **the image the repaired `rollbackRemovedNodes` writes is never `stuck`** — for every handle -/
theorem undo_image_not_stuck (h : Handle) :
    stuck { h with deleted := false, wip := if h.bothInUse then 1 else 0 } = false := by
  unfold stuck
  by_cases hb : h.bothInUse = true
  · simp [hb]
  · have hb' : h.bothInUse = false := by simpa using hb
    have : ({ h with deleted := false, wip := if h.bothInUse then 1 else 0 } : Handle).bothInUse = false := by
      simpa [Handle.bothInUse] using hb'
    simp [this]

/-- `undoOf`: what the walk's `commitRemovedNodes` line writes -/
theorem undoOf_not_stuck (s : State) (lids : List UUID) : ∀ h' ∈ undoOf s lids, stuck h' = false := by
  intro h' hm
  unfold undoOf at hm
  obtain ⟨h, _, rfl⟩ := List.mem_map.mp hm
  exact undo_image_not_stuck h

/-- the legacy image (timestamp zeroed unconditionally) of a marked two-id handle IS stuck: what C08-F4 was -/
theorem legacy_undo_image_stuck :
    stuck { (⟨1, 1, 2, true, 2, 1000000000, true⟩ : Handle) with deleted := false, wip := 0 } = true := by decide +kernel

/-- node 1 was updated by an earlier commit: both physical ids in use, B active, version 2, timestamp 1 -/
def sB : State :=
  { ((({} : State).setReg ⟨1, 1, 2, true, 2, 1, false⟩).setBlob 2 true) with
      cnt := fun k => if k = 0 then 5 else 0, storeExists := fun k => k = 0 }
def wB : WS := { stores := [{ store := 0, removed := [(1, 2)], items := 1, delta := -1 }] }

theorem readyB : Ready sB [] wB = true := by decide +kernel

/-- the former C08-F4 window: a removed node's handle has both physical ids in use, `commitAddedNodes` is logged (so the
recovery undoes the removal marks), cleanup has not logged its first line -/
def inF4 (s : State) (w : WS) (p : List DOp) : Bool :=
  w.removed.any (fun x => match s.reg x.1 with
    | some h => h.bothInUse
    | none => false)
  && hasLog .commitAddedNodes p && !hasLog .deleteObsoleteEntries p

/-- crash point 8 (right after `tlog.Add 8`, inside the former F4 window, outside F1–F3): readers see node 1 as before
and its handle is back to exactly what it was — both ids, timestamp 1 — reservable by a later writer -/
theorem removed_node_restored_after_recovery :
    let a := (recover (crashAt sB 1 [] wB 8)).1.s
    crashWindow sB [] wB 8 = false ∧ inF4 sB wB ((commitOps sB [] wB).take 8) = true
    ∧ a.view 1 = sB.view 1 ∧ a.cnt 0 = sB.cnt 0
    ∧ a.reg 1 = sB.reg 1 ∧ stuckLids a wB = []
    ∧ usable sB wB = true ∧ usable a wB = true := by decide +kernel

/-- **C08-F4 repaired, on the witness**: at every crash point short of the completed run (0 … 19, the former window 8..15 included) the recovery leaves
no node of the write set stuck, and a later writer can reserve it -/
theorem C08_F4_repaired_on_witness :
    ∀ m ∈ List.range 20,
      stuckLids (recover (crashAt sB 1 [] wB m)).1.s wB = [] ∧ usable (recover (crashAt sB 1 [] wB m)).1.s wB = true := by
  decide +kernel

end Sop.C08
