import Sop.Model.Lifecycle
/-!
# C14 — transaction modes and lifecycle are enforced

Theorems about `Sop.Lifecycle` (the transcription of `Begin / Phase1Commit / Phase2Commit / Rollback / Close`,
`SinglePhaseTransaction.Commit`, `NewBtree / OpenBtree` and the `btreeWithTransaction` guards), all over
**every** call sequence (`List Op`, unbounded) and all three modes; `stepCoreF` / `stepF`: with FAILING calls (a
failure injected under any call).

`Statement_readonly_never_writes` is **violated by the code**: `NewBtree` never looks at the mode. `C14_counterexample`
refutes it with the witness the harness replays first; `readonly_never_writes_partial` is the strongest true version
(excluding exactly the store-creating `NewBtree`).
-/
namespace Sop.C14
open Sop.Lifecycle

@[simp] theorem isOk_err (e : Err) : (Res.err e).isOk = false := rfl
@[simp] theorem isOk_noHandle : Res.noHandle.isOk = false := rfl
@[simp] theorem isOk_ok : Res.ok.isOk = true := rfl
@[simp] theorem isOk_okB (b : Bool) : (Res.okB b).isOk = true := rfl
@[simp] theorem isOk_panic : Res.panic.isOk = false := rfl
@[simp] theorem isOk_ite_err (c : Prop) [Decidable c] (a b : Err) :
    (if c then Res.err a else Res.err b).isOk = false := by split <;> rfl

theorem hasBegun_iff (s : St) : s.hasBegun = true ↔ s.pd = 0 ∨ s.pd = 1 := by
  simp only [St.hasBegun, Bool.and_eq_true, decide_eq_true_eq]; omega

theorem hasBegun_done (s : St) (h : s.pd = 2) : s.hasBegun = false := by
  simp [St.hasBegun, h]

def Started (s : St) : Prop := s.hasBegun = true ∨ s.pd = 2

theorem started_iff (s : St) : Started s ↔ (s.pd = 0 ∨ s.pd = 1 ∨ s.pd = 2) := by
  unfold Started; rw [hasBegun_iff]; omega

theorem rollbackTx_notBegun (s : St) (hb : s.hasBegun = false) : (rollbackTx s).1 = s ∧ (rollbackTx s).2.2 = [] := by
  fun_cases rollbackTx s
  · exact ⟨rfl, rfl⟩
  · exact ⟨rfl, rfl⟩
  · exact ⟨rfl, rfl⟩
  · exact absurd hb (by simp_all)

theorem rollbackTxF_none (s : St) : rollbackTxF s Fx.none = R.ofOut (rollbackTx s) := by
  unfold rollbackTxF rollbackTx R.ofOut
  by_cases h2 : s.pd = 2
  · simp [h2]
  · by_cases hb : s.hasBegun = true
    · simp [h2, hb, Fx.none]
    · simp [h2, hb]

theorem phase1TxF_none (s : St) : phase1TxF s Fx.none = R.ofOut (phase1Tx s) := by
  unfold phase1TxF
  by_cases hb : s.hasBegun = true
  · cases hm : s.mode <;> simp [hb, Fx.none, R.ofOut]
  · simp [hb, phase1Tx, R.ofOut]

theorem phase2TxF_none (s : St) : phase2TxF s false = R.ofOut (phase2Tx s) := by
  unfold phase2TxF
  by_cases hb : s.hasBegun = true
  · by_cases h0 : s.pd = 0
    · simp [hb, h0, phase2Tx, R.ofOut]
    · cases hm : s.mode <;> simp [hb, h0, R.ofOut]
  · simp [hb, phase2Tx, R.ofOut]

theorem commitTxF_none (s : St) : commitTxF s Fx.none = R.ofOut (commitTx s) := by
  unfold commitTxF commitTx
  simp only [phase1TxF_none, show Fx.none.work2 = false from rfl, phase2TxF_none, rollbackTxF_none, R.ofOut]
  split
  · split <;> simp
  · simp

theorem newBtreeF_none (s : St) : newBtreeF s Fx.none = R.ofOut (newBtree s) := by
  unfold newBtreeF
  by_cases hb : s.hasBegun = true
  · simp [hb, Fx.none]
  · simp [hb, newBtree, R.ofOut]

theorem openBtreeF_none (s : St) : openBtreeF s Fx.none = R.ofOut (openBtree s) := by
  unfold openBtreeF
  by_cases hb : s.hasBegun = true
  · cases hk : s.backend with
    | some b => simp [hb]
    | none =>
      by_cases hd : s.dExists = true
      · simp [hb, hd, Fx.none]
      · simp [hb, hd, show Fx.none.work = false from rfl, afterRollback, rollbackTxF_none, R.ofOut, openBtree, hk]
  · simp [hb, openBtree, R.ofOut]

theorem storeOpF_none (s : St) (k : Kind) : storeOpF s k Fx.none = R.ofOut (storeOp s k) := by
  unfold storeOpF
  by_cases hh : s.handle = true
  · by_cases hb : s.hasBegun = true
    · by_cases hm : (k.mutating && s.mode != .forWriting) = true
      · simp [hh, hb, hm, afterRollback, rollbackTxF_none, R.ofOut, storeOp]
      · cases hk : s.backend with
        | none => simp [hh, hb, hm, storeOp, hk, R.ofOut]
        | some b => simp [hh, hb, hm, Fx.none, R.ofOut]
    · simp [hh, hb]
  · simp [hh, storeOp, R.ofOut]

theorem stepCoreF_nofault (s : St) (op : Op) : stepCoreF s op Fx.none = R.ofOut (stepCore s op) := by
  cases op with
  | begin => rfl
  | phase1 => exact phase1TxF_none s
  | phase2 => exact phase2TxF_none s
  | commit => exact commitTxF_none s
  | rollback => exact rollbackTxF_none s
  | close => rfl
  | newBtree => exact newBtreeF_none s
  | openBtree => exact openBtreeF_none s
  | store k => exact storeOpF_none s k

/-- A call from `s` that ends in `s'` with result `res`. `writes`: `step` alone advances the ghost counter. `life`: the
lifecycle fields are unchanged; or the transaction, not over before, is begun or has had its phase 1 and `committed` is
unchanged; or it is over. -/
structure Lawful (s s' : St) (res : Res) : Prop where
  mode : s'.mode = s.mode
  writes : s'.writes = s.writes
  life : (s'.pd = s.pd ∧ s'.committed = s.committed) ∨
    (s.pd ≠ 2 ∧ s'.committed = s.committed ∧ (s'.pd = 0 ∨ s'.pd = 1)) ∨ s'.pd = 2
  np : res ≠ .panic

theorem Lawful.refl {s : St} {res : Res} (hn : res ≠ .panic) : Lawful s s res := ⟨rfl, rfl, .inl ⟨rfl, rfl⟩, hn⟩

theorem Lawful.started {s s' : St} {res : Res} (h : Lawful s s' res) (hs : Started s) : Started s' := by
  rw [started_iff] at *
  rcases h.life with ⟨p, _⟩ | ⟨_, _, p⟩ | p <;> omega

theorem rollbackCore_frame (s : St) :
    (rollbackCore s).1.mode = s.mode ∧ (rollbackCore s).1.writes = s.writes ∧
    (rollbackCore s).1.pd = s.pd ∧ (rollbackCore s).1.committed = s.committed := by
  fun_cases rollbackCore s <;> exact ⟨rfl, rfl, rfl, rfl⟩

def isStoreLevel : Op → Bool
  | .newBtree => true
  | .openBtree => true
  | .store _ => true
  | _ => false

/-- the call is a `NewBtree` that takes the create branch -/
def createsStore (s : St) (op : Op) : Bool := decide (op = .newBtree) && s.hasBegun && !s.dExists

/-- no call of the sequence is a store-creating `NewBtree` (decidable; evaluated along the run) -/
def createFree (s : St) : List Op → Bool
  | [] => true
  | op :: ops => !createsStore s op && createFree (step s op).1 ops

structure RO (s : St) : Prop where
  mode : s.mode ≠ .forWriting
  notCreated : ∀ b, s.backend = some b → b.created = false
  log : s.logState ≤ 1

theorem RO.of_eq {s s' : St} (h : RO s) (hm : s'.mode = s.mode) (hb : s'.backend = s.backend) (hl : s'.logState ≤ 1) : RO s' :=
  ⟨hm ▸ h.mode, fun b hb' => h.notCreated b (hb ▸ hb'), hl⟩

theorem rollbackCore_ro (s : St) (h : RO s) : RO (rollbackCore s).1 ∧ (rollbackCore s).2 = [] := by
  fun_cases rollbackCore s
  · exact ⟨h.of_eq rfl rfl (Nat.zero_le _), rfl⟩
  · next b hb _ _ _ _ =>
    have hc := h.notCreated b hb
    have hl := h.log
    have h9 : ¬ s.logState > 9 := by omega
    have h6 : ¬ s.logState > 6 := by omega
    have h4 : ¬ s.logState > 4 := by omega
    exact ⟨h.of_eq rfl rfl (Nat.zero_le _), by simp +zetaDelta [hc, h9, h6, h4]⟩

theorem delegate_created (b : Backend) (k : Kind) : (delegate b k).1.created = b.created := by
  fun_cases delegate b k <;> rfl

theorem rollbackTxF_pd (s : St) (fx : Fx) (h : Started s) : (rollbackTxF s fx).st.pd = 2 := by
  fun_cases rollbackTxF s fx
  · next h2 => exact (congrArg St.pd (rollbackTx_notBegun s (hasBegun_done s h2)).1).trans h2
  · next h2 hb => exact absurd (h.resolve_right h2) (by simpa using hb)
  · exact (rollbackCore_frame _).2.2.1
  · exact (rollbackCore_frame _).2.2.1

/-- What the call `op` can do from `s`: the state it leaves, its result, its data write calls, whether a failure took effect.
Every call function is shown once to do one of these (`…_outcome`); the facts about all calls are case distinctions over
the constructors. A constructor's premises are what those facts need of a branch. First come those that differ from branch
to branch: the guard that let the call through, that a non-writer writes nothing. Last come the fields the branch keeps and
`res ≠ .panic`, as auto-params (`by rfl`, `by nofun`), which is how they hold in the walks. -/
inductive Outcome (s : St) : Op → St → Res → List W → Bool → Prop
  /-- a guard refuses: nothing changes -/
  | refused {op} (res : Res) (failed : res.isOk = false) (np : res ≠ .panic := by nofun) : Outcome s op s res [] false
  /-- `Rollback` of a transaction that is over and not committed: nil, nothing to do -/
  | idle : s.pd = 2 → s.committed = false → Outcome s .rollback s .ok [] false
  | closed : Outcome s .close s .ok [] false
  | begun : s.hasBegun = false → s.pd ≠ 2 → Outcome s .begin { s with pd := 0 } .ok [] false
  /-- a store is attached or used: the lifecycle fields stay -/
  | works {op} {s' : St} {res : Res} {w : List W} {hit : Bool} (store : isStoreLevel op = true) (begun : s.hasBegun = true)
      (ro : RO s → RO s' ∧ w = []) (mode : s'.mode = s.mode := by rfl) (writes : s'.writes = s.writes := by rfl)
      (pd : s'.pd = s.pd := by rfl) (committed : s'.committed = s.committed := by rfl) (ok : res.isOk = true := by rfl) :
      Outcome s op s' res w hit
  /-- `NewBtree` of a store that is not there: whatever the mode -/
  | created {s' : St} {w : List W} (begun : s.hasBegun = true) (absent : s.dExists = false)
      (mode : s'.mode = s.mode := by rfl) (writes : s'.writes = s.writes := by rfl) (pd : s'.pd = s.pd := by rfl)
      (committed : s'.committed = s.committed := by rfl) : Outcome s .newBtree s' .ok w false
  /-- `Phase1Commit` got as far as `phaseDone = 1`; it fails there only for a reader whose check fails -/
  | phase1 {s' : St} {res : Res} {w : List W} {hit : Bool} (begun : s.hasBegun = true)
      (failed : res.isOk = false → s.mode = .forReading ∧ s' = { s with pd := 1 }) (ro : RO s → RO s' ∧ w = [])
      (mode : s'.mode = s.mode := by rfl) (writes : s'.writes = s.writes := by rfl) (pd : s'.pd = 1 := by rfl)
      (committed : s'.committed = s.committed := by rfl) (np : res ≠ .panic := by nofun) : Outcome s .phase1 s' res w hit
  /-- the transaction is over: the undo, a failed writer's phase, phase 2 -/
  | over {op} {s' : St} {res : Res} {w : List W} {hit : Bool} (begun : s.hasBegun = true) (ro : RO s → RO s' ∧ w = [])
      (mode : s'.mode = s.mode := by rfl) (writes : s'.writes = s.writes := by rfl) (pd : s'.pd = 2 := by rfl)
      (np : res ≠ .panic := by nofun) : Outcome s op s' res w hit

theorem begun_of_guard {s : St} (h : ¬(!s.hasBegun) = true) : s.hasBegun = true := by simpa using h

theorem begun_ne_done {s : St} (h : s.hasBegun = true) : s.pd ≠ 2 := fun e => by rw [hasBegun_done s e] at h; cases h

/-- `t.phaseDone = 2`, then the internal undo, reported as `res` -/
theorem Outcome.undo {s : St} {op : Op} (hb : s.hasBegun = true) (res : Res) (hn : res ≠ .panic) (hit : Bool) :
    Outcome s op (rollbackCore { s with pd := 2 }).1 res (rollbackCore { s with pd := 2 }).2 hit :=
  have f := rollbackCore_frame { s with pd := 2 }
  .over hb (fun h => rollbackCore_ro _ (h.of_eq rfl rfl h.log)) f.1 f.2.1 f.2.2.1 hn

/-- `Rollback` called by another call, which reports `res'` instead -/
theorem rollbackTx_inside (s : St) (op : Op) (hb : s.hasBegun = true) {res' : Res} (hn : res' ≠ .panic) (hit : Bool) :
    Outcome s op (rollbackTx s).1 res' (rollbackTx s).2.2 hit := by
  fun_cases rollbackTx s
  · exact absurd ‹s.pd = 2› (begun_ne_done hb)
  · exact absurd ‹s.pd = 2› (begun_ne_done hb)
  · exact absurd hb (by simp_all)
  · exact .undo hb _ hn hit

theorem rollbackTx_outcome (s : St) : Outcome s .rollback (rollbackTx s).1 (rollbackTx s).2.1 (rollbackTx s).2.2 false := by
  fun_cases rollbackTx s
  · exact .refused _ rfl
  · next h hc => exact .idle h (by simpa using hc)
  · exact .refused _ rfl
  · exact .undo (begun_of_guard ‹¬(!s.hasBegun) = true›) .ok nofun false

theorem rollbackTxF_outcome (s : St) (fx : Fx) :
    Outcome s .rollback (rollbackTxF s fx).st (rollbackTxF s fx).res (rollbackTxF s fx).w (rollbackTxF s fx).hit := by
  fun_cases rollbackTxF s fx
  · exact rollbackTx_outcome s
  · exact rollbackTx_outcome s
  · exact .undo (begun_of_guard ‹¬(!s.hasBegun) = true›) (.err .rollbackFailed) nofun true
  · exact .undo (begun_of_guard ‹¬(!s.hasBegun) = true›) .ok nofun false

theorem rollbackTxF_inside (s : St) (fx : Fx) (op : Op) (hb : s.hasBegun = true) {res' : Res} (hn : res' ≠ .panic) (hit : Bool) :
    Outcome s op (rollbackTxF s fx).st res' (rollbackTxF s fx).w hit := by
  fun_cases rollbackTxF s fx
  · exact absurd ‹s.pd = 2› (begun_ne_done hb)
  · exact absurd hb (by simp_all)
  · exact .undo hb _ hn hit
  · exact .undo hb _ hn hit

theorem afterRollback_outcome (s : St) (fx : Fx) (op : Op) (hb : s.hasBegun = true) (e : Err) (hit : Bool) :
    Outcome s op (afterRollback (rollbackTxF s fx) e [] hit).st (afterRollback (rollbackTxF s fx) e [] hit).res
      (afterRollback (rollbackTxF s fx) e [] hit).w (afterRollback (rollbackTxF s fx) e [] hit).hit :=
  rollbackTxF_inside s fx op hb (by unfold afterRollback; split <;> nofun) _

theorem openBtree_outcome (s : St) : Outcome s .openBtree (openBtree s).1 (openBtree s).2.1 (openBtree s).2.2 false := by
  fun_cases openBtree s
  · exact .refused _ rfl
  · exact .works rfl (begun_of_guard ‹¬(!s.hasBegun) = true›) fun h => ⟨h.of_eq rfl rfl h.log, rfl⟩
  · exact rollbackTx_inside s _ (begun_of_guard ‹¬(!s.hasBegun) = true›) (by split <;> nofun) false
  · exact .works rfl (begun_of_guard ‹¬(!s.hasBegun) = true›)
      fun h => ⟨⟨h.mode, by intro b hb'; cases hb'; rfl, h.log⟩, rfl⟩

/-- `Phase1Commit` of a begun transaction; `hit`: set by a caller whose own undo may fail -/
theorem phase1Tx_begun (s : St) (hb : s.hasBegun = true) (hit : Bool) :
    Outcome s .phase1 (phase1Tx s).1 (phase1Tx s).2.1 (phase1Tx s).2.2 hit := by
  fun_cases phase1Tx s
  · exact absurd hb (by simp_all)
  · exact .phase1 hb nofun fun h => ⟨h.of_eq rfl rfl h.log, rfl⟩
  · exact .phase1 hb nofun fun h => ⟨h.of_eq rfl rfl h.log, rfl⟩
  · have wr {q : Prop} (h : RO s) : q := absurd ‹s.mode = Mode.forWriting› h.mode
    fun_cases phase1Writer { s with pd := 1 }
    · exact .phase1 hb nofun wr
    · exact .phase1 hb nofun wr
    · exact .over hb wr
    · exact .phase1 hb nofun wr

theorem phase1Tx_outcome (s : St) : Outcome s .phase1 (phase1Tx s).1 (phase1Tx s).2.1 (phase1Tx s).2.2 false := by
  cases hb : s.hasBegun with
  | true => exact phase1Tx_begun s hb false
  | false => rw [show phase1Tx s = (s, .err .notBegun, []) by simp [phase1Tx, hb]]; exact .refused _ rfl

theorem phase1TxF_outcome (s : St) (fx : Fx) :
    Outcome s .phase1 (phase1TxF s fx).st (phase1TxF s fx).res (phase1TxF s fx).w (phase1TxF s fx).hit := by
  fun_cases phase1TxF s fx
  · exact .refused _ rfl
  · exact phase1Tx_outcome s
  · exact .phase1 (begun_of_guard ‹¬(!s.hasBegun) = true›) (fun _ => ⟨‹s.mode = Mode.forReading›, rfl⟩)
      fun h => ⟨h.of_eq rfl rfl h.log, rfl⟩
  · exact phase1Tx_outcome s
  · exact .undo (begun_of_guard ‹¬(!s.hasBegun) = true›) (.err .other) nofun true
  · exact phase1Tx_begun s (begun_of_guard ‹¬(!s.hasBegun) = true›) _

theorem phase2Tx_outcome (s : St) : Outcome s .phase2 (phase2Tx s).1 (phase2Tx s).2.1 (phase2Tx s).2.2 false := by
  fun_cases phase2Tx s
  · exact .refused _ rfl
  · exact .refused _ rfl
  · exact .over (begun_of_guard ‹¬(!s.hasBegun) = true›) fun h => absurd ‹s.mode = Mode.forWriting› h.mode
  · exact .over (begun_of_guard ‹¬(!s.hasBegun) = true›) fun h => ⟨h.of_eq rfl rfl h.log, rfl⟩

theorem phase2TxF_outcome (s : St) (work : Bool) :
    Outcome s .phase2 (phase2TxF s work).st (phase2TxF s work).res (phase2TxF s work).w (phase2TxF s work).hit := by
  fun_cases phase2TxF s work
  · exact .refused _ rfl
  · exact .refused _ rfl
  · exact .undo (begun_of_guard ‹¬(!s.hasBegun) = true›) (.err .other) nofun true
  · exact phase2Tx_outcome s
  · exact phase2Tx_outcome s

theorem beginTx_outcome (s : St) : Outcome s .begin (beginTx s).1 (beginTx s).2.1 (beginTx s).2.2 false := by
  fun_cases beginTx s
  · exact .refused _ rfl
  · exact .refused _ rfl
  · exact .begun (by simp_all) ‹¬s.pd = 2›

theorem newBtree_outcome (s : St) : Outcome s .newBtree (newBtree s).1 (newBtree s).2.1 (newBtree s).2.2 false := by
  fun_cases newBtree s
  · exact .refused _ rfl
  · exact .created (begun_of_guard ‹¬(!s.hasBegun) = true›) (by simp_all)
  · exact .works rfl (begun_of_guard ‹¬(!s.hasBegun) = true›) fun h => ⟨h.of_eq rfl rfl h.log, rfl⟩
  · exact .works rfl (begun_of_guard ‹¬(!s.hasBegun) = true›)
      fun h => ⟨⟨h.mode, by intro b hb'; cases hb'; rfl, h.log⟩, rfl⟩

/-- a B-tree call through the wrapper that gets as far as the store; `hit`: set by a caller under which the work may fail -/
theorem storeOp_begun (s : St) (k : Kind) (hb : s.hasBegun = true) (hh : s.handle = true) {b : Backend} (hbk : s.backend = some b)
    (hit : Bool) : Outcome s (.store k) (storeOp s k).1 (storeOp s k).2.1 (storeOp s k).2.2 hit := by
  fun_cases storeOp s k
  · exact absurd hh (by simp_all)
  · exact absurd hb (by simp_all)
  · exact absurd hb (by simp_all)
  · exact rollbackTx_inside s _ hb (by split <;> nofun) hit
  · exact absurd hbk (by simp_all)
  · next b' hbk' _ =>
    refine .works rfl hb fun h => ⟨⟨h.mode, ?_, h.log⟩, rfl⟩
    intro b'' hb''; cases hb''; rw [delegate_created]; exact h.notCreated b' hbk'

theorem storeOp_outcome (s : St) (k : Kind) : Outcome s (.store k) (storeOp s k).1 (storeOp s k).2.1 (storeOp s k).2.2 false := by
  fun_cases storeOp s k
  · exact .refused _ rfl
  · exact .refused _ rfl
  · have e := rollbackTx_notBegun s (by simpa using ‹(!s.hasBegun) = true›)
    rw [e.1, e.2]; exact .refused _ (by split <;> rfl) (by split <;> nofun)
  · exact rollbackTx_inside s _ (begun_of_guard ‹¬(!s.hasBegun) = true›) (by split <;> nofun) false
  · exact .refused _ rfl
  · next b hbk _ =>
    refine .works rfl (begun_of_guard ‹¬(!s.hasBegun) = true›) fun h => ⟨⟨h.mode, ?_, h.log⟩, rfl⟩
    intro b' hb'; cases hb'; rw [delegate_created]; exact h.notCreated b hbk

theorem newBtreeF_outcome (s : St) (fx : Fx) :
    Outcome s .newBtree (newBtreeF s fx).st (newBtreeF s fx).res (newBtreeF s fx).w (newBtreeF s fx).hit := by
  fun_cases newBtreeF s fx
  · exact .refused _ rfl
  · exact afterRollback_outcome s fx _ (begun_of_guard ‹¬(!s.hasBegun) = true›) _ _
  · exact newBtree_outcome s

theorem openBtreeF_outcome (s : St) (fx : Fx) :
    Outcome s .openBtree (openBtreeF s fx).st (openBtreeF s fx).res (openBtreeF s fx).w (openBtreeF s fx).hit := by
  fun_cases openBtreeF s fx
  · exact .refused _ rfl
  · exact openBtree_outcome s
  · exact afterRollback_outcome s fx _ (begun_of_guard ‹¬(!s.hasBegun) = true›) _ _
  · exact afterRollback_outcome s fx _ (begun_of_guard ‹¬(!s.hasBegun) = true›) _ _
  · exact openBtree_outcome s

theorem storeOpF_outcome (s : St) (k : Kind) (fx : Fx) :
    Outcome s (.store k) (storeOpF s k fx).st (storeOpF s k fx).res (storeOpF s k fx).w (storeOpF s k fx).hit := by
  fun_cases storeOpF s k fx
  · exact .refused _ rfl
  · exact storeOp_outcome s k
  · exact afterRollback_outcome s fx _ (begun_of_guard ‹¬(!s.hasBegun) = true›) _ _
  · exact .refused _ rfl
  · exact afterRollback_outcome s fx _ (begun_of_guard ‹¬(!s.hasBegun) = true›) _ _
  · exact storeOp_begun s k (begun_of_guard ‹¬(!s.hasBegun) = true›) (by simp_all) ‹s.backend = some _› _

theorem Outcome.lawful {s s' : St} {op : Op} {res : Res} {w : List W} {hit : Bool} (h : Outcome s op s' res w hit) : Lawful s s' res := by
  cases h with
  | refused _ _ hn => exact .refl hn
  | idle => exact .refl nofun
  | closed => exact .refl nofun
  | begun _ h2 => exact ⟨rfl, rfl, .inr (.inl ⟨h2, rfl, .inl rfl⟩), nofun⟩
  | works _ _ _ m wr p c ok => exact ⟨m, wr, .inl ⟨p, c⟩, fun e => by rw [e] at ok; cases ok⟩
  | created _ _ m wr p c => exact ⟨m, wr, .inl ⟨p, c⟩, nofun⟩
  | phase1 hb _ _ m wr p c hn => exact ⟨m, wr, .inr (.inl ⟨begun_ne_done hb, c, .inr p⟩), hn⟩
  | over _ _ m wr p hn => exact ⟨m, wr, .inr (.inr p), hn⟩

theorem Outcome.failed {s s' : St} {op : Op} {res : Res} {w : List W} {hit : Bool} (h : Outcome s op s' res w hit)
    (hf : res.isOk = false) :
    s' = s ∨ s'.pd = 2 ∨ (op = .phase1 ∧ s.mode = .forReading ∧ s.hasBegun = true ∧ s' = { s with pd := 1 }) := by
  cases h with
  | refused => exact .inl rfl
  | idle => exact .inl rfl
  | closed => cases hf
  | begun => cases hf
  | works _ _ _ _ _ _ _ ok => rw [ok] at hf; cases hf
  | created => cases hf
  | phase1 hb hr => exact .inr (.inr ⟨rfl, (hr hf).1, hb, (hr hf).2⟩)
  | over _ _ _ _ p => exact .inr (.inl p)

theorem Outcome.ro {s s' : St} {op : Op} {res : Res} {w : List W} {hit : Bool} (h : Outcome s op s' res w hit) (hr : RO s)
    (hc : createsStore s op = false) : RO s' ∧ w = [] := by
  cases h with
  | refused => exact ⟨hr, rfl⟩
  | idle => exact ⟨hr, rfl⟩
  | closed => exact ⟨hr, rfl⟩
  | begun => exact ⟨hr.of_eq rfl rfl hr.log, rfl⟩
  | works _ _ ro => exact ro hr
  | created hb hd => simp [createsStore, hb, hd] at hc
  | phase1 _ _ ro => exact ro hr
  | over _ ro => exact ro hr

theorem Outcome.notBegun {s s' : St} {op : Op} {res : Res} {w : List W} {hit : Bool} (h : Outcome s op s' res w hit)
    (hb : s.hasBegun = false) (hop : op ≠ .begin) :
    s' = s ∧ w = [] ∧ hit = false ∧ (res.isOk = true → (op = .rollback ∧ s.pd = 2 ∧ s.committed = false) ∨ op = .close) := by
  cases h with
  | refused _ hf => exact ⟨rfl, rfl, rfl, fun h => by rw [hf] at h; cases h⟩
  | idle p c => exact ⟨rfl, rfl, rfl, fun _ => .inl ⟨rfl, p, c⟩⟩
  | closed => exact ⟨rfl, rfl, rfl, fun _ => .inr rfl⟩
  | begun => exact absurd rfl hop
  | works _ h => rw [hb] at h; cases h
  | created h => rw [hb] at h; cases h
  | phase1 h => rw [hb] at h; cases h
  | over h => rw [hb] at h; cases h

theorem Outcome.phase2_ok {s s' : St} {res : Res} {w : List W} {hit : Bool} (h : Outcome s .phase2 s' res w hit)
    (ok : res.isOk = true) : s'.pd = 2 := by
  cases h with
  | refused _ hf => rw [hf] at ok; cases ok
  | works hs => cases hs
  | over _ _ _ _ p => exact p

/-- what a sequence of calls keeps; `Commit` is composed through it -/
def Kept (s s' : St) (w : List W) : Prop := s'.mode = s.mode ∧ s'.writes = s.writes ∧ (RO s → RO s' ∧ w = [])

theorem Kept.trans {s s1 s2 : St} {w1 w2 : List W} (a : Kept s s1 w1) (b : Kept s1 s2 w2) : Kept s s2 (w1 ++ w2) :=
  ⟨b.1.trans a.1, b.2.1.trans a.2.1, fun h => by
    obtain ⟨h1, e1⟩ := a.2.2 h
    obtain ⟨h2, e2⟩ := b.2.2 h1
    exact ⟨h2, by rw [e1, e2]; rfl⟩⟩

theorem Outcome.keeps {s s' : St} {op : Op} {res : Res} {w : List W} {hit : Bool} (h : Outcome s op s' res w hit)
    (hc : createsStore s op = false) : Kept s s' w := ⟨h.lawful.mode, h.lawful.writes, fun r => h.ro r hc⟩

theorem Kept.over {s s' : St} {w : List W} (k : Kept s s' w) (op : Op) (hb : s.hasBegun = true) (p : s'.pd = 2) {res : Res}
    (hn : res ≠ .panic) (hit : Bool) : Outcome s op s' res w hit := .over hb k.2.2 k.1 k.2.1 p hn

/-- a `Rollback` run by another call, which reports the error `e` -/
theorem Outcome.rollback_as {s s' : St} {r : Res} {w : List W} {hit : Bool} (h : Outcome s .rollback s' r w hit) (op : Op) {e : Res}
    (he : e.isOk = false) (hn : e ≠ .panic) : Outcome s op s' e w hit := by
  cases h with
  | refused => exact .refused e he hn
  | idle => exact .refused e he hn
  | works hs => cases hs
  | over hb ro m wr p => exact .over hb ro m wr p hn

theorem commitTxF_outcome (s : St) (fx : Fx) :
    Outcome s .commit (commitTxF s fx).st (commitTxF s fx).res (commitTxF s fx).w (commitTxF s fx).hit := by
  have h1 := phase1TxF_outcome s fx
  unfold commitTxF
  generalize phase1TxF s fx = p1 at h1 ⊢
  obtain ⟨s1, r1, w1, t1⟩ := p1
  dsimp only at h1 ⊢
  have err {c : Prop} [Decidable c] {r : Res} (hr : r.isOk = false) (hn : r ≠ .panic) :
      (if c then r else Res.err .rollbackFailed).isOk = false ∧ (if c then r else Res.err .rollbackFailed) ≠ .panic := by
    split
    · exact ⟨hr, hn⟩
    · exact ⟨rfl, nofun⟩
  -- phase 1 was refused, or the transaction is begun and phase 1 left `phaseDone` at 1 or 2
  have h1' : (s1 = s ∧ w1 = [] ∧ t1 = false ∧ r1.isOk = false) ∨ (s.hasBegun = true ∧ (s1.pd = 1 ∨ s1.pd = 2)) := by
    cases h1 with
    | refused _ hf => exact .inl ⟨rfl, rfl, rfl, hf⟩
    | works hs => cases hs
    | phase1 hb _ _ _ _ p => exact .inr ⟨hb, .inl p⟩
    | over hb _ _ _ p => exact .inr ⟨hb, .inr p⟩
  have k1 := h1.keeps rfl
  have st1 (h : s1.pd = 1 ∨ s1.pd = 2) : Started s1 := (started_iff s1).mpr (h.elim (.inr ∘ .inl) (.inr ∘ .inr))
  by_cases ok1 : r1.isOk = true
  · rw [if_pos ok1]
    obtain ⟨_, _, _, hf⟩ | ⟨hb, p1⟩ := h1'
    · rw [hf] at ok1; cases ok1
    have h2 := phase2TxF_outcome s1 fx.work2
    generalize phase2TxF s1 fx.work2 = p2 at h2 ⊢
    obtain ⟨s2, r2, w2, t2⟩ := p2
    dsimp only at h2 ⊢
    have k2 := k1.trans (h2.keeps rfl)
    by_cases ok2 : r2.isOk = true
    · rw [if_pos ok2]; exact k2.over _ hb (h2.phase2_ok ok2) (res := .ok) nofun _
    · rw [if_neg ok2]
      have h3 := rollbackTxF_outcome s2 fx
      have p3 := rollbackTxF_pd s2 fx (h2.lawful.started (st1 p1))
      have e := err (c := (rollbackTxF s2 fx).res.isOk = true) (Bool.eq_false_iff.mpr ok2) h2.lawful.np
      exact (k2.trans (h3.keeps rfl)).over _ hb p3 e.2 _
  · rw [if_neg ok1]
    have h3 := rollbackTxF_outcome s1 fx
    have e := err (c := (rollbackTxF s1 fx).res.isOk = true) (Bool.eq_false_iff.mpr ok1) h1.lawful.np
    obtain ⟨rfl, rfl, rfl, _⟩ | ⟨hb, p1⟩ := h1'
    · exact h3.rollback_as _ e.1 e.2
    · exact (k1.trans (h3.keeps rfl)).over _ hb (rollbackTxF_pd s1 fx (st1 p1)) e.2 _

theorem stepCoreF_outcome (s : St) (op : Op) (fx : Fx) :
    Outcome s op (stepCoreF s op fx).st (stepCoreF s op fx).res (stepCoreF s op fx).w (stepCoreF s op fx).hit := by
  cases op with
  | begin => exact beginTx_outcome s
  | phase1 => exact phase1TxF_outcome s fx
  | phase2 => exact phase2TxF_outcome s fx.work
  | commit => exact commitTxF_outcome s fx
  | rollback => exact rollbackTxF_outcome s fx
  | close =>
    simp only [stepCoreF]; split
    · exact .refused _ rfl
    · exact .closed
  | newBtree => exact newBtreeF_outcome s fx
  | openBtree => exact openBtreeF_outcome s fx
  | store k => exact storeOpF_outcome s k fx

theorem stepCoreF_lawful (s : St) (op : Op) (fx : Fx) : Lawful s (stepCoreF s op fx).st (stepCoreF s op fx).res :=
  (stepCoreF_outcome s op fx).lawful

theorem stepCore_outcome (s : St) (op : Op) : Outcome s op (stepCore s op).1 (stepCore s op).2.1 (stepCore s op).2.2 false := by
  have := stepCoreF_outcome s op Fx.none
  rwa [stepCoreF_nofault] at this

theorem stepCore_lawful (s : St) (op : Op) : Lawful s (stepCore s op).1 (stepCore s op).2.1 := (stepCore_outcome s op).lawful

theorem stepCoreF_done (s : St) (op : Op) (fx : Fx) (h : s.pd = 2) :
    (stepCoreF s op fx).st = s ∧ (stepCoreF s op fx).w = [] ∧ (stepCoreF s op fx).hit = false ∧
    (stepCoreF s op fx).res ≠ .panic ∧
    ((stepCoreF s op fx).res.isOk = true → (op = .rollback ∧ s.committed = false) ∨ op = .close) := by
  have hb := hasBegun_done s h
  by_cases hop : op = .begin
  · subst hop; simp [stepCoreF, beginTx, hb, h, R.ofOut]
  · obtain ⟨a, b, c, d⟩ := (stepCoreF_outcome s op fx).notBegun hb hop
    exact ⟨a, b, c, (stepCoreF_lawful s op fx).np, fun ok => (d ok).imp (fun x => ⟨x.1, x.2.2⟩) id⟩

theorem stepCore_done (s : St) (op : Op) (h : s.pd = 2) : (stepCore s op).1 = s ∧ (stepCore s op).2.2 = [] := by
  have := stepCoreF_done s op Fx.none h
  rw [stepCoreF_nofault] at this
  exact ⟨this.1, this.2.1⟩

theorem step_done (s : St) (op : Op) (h : s.pd = 2) : (step s op).1 = s ∧ (step s op).2.2 = [] := by
  obtain ⟨h1, h2⟩ := stepCore_done s op h
  unfold step
  simp [h1, h2]

theorem trace_forall {I : St → Prop} {P : Ev → Prop} (hI : ∀ s op, I s → I (step s op).1)
    (hP : ∀ s op, I s → P { pre := s, op := op, res := (step s op).2.1, w := (step s op).2.2, post := (step s op).1 }) :
    ∀ (ops : List Op) (s : St), I s → ∀ e ∈ trace s ops, P e := by
  intro ops
  induction ops with
  | nil => intro s _ e he; simp [trace] at he
  | cons op ops ih =>
    intro s h e he
    simp only [trace, List.mem_cons] at he
    rcases he with rfl | he
    · exact hP s op h
    · exact ih _ (hI s op h) e he

theorem traceF_forall {I : FSt → Prop} {P : EvF → Prop} (hI : ∀ s op fx, I s → I (stepF s op fx).1)
    (hP : ∀ s op fx, I s →
      P { pre := s, op := op, fx := fx, res := (stepF s op fx).2.1, w := (stepF s op fx).2.2, post := (stepF s op fx).1 }) :
    ∀ (cs : List (Op × Fx)) (s : FSt), I s → ∀ e ∈ traceF s cs, P e := by
  intro cs
  induction cs with
  | nil => intro s _ e he; simp [traceF] at he
  | cons c cs ih =>
    intro s h e he
    simp only [traceF, List.mem_cons] at he
    rcases he with rfl | he
    · exact hP s c.1 c.2 h
    · exact ih _ (hI s c.1 c.2 h) e he

theorem run_done (s : St) (ops : List Op) (h : s.pd = 2) : run s ops = s := by
  induction ops with
  | nil => rfl
  | cons op ops ih => simp only [run, (step_done s op h).1, ih]

theorem trace_done (s : St) (ops : List Op) (h : s.pd = 2) :
    ∀ e ∈ trace s ops, e.pre = s ∧ e.post = s ∧ e.w = [] ∧ e.res = (step s e.op).2.1 :=
  trace_forall (I := (· = s)) (fun _ op ht => by subst ht; exact (step_done _ op h).1)
    (fun _ op ht => by subst ht; exact ⟨rfl, (step_done _ op h).1, (step_done _ op h).2, rfl⟩) ops s rfl

theorem step_ok_begun (s : St) (op : Op) (hop : isStoreLevel op = true) (hok : (step s op).2.1.isOk = true) :
    s.hasBegun = true := by
  cases hb : s.hasBegun with
  | true => rfl
  | false =>
    have hne : op ≠ .begin := fun e => by rw [e] at hop; cases hop
    rcases ((stepCore_outcome s op).notBegun hb hne).2.2.2 hok with ⟨e, _⟩ | e <;> rw [e] at hop <;> cases hop

/-- in every call sequence from every state, `NewBtree`, `OpenBtree` and every B-tree call
through the wrapper (find/get/add/update/remove) return ok only if `HasBegun()` held when they were called -/
theorem ops_only_when_begun (s : St) (ops : List Op) :
    ∀ e ∈ trace s ops, isStoreLevel e.op = true → e.res.isOk = true → e.pre.hasBegun = true :=
  trace_forall (I := fun _ => True) (fun _ _ _ => trivial) (fun s op _ => step_ok_begun s op) ops s trivial

/-- the full-strength statement (what the property asks for) -/
def Statement_readonly_never_writes : Prop :=
  ∀ (m : Mode) (i : Init) (ops : List Op), m ≠ .forWriting → (run (init m i) ops).writes = 0

/-- the witness: a `ForReading` transaction on a folder without the store: Begin, NewBtree, Commit -/
def witness : List Op := [.begin, .newBtree, .commit]

/-- what happens on the witness: every call returns ok, the `NewBtree` call issues `StoreRepository.Add`,
the commit reports success, and a later transaction sees the store -/
theorem witness_behaviour :
    (trace (init .forReading .absent) witness).map (fun e => (e.res, e.w)) =
        [(.ok, []), (.ok, [W.srAdd]), (.ok, [])]
    ∧ (run (init .forReading .absent) witness).committed = true
    ∧ seen (init .forReading .absent) = .absent
    ∧ seen (run (init .forReading .absent) witness) = .present 0
    ∧ (run (init .noCheck .absent) witness).writes = 1 := by
  decide

theorem C14_counterexample : ¬ Statement_readonly_never_writes := by
  intro h
  have := h .forReading .absent witness (by decide)
  revert this
  decide

theorem step_mode (s : St) (op : Op) : (step s op).1.mode = s.mode := (stepCore_lawful s op).mode

theorem step_mutation_refused (s : St) (k : Kind) (hm : s.mode ≠ .forWriting) (hk : k.mutating = true) :
    (step s (.store k)).2.1.isOk = false := by
  have : (s.mode != Mode.forWriting) = true := by simpa using hm
  show (storeOp s k).2.1.isOk = false
  fun_cases storeOp s k
  · rfl
  · rfl
  · next h _ => exact absurd hk h
  · exact isOk_ite_err ..
  · next h _ => simp [hk, this] at h
  · next h _ _ _ => simp [hk, this] at h

/-- in every call sequence of a `ForReading` or `NoCheck` transaction, from every
state, add/update/remove through the B-tree wrapper never return ok -/
theorem readonly_rejects_mutations (s : St) (ops : List Op) (hm : s.mode ≠ .forWriting) :
    ∀ e ∈ trace s ops, ∀ k, e.op = .store k → k.mutating = true → e.res.isOk = false :=
  trace_forall (I := fun s => s.mode ≠ .forWriting) (fun s op h => by rw [step_mode]; exact h)
    (fun s _ h k hop hk => by cases (show _ = Op.store k from hop); exact step_mutation_refused s k h hk) ops s hm

theorem step_ro (s : St) (op : Op) (h : RO s) (hw : s.writes = 0) (hc : createsStore s op = false) :
    RO (step s op).1 ∧ (step s op).1.writes = 0 := by
  obtain ⟨r, w⟩ := (stepCore_outcome s op).ro h hc
  refine ⟨RO.of_eq r rfl rfl r.log, ?_⟩
  show (stepCore s op).1.writes + (stepCore s op).2.2.length = 0
  rw [w, (stepCore_lawful s op).writes, hw]; rfl

theorem run_ro (s : St) (ops : List Op) (h : RO s) (hw : s.writes = 0) (hf : createFree s ops = true) :
    (run s ops).writes = 0 := by
  induction ops generalizing s with
  | nil => exact hw
  | cons op ops ih =>
    simp only [createFree, Bool.and_eq_true, Bool.not_eq_true'] at hf
    obtain ⟨r, w⟩ := step_ro s op h hw hf.1
    exact ih _ r w hf.2

theorem init_ro (m : Mode) (i : Init) (hm : m ≠ .forWriting) : RO (init m i) :=
  ⟨hm, by intro b hb; simp [init] at hb, by simp [init]⟩

/-- in every call sequence of a `ForReading` or `NoCheck` transaction, from every
initial condition, in which no call is a store-creating `NewBtree` (transaction begun, store not on disk), not a
single data write call is issued. Together with `C14_counterexample` this isolates the defect: the *only* way a
non-writer transaction writes is through `NewBtree`'s create branch (and the removal of that store on rollback). -/
theorem readonly_never_writes_partial (m : Mode) (i : Init) (ops : List Op) (hm : m ≠ .forWriting)
    (hf : createFree (init m i) ops = true) : (run (init m i) ops).writes = 0 :=
  run_ro _ ops (init_ro m i hm) (by simp [init]) hf

/-- non-vacuity of `createFree`: a reader that opens an existing store, reads, tries to write (refused, rolled back), …;
a `NewBtree` on an *existing* store is fine; the witness is (rightly) excluded -/
example : createFree (init .forReading .one)
    [.begin, .openBtree, .store .get, .store .find, .phase1, .store .add, .rollback, .commit, .begin] = true := by decide
example : createFree (init .noCheck .empty) [.begin, .newBtree, .store .find, .commit, .rollback] = true := by decide
example : createFree (init .forReading .absent) [.begin, .openBtree, .newBtree, .commit] = true := by decide
example : createFree (init .forReading .absent) witness = false := by decide

def CommittedIsDone (s : St) : Prop := s.committed = false ∨ s.pd = 2

theorem Lawful.committedIsDone {s s' : St} {res : Res} (h : Lawful s s' res) (hj : CommittedIsDone s) : CommittedIsDone s' := by
  rcases h.life with ⟨p, c⟩ | ⟨n, c, _⟩ | p
  · exact hj.imp c.trans p.trans
  · exact .inl (c.trans (hj.resolve_right n))
  · exact .inr p

theorem run_committedIsDone (s : St) (ops : List Op) (h : CommittedIsDone s) : CommittedIsDone (run s ops) := by
  induction ops generalizing s with
  | nil => exact h
  | cons op ops ih => exact ih _ ((stepCore_lawful s op).committedIsDone h)

theorem committed_implies_done (m : Mode) (i : Init) (ops : List Op)
    (hc : (run (init m i) ops).committed = true) : (run (init m i) ops).pd = 2 := by
  have := run_committedIsDone (init m i) ops (Or.inl rfl)
  rcases this with h | h
  · rw [h] at hc; cases hc
  · exact h

/-- after ANY call sequence (any mode, any initial condition) that left the transaction
committed, in ANY continuation every `Rollback` returns the "already committed" error, the transaction stays
committed, and nothing at all changes (state, disk, write counter) -/
theorem committed_cannot_rollback (m : Mode) (i : Init) (ops₁ ops₂ : List Op)
    (hc : (run (init m i) ops₁).committed = true) :
    run (run (init m i) ops₁) ops₂ = run (init m i) ops₁ ∧
    ∀ e ∈ trace (run (init m i) ops₁) ops₂,
      e.post.committed = true ∧ e.w = [] ∧ (e.op = .rollback → e.res = .err .committed) := by
  have hd := committed_implies_done m i ops₁ hc
  refine ⟨run_done _ _ hd, ?_⟩
  intro e he
  obtain ⟨_, h2, h3, h4⟩ := trace_done _ ops₂ hd e he
  refine ⟨by rw [h2]; exact hc, h3, ?_⟩
  intro hop
  rw [h4, hop]
  simp [step, stepCore, rollbackTx, hd, hc]

/-- non-vacuity: committed states are reachable in all three modes -/
example : (run (init .forWriting .absent) [.begin, .newBtree, .store .add, .commit]).committed = true := by decide
example : (run (init .forReading .one) [.begin, .openBtree, .store .get, .phase1, .phase2]).committed = true := by decide
example : (run (init .noCheck .empty) [.begin, .commit]).committed = true := by decide

/-- from ANY state with `phaseDone = 2` (committed or rolled back), for ANY continuation:
the whole state (lifecycle fields, what is on disk, the write counter) never changes again, no call issues a data
write, `Begin` fails with "transaction is done", `Phase1Commit`/`Phase2Commit` fail, `Commit` fails -/
theorem finished_is_final (s : St) (ops : List Op) (h : s.pd = 2) :
    run s ops = s ∧
    ∀ e ∈ trace s ops, e.post = s ∧ e.w = [] ∧
      (e.op = .begin → e.res = .err .done) ∧
      (e.op = .phase1 → e.res = .err .notBegun) ∧
      (e.op = .phase2 → e.res = .err .notBegun) ∧
      (e.op = .commit → e.res.isOk = false) := by
  refine ⟨run_done s ops h, ?_⟩
  intro e he
  obtain ⟨_, h2, h3, h4⟩ := trace_done s ops h e he
  have hb := hasBegun_done s h
  refine ⟨h2, h3, ?_, ?_, ?_, ?_⟩ <;> intro hop <;> rw [h4, hop]
  · simp [step, stepCore, beginTx, hb, h]
  · simp [step, stepCore, phase1Tx, hb]
  · simp [step, stepCore, phase2Tx, hb]
  · simp [step, stepCore, commitTx, phase1Tx, hb]

/-- non-vacuity: finished states are reachable by rollback, by a refused write, by a failed open, by commit -/
example : (run (init .forWriting .one) [.begin, .openBtree, .store .remove, .rollback]).pd = 2 := by decide
example : (run (init .forReading .one) [.begin, .openBtree, .store .add]).pd = 2 := by decide
example : (run (init .noCheck .absent) [.begin, .openBtree]).pd = 2 := by decide

/-- `Commit` ends in a phase 2 that went through, or in a `Rollback` of a transaction that has been begun -/
theorem commitTxF_pd (s : St) (fx : Fx) (h : Started s) : (commitTxF s fx).st.pd = 2 := by
  have h1 : Started (phase1TxF s fx).st := (phase1TxF_outcome s fx).lawful.started h
  have o2 := phase2TxF_outcome (phase1TxF s fx).st fx.work2
  fun_cases commitTxF s fx
  · next hok => exact o2.phase2_ok hok
  · exact rollbackTxF_pd _ fx (o2.lawful.started h1)
  · exact rollbackTxF_pd _ fx h1

theorem ender_finishes (s : St) (op : Op) (fx : Fx) (hop : op = .rollback ∨ op = .commit)
    (h : Started s) : (stepCoreF s op fx).st.pd = 2 := by
  rcases hop with rfl | rfl
  · exact rollbackTxF_pd s fx h
  · exact commitTxF_pd s fx h

theorem St.writes_add_zero (s : St) : { s with writes := s.writes + 0 } = s := by cases s; rfl

theorem stepF_done (s : FSt) (op : Op) (fx : Fx) (h : s.st.pd = 2) :
    (stepF s op fx).1 = s ∧ (stepF s op fx).2.2 = some [] ∧ (stepF s op fx).2.1 ≠ .panic ∧
    ((stepF s op fx).2.1.isOk = true → (op = .rollback ∧ s.st.committed = false) ∨ op = .close) := by
  obtain ⟨h1, h2, h3, h4, h5⟩ := stepCoreF_done s.st op fx h
  have hb := hasBegun_done s.st h
  -- nothing is written, no failure point is reached: the call returns the core's result and leaves `s`
  have e : stepF s op fx = (s, (stepCoreF s.st op fx).res, some []) := by
    unfold stepF
    simp only [h1, h2, h3, hb, List.length_nil, Bool.and_false, Bool.or_false, St.writes_add_zero]
    rfl
  rw [e]; exact ⟨rfl, rfl, h4, h5⟩

theorem runF_done (s : FSt) (cs : List (Op × Fx)) (h : s.st.pd = 2) : runF s cs = s := by
  induction cs with
  | nil => rfl
  | cons c cs ih => simp only [runF, (stepF_done s c.1 c.2 h).1, ih]

theorem traceF_done (s : FSt) (cs : List (Op × Fx)) (h : s.st.pd = 2) :
    ∀ e ∈ traceF s cs, e.pre = s ∧ e.post = s ∧ e.w = some [] ∧ e.res ≠ .panic ∧
      (e.res.isOk = true → (e.op = .rollback ∧ s.st.committed = false) ∨ e.op = .close) :=
  traceF_forall (I := (· = s)) (fun _ op fx ht => by subst ht; exact (stepF_done _ op fx h).1)
    (fun _ op fx ht => by subst ht; exact ⟨rfl, stepF_done _ op fx h⟩) cs s rfl

/-- The lifecycle statement with failures: take ANY state in which the
transaction has been begun, ANY call of `Rollback` or `Commit` with ANY failure pattern (phase 1 fails, phase 2 fails,
the internal undo fails — e.g. the removal of a store the transaction created is refused —, an error is dropped),
and ANY continuation of calls, each again with any failure pattern. Then right after that call `phaseDone = 2`, and in
the continuation: nothing changes any more (lifecycle fields, what is on disk, the write counter, the
unpredicted-flag), no call issues a data write call (`some []`: predicted, and empty), no failure is even reached, no
call panics, and no call is accepted except `Rollback` (idempotent, only when not committed) and `Close`. -/
theorem ended_is_final (s : FSt) (op : Op) (fx : Fx) (rest : List (Op × Fx))
    (hop : op = .rollback ∨ op = .commit) (h : Started s.st) :
    (stepF s op fx).1.st.pd = 2 ∧
    runF (stepF s op fx).1 rest = (stepF s op fx).1 ∧
    ∀ e ∈ traceF (stepF s op fx).1 rest,
      e.post = (stepF s op fx).1 ∧ e.w = some [] ∧ e.res ≠ .panic ∧
      (e.res.isOk = true → (e.op = .rollback ∧ (stepF s op fx).1.st.committed = false) ∨ e.op = .close) := by
  have hpd : (stepF s op fx).1.st.pd = 2 := by
    have := ender_finishes s.st op fx hop h
    simpa [stepF] using this
  refine ⟨hpd, runF_done _ rest hpd, ?_⟩
  intro e he
  obtain ⟨_, h2, h3, h4, h5⟩ := traceF_done _ rest hpd e he
  exact ⟨h2, h3, h4, h5⟩

theorem started_stable (s : St) (op : Op) (fx : Fx) (h : Started s) : Started (stepCoreF s op fx).st :=
  (stepCoreF_lawful s op fx).started h

/-- never begun (`phaseDone = -1`), or begun: the range `phaseDone` stays in from the initial state -/
def NeverOrStarted (s : St) : Prop := s.pd = -1 ∨ Started s

theorem neverOrStarted_step (s : St) (op : Op) (fx : Fx) (h : NeverOrStarted s) : NeverOrStarted (stepCoreF s op fx).st := by
  unfold NeverOrStarted at *
  rw [started_iff] at *
  rcases (stepCoreF_lawful s op fx).life with ⟨p, _⟩ | ⟨_, _, p⟩ | p <;> omega

theorem neverOrStarted_run (s : FSt) (cs : List (Op × Fx)) (h : NeverOrStarted s.st) : NeverOrStarted (runF s cs).st := by
  induction cs generalizing s with
  | nil => exact h
  | cons c cs ih =>
    apply ih
    have := neverOrStarted_step s.st c.1 c.2 h
    simpa [stepF, NeverOrStarted, Started, St.hasBegun] using this

/-- `Begin` has no failing variant: it reaches no backend (`onIdle` returns at once while no store is attached, and no
store can be attached before `Begin`), so no failure pattern changes what it does -/
theorem begin_has_no_failing_variant (s : St) (fx : Fx) : stepCoreF s .begin fx = stepCoreF s .begin Fx.none := rfl

theorem begin_ok_started (s : St) (fx : Fx) (h : (stepCoreF s .begin fx).res.isOk = true) :
    (stepCoreF s .begin fx).st.pd = 0 := by
  revert h
  show (beginTx s).2.1.isOk = true → (beginTx s).1.pd = 0
  fun_cases beginTx s
  · exact nofun
  · exact nofun
  · exact fun _ => rfl

theorem not_begun_refused (s : St) (op : Op) (fx : Fx) (hop : op = .rollback ∨ op = .commit) (h : s.pd = -1) :
    (stepCoreF s op fx).st = s ∧ (stepCoreF s op fx).res.isOk = false ∧ (stepCoreF s op fx).w = [] ∧
    (stepCoreF s op fx).hit = false := by
  have hb : s.hasBegun = false := by simp [St.hasBegun, h]
  have hne : op ≠ .begin := fun e => by rcases hop with e' | e' <;> rw [e] at e' <;> cases e'
  obtain ⟨a, b, c, d⟩ := (stepCoreF_outcome s op fx).notBegun hb hne
  refine ⟨a, Bool.eq_false_iff.mpr fun ok => ?_, b, c⟩
  rcases d ok with ⟨_, p, _⟩ | e
  · rw [h] at p; cases p
  · rcases hop with e' | e' <;> rw [e] at e' <;> cases e'

/-- from the initial state of any mode and initial condition, after ANY sequence of
calls and failures, a call of `Rollback` or `Commit` (with any failure pattern) either finds a transaction that was
never begun — then it is refused and changes nothing — or leaves the transaction finished, and then the whole
continuation (any calls, any failures) is frozen as in `ended_is_final`. -/
theorem lifecycle_final_with_failures (m : Mode) (i : Init) (pre : List (Op × Fx)) (op : Op) (fx : Fx)
    (post : List (Op × Fx)) (hop : op = .rollback ∨ op = .commit) :
    let s := runF (initF m i) pre
    let s' := (stepF s op fx).1
    (s.st.pd = -1 ∧ s'.st = s.st ∧ (stepF s op fx).2.1.isOk = false ∧ (stepF s op fx).2.2 = some []) ∨
    (Started s.st ∧ s'.st.pd = 2 ∧ runF s' post = s' ∧
      ∀ e ∈ traceF s' post, e.post = s' ∧ e.w = some [] ∧ e.res ≠ .panic ∧
        (e.res.isOk = true → (e.op = .rollback ∧ s'.st.committed = false) ∨ e.op = .close)) := by
  intro s s'
  have hr : NeverOrStarted s.st := neverOrStarted_run _ pre (.inl rfl)
  rcases hr with h | h
  · left
    obtain ⟨h1, h2, h3, h4⟩ := not_begun_refused s.st op fx hop h
    have hb : s.st.hasBegun = false := by simp [St.hasBegun, h]
    refine ⟨h, ?_, ?_, ?_⟩
    · show (stepF s op fx).1.st = s.st
      simp [stepF, h1, h3]
    · simpa [stepF] using h2
    · simp [stepF, h3, h4, hb]
  · right
    obtain ⟨a, b, c⟩ := ended_is_final s op fx post hop h
    exact ⟨h, a, b, c⟩

/-- a call that does not return ok (an error of any kind, a refusal, a panic) leaves the
lifecycle in one of exactly three situations, whatever failed underneath: (1) nothing changed at all (a guard refused
the call, or `Close` failed); (2) the transaction is finished (`phaseDone = 2`): every failing `Rollback`, `Commit`,
`Phase2Commit`, writer `Phase1Commit`, `NewBtree`, `OpenBtree`, B-tree call ends there; (3) it was the `Phase1Commit`
of a reader whose check failed: `phaseDone = 1`, still begun, nothing else changed — the caller has to roll back
(`SinglePhaseTransaction.Commit` does). -/
theorem failed_call_outcome (s : St) (op : Op) (fx : Fx) (h : (stepCoreF s op fx).res.isOk = false) :
    (stepCoreF s op fx).st = s ∨ (stepCoreF s op fx).st.pd = 2 ∨
    (op = .phase1 ∧ s.mode = .forReading ∧ s.hasBegun = true ∧ (stepCoreF s op fx).st = { s with pd := 1 }) :=
  (stepCoreF_outcome s op fx).failed h

/-- the undo fails -/
def fxUndo : Fx := ⟨false, false, true, false⟩
/-- phase 1 (or the call's own work) fails -/
def fxWork : Fx := ⟨true, false, false, false⟩
/-- phase 2 under `Commit` fails -/
def fxWork2 : Fx := ⟨false, true, false, false⟩

def wit5 : FSt := runF (initF .forWriting .absent) [(.begin, Fx.none), (.newBtree, Fx.none), (.store .add, Fx.none)]

/-- `wit5` calls `Rollback` and the removal of the created store is refused: `Rollback` reports "rollback failed", the
transaction is finished, the `add` and `Commit` that follow are refused and write nothing -/
theorem failing_rollback_witness :
    wit5.st.hasBegun = true ∧ (stepF wit5 .rollback fxUndo).2.1 = .err .rollbackFailed ∧
    (stepF wit5 .rollback fxUndo).1.st.pd = 2 ∧
    (traceF (stepF wit5 .rollback fxUndo).1 [(.store .add, Fx.none), (.commit, fxWork), (.begin, Fx.none)]).map
        (fun e => (e.res, e.w)) =
      [(.err .notBegun, some []), (.err .notBegun, some []), (.err .done, some [])] := by
  decide

/-- `Commit` failing in phase 1 finishes; failing in phase 2 it reports the phase's error; a reader's failing check leaves
`phaseDone = 1`, and `Commit`'s own `Rollback` then finishes -/
example : (stepF (runF (initF .forWriting .one) [(.begin, Fx.none), (.openBtree, Fx.none), (.store .update, Fx.none)])
    .commit fxWork).1.st.pd = 2 := by decide
example : (stepF (runF (initF .forWriting .one) [(.begin, Fx.none), (.openBtree, Fx.none), (.store .update, Fx.none)])
    .commit fxWork2).2.1 = .err .other := by decide
example : (stepF (runF (initF .forReading .one) [(.begin, Fx.none), (.openBtree, Fx.none), (.store .get, Fx.none)])
    .phase1 fxWork).1.st.pd = 1 := by decide
example : (stepF (runF (initF .forReading .one) [(.begin, Fx.none), (.openBtree, Fx.none), (.store .get, Fx.none)])
    .commit fxWork).1.st.pd = 2 := by decide

/-- every call of the alphabet, in every state, under every failure pattern, RETURNS: ok, a refusal
or an error — never a panic. -/
theorem no_call_panics (s : St) (op : Op) (fx : Fx) : (stepCoreF s op fx).res ≠ .panic :=
  (stepCoreF_lawful s op fx).np

theorem no_panic_in_any_sequence (s : FSt) (cs : List (Op × Fx)) : ∀ e ∈ traceF s cs, e.res ≠ .panic :=
  traceF_forall (I := fun _ => True) (fun _ _ _ _ => trivial) (fun s op fx _ => no_call_panics s.st op fx) cs s trivial

/-- with commit fb2f596d: a writer without a store whose phase 2 fails gets the phase-2 error and is finished -/
theorem phase2_failure_without_store_returns_error :
    (stepF (runF (initF .forWriting .absent) [(.begin, Fx.none)]) .commit fxWork2).2.1 = .err .other ∧
    (stepF (runF (initF .forWriting .absent) [(.begin, Fx.none)]) .commit fxWork2).1.st.pd = 2 := by
  decide

/-- (finding C14-F3): the code before commit fb2f596d panicked on the same call
(`Transaction.rollback` indexed `btreesBackend[0]` with no store attached) -/
theorem legacy_phase2_panicked :
    (phase2TxFLegacy (runF (initF .forWriting .absent) [(.begin, Fx.none), (.phase1, Fx.none)]).st true).res = .panic := by
  decide

end Sop.C14
