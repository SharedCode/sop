import Sop.Model.OccFresh
import Sop.Props.C02
/-!
# C05 — a unique-key store never ends up with two items under the same key (Model L)

Model L (`Sop/Model/Occ.lean`) keeps a key in every entry; `add` / `AddIfNotExist` / `Upsert` go through the duplicate
check against the transaction's view in the work phase (`wAdd`), and `refetchAndMergeClosure` replays adds through
the same check against the refetched state (`refetchStep`).
`Statement_C05` is stated, not proved. Proved (`C05_unique_partial`): under C02's hypotheses and `GoodU` (at each
install the added keys are new to the committed data and items are written once) the committed keys stay pairwise
different. The core is `nodup_applyW`: an install whose updates/removes meet exactly what they read (C02's invariant)
and whose adds are fresh preserves `NoDupKeys`.
-/
namespace Sop.C05
open Sop.Occ Sop.C02

def NoDupKeys (db : Nat → Option Entry) : Prop :=
  ∀ i j e e', db i = some e → db j = some e' → e.key = e'.key → i = j

theorem applyW_notin (ws : List Tr) (db : Nat → Option Entry) (it : Nat)
    (h1 : ∀ w ∈ ws, w.item ≠ it) (h2 : ∀ w ∈ ws, w.phys = 0) : applyW db ws it = db it := by
  rcases applyW_cases ws db it with ⟨h, _⟩ | ⟨w, hw, _, hi, _⟩
  · exact h
  · exact absurd (target_of_phys (h2 w hw) ▸ hi) (h1 w hw)

/-- no user in the development -/
theorem applyW_mem (ws : List Tr) : ∀ (db : Nat → Option Entry), (ws.map (·.item)).Nodup → (∀ w ∈ ws, w.phys = 0 ∧ w.act ≠ .get) →
    ∀ w ∈ ws, applyW db ws w.item = eff w := by
  intro db hnd hp w hw
  rcases applyW_cases ws db w.item with ⟨_, hno⟩ | ⟨w', hw', _, hi, h⟩
  · exact absurd (target_of_phys (hp w hw).1) (hno w hw (hp w hw).2)
  · rw [target_of_phys (hp w' hw').1] at hi
    rw [h, inj_of_nodup_map hnd hw' hw hi]

structure WsFresh (db : Nat → Option Entry) (ws : List Tr) : Prop where
  nodup : (ws.map (·.item)).Nodup
  shape : ∀ w ∈ ws, w.phys = 0 ∧ w.act ≠ .get
  /-- updates and removes meet the entry they read (C02's invariant) -/
  old : ∀ w ∈ ws, w.act ≠ .add → db w.item = some w.ent
  addNew : ∀ w ∈ ws, w.act = .add → db w.item = none
  addKey : ∀ w ∈ ws, w.act = .add → ∀ j e, db j = some e → e.key = w.ent.key → ∃ w' ∈ ws, w'.act = .remove ∧ w'.item = j
  addAdd : ∀ w ∈ ws, w.act = .add → ∀ w' ∈ ws, w'.act = .add → w'.ent.key = w.ent.key → w'.item = w.item

theorem eff_some {w : Tr} {e : Entry} (h : eff w = some e) : w.act ≠ .remove ∧ e.key = w.ent.key := by
  unfold eff at h
  cases ha : w.act <;> simp [ha] at h <;> exact ⟨by simp, by rw [← h]⟩

theorem applyW_some {db : Nat → Option Entry} {ws : List Tr} (hw : WsFresh db ws) {it : Nat} {e : Entry}
    (h : applyW db ws it = some e) :
    (∃ e0, db it = some e0 ∧ e0.key = e.key ∧ ∀ w ∈ ws, w.act = .remove → w.item ≠ it) ∨
    ∃ w ∈ ws, w.act = .add ∧ w.item = it ∧ w.ent.key = e.key := by
  rcases applyW_cases ws db it with ⟨h0, hno⟩ | ⟨w, hm, _, hi, hres⟩
  · rw [h0] at h
    exact Or.inl ⟨e, h, rfl, fun w hm _ hi => hno w hm (hw.shape w hm).2 (target_of_phys (hw.shape w hm).1 ▸ hi)⟩
  · rw [target_of_phys (hw.shape w hm).1] at hi
    subst hi
    obtain ⟨hnr, hk⟩ := eff_some (hres ▸ h)
    by_cases ha : w.act = .add
    · exact Or.inr ⟨w, hm, ha, rfl, hk.symm⟩
    · refine Or.inl ⟨w.ent, hw.old w hm ha, hk.symm, fun w' hm' hr hi => hnr ?_⟩
      rwa [← inj_of_nodup_map hw.nodup hm' hm hi]

theorem nodup_applyW {db : Nat → Option Entry} {ws : List Tr} (hn : NoDupKeys db) (hw : WsFresh db ws) : NoDupKeys (applyW db ws) := by
  have hmix : ∀ {i : Nat} {e0 e : Entry} {w : Tr}, db i = some e0 → (∀ w ∈ ws, w.act = .remove → w.item ≠ i) →
      w ∈ ws → w.act = .add → e0.key = e.key → w.ent.key = e.key → False := by
    intro i e0 e w h0 hr hm ha hk0 hkw
    obtain ⟨r, hmr, hrem, hit⟩ := hw.addKey w hm ha i e0 h0 (hk0.trans hkw.symm)
    exact hr r hmr hrem hit
  intro i j e e' hi hj hk
  rcases applyW_some hw hi with ⟨e0, h0, hk0, hr0⟩ | ⟨w, hm, ha, rfl, hkw⟩ <;>
    rcases applyW_some hw hj with ⟨e1, h1, hk1, hr1⟩ | ⟨w', hm', ha', rfl, hkw'⟩
  · exact hn _ _ _ _ h0 h1 (hk0.trans (hk.trans hk1.symm))
  · exact (hmix h0 hr0 hm' ha' (hk0.trans hk) hkw').elim
  · exact (hmix h1 hr1 hm ha (hk1.trans hk.symm) hkw).elim
  · exact hw.addAdd w' hm' ha' w hm ha (hkw.trans (hk.trans hkw'.symm))

/-- HYPOTHESIS at an install: what the duplicate check of the work phase and of the merge replay, the node locks
    and the node validation are there to establish. -/
def InstallFresh (g : G) (i : Nat) : Prop :=
  (g.txns i).pc = .install →
    let ws := (g.txns i).tracked.filter (·.writes)
    (ws.map (·.item)).Nodup ∧
    (∀ w ∈ ws, w.act = .add → g.db w.item = none) ∧
    (∀ w ∈ ws, w.act = .add → ∀ j e, g.db j = some e → e.key = w.ent.key → ∃ w' ∈ ws, w'.act = .remove ∧ w'.item = j) ∧
    (∀ w ∈ ws, w.act = .add → ∀ w' ∈ ws, w'.act = .add → w'.ent.key = w.ent.key → w'.item = w.item)

def GoodU : G → List (Nat × List Nat) → Prop
  | _, [] => True
  | g, s :: rest => InstallFresh g s.1 ∧ GoodU (step g s.1 s.2) rest

theorem nodup_step {db0 : Nat → Option Entry} {g : G} (i : Nat) (hint : List Nat) (inv : Inv db0 g) (hshape : Shape g)
    (hck : ChecksAll g) (hf : InstallFresh g i) (hn : NoDupKeys g.db) : NoDupKeys (step g i hint).db := by
  by_cases hpc : (g.txns i).pc = .install
  · rw [(step_install hint hpc).db]
    obtain ⟨nodup, addNew, addKey, addAdd⟩ := hf hpc
    exact nodup_applyW hn
      { nodup, addNew, addKey, addAdd
        shape := fun w hw => ⟨(hshape i w (mem_writes.mp hw).1).1, (mem_writes.mp hw).2⟩
        old := fun w hw hna => inv.c i (w.item, w.ent) (Or.inr hpc) (mem_reads.mpr ⟨w, (mem_writes.mp hw).1, hna, rfl⟩) }
  · rw [step_db hck i hint hpc]; exact hn

theorem nodup_run {db0 : Nat → Option Entry} : ∀ (sched : List (Nat × List Nat)) (g : G), Inv db0 g → Good g sched → GoodU g sched →
    NoDupKeys g.db → NoDupKeys (run g sched).db := by
  intro sched
  induction sched with
  | nil => intro g _ _ _ hn; exact hn
  | cons s rest ih =>
    intro g inv hg hu hn
    exact ih _ (inv_step s.1 s.2 inv hg.covered hg.shape hg.checks hg.beginSound) hg.tail hu.2
      (nodup_step s.1 s.2 inv hg.shape hg.checks hu.1 hn)

def GoodUN (items : List Nat) : G → List (Nat × List Nat) → Prop
  | _, [] => True
  | g, s :: rest => InstallFreshN items g s.1 ∧ GoodUN items (step g s.1 s.2) rest

instance (items : List Nat) : ∀ (sched : List (Nat × List Nat)) (g : G), Decidable (GoodUN items g sched)
  | [], _ => inferInstanceAs (Decidable True)
  | s :: rest, g =>
    have := instDecidableGoodUN items rest (step g s.1 s.2)
    inferInstanceAs (Decidable (InstallFreshN items g s.1 ∧ GoodUN items (step g s.1 s.2) rest))

def DbIn (items : List Nat) (g : G) : Prop := ∀ j, j ∉ items → g.db j = none

theorem dbIn_step {items : List Nat} {g : G} (hck : ChecksAll g) (hshape : Shape g) (i : Nat) (hint : List Nat) (hd : DbIn items g)
    (hf : InstallFreshN items g i) : DbIn items (step g i hint) := by
  intro j hj
  by_cases hpc : (g.txns i).pc = .install
  · obtain ⟨-, -, -, -, inItems⟩ := hf hpc
    rw [(step_install hint hpc).db, applyW_notin]
    · exact hd j hj
    · exact fun w hw heq => hj (heq ▸ inItems w hw)
    · exact fun w hw => (hshape i w (mem_writes.mp hw).1).1
  · rw [step_db hck i hint hpc]; exact hd j hj

theorem installFresh_of {items : List Nat} {g : G} {i : Nat} (hd : DbIn items g) (hf : InstallFreshN items g i) :
    InstallFresh g i := by
  intro hpc
  obtain ⟨nodup, addNew, addKeyIn, addAdd, -⟩ := hf hpc
  refine ⟨nodup, addNew, ?_, addAdd⟩
  intro w hw ha j e hj hk
  by_cases hji : j ∈ items
  · exact addKeyIn w hw ha j hji e hj hk
  · rw [hd j hji] at hj; cases hj

theorem installFreshN_of {items : List Nat} {g : G} {i : Nat} (hf : InstallFresh g i)
    (hw : ∀ w ∈ (g.txns i).tracked.filter (·.writes), w.item ∈ items) : InstallFreshN items g i := by
  intro hpc
  obtain ⟨nodup, addNew, addKey, addAdd⟩ := hf hpc
  exact ⟨nodup, addNew, fun w hw' ha j _ e hj hk => addKey w hw' ha j e (Option.mem_def.mp hj) hk, addAdd, hw⟩

theorem goodU_of {items : List Nat} : ∀ (sched : List (Nat × List Nat)) (g : G), DbIn items g → Good g sched → GoodUN items g sched →
    GoodU g sched
  | [], _, _, _, _ => trivial
  | s :: rest, _, hd, hg, hu =>
    ⟨installFresh_of hd hu.1, goodU_of rest _ (dbIn_step hg.checks hg.shape s.1 s.2 hd hu.1) hg.tail hu.2⟩

def KeysOnOnePage (g : G) : Prop :=
  ∃ kp : Int → Nat, (∀ i e, g.db i = some e → g.pageOf i = kp e.key) ∧
    ∀ i tr, tr ∈ (g.txns i).tracked → tr.act = .add → g.pageOf tr.item = kp tr.ent.key

/-- C05: for a unique store whose equal keys share a page (as in any B-tree), every schedule keeps the committed keys
    pairwise different. NOT proved (see `C05_unique_partial`). -/
def Statement_C05 : Prop :=
  ∀ (g0 : G) (sched : List (Nat × List Nat)), Init g0 → g0.unique = true → NoDupKeys g0.db →
    (∀ k, k ≤ sched.length → KeysOnOnePage (run g0 (sched.take k))) → NoDupKeys (run g0 sched).db

/-- C05, partial: under C02's hypotheses (`Good`: lock records behave like compare-and-set records, tracker sound)
    and `GoodU`, no schedule creates a duplicate key. -/
theorem C05_unique_partial (g0 : G) (sched : List (Nat × List Nat)) (h0 : Init g0) (hg : Good g0 sched) (hu : GoodU g0 sched)
    (hn : NoDupKeys g0.db) : NoDupKeys (run g0 sched).db :=
  nodup_run sched g0 (inv_init h0) hg hu hn

/-- `Good` itself has the decidable check `Sop.C02.GoodN`, sound by `Sop.C02.good_of`. -/
theorem C05_unique_checked (items : List Nat) (g0 : G) (sched : List (Nat × List Nat)) (h0 : Init g0) (hg : Good g0 sched)
    (hd : DbIn items g0) (hu : GoodUN items g0 sched) (hn : NoDupKeys g0.db) : NoDupKeys (run g0 sched).db :=
  C05_unique_partial g0 sched h0 hg (goodU_of sched g0 hd hg hu) hn

/-- as `Sop.C02.absent` -/
def absent : Txn := { pc := .done, res := .abort }

def twoPages : G :=
  { ids := [], pageOf := fun i => if i = 1000 then 1 else 2,
    txns := fun i => if i = 0 then { prog := [.add 1000 20 1] } else if i = 1 then { prog := [.add 2000 20 2] } else absent }

def rr : List (Nat × List Nat) := [0, 1, 0, 1, 0, 1, 0, 1, 0, 1].map fun i => (i, [])

/-- two writers add the SAME key 20 as items on DIFFERENT pages: both install — the page protocol only serialises
    writers of the same page. This is why `KeysOnOnePage` is part of the statement (in the real B-tree the two adds
    land in the same leaf and the second one's merge replay hits the duplicate check). -/
theorem dup_without_same_page :
    (run twoPages rr).db 1000 = some ⟨20, 1, 0⟩ ∧ (run twoPages rr).db 2000 = some ⟨20, 2, 0⟩ := by decide +kernel

def onePage : G := { twoPages with pageOf := fun _ => 1 }

/-- on the SAME page the second writer's validation fails, its merge replay finds the key and the commit fails -/
theorem same_page_one_wins :
    (run onePage rr).db 1000 = some ⟨20, 1, 0⟩ ∧ (run onePage rr).db 2000 = none ∧ ((run onePage rr).txns 1).res = .err := by decide +kernel

/-- non-vacuity of `GoodU` -/
theorem goodUN_onePage : GoodUN [1000, 2000] onePage rr := by decide +kernel

/-- the two-page run does not: its second install adds key 20 while item 1000 holds it -/
theorem not_goodUN_twoPages : ¬ GoodUN [1000, 2000] twoPages rr := by decide +kernel

theorem onePage_init : Init onePage :=
  ⟨rfl, fun
    | 0 => Or.inl rfl
    | 1 => Or.inl rfl
    | _ + 2 => Or.inr rfl⟩

theorem onePage_quiet : Quiet 2 onePage
  | 0, h | 1, h => absurd h (by decide)
  | _ + 2, _ => ⟨rfl, rfl⟩

theorem onePage_goodN : GoodN 2 onePage rr := by decide +kernel

/-- every hypothesis of `C05_unique_checked` discharged on a concrete racing run: the theorem, not an evaluation of
    the final state, gives uniqueness -/
theorem onePage_unique : NoDupKeys (run onePage rr).db :=
  C05_unique_checked [1000, 2000] onePage rr onePage_init (good_of rr onePage onePage_quiet onePage_goodN)
    (fun _ _ => rfl) goodUN_onePage (fun i j e e' h => by cases h)

/-- non-vacuity of `WsFresh`: replace the holder of key 20 (item 7) by a new item and update item 8 -/
example : WsFresh (fun i => if i = 7 then some ⟨20, 1, 0⟩ else if i = 8 then some ⟨30, 1, 0⟩ else none)
    [{ item := 7, act := .remove, ent := ⟨20, 1, 0⟩, nval := 1, nver := 0 },
     { item := 9, act := .add, ent := ⟨20, 0, 0⟩, nval := 5, nver := 0 },
     { item := 8, act := .update, ent := ⟨30, 1, 0⟩, nval := 6, nver := 1 }] := by
  refine ⟨by decide, by decide, by decide, by decide, ?_, by decide⟩
  intro w hw ha j e hj hk
  simp only [List.mem_cons, List.not_mem_nil, or_false] at hw
  rcases hw with rfl | rfl | rfl
  · cases ha
  · refine ⟨_, List.mem_cons_self, rfl, ?_⟩
    by_cases h7 : j = 7
    · exact h7.symm
    · by_cases h8 : j = 8
      · subst h8; simp at hj; subst hj; simp at hk
      · simp [h7, h8] at hj
  · cases ha

end Sop.C05
