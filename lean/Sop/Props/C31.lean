import Sop.Model.Stream
import Sop.Lemmas.Assoc
/-! # C31 — streamed values read back exactly as written

`Reader.read true` is `reader.Read` as it stands (`chunkIndex` advances when the buffered chunk has
been drained); `Reader.read false` is the code before commit b8bcdc43, which did not advance it.

In order: the key order and `succ`, positioning (`Positions`), one reader (`Holds`, `View`, `Pending`, `read_step`), remove, add,
update and close (`Entry`), readers interleaved on the shared cursor (`SlotInv`, `SessInv`). The store is a map read by `lookup`;
the equation of each write (`lookup_erase`, `lookup_insert`, `lookup_setVal`) stands with the operation that needs it. -/
namespace Sop.C31
open Sop.Stream

variable {it : Items} {t : Tree} {r : Reader} {v : Chunk}

theorem skey_eq_iff {a b : SKey} : a = b ↔ a.key = b.key ∧ a.idx = b.idx := by
  cases a; cases b; simp

theorem skey_lt_irrefl (a : SKey) : ¬ a.lt a := by
  unfold SKey.lt; omega

theorem skey_lt_trans {a b c : SKey} (hab : a.lt b) (hbc : b.lt c) : a.lt c := by
  rcases hab with h | ⟨h, h'⟩ <;> rcases hbc with g | ⟨g, g'⟩
  · exact Or.inl (Nat.lt_trans h g)
  · exact Or.inl (g ▸ h)
  · exact Or.inl (h ▸ g)
  · exact Or.inr ⟨h.trans g, Nat.lt_trans h' g'⟩

/-- The defining equation with the key asked for on the left, as every equation of this file has it
(`lookup_erase`, `lookup_insert`, `lookup_setVal`, and the statements `writeAll_update`, `closeLoop_spec`). -/
theorem lookup_cons (e : SKey × Chunk) (rest : Items) (k : SKey) :
    lookup (e :: rest) k = if k = e.1 then some e.2 else lookup rest k :=
  ite_congr (propext eq_comm) (fun _ => rfl) fun _ => rfl

theorem lookup_isLookup : Assoc.IsLookup lookup := ⟨fun _ => rfl, fun _ _ _ => rfl⟩

theorem erase_isErase : Assoc.IsErase erase := ⟨fun _ => rfl, fun _ _ _ => rfl⟩

theorem lookup_isSome_iff {k : SKey} : (∃ v, lookup it k = some v) ↔ ∃ e ∈ it, e.1 = k := by
  refine ⟨fun ⟨v, h⟩ => ⟨_, Assoc.look_mem lookup_isLookup h, rfl⟩, fun ⟨e, he, hk⟩ => ?_⟩
  cases h : lookup it k with
  | some v => exact ⟨v, rfl⟩
  | none => exact absurd hk ((Assoc.look_eq_none lookup_isLookup).1 h e he)

theorem succ_none {c : SKey} (h : succ it c = none) : ∀ e ∈ it, ¬ c.lt e.1 := by
  induction it with
  | nil => intro e he; cases he
  | cons x rest ih =>
    unfold succ at h
    split at h
    · next hs =>
      split at h
      · cases h
      · next hx => exact List.forall_mem_cons.2 ⟨hx, ih hs⟩
    · split at h <;> cases h

theorem succ_some {c m : SKey} (h : succ it c = some m) :
    c.lt m ∧ (∃ e ∈ it, e.1 = m) ∧ ∀ e ∈ it, c.lt e.1 → ¬ e.1.lt m := by
  induction it generalizing m with
  | nil => cases h
  | cons x rest ih =>
    unfold succ at h
    split at h
    · next hs =>
      split at h
      · next hx =>
        cases h
        exact ⟨hx, ⟨x, List.mem_cons_self, rfl⟩,
          List.forall_mem_cons.2 ⟨fun _ => skey_lt_irrefl _, fun e he hce => absurd hce (succ_none hs e he)⟩⟩
      · cases h
    · next m' hs =>
      obtain ⟨h1, ⟨e, he, hem⟩, h3⟩ := ih hs
      split at h
      · next hx =>
        cases h
        exact ⟨hx.1, ⟨x, List.mem_cons_self, rfl⟩,
          List.forall_mem_cons.2 ⟨fun _ => skey_lt_irrefl _, fun e he hce hex => h3 e he hce (skey_lt_trans hex hx.2)⟩⟩
      · next hx =>
        cases h
        exact ⟨h1, ⟨e, List.mem_cons_of_mem _ he, hem⟩,
          List.forall_mem_cons.2 ⟨fun hcx hxm => hx ⟨hcx, hxm⟩, h3⟩⟩

theorem succ_within_entry {k ic i : Nat} (hv : lookup it ⟨k, i⟩ = some v) (hlt : ic < i) :
    ∃ m, succ it ⟨k, ic⟩ = some m ∧ m.key = k ∧ ic < m.idx ∧ m.idx ≤ i := by
  obtain ⟨e, he, hek⟩ := lookup_isSome_iff.1 ⟨v, hv⟩
  have hce : (⟨k, ic⟩ : SKey).lt e.1 := hek ▸ Or.inr ⟨rfl, hlt⟩
  cases hs : succ it ⟨k, ic⟩ with
  | none => exact absurd hce (succ_none hs e he)
  | some m =>
    obtain ⟨h1, _, h3⟩ := succ_some hs
    have h2 : ¬ (⟨k, i⟩ : SKey).lt m := hek ▸ h3 e he hce
    rcases h1 with h | ⟨h, h'⟩
    · exact absurd (Or.inl h) h2
    · exact ⟨m, rfl, h.symm, h', Nat.le_of_not_lt fun hlt => h2 (Or.inr ⟨h, hlt⟩)⟩

theorem succ_next {k i : Nat} (h : lookup it ⟨k, i + 1⟩ = some v) :
    succ it ⟨k, i⟩ = some ⟨k, i + 1⟩ := by
  obtain ⟨⟨mk, mi⟩, hs, hk, h1, h2⟩ := succ_within_entry h (Nat.lt_succ_self i)
  cases hk
  have hmi : mi = i + 1 := Nat.le_antisymm h2 h1
  rw [hs, hmi]

theorem next_of_none (hc : t.cur = none) : t.next = (⟨t.items, none⟩, false) := by
  obtain ⟨it, cur⟩ := t
  cases hc
  rfl

theorem next_of_succ_none {c : SKey} (hc : t.cur = some c) (hs : succ t.items c = none) :
    t.next = (⟨t.items, none⟩, false) := by
  simp only [Tree.next, hc, hs]

theorem next_of_succ {c m : SKey} (hc : t.cur = some c) (hs : succ t.items c = some m) :
    t.next = (⟨t.items, some m⟩, true) := by
  simp only [Tree.next, hc, hs]

theorem next_items (t : Tree) : t.next.1.items = t.items := by
  cases hc : t.cur with
  | none => rw [next_of_none hc]
  | some c =>
    cases hs : succ t.items c with
    | none => rw [next_of_succ_none hc hs]
    | some m => rw [next_of_succ hc hs]

/-- `res` is a right answer of a positioning block asked for `k` on a store holding `it` -/
def Positions (it : Items) (k : SKey) (res : Tree × Bool) : Prop :=
  res.1.items = it ∧ (∀ v, lookup it k = some v → res.2 = true ∧ res.1.cur = some k) ∧
    (lookup it k = none → res.2 = false)

theorem Positions.hit {k : SKey} {res : Tree × Bool} (h : Positions it k res) (hl : lookup it k = some v) :
    res = (⟨it, some k⟩, true) := by
  obtain ⟨⟨it', c⟩, f⟩ := res
  obtain ⟨h1, h2, _⟩ := h
  cases h1
  obtain ⟨hf, hc⟩ := h2 v hl
  cases hf
  cases hc
  rfl

theorem Positions.miss {k : SKey} {res : Tree × Bool} (h : Positions it k res) (hl : lookup it k = none) :
    ∃ c, res = (⟨it, c⟩, false) := by
  obtain ⟨⟨it', c⟩, f⟩ := res
  obtain ⟨h1, _, h3⟩ := h
  cases h1
  cases h3 hl
  exact ⟨c, rfl⟩

theorem find_positions (t : Tree) (k : SKey) : Positions t.items k (t.find k) := by
  refine ⟨?_, fun v hv => ?_, fun h => ?_⟩
  · unfold Tree.find; cases lookup t.items k <;> rfl
  · unfold Tree.find; rw [hv]; exact ⟨rfl, rfl⟩
  · unfold Tree.find; rw [h]

theorem next_positions {sdk : SKey} (h : t.next.2 = true) (hk : t.next.1.currentKey = sdk) :
    Positions t.items sdk t.next := by
  cases hcur : t.cur with
  | none => rw [next_of_none hcur] at h; cases h
  | some c =>
    cases hs : succ t.items c with
    | none => rw [next_of_succ_none hcur hs] at h; cases h
    | some m =>
      rw [next_of_succ hcur hs] at hk ⊢
      cases hk
      obtain ⟨v, hv⟩ := lookup_isSome_iff.2 (succ_some hs).2.1
      exact ⟨rfl, fun _ _ => ⟨rfl, rfl⟩, fun h => nomatch hv.symm.trans h⟩

/-- The block WITHOUT the fallback (`writer.Write` in update mode; `reader.Read` before commit 7fc80460).
`hc`: with nothing selected `GetCurrentKey` answers the zero key (0,0), which this block takes for "the
cursor is on chunk 0 of entry 0"; after any successful `Find` something is selected. -/
theorem locate_spec (t : Tree) (sdk : SKey) (hc : t.cur.isSome ∨ sdk ≠ ⟨0, 1⟩) :
    Positions t.items sdk (locate t sdk) := by
  unfold locate
  simp only
  split
  · next hck =>
    have hnext : ∀ v, lookup t.items sdk = some v → t.next = (⟨t.items, some sdk⟩, true) := fun v hv => by
      cases hcur : t.cur with
      | none =>
        rw [Tree.currentKey, hcur] at hck
        rw [hcur] at hc
        exact absurd hck.symm (hc.resolve_left (fun h => nomatch h))
      | some c =>
        rw [Tree.currentKey, hcur] at hck
        rw [← hck] at hv ⊢
        exact next_of_succ hcur (succ_next hv)
    split
    · next h =>
      refine ⟨next_items t, fun v hv => ?_, fun _ => rfl⟩
      rw [hnext v hv] at h
      exact absurd rfl h.2
    · next h =>
      cases hf : t.next.2 with
      | false =>
        refine ⟨next_items t, fun v hv => ?_, fun _ => rfl⟩
        rw [hnext v hv] at hf
        cases hf
      | true => exact hf ▸ next_positions hf (Decidable.not_not.1 fun hk => h ⟨hf, hk⟩)
  · exact find_positions t sdk

/-- The reader's positioning block as it stands: no hypothesis on the cursor, none on the key — a `Next`
shortcut taken for the wrong reason (the current key only read as the zero key) misses and falls back to `Find`. -/
theorem locateR_spec (t : Tree) (sdk : SKey) :
    (locateR t sdk).1.items = t.items ∧
    (∀ v, lookup t.items sdk = some v → (locateR t sdk).2 = true ∧ (locateR t sdk).1.cur = some sdk) ∧
    (lookup t.items sdk = none → (locateR t sdk).2 = false) := by
  show Positions t.items sdk (locateR t sdk)
  unfold locateR
  simp only
  split
  · split
    · rw [← next_items t]; exact find_positions t.next.1 sdk
    · next h =>
      exact next_positions (Decidable.not_not.1 fun hf => h (Or.inl hf)) (Decidable.not_not.1 fun hk => h (Or.inr hk))
  · exact find_positions t sdk

theorem locateR_hit {sdk : SKey} (hl : lookup t.items sdk = some v) :
    locateR t sdk = (⟨t.items, some sdk⟩, true) :=
  Positions.hit (locateR_spec t sdk) hl

theorem locateR_miss {sdk : SKey} (hl : lookup t.items sdk = none) :
    ∃ c, locateR t sdk = (⟨t.items, c⟩, false) :=
  Positions.miss (locateR_spec t sdk) hl

/-! `Holds it k i cs`: entry `k` stores the chunks `cs` at the indices `i, i+1, …` and nothing at the index after the
last; nothing is said below `i` or further up. -/

def Holds (it : Items) (k : Nat) : Nat → List Chunk → Prop
  | i, [] => lookup it ⟨k, i⟩ = none
  | i, c :: cs => lookup it ⟨k, i⟩ = some c ∧ Holds it k (i + 1) cs

theorem holds_congr {it it' : Items} {k i : Nat} {cs : List Chunk}
    (h : ∀ i, lookup it' ⟨k, i⟩ = lookup it ⟨k, i⟩) (hh : Holds it k i cs) : Holds it' k i cs := by
  induction cs generalizing i with
  | nil => exact (h i).trans hh
  | cons _ cs ih => exact ⟨(h i).trans hh.1, ih hh.2⟩

/-- The reader seen abstractly: `b` the bytes of a fetched chunk still to deliver (a buffered chunk is never
exhausted), `i` the chunk fetched next; that is `chunkIndex + 1` while a chunk is buffered, because
`chunkIndex` advances when the chunk has been drained, not when it is fetched. -/
def View (r : Reader) (k : Nat) (b : List Nat) (i : Nat) : Prop :=
  r.key = k ∧
    match r.readChunk with
    | none => b = [] ∧ i = r.chunkIndex
    | some rc => b = rc.drop r.readCount ∧ i = r.chunkIndex + 1 ∧ r.readCount < rc.length

theorem view_nil {k i : Nat} (h : View r k [] i) : r.readChunk = none ∧ r.key = k ∧ r.chunkIndex = i := by
  obtain ⟨hk, h⟩ := h
  cases hrc : r.readChunk with
  | none => rw [hrc] at h; exact ⟨rfl, hk, h.2.symm⟩
  | some rc =>
    rw [hrc] at h
    exact absurd (List.drop_eq_nil_iff.1 h.1.symm) (Nat.not_le_of_lt h.2.2)

theorem read_buffered {k i n : Nat} {b : List Nat} (hv : View r k b i) (hb : b ≠ []) :
    ∃ r', Reader.read true t r n = (t, r', .data (b.take n)) ∧ View r' k (b.drop n) i := by
  obtain ⟨key, ci, rch, rcnt⟩ := r
  obtain ⟨rfl, hv⟩ := hv
  cases rch with
  | none => exact absurd hv.1 hb
  | some rc =>
    obtain ⟨rfl, rfl, hlt⟩ := hv
    have hbl : (rc.drop rcnt).length + rcnt = rc.length := by
      rw [List.length_drop]
      exact Nat.sub_add_cancel (Nat.le_of_lt hlt)
    simp only [Reader.read, Reader.readWith]
    by_cases hn : n < (rc.drop rcnt).length
    · have hlen : ((rc.drop rcnt).take n).length = n := List.length_take_of_le (Nat.le_of_lt hn)
      have hlt' : n + rcnt < rc.length := Nat.lt_of_lt_of_eq (Nat.add_lt_add_right hn rcnt) hbl
      rw [hlen, if_neg (Nat.not_le_of_lt hlt')]
      exact ⟨_, rfl, rfl, List.drop_drop, rfl, Nat.add_comm n rcnt ▸ hlt'⟩
    · have hn' := Nat.le_of_not_lt hn
      rw [List.take_of_length_le hn', if_pos (Nat.le_of_eq hbl.symm)]
      exact ⟨_, rfl, rfl, List.drop_eq_nil_of_le hn', rfl⟩

theorem read_fetch {k i : Nat} {c : Chunk} (n : Nat) (hv : View r k [] i)
    (hl : lookup t.items ⟨k, i⟩ = some c) :
    ∃ r', Reader.read true t r n = (⟨t.items, some ⟨k, i⟩⟩, r', .data (c.take n)) ∧ View r' k (c.drop n) (i + 1) := by
  obtain ⟨key, ci, rch, rcnt⟩ := r
  obtain ⟨rfl, rfl, rfl⟩ : rch = none ∧ key = k ∧ ci = i := view_nil hv
  have hval : (⟨t.items, some ⟨key, ci⟩⟩ : Tree).currentValue = c := by
    simp only [Tree.currentValue, hl, Option.getD_some]
  simp only [Reader.read, Reader.readWith, locateR_hit hl, ↓reduceIte, hval]
  by_cases hn : n < c.length
  · rw [List.length_take_of_le (Nat.le_of_lt hn), if_pos hn]
    exact ⟨_, rfl, rfl, rfl, rfl, hn⟩
  · have hn' := Nat.le_of_not_lt hn
    rw [List.take_of_length_le hn', if_neg (Nat.lt_irrefl _)]
    exact ⟨_, rfl, rfl, List.drop_eq_nil_of_le hn', rfl⟩

/-- `pend` the bytes still to be delivered, `mc` the chunks not yet fetched; `pend.length + mc` drops with
every `Read` that returns data -/
def Pending (k : Nat) (t : Tree) (r : Reader) (pend : List Nat) (mc : Nat) : Prop :=
  ∃ b i cs, View r k b i ∧ Holds t.items k i cs ∧ pend = b ++ cs.flatten ∧ mc = cs.length

theorem Pending.of_holds {k i : Nat} {cs : List Chunk} (h : Holds t.items k i cs) :
    Pending k t (Reader.new k i) cs.flatten cs.length :=
  ⟨[], i, cs, ⟨rfl, rfl, rfl⟩, h, rfl, rfl⟩

theorem Pending.frame {t' : Tree} {k : Nat} {pend : List Nat} {mc : Nat}
    (h : ∀ i, lookup t'.items ⟨k, i⟩ = lookup t.items ⟨k, i⟩) : Pending k t r pend mc → Pending k t' r pend mc
  | ⟨b, i, cs, hv, hh, hpend, hmc⟩ => ⟨b, i, cs, hv, holds_congr h hh, hpend, hmc⟩

theorem read_step {k : Nat} {pend : List Nat} {mc n : Nat}
    (hp : Pending k t r pend mc) (hn : 0 < n) :
    (∃ c, Reader.read true t r n = (⟨t.items, c⟩, r, .eof) ∧ pend = []) ∨
    ∃ c r' out pend' mc', Reader.read true t r n = (⟨t.items, c⟩, r', .data out) ∧ pend = out ++ pend' ∧
      Pending k ⟨t.items, c⟩ r' pend' mc' ∧ pend'.length + mc' < pend.length + mc := by
  obtain ⟨b, i, cs, hv, hh, rfl, rfl⟩ := hp
  by_cases hb : b = []
  · subst hb
    cases cs with
    | nil =>
      obtain ⟨hrc, rfl, rfl⟩ := view_nil hv
      obtain ⟨c, hloc⟩ := locateR_miss hh
      exact Or.inl ⟨c, by simp only [Reader.read, Reader.readWith, hrc, hloc, Bool.false_eq_true, ↓reduceIte], rfl⟩
    | cons c cs =>
      obtain ⟨r', hr, hv'⟩ := read_fetch n hv hh.1
      refine Or.inr ⟨_, r', _, c.drop n ++ cs.flatten, cs.length, hr, ?_, ⟨_, _, cs, hv', hh.2, rfl, rfl⟩, ?_⟩
      · rw [← List.append_assoc, List.take_append_drop]; rfl
      · simp only [List.nil_append, List.flatten_cons, List.length_append, List.length_drop, List.length_cons]
        exact Nat.lt_succ_of_le (Nat.add_le_add_right (Nat.add_le_add_right (Nat.sub_le ..) _) _)
  · obtain ⟨r', hr, hv'⟩ := read_buffered (t := t) (n := n) hv hb
    refine Or.inr ⟨t.cur, r', _, b.drop n ++ cs.flatten, cs.length, hr, ?_, ⟨_, _, cs, hv', hh, rfl, rfl⟩, ?_⟩
    · rw [← List.append_assoc, List.take_append_drop]
    · simp only [List.length_append, List.length_drop]
      exact Nat.add_lt_add_right (Nat.add_lt_add_right (Nat.sub_lt (List.length_pos_iff.2 hb) hn) _) _

theorem readAll_spec {k : Nat} {bufs : List Nat} {pend : List Nat} {mc : Nat}
    (hp : Pending k t r pend mc) (hpos : ∀ b ∈ bufs, 0 < b) :
    ((readAll true t r bufs).2 = true → (readAll true t r bufs).1 = pend) ∧
    (∃ rest, pend = (readAll true t r bufs).1 ++ rest) ∧
    (pend.length + mc < bufs.length → (readAll true t r bufs).2 = true) := by
  induction bufs generalizing t r pend mc with
  | nil =>
    exact ⟨fun h => Bool.noConfusion h, ⟨pend, rfl⟩, fun h => absurd h (Nat.not_lt_zero _)⟩
  | cons n ns ih =>
    rcases read_step hp (hpos n List.mem_cons_self) with ⟨c, hr, rfl⟩ | ⟨c, r', out, pend', mc', hr, rfl, hp', hlt⟩
    · simp only [readAll, hr]
      exact ⟨fun _ => trivial, ⟨[], rfl⟩, fun _ => trivial⟩
    · obtain ⟨h1, ⟨rest, h2⟩, h3⟩ := ih hp' fun b hb => hpos b (List.mem_cons_of_mem _ hb)
      simp only [readAll, hr]
      exact ⟨fun he => by rw [h1 he], ⟨rest, by rw [List.append_assoc, ← h2]⟩,
        fun hl => h3 (Nat.lt_of_lt_of_le hlt (Nat.le_of_lt_succ hl))⟩

/-- **C31_read_all.** For every stored chunk list, every start index, every state of the shared cursor (any
position, or nothing selected) and every sequence of positive buffer sizes: the bytes delivered by successive
`Read` calls are a prefix of the concatenated chunks; they are *all* of them as soon as EOF is
returned; and EOF is returned within `bytes + chunks + 1` calls. -/
theorem C31_read_all (t : Tree) (k i : Nat) (chunks : List Chunk) (bufs : List Nat)
    (hstored : Holds t.items k i chunks) (hpos : ∀ b ∈ bufs, 0 < b) :
    ((readAll true t (Reader.new k i) bufs).2 = true → (readAll true t (Reader.new k i) bufs).1 = chunks.flatten) ∧
    (readAll true t (Reader.new k i) bufs).1 <+: chunks.flatten ∧
    (chunks.flatten.length + chunks.length < bufs.length →
      readAll true t (Reader.new k i) bufs = (chunks.flatten, true)) := by
  obtain ⟨h1, ⟨rest, h2⟩, h3⟩ := readAll_spec (Pending.of_holds hstored) hpos
  refine ⟨h1, ⟨rest, h2.symm⟩, ?_⟩
  intro hl
  have he := h3 hl
  exact Prod.ext (h1 he) he

theorem lookup_erase (it : Items) (k k' : SKey) :
    lookup (erase it k) k' = if k' = k then none else lookup it k' :=
  Assoc.look_erase lookup_isLookup erase_isErase it k k'

theorem remove_lookup (t : Tree) (k k' : SKey) :
    lookup (t.remove k).1.items k' = if k' = k then none else lookup t.items k' := by
  cases hl : lookup t.items k with
  | none =>
    obtain ⟨c, h⟩ := (find_positions t k).miss hl
    simp only [Tree.remove, h, Bool.false_eq_true, ↓reduceIte]
    by_cases hk : k' = k
    · rw [if_pos hk, hk, hl]
    · rw [if_neg hk]
  | some v =>
    simp only [Tree.remove, (find_positions t k).hit hl, ↓reduceIte, Tree.removeCurrent, hl]
    exact lookup_erase ..

theorem removeKeys_lookup : ∀ (ks : List SKey) (t : Tree) (k' : SKey),
    lookup (removeKeys t ks).1.items k' = if k' ∈ ks then none else lookup t.items k' := by
  intro ks
  induction ks with
  | nil => exact fun _ _ => rfl
  | cons k ks ih =>
    intro t k'
    simp only [removeKeys]
    rw [ih, remove_lookup]
    by_cases h1 : k' = k
    · rw [if_pos h1, if_pos (List.mem_cons.2 (Or.inl h1)), ite_self]
    · by_cases h2 : k' ∈ ks
      · rw [if_pos h2, if_pos (List.mem_cons_of_mem _ h2)]
      · rw [if_neg h2, if_neg h1, if_neg fun h => (List.mem_cons.1 h).elim h1 h2]

theorem collect_succ (fuel : Nat) (t : Tree) (key : Nat) (acc : List SKey) :
    collect (fuel + 1) t key acc =
      if t.next.2 = true ∧ t.next.1.currentKey.key = key then
        collect fuel t.next.1 key (acc ++ [⟨key, t.currentKey.idx⟩])
      else (t.next.1, acc ++ [⟨key, t.currentKey.idx⟩]) := rfl

theorem collect_sound (key : Nat) : ∀ (fuel : Nat) (t : Tree) (acc : List SKey),
    (collect fuel t key acc).1.items = t.items ∧ (∀ sk ∈ acc, sk ∈ (collect fuel t key acc).2) ∧
      ∀ sk ∈ (collect fuel t key acc).2, sk ∈ acc ∨ sk.key = key := by
  intro fuel
  induction fuel with
  | zero => exact fun _ _ => ⟨rfl, fun _ h => h, fun _ h => Or.inl h⟩
  | succ f ih =>
    intro t acc
    have hstep : ∀ sk ∈ acc ++ [⟨key, t.currentKey.idx⟩], sk ∈ acc ∨ sk.key = key := fun sk h =>
      (List.mem_append.1 h).imp_right fun h => by rw [List.mem_singleton.1 h]
    rw [collect_succ]
    split
    · obtain ⟨h1, h2, h3⟩ := ih t.next.1 (acc ++ [⟨key, t.currentKey.idx⟩])
      exact ⟨h1.trans (next_items t), fun sk h => h2 sk (List.mem_append_left _ h),
        fun sk h => (h3 sk h).elim (hstep sk) Or.inr⟩
    · exact ⟨next_items t, fun sk h => List.mem_append_left _ h, hstep⟩

/-- stored keys above `c`: the fuel `collect` needs from cursor `c` -/
def above (it : Items) (c : SKey) : Nat := (it.filter (fun e => decide (c.lt e.1))).length

theorem filter_length_lt {α : Type} {l : List α} {p q : α → Bool} (hpq : ∀ x, p x = true → q x = true)
    (hex : ∃ x ∈ l, q x = true ∧ p x = false) : (l.filter p).length < (l.filter q).length := by
  have hle : ∀ l : List α, (l.filter p).length ≤ (l.filter q).length := fun l => by
    rw [← List.countP_eq_length_filter, ← List.countP_eq_length_filter]
    exact List.countP_mono_left fun x _ => hpq x
  obtain ⟨y, hy, hqy, hpy⟩ := hex
  obtain ⟨l₁, l₂, rfl⟩ := List.append_of_mem hy
  rw [List.filter_append, List.filter_append, List.filter_cons_of_pos hqy,
    List.filter_cons_of_neg (hpy ▸ Bool.false_ne_true), List.length_append, List.length_append, List.length_cons]
  exact Nat.add_lt_add_of_le_of_lt (hle l₁) (Nat.lt_succ_of_le (hle l₂))

theorem above_lt {c m : SKey} (hcm : c.lt m) (hm : ∃ e ∈ it, e.1 = m) : above it m < above it c := by
  obtain ⟨e, he, hk⟩ := hm
  refine filter_length_lt (fun x hx => ?_) ⟨e, he, ?_, ?_⟩
  · exact decide_eq_true (skey_lt_trans hcm (of_decide_eq_true hx))
  · rw [hk]; exact decide_eq_true hcm
  · rw [hk]; exact decide_eq_false (skey_lt_irrefl m)

/-- the `Next` loop of `RemoveCurrentItem` misses no stored chunk key of the entry from the cursor onwards -/
theorem collect_complete (key : Nat) : ∀ (fuel : Nat) (t : Tree) (ic : Nat) (acc : List SKey),
    t.cur = some ⟨key, ic⟩ → above t.items ⟨key, ic⟩ < fuel →
    ∀ i, ic ≤ i → (∃ v, lookup t.items ⟨key, i⟩ = some v) → (⟨key, i⟩ : SKey) ∈ (collect fuel t key acc).2 := by
  intro fuel
  induction fuel with
  | zero => exact fun _ _ _ _ h => absurd h (Nat.not_lt_zero _)
  | succ f ih =>
    intro t ic acc hcur hfuel i hi ⟨v, hv⟩
    have hck : t.currentKey = ⟨key, ic⟩ := by rw [Tree.currentKey, hcur]; rfl
    rw [collect_succ, hck]
    rcases Nat.eq_or_lt_of_le hi with rfl | hlt
    · -- the cursor's own key is collected first
      have hself : (⟨key, ic⟩ : SKey) ∈ acc ++ [⟨key, ic⟩] := List.mem_append_right _ List.mem_cons_self
      split
      · exact (collect_sound key f ..).2.1 _ hself
      · exact hself
    · obtain ⟨⟨mk, mi⟩, hs, hmk, _, hmi⟩ := succ_within_entry hv hlt
      cases hmk
      rw [next_of_succ hcur hs, if_pos ⟨rfl, rfl⟩]
      have hm := succ_some hs
      exact ih ⟨t.items, some ⟨mk, mi⟩⟩ mi _ rfl
        (Nat.lt_of_lt_of_le (above_lt hm.1 hm.2.1) (Nat.le_of_lt_succ hfuel)) i hmi ⟨v, hv⟩

/-- **C31_remove_local.** `Remove(key)` changes no chunk of any other entry; when the entry exists
(its chunk 0 is stored) every chunk `(key, i)` of it is gone afterwards, whatever the indices; when
it does not exist nothing changes. -/
theorem C31_remove_local (t : Tree) (key : Nat) :
    (∀ sk : SKey, sk.key ≠ key → lookup (opRemove t key).1.items sk = lookup t.items sk) ∧
    ((∃ v, lookup t.items ⟨key, 0⟩ = some v) → ∀ i, lookup (opRemove t key).1.items ⟨key, i⟩ = none) ∧
    (lookup t.items ⟨key, 0⟩ = none → (opRemove t key).1.items = t.items ∧ (opRemove t key).2 = .removed false) := by
  cases hl : lookup t.items ⟨key, 0⟩ with
  | none =>
    obtain ⟨c, h⟩ := (find_positions t ⟨key, 0⟩).miss hl
    simp only [opRemove, findOne, h, Bool.false_eq_true, ↓reduceIte]
    exact ⟨fun _ _ => trivial, (fun ⟨_, h⟩ => nomatch h), fun _ => ⟨trivial, trivial⟩⟩
  | some v =>
    simp only [opRemove, findOne, (find_positions t ⟨key, 0⟩).hit hl, ↓reduceIte, removeCurrentEntry,
      Tree.currentKey, Option.getD_some, removeKeys_lookup, (collect_sound key ..).1]
    refine ⟨fun sk hsk => if_neg fun hmem => ?_, fun _ i => ?_, fun h => nomatch h⟩
    · exact ((collect_sound key ..).2.2 sk hmem).elim (fun h => nomatch h) hsk
    · cases hi : lookup t.items ⟨key, i⟩ with
      | none => exact ite_self none
      | some w =>
        exact if_pos (collect_complete key _ ⟨t.items, some ⟨key, 0⟩⟩ 0 [] rfl
          (Nat.lt_succ_of_le (List.length_filter_le ..)) i (Nat.zero_le i) ⟨w, hi⟩)

theorem lookup_insert {k : SKey} (v : Chunk) (k' : SKey) (h : lookup it k = none) :
    lookup (Stream.insert it k v) k' = if k' = k then some v else lookup it k' := by
  induction it with
  | nil => exact lookup_cons (k, v) [] k'
  | cons e rest ih =>
    rw [lookup_cons] at h
    have he : ¬ k = e.1 := fun he => by rw [if_pos he] at h; cases h
    rw [if_neg he] at h
    unfold Stream.insert
    split
    · exact lookup_cons (k, v) (e :: rest) k'
    · rw [lookup_cons, lookup_cons, ih h]
      by_cases he' : k' = e.1
      · rw [if_pos he', if_pos he', if_neg fun (hk : k' = k) => he (hk ▸ he')]
      · rw [if_neg he', if_neg he']

theorem writeAll_add {k : Nat} (vals : List Chunk) {i : Nat}
    (h : ∀ j, lookup t.items ⟨k, i + j⟩ = none) :
    ∃ it, writeAll t ⟨k, i, true⟩ vals = (⟨it, t.cur⟩, ⟨k, i + vals.length, true⟩, true) ∧ Holds it k i vals ∧
      ∀ sk : SKey, sk.key ≠ k ∨ sk.idx < i → lookup it sk = lookup t.items sk := by
  induction vals generalizing t i with
  | nil => exact ⟨t.items, rfl, h 0, fun _ _ => rfl⟩
  | cons p ps ih =>
    have h0 : lookup t.items ⟨k, i⟩ = none := h 0
    have hins : ∀ sk : SKey, sk.key ≠ k ∨ sk.idx ≠ i →
        lookup (Stream.insert t.items ⟨k, i⟩ p) sk = lookup t.items sk := fun sk hsk => by
      rw [lookup_insert p sk h0, if_neg fun e => by cases e; exact hsk.elim (· rfl) (· rfl)]
    obtain ⟨it, he, hh, hfr⟩ := ih (t := ⟨Stream.insert t.items ⟨k, i⟩ p, t.cur⟩) (i := i + 1) fun j => by
      rw [hins _ (Or.inr (Nat.ne_of_gt (Nat.lt_of_lt_of_le (Nat.lt_succ_self i) (Nat.le_add_right _ j)))),
        Nat.add_assoc]
      exact h (1 + j)
    refine ⟨it, ?_, ⟨?_, hh⟩, fun sk hsk => ?_⟩
    · rw [List.length_cons, Nat.add_comm ps.length 1, ← Nat.add_assoc]
      simp only [writeAll, Writer.write, Tree.add, h0, ↓reduceIte, he]
    · rw [hfr _ (Or.inr (Nat.lt_succ_self i)), lookup_insert p _ h0, if_pos rfl]
    · rw [hfr sk (hsk.imp_right Nat.lt_succ_of_lt), hins sk (hsk.imp_right Nat.ne_of_lt)]

/-- **C31 round trip.** On a store holding no chunk of `k`: `Add(k)`, encode the values, `Close`;
then `FindOne(k)`, `GetCurrentValue()` and reading with any positive buffer sizes until EOF yields
exactly the concatenation of the encoded values (≥ 1 value), for values of any sizes. -/
theorem C31_add_then_read_all (t : Tree) (k : Nat) (v : Chunk) (vs : List Chunk) (bufs : List Nat)
    (habsent : ∀ j, lookup t.items ⟨k, j⟩ = none) (hpos : ∀ b ∈ bufs, 0 < b) :
    (opAdd t k (v :: vs)).2 = .ok ∧
    ∃ r, (opOpen (opAdd t k (v :: vs)).1 k).2 = some r ∧
      ((readAll true (opOpen (opAdd t k (v :: vs)).1 k).1 r bufs).2 = true →
        (readAll true (opOpen (opAdd t k (v :: vs)).1 k).1 r bufs).1 = (v :: vs).flatten) ∧
      (((v :: vs).flatten.length + (v :: vs).length < bufs.length) →
        readAll true (opOpen (opAdd t k (v :: vs)).1 k).1 r bufs = ((v :: vs).flatten, true)) := by
  obtain ⟨it, hw, hholds, _⟩ := writeAll_add (v :: vs) (i := 0) fun j => (Nat.zero_add j).symm ▸ habsent j
  have hadd : opAdd t k (v :: vs) = (⟨it, t.cur⟩, .ok) := by
    simp only [opAdd, hw, close, ↓reduceIte, and_self]
  have hopen : opOpen ⟨it, t.cur⟩ k = (⟨it, some ⟨k, 0⟩⟩, some (Reader.new k 0)) := by
    simp only [opOpen, findOne, (find_positions ⟨it, t.cur⟩ ⟨k, 0⟩).hit hholds.1, ↓reduceIte, Tree.currentKey,
      Option.getD_some]
  rw [hadd, hopen]
  obtain ⟨a, _, c⟩ := C31_read_all ⟨it, some ⟨k, 0⟩⟩ k 0 (v :: vs) bufs hholds hpos
  exact ⟨rfl, _, rfl, a, c⟩

theorem lookup_setVal (it : Items) (k k' : SKey) (v : Chunk) :
    lookup (setVal it k v) k' = if k' = k then (lookup it k).map fun _ => v else lookup it k' := by
  induction it with
  | nil => exact (ite_self none).symm
  | cons e rest ih =>
    unfold setVal
    split
    · next he =>
      rw [lookup_cons (k, v), ih, lookup_cons, lookup_cons, if_pos he.symm]
      by_cases hk : k' = k
      · rw [if_pos hk, if_pos hk]; rfl
      · rw [if_neg hk, if_neg hk, if_neg hk, if_neg (he ▸ hk)]
    · next he =>
      rw [lookup_cons, ih, lookup_cons, lookup_cons, if_neg (Ne.symm he)]
      by_cases he' : k' = e.1
      · rw [if_pos he', if_pos he', if_neg fun (hk : k' = k) => he (hk ▸ he'.symm)]
      · rw [if_neg he', if_neg he']

/-- `hc` keeps `locate`'s shortcut from misfiring on `(k,i)` (`locate_spec`); it holds again for `i + 1`: after a
hit something is selected, and a miss means `i ≥ 1` since chunk 0 exists (`h0`). -/
theorem write_update {k : Nat} {i : Nat} (p : Chunk)
    (hc : t.cur.isSome ∨ k ≠ 0 ∨ 2 ≤ i) (h0 : i = 0 → ∃ v, lookup t.items ⟨k, 0⟩ = some v) :
    ∃ t', Writer.write t ⟨k, i, false⟩ p = (t', ⟨k, i + 1, false⟩, true) ∧
      (∀ sk : SKey, lookup t'.items sk = if sk = ⟨k, i⟩ then some p else lookup t.items sk) ∧
      (t'.cur.isSome ∨ k ≠ 0 ∨ 2 ≤ i + 1) := by
  have hc' : t.cur.isSome ∨ (⟨k, i⟩ : SKey) ≠ ⟨0, 1⟩ :=
    hc.imp_right fun h e => by cases e; exact h.elim (· rfl) (by decide)
  have hloc := locate_spec t ⟨k, i⟩ hc'
  cases hl : lookup t.items ⟨k, i⟩ with
  | some v =>
    refine ⟨⟨setVal t.items ⟨k, i⟩ p, some ⟨k, i⟩⟩, ?_, fun sk => by rw [lookup_setVal, hl]; rfl, Or.inl rfl⟩
    simp only [Writer.write, Bool.false_eq_true, ↓reduceIte, hloc.hit hl, Tree.updateCurrent, hl]
  | none =>
    obtain ⟨c, hmiss⟩ := hloc.miss hl
    refine ⟨⟨Stream.insert t.items ⟨k, i⟩ p, c⟩, ?_, fun sk => lookup_insert p sk hl, Or.inr (Or.inr ?_)⟩
    · simp only [Writer.write, Bool.false_eq_true, ↓reduceIte, hmiss, Tree.add, hl]
    · have : i ≠ 0 := fun h => by
        obtain ⟨v, hv⟩ := h0 h
        rw [h, hv] at hl
        cases hl
      exact Nat.succ_le_succ (Nat.pos_of_ne_zero this)

theorem ite_range_cons (k i : Nat) (p : Chunk) (ps : List Chunk) (sk : SKey) (f : Option Chunk) :
    (if sk.key = k ∧ i + 1 ≤ sk.idx ∧ sk.idx < i + 1 + ps.length then ps[sk.idx - (i + 1)]?
      else if sk = ⟨k, i⟩ then some p else f) =
    if sk.key = k ∧ i ≤ sk.idx ∧ sk.idx < i + 1 + ps.length then (p :: ps)[sk.idx - i]? else f := by
  by_cases h1 : sk.key = k ∧ i + 1 ≤ sk.idx ∧ sk.idx < i + 1 + ps.length
  · have hidx : sk.idx - i = sk.idx - (i + 1) + 1 := (Nat.succ_pred_eq_of_pos (Nat.sub_pos_of_lt h1.2.1)).symm
    rw [if_pos h1, if_pos ⟨h1.1, Nat.le_of_succ_le h1.2.1, h1.2.2⟩, hidx, List.getElem?_cons_succ]
  · rw [if_neg h1]
    by_cases h2 : sk = ⟨k, i⟩
    · rw [if_pos h2, h2, if_pos ⟨rfl, Nat.le_refl i, Nat.lt_of_lt_of_le (Nat.lt_succ_self i) (Nat.le_add_right ..)⟩]
      show some p = (p :: ps)[i - i]?
      rw [Nat.sub_self, List.getElem?_cons_zero]
    · rw [if_neg h2, if_neg]
      intro h
      rcases Nat.eq_or_lt_of_le h.2.1 with e | hlt
      · exact h2 (skey_eq_iff.2 ⟨h.1, e.symm⟩)
      · exact h1 ⟨h.1, hlt, h.2.2⟩

theorem writeAll_update (k : Nat) : ∀ (vals : List Chunk) (t : Tree) (i : Nat),
    (t.cur.isSome ∨ k ≠ 0 ∨ 2 ≤ i) → (i = 0 → ∃ v, lookup t.items ⟨k, 0⟩ = some v) →
    (writeAll t ⟨k, i, false⟩ vals).2.2 = true ∧
    (writeAll t ⟨k, i, false⟩ vals).2.1 = ⟨k, i + vals.length, false⟩ ∧
    (∀ sk : SKey, lookup (writeAll t ⟨k, i, false⟩ vals).1.items sk =
      if sk.key = k ∧ i ≤ sk.idx ∧ sk.idx < i + vals.length then vals[sk.idx - i]? else lookup t.items sk) := by
  intro vals
  induction vals with
  | nil => exact fun t i _ _ => ⟨rfl, rfl, fun _ => (if_neg fun h => Nat.not_lt_of_le h.2.1 h.2.2).symm⟩
  | cons p ps ih =>
    intro t i hc h0
    obtain ⟨t1, hw, h3, h4⟩ := write_update p hc h0
    obtain ⟨a, b, c⟩ := ih t1 (i + 1) h4 fun h => absurd h (Nat.succ_ne_zero i)
    rw [List.length_cons, Nat.add_comm ps.length 1, ← Nat.add_assoc]
    simp only [writeAll, hw]
    exact ⟨a, b, fun sk => by rw [c sk, h3 sk]; exact ite_range_cons k i p ps sk _⟩

/-- what bounds the loop of `Close` -/
def tailCount (it : Items) (k j : Nat) : Nat := (it.filter fun e => decide (e.1.key = k ∧ j ≤ e.1.idx)).length

theorem erase_sublist (it : Items) (sk : SKey) : (erase it sk).Sublist it :=
  erase_isErase.eq_filter it sk ▸ List.filter_sublist

theorem tailCount_erase_lt {k j : Nat} (hl : lookup it ⟨k, j⟩ = some v) :
    tailCount (erase it ⟨k, j⟩) k (j + 1) < tailCount it k j := by
  obtain ⟨e, he, hek⟩ := lookup_isSome_iff.1 ⟨v, hl⟩
  refine Nat.lt_of_le_of_lt ((erase_sublist it ⟨k, j⟩).filter _).length_le (filter_length_lt (fun x hx => ?_) ⟨e, he, ?_, ?_⟩)
  · simp only [decide_eq_true_eq] at hx ⊢
    exact ⟨hx.1, Nat.le_of_succ_le hx.2⟩
  · rw [hek]; exact decide_eq_true ⟨rfl, Nat.le_refl j⟩
  · rw [hek]; exact decide_eq_false fun h => Nat.not_succ_le_self j h.2

theorem ite_tail_succ (k j : Nat) (sk : SKey) (f : Option Chunk) :
    (if sk.key = k ∧ j + 1 ≤ sk.idx then none else if sk = ⟨k, j⟩ then none else f) =
    if sk.key = k ∧ j ≤ sk.idx then none else f := by
  by_cases h : sk.key = k ∧ j ≤ sk.idx
  · rw [if_pos h]
    by_cases h1 : sk.key = k ∧ j + 1 ≤ sk.idx
    · rw [if_pos h1]
    · have hidx : sk.idx = j := Nat.le_antisymm (Nat.le_of_not_lt fun (hlt : j < sk.idx) => h1 ⟨h.1, hlt⟩) h.2
      rw [if_neg h1, if_pos (skey_eq_iff.2 ⟨h.1, hidx⟩)]
  · rw [if_neg h, if_neg fun h1 => h ⟨h1.1, Nat.le_of_succ_le h1.2⟩, if_neg]
    intro e
    exact h (e ▸ ⟨rfl, Nat.le_refl j⟩)

/-- the loop of `Encoder.Close` in update mode, on an entry stored contiguously up to index `n` -/
theorem closeLoop_spec (k n : Nat) : ∀ (fuel : Nat) (t : Tree) (j : Nat),
    (∀ idx, j ≤ idx → ((∃ v, lookup t.items ⟨k, idx⟩ = some v) ↔ idx < n)) → tailCount t.items k j < fuel →
    (closeLoop fuel t ⟨k, j, false⟩).2.2 = true ∧
    ∀ sk : SKey, lookup (closeLoop fuel t ⟨k, j, false⟩).1.items sk =
      if sk.key = k ∧ j ≤ sk.idx then none else lookup t.items sk := by
  intro fuel
  induction fuel with
  | zero => exact fun _ _ _ h => absurd h (Nat.not_lt_zero _)
  | succ f ih =>
    intro t j hcont hfuel
    cases hl : lookup t.items ⟨k, j⟩ with
    | none =>
      have he : closeLoop (f + 1) t ⟨k, j, false⟩ =
          (⟨t.items, missCursor t.items ⟨k, j⟩ t.cur⟩, ⟨k, j, false⟩, true) := by
        simp only [closeLoop, Tree.find, hl, Bool.false_eq_true, ↓reduceIte]
      rw [he]
      refine ⟨rfl, fun sk => ?_⟩
      split
      · next hc =>
        -- chunk `j` is absent, so `n ≤ j`, and nothing from `j` on is stored
        obtain ⟨sk_k, sk_i⟩ := sk
        obtain ⟨rfl, hji⟩ := hc
        show lookup t.items ⟨sk_k, sk_i⟩ = none
        cases hs : lookup t.items ⟨sk_k, sk_i⟩ with
        | none => rfl
        | some w =>
          obtain ⟨u, hu⟩ := (hcont j (Nat.le_refl j)).2 (Nat.lt_of_le_of_lt hji ((hcont sk_i hji).1 ⟨w, hs⟩))
          exact nomatch hu.symm.trans hl
      · rfl
    | some v =>
      have he : closeLoop (f + 1) t ⟨k, j, false⟩ = closeLoop f ⟨erase t.items ⟨k, j⟩, none⟩ ⟨k, j + 1, false⟩ := by
        simp only [closeLoop, Tree.find, hl, ↓reduceIte, Tree.removeCurrent]
      rw [he]
      obtain ⟨a, b⟩ := ih ⟨erase t.items ⟨k, j⟩, none⟩ (j + 1)
        (fun idx hidx => by
          rw [lookup_erase, if_neg fun e => Nat.ne_of_gt hidx (congrArg SKey.idx e)]
          exact hcont idx (Nat.le_of_succ_le hidx))
        (Nat.lt_of_lt_of_le (tailCount_erase_lt hl) (Nat.le_of_lt_succ hfuel))
      exact ⟨a, fun sk => by rw [b sk, lookup_erase]; exact ite_tail_succ k j sk _⟩

def Entry (it : Items) (k : Nat) (cs : List Chunk) : Prop := ∀ i, lookup it ⟨k, i⟩ = cs[i]?

def Statement_C31_update_replaces : Prop :=
  ∀ (t : Tree) (k : Nat) (old vals : List Chunk), old ≠ [] → Entry t.items k old →
    (opUpdate t k vals).2 = .ok ∧ Entry (opUpdate t k vals).1.items k vals ∧
    ∀ sk : SKey, sk.key ≠ k → lookup (opUpdate t k vals).1.items sk = lookup t.items sk

/-- **C31_update_replaces.** `Update(k)` of an existing entry (old content: any non-empty chunk list),
one `Encode` per new value (any number of values: fewer, as many, or more than before, none included),
`Close` — from ANY cursor state: no error; afterwards entry `k` consists of exactly the new values'
chunks, in order; and every chunk of every other entry is as it was. -/
theorem C31_update_replaces : Statement_C31_update_replaces := by
  intro t k old vals hold he
  obtain ⟨v0, hv0⟩ : ∃ v, lookup t.items ⟨k, 0⟩ = some v := by
    cases old with
    | nil => exact absurd rfl hold
    | cons c cs => exact ⟨c, he 0⟩
  have hfind : findOne t k = (⟨t.items, some ⟨k, 0⟩⟩, true) := (find_positions t ⟨k, 0⟩).hit hv0
  obtain ⟨hok, hw1, h1⟩ := writeAll_update k vals ⟨t.items, some ⟨k, 0⟩⟩ 0 (Or.inl rfl) fun _ => ⟨v0, hv0⟩
  rcases hw : writeAll ⟨t.items, some ⟨k, 0⟩⟩ ⟨k, 0, false⟩ vals with ⟨t1, w1, ok⟩
  rw [hw] at hok hw1 h1
  cases hok
  cases hw1
  simp only [Nat.zero_add, Nat.zero_le, true_and, Nat.sub_zero] at hw h1
  have hcont : ∀ idx, vals.length ≤ idx → ((∃ v, lookup t1.items ⟨k, idx⟩ = some v) ↔ idx < old.length) := by
    intro idx hidx
    rw [h1, if_neg fun h => Nat.not_lt_of_le hidx h.2, he idx]
    exact ⟨fun ⟨v, hv⟩ => (List.getElem?_eq_some_iff.1 hv).1, fun h => ⟨old[idx], List.getElem?_eq_getElem h⟩⟩
  obtain ⟨hok2, h2⟩ := closeLoop_spec k old.length (fuelOf t1) t1 vals.length hcont
    (Nat.lt_succ_of_le (List.length_filter_le ..))
  rcases hcl : closeLoop (fuelOf t1) t1 ⟨k, vals.length, false⟩ with ⟨t2, w2, ok2⟩
  rw [hcl] at hok2 h2
  cases hok2
  have hop : opUpdate t k vals = (t2, .ok) := by
    simp only [opUpdate, hfind, Tree.currentKey, Option.getD_some, ↓reduceIte, hw, close, Bool.false_eq_true, hcl]
  rw [hop]
  refine ⟨rfl, fun i => ?_, fun sk hsk => ?_⟩
  · rw [h2]
    by_cases hi : vals.length ≤ i
    · rw [if_pos ⟨rfl, hi⟩, List.getElem?_eq_none hi]
    · rw [if_neg fun h => hi h.2, h1, if_pos ⟨rfl, Nat.lt_of_not_le hi⟩]
  · rw [h2, if_neg fun h => hsk h.1, h1, if_neg fun h => hsk h.1]

/-- non-vacuity: the hypotheses hold of a 3-chunk entry with a neighbour on each side and the cursor deselected -/
example :
    let t : Tree := ⟨[(⟨1, 0⟩, [9]), (⟨2, 0⟩, [1]), (⟨2, 1⟩, [2]), (⟨2, 2⟩, [3]), (⟨3, 0⟩, [8])], none⟩
    [[1], [2], [3]] ≠ ([] : List Chunk) ∧ Entry t.items 2 [[1], [2], [3]] := by
  refine ⟨List.cons_ne_nil _ _, fun i => ?_⟩
  match i with
  | 0 | 1 | 2 | i + 3 => rfl

/-- a SHRINKING update (3 chunks replaced by 1), computed -/
theorem C31_update_sample :
    let t : Tree := ⟨[(⟨1, 0⟩, [9]), (⟨2, 0⟩, [1]), (⟨2, 1⟩, [2]), (⟨2, 2⟩, [3]), (⟨3, 0⟩, [8])], none⟩
    (opUpdate t 2 [[7, 7]]).1.items = [(⟨1, 0⟩, [9]), (⟨2, 0⟩, [7, 7]), (⟨3, 0⟩, [8])] ∧ (opUpdate t 2 [[7, 7]]).2 = .ok := by
  decide +kernel

/-- Outside the statement: `Close` is part of the update (it is what removes the old tail). An update-mode
encoder that is written to but NOT closed leaves the chunks of the older, longer content behind. -/
theorem C31_update_needs_close :
    let t : Tree := ⟨[(⟨2, 0⟩, [1]), (⟨2, 1⟩, [2]), (⟨2, 2⟩, [3])], none⟩
    (writeAll (findOne t 2).1 ⟨2, 0, false⟩ [[7]]).1.items = [(⟨2, 0⟩, [7]), (⟨2, 1⟩, [2]), (⟨2, 2⟩, [3])] ∧
    (opUpdate t 2 [[7]]).1.items = [(⟨2, 0⟩, [7])] := by
  decide +kernel

/-- The reader before commit b8bcdc43 (`Reader.read false`) violates the statement: two 3-byte chunks read through a 2-byte
buffer come back with every chunk's tail followed by the whole chunk again. -/
theorem C31_unrepaired_counterexample :
    let t : Tree := ⟨[(⟨1, 0⟩, [1, 2, 3]), (⟨1, 1⟩, [4, 5, 6])], some ⟨1, 0⟩⟩
    (readAll false t (Reader.new 1 0) [2, 2, 2, 2, 2, 2, 2, 2, 2, 2]).1 ≠ [1, 2, 3, 4, 5, 6] := by
  decide +kernel

theorem find_items (t : Tree) (k : SKey) : (t.find k).1.items = t.items :=
  (find_positions t k).1

theorem read_eq_deselected (t : Tree) (r : Reader) (n : Nat) :
    ∃ c, Reader.read true t r n = (⟨t.items, c⟩, (Reader.read true ⟨t.items, none⟩ r n).2) := by
  unfold Reader.read Reader.readWith
  cases r.readChunk with
  | some rc => simp only; split <;> exact ⟨t.cur, rfl⟩
  | none =>
    cases hl : lookup t.items ⟨r.key, r.chunkIndex⟩ with
    | none =>
      obtain ⟨c1, h1⟩ := locateR_miss hl
      obtain ⟨c2, h2⟩ := locateR_miss (t := ⟨t.items, none⟩) hl
      simp only [h1, h2, Bool.false_eq_true, ↓reduceIte]
      exact ⟨c1, rfl⟩
    | some v =>
      simp only [locateR_hit hl, locateR_hit (t := ⟨t.items, none⟩) hl, ↓reduceIte]
      split <;> exact ⟨_, rfl⟩

/-- The fast path is only an optimisation: what `Read` returns, the reader's next state and what is stored
afterwards do not depend on where the shared cursor rests (any position, or nothing selected; the zero key included). -/
theorem read_cursor_irrelevant (t1 t2 : Tree) (r : Reader) (n : Nat) (hi : t1.items = t2.items) :
    (Reader.read true t1 r n).2 = (Reader.read true t2 r n).2 ∧
    (Reader.read true t1 r n).1.items = (Reader.read true t2 r n).1.items := by
  obtain ⟨c1, h1⟩ := read_eq_deselected t1 r n
  obtain ⟨c2, h2⟩ := read_eq_deselected t2 r n
  rw [h1, h2, hi]
  exact ⟨rfl, rfl⟩

/-- what the reader in a slot is reading; `chunks` are those stored from `start` on -/
structure Spec where
  key : Nat
  start : Nat
  chunks : List Chunk

/-- an `env` step may do anything to other entries and to the cursor, nothing to the entries being read -/
def Preserves (keys : List Nat) (t t' : Tree) : Prop :=
  ∀ k ∈ keys, ∀ i, lookup t'.items ⟨k, i⟩ = lookup t.items ⟨k, i⟩

def EvOk (keys : List Nat) (s : Sess) : Ev → Prop
  | .rd _ n => 0 < n
  | .env t' => Preserves keys s.tree t'

/-- each `env` step is judged against the store the run has reached -/
def ValidEvs (keys : List Nat) : Sess → List Ev → Prop
  | _, [] => True
  | s, e :: es => EvOk keys s e ∧ ValidEvs keys (s.evWith locateR e) es

def initSess (t : Tree) (specs : List Spec) (ws : List Writer) : Sess :=
  ⟨t, specs.map fun sp => ⟨Reader.new sp.key sp.start, [], false⟩, ws⟩

def rdCount (j : Nat) : List Ev → Nat
  | [] => 0
  | .rd j' _ :: es => (if j' = j then 1 else 0) + rdCount j es
  | .env _ :: es => rdCount j es

/-- after `d` `Read` calls of the slot; before EOF the calls made and the calls that may still return data
stay within `bytes + chunks` -/
structure SlotAt (t : Tree) (sp : Spec) (sl : Slot) (d : Nat) (pend : List Nat) (mc : Nat) : Prop where
  pending : Pending sp.key t sl.r pend mc
  got : sl.got ++ pend = sp.chunks.flatten
  eof : sl.eof = true → pend = []
  budget : sl.eof = false → pend.length + mc + d ≤ sp.chunks.flatten.length + sp.chunks.length

def SlotInv (t : Tree) (sp : Spec) (sl : Slot) (d : Nat) : Prop := ∃ pend mc, SlotAt t sp sl d pend mc

def SessInv (specs : List Spec) (s : Sess) (d : Nat → Nat) : Prop :=
  s.readers.length = specs.length ∧
  ∀ (j : Nat) (sp : Spec) (sl : Slot), specs[j]? = some sp → s.readers[j]? = some sl → SlotInv s.tree sp sl (d j)

theorem slotInv_frame {t t' : Tree} {sp : Spec} {sl : Slot} {d d' : Nat}
    (h : ∀ i, lookup t'.items ⟨sp.key, i⟩ = lookup t.items ⟨sp.key, i⟩) (hd : d' ≤ d) (hs : SlotInv t sp sl d) :
    SlotInv t' sp sl d' := by
  obtain ⟨pend, mc, hs⟩ := hs
  exact ⟨pend, mc, { pending := hs.pending.frame h, got := hs.got, eof := hs.eof,
                     budget := fun he => Nat.le_trans (Nat.add_le_add_left hd _) (hs.budget he) }⟩

def slotAfter (sl : Slot) (r' : Reader) : ReadResult → Slot
  | .eof => ⟨r', sl.got, true⟩
  | .data out => ⟨r', sl.got ++ out, sl.eof⟩

theorem ev_rd {s : Sess} {j n : Nat} {sl : Slot} {t' : Tree} {r' : Reader} {res : ReadResult}
    (hj : s.readers[j]? = some sl) (hr : Reader.read true s.tree sl.r n = (t', r', res)) :
    s.evWith locateR (.rd j n) = ⟨t', s.readers.set j (slotAfter sl r' res), s.writers⟩ := by
  have hr' : Reader.readWith locateR true s.tree sl.r n = (t', r', res) := hr
  cases res with
  | eof => simp only [Sess.evWith, Sess.rdWith, hj, hr', slotAfter]
  | data out => simp only [Sess.evWith, Sess.rdWith, hj, hr', slotAfter]

theorem slot_read {sp : Spec} {sl : Slot} {d n : Nat} (hs : SlotInv t sp sl d) (hn : 0 < n) :
    ∃ c r' res, Reader.read true t sl.r n = (⟨t.items, c⟩, r', res) ∧
      SlotInv ⟨t.items, c⟩ sp (slotAfter sl r' res) (d + 1) := by
  obtain ⟨pend, mc, hs⟩ := hs
  rcases read_step hs.pending hn with ⟨c, hr, rfl⟩ | ⟨c, r', out, pend', mc', hr, rfl, hp', hlt⟩
  · exact ⟨c, _, _, hr, [], mc, { pending := hs.pending, got := hs.got, eof := fun _ => rfl, budget := nofun }⟩
  · refine ⟨c, r', _, hr, pend', mc', { pending := hp', got := ?_, eof := fun he => ?_, budget := fun he => ?_ }⟩
    · rw [← hs.got]; exact List.append_assoc ..
    · exact (List.append_eq_nil_iff.1 (hs.eof he)).2
    · rw [Nat.add_comm d 1, ← Nat.add_assoc]
      exact Nat.le_trans (Nat.add_le_add_right hlt _) (hs.budget he)

theorem ev_inv {specs : List Spec} {s : Sess} {e : Ev} {d : Nat → Nat} (hinv : SessInv specs s d)
    (hv : EvOk (specs.map (·.key)) s e) : SessInv specs (s.evWith locateR e) (fun j => d j + rdCount j [e]) := by
  cases e with
  | env t' =>
    exact ⟨hinv.1, fun j sp sl hsp hsl => slotInv_frame
      (hv sp.key (List.mem_map.2 ⟨sp, List.mem_of_getElem? hsp, rfl⟩)) (Nat.le_refl _) (hinv.2 j sp sl hsp hsl)⟩
  | rd j n =>
    cases hj : s.readers[j]? with
    | none =>
      simp only [Sess.evWith, Sess.rdWith, hj]
      refine ⟨hinv.1, fun j' sp sl hsp hsl => slotInv_frame (fun _ => rfl) ?_ (hinv.2 j' sp sl hsp hsl)⟩
      have hjj : j ≠ j' := fun h => by rw [h, hsl] at hj; cases hj
      simp [rdCount, hjj]
    | some sl =>
      have hjlt : j < s.readers.length := (List.getElem?_eq_some_iff.1 hj).1
      have hjlt' : j < specs.length := hinv.1 ▸ hjlt
      have hsp : specs[j]? = some specs[j] := List.getElem?_eq_getElem hjlt'
      obtain ⟨c, r', res, hr, hnew⟩ := slot_read (hinv.2 j _ sl hsp hj) hv
      rw [ev_rd hj hr]
      refine ⟨by rw [List.length_set]; exact hinv.1, fun j' sp' sl' hsp' hsl => ?_⟩
      by_cases hjj : j = j'
      · subst hjj
        rw [List.getElem?_set_self hjlt] at hsl
        cases hsl
        cases hsp.symm.trans hsp'
        exact slotInv_frame (fun _ => rfl) (by simp [rdCount]) hnew
      · rw [List.getElem?_set_ne hjj] at hsl
        exact slotInv_frame (t := s.tree) (fun _ => rfl) (by simp [rdCount, hjj]) (hinv.2 j' sp' sl' hsp' hsl)

theorem run_inv {specs : List Spec} {evs : List Ev} {s : Sess} {d : Nat → Nat} (h : SessInv specs s d)
    (hv : ValidEvs (specs.map (·.key)) s evs) : SessInv specs (s.run evs) (fun j => d j + rdCount j evs) := by
  induction evs generalizing s d with
  | nil => exact h
  | cons e es ih =>
    obtain ⟨hlen, hall⟩ := ih (ev_inv h hv.1) hv.2
    refine ⟨hlen, fun j sp sl hsp hsl => slotInv_frame (fun _ => rfl) ?_ (hall j sp sl hsp hsl)⟩
    show d j + rdCount j (e :: es) ≤ d j + rdCount j [e] + rdCount j es
    cases e with
    | rd j' n => exact Nat.le_of_eq (Nat.add_assoc ..).symm
    | env t' => exact Nat.le_refl _

theorem init_inv {specs : List Spec} (ws : List Writer)
    (hst : ∀ sp ∈ specs, Holds t.items sp.key sp.start sp.chunks) : SessInv specs (initSess t specs ws) (fun _ => 0) := by
  refine ⟨by simp [initSess], fun j sp sl hsp hsl => ?_⟩
  simp only [initSess, List.getElem?_map, hsp, Option.map_some, Option.some.injEq] at hsl
  subst hsl
  exact ⟨sp.chunks.flatten, sp.chunks.length,
    { pending := Pending.of_holds (hst sp (List.mem_of_getElem? hsp)), got := rfl, eof := nofun,
      budget := fun _ => Nat.le_refl _ }⟩

/-- **C31_interleaved_readers.** Any number of readers are open on one store, reader `j` on entry
`specs[j].key` (ANY key, the zero value included; several readers may read the same entry) from chunk
`specs[j].start`, and their `Read` calls (any positive buffer sizes) are interleaved in ANY order with
each other and with arbitrary other activity on the store that moves the shared cursor anywhere (or
deselects it) and changes other entries in any way. Then at every moment every reader has delivered a
prefix of its entry's concatenated chunks, and a reader that has reported EOF has delivered exactly all
of them. -/
theorem C31_interleaved_readers (t : Tree) (specs : List Spec) (ws : List Writer) (evs : List Ev)
    (hst : ∀ sp ∈ specs, Holds t.items sp.key sp.start sp.chunks)
    (hv : ValidEvs (specs.map (·.key)) (initSess t specs ws) evs) :
    ((initSess t specs ws).run evs).readers.length = specs.length ∧
    ∀ (j : Nat) (sp : Spec) (sl : Slot), specs[j]? = some sp → ((initSess t specs ws).run evs).readers[j]? = some sl →
      sl.got <+: sp.chunks.flatten ∧ (sl.eof = true → sl.got = sp.chunks.flatten) := by
  obtain ⟨hlen, hall⟩ := run_inv (init_inv ws hst) hv
  refine ⟨hlen, fun j sp sl hsp hsl => ?_⟩
  obtain ⟨pend, mc, hs⟩ := hall j sp sl hsp hsl
  refine ⟨⟨pend, hs.got⟩, fun he => ?_⟩
  have hgot := hs.got
  rw [hs.eof he, List.append_nil] at hgot
  exact hgot

/-- **C31_interleaved_readers_eof.** In the setting of `C31_interleaved_readers`: a reader that is given
more than `bytes + chunks` `Read` calls in the history — however interleaved — has reported EOF and
delivered exactly its entry. -/
theorem C31_interleaved_readers_eof (t : Tree) (specs : List Spec) (ws : List Writer) (evs : List Ev)
    (hst : ∀ sp ∈ specs, Holds t.items sp.key sp.start sp.chunks)
    (hv : ValidEvs (specs.map (·.key)) (initSess t specs ws) evs)
    (j : Nat) (sp : Spec) (hsp : specs[j]? = some sp)
    (hmany : sp.chunks.flatten.length + sp.chunks.length < rdCount j evs) :
    ∃ sl, ((initSess t specs ws).run evs).readers[j]? = some sl ∧ sl.eof = true ∧ sl.got = sp.chunks.flatten := by
  obtain ⟨hlen, hall⟩ := run_inv (init_inv ws hst) hv
  have hj : j < ((initSess t specs ws).run evs).readers.length := by
    rw [hlen]; exact (List.getElem?_eq_some_iff.1 hsp).1
  obtain ⟨pend, mc, hs⟩ := hall j sp _ hsp (List.getElem?_eq_getElem hj)
  refine ⟨_, List.getElem?_eq_getElem hj, ?_⟩
  cases he : (((initSess t specs ws).run evs).readers[j]).eof with
  | false =>
    -- before EOF the calls made, `rdCount j evs`, stay within `bytes + chunks`
    exact absurd (Nat.lt_of_le_of_lt (Nat.le_trans (Nat.le_trans (Nat.le_add_left ..) (Nat.le_add_left ..))
      (hs.budget he)) hmany) (Nat.lt_irrefl _)
  | true =>
    have hgot := hs.got
    rw [hs.eof he, List.append_nil] at hgot
    exact ⟨rfl, hgot⟩

/-- non-vacuity of `C31_interleaved_readers`: two readers on two entries (one under the zero key), lockstep,
the cursor deselected in between -/
example :
    let t : Tree := ⟨[(⟨0, 0⟩, [10]), (⟨0, 1⟩, [11]), (⟨2, 0⟩, [20]), (⟨2, 1⟩, [21]), (⟨3, 0⟩, [30])], none⟩
    let specs : List Spec := [⟨0, 0, [[10], [11]]⟩, ⟨2, 0, [[20], [21]]⟩]
    (∀ sp ∈ specs, Holds t.items sp.key sp.start sp.chunks) ∧
    ValidEvs (specs.map (·.key)) (initSess t specs []) [.rd 0 8, .rd 1 8, .env { t with cur := none }, .rd 0 8] := by
  refine ⟨fun sp hsp => ?_, Nat.zero_lt_succ _, Nat.zero_lt_succ _, fun k _ i => rfl, Nat.zero_lt_succ _, trivial⟩
  simp only [List.mem_cons, List.not_mem_nil, or_false] at hsp
  rcases hsp with rfl | rfl
  · exact ⟨rfl, rfl, rfl⟩
  · exact ⟨rfl, rfl, rfl⟩

def results (s : Sess) : List (List Nat × Bool) := s.readers.map fun sl => (sl.got, sl.eof)

def twoEntries : Sess :=
  ⟨⟨[(⟨1, 0⟩, [10]), (⟨1, 1⟩, [11]), (⟨2, 0⟩, [20]), (⟨2, 1⟩, [21])], none⟩,
   [⟨Reader.new 1 0, [], false⟩, ⟨Reader.new 2 0, [], false⟩], []⟩

/-- **Why a shortcut without a fallback must compare the full key.**
With the shortcut test weakened to the chunk index alone and no fallback (`locateIdxOnly`), two readers
advanced in lockstep over two entries: reader 0 delivers chunk 0 of entry 1, reader 1 chunk 0 of entry 2
(cursor now on (2,0)), and reader 0, wanting chunk 1 with the cursor on index 0, steps with `Next` onto
(2,1), sees a foreign key and reports EOF: entry 1 is truncated to 1 of its 2 chunks. The
full-key comparison without fallback (`locate`) returns both entries whole on the same history — and so does the code as
it stands (`locateR`), and even the position-only test once the shortcut falls back to `Find`
(`locateIdxOnlyR`): with the fallback the test before the shortcut is purely an optimisation. -/
theorem C31_index_only_fastpath_truncates :
    results (twoEntries.runWith locateIdxOnly [.rd 0 8, .rd 1 8, .rd 0 8, .rd 1 8, .rd 1 8]) =
      [([10], true), ([20, 21], true)] ∧
    results (twoEntries.runWith locate [.rd 0 8, .rd 1 8, .rd 0 8, .rd 1 8, .rd 0 8, .rd 1 8]) =
      [([10, 11], true), ([20, 21], true)] ∧
    results (twoEntries.run [.rd 0 8, .rd 1 8, .rd 0 8, .rd 1 8, .rd 0 8, .rd 1 8]) =
      [([10, 11], true), ([20, 21], true)] ∧
    results (twoEntries.runWith locateIdxOnlyR [.rd 0 8, .rd 1 8, .rd 0 8, .rd 1 8, .rd 0 8, .rd 1 8]) =
      [([10, 11], true), ([20, 21], true)] := by
  decide +kernel

/-- **The zero key without the fallback (the code before commit 7fc80460).** Entry 0 has two chunks, entry 5 one;
reader 0 delivers chunk 0 of entry 0; reader 1 reads entry 5 to its end — its last `Next` runs off the
end of the store and leaves NOTHING selected; `GetCurrentKey` then answers the zero key (0,0), which
reader 0 (wanting (0,1)) takes for "the cursor is on my previous chunk". Without the fallback (`locate`)
the failed `Next` is reported as EOF after 1 of 2 chunks; the code as it stands (`locateR`) falls back
to `Find` and delivers the whole entry (which `C31_interleaved_readers` proves for every history). -/
theorem C31_zero_key_before_fix_truncates :
    let s0 : Sess := ⟨⟨[(⟨0, 0⟩, [10]), (⟨0, 1⟩, [11]), (⟨5, 0⟩, [50])], none⟩,
      [⟨Reader.new 0 0, [], false⟩, ⟨Reader.new 5 0, [], false⟩], []⟩
    results (s0.runWith locate [.rd 0 8, .rd 1 8, .rd 1 8, .rd 0 8]) = [([10], true), ([50], true)] ∧
    results (s0.run [.rd 0 8, .rd 1 8, .rd 1 8, .rd 0 8, .rd 0 8]) = [([10, 11], true), ([50], true)] := by
  decide +kernel

end Sop.C31
