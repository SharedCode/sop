import Sop.Model.TwoPC
import Sop.Props.C14
/-! # C16 — external two-phase participants follow SOP's commit outcome

`Sop.TwoPC.commit / rollback` for an arbitrary list `ps` of attached participants and an arbitrary script `s`
(outcome of every call of every participant and of SOP, participant `0`); "before" is expressed on the call log:
`log = pre ++ c :: post` and membership in `pre`. Then the same with SOP's side a state machine (`commitL`, sessions
of method calls), and that state machine against C14's lifecycle model.
-/
namespace Sop.C16
open Sop.TwoPC

theorem callUntilFail_none {s : Script} {k : Kind} {ps : List Nat} {l : List Call}
    (h : callUntilFail s k ps = (l, none)) : l = callAll s k ps ∧ ∀ p ∈ ps, s p k = true := by
  fun_induction callUntilFail s k ps generalizing l
  · cases h; exact ⟨rfl, nofun⟩
  · next p ps hp _ ih =>
    obtain ⟨rfl, h2⟩ := Prod.mk.inj h
    obtain ⟨h1, h3⟩ := ih (Prod.ext rfl h2)
    exact ⟨congrArg (call s k p :: ·) h1, List.forall_mem_cons.mpr ⟨hp, h3⟩⟩
  · cases h

theorem callUntilFail_some {s : Script} {k : Kind} {ps : List Nat} {l : List Call} {p : Nat}
    (h : callUntilFail s k ps = (l, some p)) :
    ∃ ps₁ ps₂, ps = ps₁ ++ p :: ps₂ ∧ (∀ q ∈ ps₁, s q k = true) ∧ s p k = false ∧
      l = callAll s k ps₁ ++ [⟨p, k, false⟩] := by
  fun_induction callUntilFail s k ps generalizing l
  · cases h
  · next a ps ha _ ih =>
    obtain ⟨rfl, h2⟩ := Prod.mk.inj h
    obtain ⟨ps₁, ps₂, e1, e2, e3, e4⟩ := ih (Prod.ext rfl h2)
    exact ⟨a :: ps₁, ps₂, congrArg (a :: ·) e1, List.forall_mem_cons.mpr ⟨ha, e2⟩, e3, congrArg (call s k a :: ·) e4⟩
  · next a ps ha =>
    obtain ⟨rfl, h2⟩ := Prod.mk.inj h
    cases h2
    have ha' : s p k = false := by simpa using ha
    exact ⟨[], ps, rfl, nofun, ha', by simp [callAll, call, ha']⟩

theorem mem_callAll {s : Script} {k : Kind} {ps : List Nat} {c : Call} :
    c ∈ callAll s k ps ↔ ∃ p ∈ ps, c = ⟨p, k, s p k⟩ := by
  simp [callAll, call, eq_comm]

theorem kinds_callAll (s : Script) (k : Kind) (ps : List Nat) : ∀ c ∈ callAll s k ps, c.kind = k := by
  intro c hc; obtain ⟨p, _, rfl⟩ := mem_callAll.1 hc; rfl

theorem kinds_cuf (s : Script) (k : Kind) (ps : List Nat) : ∀ c ∈ (callUntilFail s k ps).1, c.kind = k := by
  fun_induction callUntilFail s k ps
  · nofun
  · next ih => exact List.forall_mem_cons.mpr ⟨rfl, ih⟩
  · exact List.forall_mem_cons.mpr ⟨rfl, nofun⟩

theorem prefix_mem_of_not_mem {α : Type} {A B pre post : List α} {x : α}
    (h : A ++ B = pre ++ x :: post) (hx : x ∉ A) : ∀ a ∈ A, a ∈ pre := by
  induction A generalizing pre with
  | nil => simp
  | cons a A ih =>
    cases pre with
    | nil =>
      simp at h
      exact absurd (by simp [h.1]) hx
    | cons b pre =>
      simp only [List.cons_append, List.cons.injEq] at h
      obtain ⟨rfl, h⟩ := h
      intro c hc
      rcases List.mem_cons.1 hc with rfl | hc
      · simp
      · exact List.mem_cons_of_mem _ (ih h (fun m => hx (List.mem_cons_of_mem _ m)) c hc)

/-- `.ok` is Commit returning `nil`; the outcome of the participants' phase 2 is ignored by the code. -/
theorem commit_ok_iff (s : Script) (ps : List Nat) :
    (commit s ps).2 = .ok ↔ (s 0 .phase1 = true ∧ (∀ p ∈ ps, s p .phase1 = true) ∧ s 0 .phase2 = true) := by
  fun_cases commit s ps
  · next hc =>
    obtain ⟨ps₁, ps₂, e, _, hp, _⟩ := callUntilFail_some hc
    exact iff_of_false nofun fun h => by simp [h.2.1 _ (e ▸ List.mem_append_right _ List.mem_cons_self)] at hp
  · next h1 _ hc h2 => exact iff_of_true rfl ⟨h1, (callUntilFail_none hc).2, h2⟩
  · next h2 => exact iff_of_false nofun fun h => h2 h.2.2
  · next h1 => exact iff_of_false nofun fun h => h1 h.1

theorem commit_ok_log (s : Script) (ps : List Nat) (h : (commit s ps).2 = .ok) :
    (commit s ps).1 = ⟨0, .phase1, true⟩ :: (callAll s .phase1 ps ++ ⟨0, .phase2, true⟩ :: callAll s .phase2 ps) := by
  revert h
  fun_cases commit s ps
  · nofun
  · next h1 _ hc h2 => intro _; simp [(callUntilFail_none hc).1, call, h1, h2]
  · nofun
  · nofun

theorem mem_ok_log {s : Script} {ps : List Nat} (h : (commit s ps).2 = .ok) {c : Call} (hc : c ∈ (commit s ps).1) :
    (c.kind = .phase1 ∧ c.ok = true) ∨ c = ⟨0, .phase2, true⟩ ∨ (c.kind = .phase2 ∧ c.who ∈ ps) := by
  obtain ⟨_, hall, _⟩ := (commit_ok_iff s ps).1 h
  rw [commit_ok_log s ps h] at hc
  simp only [List.mem_cons, List.mem_append] at hc
  rcases hc with rfl | hc | rfl | hc
  · exact .inl ⟨rfl, rfl⟩
  · obtain ⟨q, hq, rfl⟩ := mem_callAll.1 hc; exact .inl ⟨rfl, hall q hq⟩
  · exact .inr (.inl rfl)
  · obtain ⟨q, hq, rfl⟩ := mem_callAll.1 hc; exact .inr (.inr ⟨rfl, hq⟩)

theorem ok_log_no_rollback {s : Script} {ps : List Nat} (h : (commit s ps).2 = .ok) :
    ∀ c ∈ (commit s ps).1, c.kind ≠ .rollback := by
  intro c hc hk
  rcases mem_ok_log h hc with ⟨e, _⟩ | rfl | ⟨e, _⟩
  · rw [e] at hk; cases hk
  · cases hk
  · rw [e] at hk; cases hk

/-- The log of a failed commit, in full; in particular no participant's phase 2 appears. -/
theorem commit_fail_log (s : Script) (ps : List Nat) (h : (commit s ps).2 ≠ .ok) :
    ∃ pre c, (commit s ps).1 = pre ++ c :: callAll s .rollback (0 :: ps) ∧
      c.ok = false ∧ (c.kind = .phase1 ∨ (c.kind = .phase2 ∧ c.who = 0)) ∧
      (∀ d ∈ pre, d.ok = true ∧ d.kind = .phase1) ∧
      (commit s ps).2 = .err c.who c.kind (lastFailed s .rollback (0 :: ps)) := by
  have okp1 : ∀ l : List Nat, (∀ q ∈ l, s q .phase1 = true) →
      ∀ d ∈ (⟨0, .phase1, true⟩ : Call) :: callAll s .phase1 l, d.ok = true ∧ d.kind = .phase1 := by
    intro l hl d hd
    rcases List.mem_cons.1 hd with rfl | hd
    · exact ⟨rfl, rfl⟩
    · obtain ⟨q, hq, rfl⟩ := mem_callAll.1 hd
      exact ⟨hl q hq, rfl⟩
  revert h
  fun_cases commit s ps
  · next h1 _ _ hc =>
    obtain ⟨ps₁, ps₂, e, hpre, hp, el⟩ := callUntilFail_some hc
    exact fun _ => ⟨⟨0, .phase1, true⟩ :: callAll s .phase1 ps₁, ⟨_, .phase1, false⟩, by simp +zetaDelta [el, call, h1, rollback],
      rfl, .inl rfl, okp1 _ hpre, rfl⟩
  · exact fun h => absurd rfl h
  · next h1 _ hc h2 =>
    obtain ⟨e, hall⟩ := callUntilFail_none hc
    have h2' : s 0 .phase2 = false := by simpa using h2
    exact fun _ => ⟨⟨0, .phase1, true⟩ :: callAll s .phase1 ps, ⟨0, .phase2, false⟩, by simp +zetaDelta [e, h2', call, h1, rollback],
      rfl, .inr ⟨rfl, rfl⟩, okp1 _ hall, rfl⟩
  · next h1 =>
    have h1' : s 0 .phase1 = false := by simpa using h1
    exact fun _ => ⟨[], ⟨0, .phase1, false⟩, by simp +zetaDelta [h1', call, rollback], rfl, .inl rfl, nofun, rfl⟩

theorem mem_fail_log {s : Script} {ps : List Nat} (h : (commit s ps).2 ≠ .ok) {c : Call} (hc : c ∈ (commit s ps).1) :
    c.kind = .phase1 ∨ (c.kind = .phase2 ∧ c.who = 0 ∧ c.ok = false) ∨ c.kind = .rollback := by
  obtain ⟨pre, d, hl, hf, hk, hpre, _⟩ := commit_fail_log s ps h
  rw [hl] at hc
  rcases List.mem_append.mp hc with hc | hc
  · exact .inl (hpre c hc).2
  · rcases List.mem_cons.mp hc with rfl | hc
    · exact hk.imp id fun ⟨k, w⟩ => .inl ⟨k, w, hf⟩
    · exact .inr (.inr (kinds_callAll s .rollback _ c hc))

/-- **No participant's second phase runs unless every first phase succeeded and SOP's own second phase
succeeded — and all of that happened before it.** The only earlier calls that may have failed are other
participants' phase-2 calls (whose result the code ignores); no rollback call occurs anywhere in the log, and
Commit returned `nil`. -/
theorem phase2_only_after_all_phase1 (s : Script) (ps : List Nat) (pre post : List Call) (p : Nat) (r : Bool)
    (hp : p ≠ 0) (hlog : (commit s ps).1 = pre ++ ⟨p, .phase2, r⟩ :: post) :
    ⟨0, .phase1, true⟩ ∈ pre ∧ (∀ q ∈ ps, ⟨q, .phase1, true⟩ ∈ pre) ∧ ⟨0, .phase2, true⟩ ∈ pre ∧
    (∀ c ∈ pre, c.ok = false → c.kind = .phase2 ∧ c.who ∈ ps) ∧ (∀ c ∈ (commit s ps).1, c.kind ≠ .rollback) ∧ (commit s ps).2 = .ok := by
  by_cases hok : (commit s ps).2 = .ok
  · obtain ⟨h1, hall, h2⟩ := (commit_ok_iff s ps).1 hok
    have hl := commit_ok_log s ps hok
    -- split the log as A ++ B with the participant phase-2 calls all in B
    have hsplit : (⟨0, .phase1, true⟩ :: (callAll s .phase1 ps ++ [⟨0, .phase2, true⟩])) ++ callAll s .phase2 ps
        = pre ++ ⟨p, .phase2, r⟩ :: post := by rw [← hlog, hl]; simp
    have hnot : (⟨p, .phase2, r⟩ : Call) ∉ (⟨0, .phase1, true⟩ :: (callAll s .phase1 ps ++ [⟨0, .phase2, true⟩])) := by
      intro hm
      simp only [List.mem_cons, List.mem_append, Call.mk.injEq, reduceCtorEq, false_and, and_false, false_or, List.not_mem_nil, or_false] at hm
      rcases hm with hm | hm
      · obtain ⟨q, _, e⟩ := mem_callAll.1 hm
        simp at e
      · exact hp hm.1
    have hA := prefix_mem_of_not_mem hsplit hnot
    refine ⟨hA _ (by simp), ?_, hA _ (by simp), ?_, ?_, hok⟩
    · intro q hq
      apply hA
      simp only [List.mem_cons, List.mem_append]
      right; left
      exact mem_callAll.2 ⟨q, hq, by simp [hall q hq]⟩
    · intro c hc hf
      rcases mem_ok_log hok (show c ∈ (commit s ps).1 by rw [hlog]; simp [hc]) with ⟨_, e⟩ | rfl | e
      · rw [e] at hf; cases hf
      · cases hf
      · exact e
    · exact ok_log_no_rollback hok
  · exfalso
    rcases mem_fail_log hok (show (⟨p, .phase2, r⟩ : Call) ∈ (commit s ps).1 by rw [hlog]; simp) with e | ⟨_, e, _⟩ | e
    · cases e
    · exact hp e
    · cases e

/-- "Something failed before SOP's phase 2 succeeded", read off the log. -/
def FailedBeforeOutcome (log : List Call) : Prop :=
  ∃ c ∈ log, c.ok = false ∧ (c.kind = .phase1 ∨ (c.kind = .phase2 ∧ c.who = 0))

/-- `h0`: SOP, id 0, is not also attached as a participant -/
theorem failedBeforeOutcome_iff (s : Script) (ps : List Nat) (h0 : 0 ∉ ps) :
    FailedBeforeOutcome (commit s ps).1 ↔ (commit s ps).2 ≠ .ok := by
  constructor
  · rintro ⟨c, hc, hf, hk⟩ hok
    rcases mem_ok_log hok hc with ⟨_, e⟩ | rfl | ⟨e, hq⟩
    · rw [e] at hf; cases hf
    · cases hf
    · rcases hk with hk | ⟨_, hk⟩
      · rw [e] at hk; cases hk
      · exact h0 (hk ▸ hq)
  · intro h
    obtain ⟨pre, c, hl, hf, hk, _, _⟩ := commit_fail_log s ps h
    exact ⟨c, by rw [hl]; simp, hf, hk⟩

/-- **If anything fails before SOP's phase 2 has succeeded, SOP is rolled back and every participant is
asked to roll back** — whatever the rollbacks themselves answer. The rollbacks come after the failed call, SOP's
first; no participant's phase 2 is ever called, and Commit reports an error to its caller. -/
theorem failure_rolls_back_all (s : Script) (ps : List Nat)
    (hfail : ¬ (s 0 .phase1 = true ∧ (∀ p ∈ ps, s p .phase1 = true) ∧ s 0 .phase2 = true)) :
    (commit s ps).2 ≠ .ok ∧
    (∃ pre c, (commit s ps).1 = pre ++ c :: ⟨0, .rollback, s 0 .rollback⟩ :: callAll s .rollback ps ∧
        c.ok = false ∧ ∀ d ∈ pre, d.ok = true ∧ d.kind = .phase1) ∧
    ⟨0, .rollback, s 0 .rollback⟩ ∈ (commit s ps).1 ∧
    (∀ p ∈ ps, ⟨p, .rollback, s p .rollback⟩ ∈ (commit s ps).1) ∧
    (∀ c ∈ (commit s ps).1, c.kind = .phase2 → c.who = 0 ∧ c.ok = false) := by
  have hne : (commit s ps).2 ≠ .ok := fun h => hfail ((commit_ok_iff s ps).1 h)
  obtain ⟨pre, c, hl, hf, _, hpre, _⟩ := commit_fail_log s ps hne
  have hl' : (commit s ps).1 = pre ++ c :: ⟨0, .rollback, s 0 .rollback⟩ :: callAll s .rollback ps := by
    rw [hl]; simp [callAll, call]
  refine ⟨hne, ⟨pre, c, hl', hf, hpre⟩, by rw [hl']; simp, ?_, ?_⟩
  · intro p hp
    rw [hl']
    simp only [List.mem_append, List.mem_cons]
    right; right; right
    exact mem_callAll.2 ⟨p, hp, rfl⟩
  · intro d hd hk2
    rcases mem_fail_log hne hd with e | ⟨_, e1, e2⟩ | e
    · rw [hk2] at e; cases e
    · exact ⟨e1, e2⟩
    · rw [hk2] at e; cases e

theorem failure_in_log_rolls_back_all (s : Script) (ps : List Nat) (h0 : 0 ∉ ps)
    (hfail : FailedBeforeOutcome (commit s ps).1) :
    ⟨0, .rollback, s 0 .rollback⟩ ∈ (commit s ps).1 ∧ ∀ p ∈ ps, ⟨p, .rollback, s p .rollback⟩ ∈ (commit s ps).1 := by
  have hne := (failedBeforeOutcome_iff s ps h0).1 hfail
  have := failure_rolls_back_all s ps (fun h => hne ((commit_ok_iff s ps).2 h))
  exact ⟨this.2.2.1, this.2.2.2.1⟩

/-- **A failing rollback does not stop the fan-out**: `Rollback` calls SOP and then every participant, each exactly
once and in attachment order, whichever of the calls fail; it reports the last failure. -/
theorem rollback_fanout_total (s : Script) (ps : List Nat) :
    (rollback s ps).1 = (0 :: ps).map (fun p => ⟨p, .rollback, s p .rollback⟩) ∧
    (∀ p ∈ 0 :: ps, ⟨p, .rollback, s p .rollback⟩ ∈ (rollback s ps).1) ∧
    (rollback s ps).1.length = ps.length + 1 ∧
    ((rollback s ps).2 = none ↔ ∀ p ∈ 0 :: ps, s p .rollback = true) ∧
    (∀ q, (rollback s ps).2 = some q → q ∈ 0 :: ps ∧ s q .rollback = false) := by
  have hlast : ∀ l : List Nat, (lastFailed s .rollback l = none ↔ ∀ p ∈ l, s p .rollback = true) ∧
      (∀ q, lastFailed s .rollback l = some q → q ∈ l ∧ s q .rollback = false) := by
    intro l
    fun_induction lastFailed s .rollback l
    · exact ⟨iff_of_true rfl nofun, nofun⟩
    · next a l q hl ih =>
      obtain ⟨hq1, hq2⟩ := ih.2 q hl
      refine ⟨iff_of_false nofun fun hall => ?_, fun q' e => ?_⟩
      · rw [hall q (List.mem_cons_of_mem _ hq1)] at hq2; cases hq2
      · cases e; exact ⟨List.mem_cons_of_mem _ hq1, hq2⟩
    · next a l hl ha ih => exact ⟨iff_of_true rfl (List.forall_mem_cons.mpr ⟨ha, ih.1.1 hl⟩), nofun⟩
    · next a l hl ha ih =>
      refine ⟨iff_of_false nofun fun h => ha (h a List.mem_cons_self), ?_⟩
      rintro q ⟨⟩
      exact ⟨List.mem_cons_self, by simpa using ha⟩
  refine ⟨rfl, ?_, by simp [rollback, callAll], (hlast _).1, (hlast _).2⟩
  intro p hp
  simp only [rollback, callAll, call, List.mem_map]
  exact ⟨p, hp, rfl⟩

/-- a successful commit tells **every** participant to commit and rolls nothing back -/
theorem success_commits_all (s : Script) (ps : List Nat) (h : (commit s ps).2 = .ok) :
    (∀ p ∈ ps, ⟨p, .phase2, s p .phase2⟩ ∈ (commit s ps).1) ∧ ∀ c ∈ (commit s ps).1, c.kind ≠ .rollback := by
  refine ⟨fun p hp => ?_, ok_log_no_rollback h⟩
  rw [commit_ok_log s ps h]
  simp only [List.mem_cons, List.mem_append]
  exact .inr (.inr (.inr (mem_callAll.2 ⟨p, hp, rfl⟩)))

/-- Outside the statement, recorded because it is how the code behaves: a failing `Begin` of a participant
returns the error without rolling back the transactions already begun (the log holds `begin` calls only). -/
theorem begin_never_rolls_back (s : Script) (ps : List Nat) : ∀ c ∈ (begin s ps).1, c.kind = .begin :=
  kinds_cuf s .begin (0 :: ps)

/-- three participants; participant 2's phase 1 fails, participant 1's and SOP's rollbacks fail too -/
def sFail : Script := fun p k =>
  match p, k with
  | 2, .phase1 => false
  | 1, .rollback => false
  | 0, .rollback => false
  | _, _ => true

/-- everything succeeds except participant 1's phase 2 (ignored by the code) -/
def sOk : Script := fun p k =>
  match p, k with
  | 1, .phase2 => false
  | _, _ => true

example : (commit sFail [1, 2, 3]).1 =
    [⟨0, .phase1, true⟩, ⟨1, .phase1, true⟩, ⟨2, .phase1, false⟩,
     ⟨0, .rollback, false⟩, ⟨1, .rollback, false⟩, ⟨2, .rollback, true⟩, ⟨3, .rollback, true⟩] := by decide
example : (commit sFail [1, 2, 3]).2 = .err 2 .phase1 (some 1) := by decide
example : ¬ (sFail 0 .phase1 = true ∧ (∀ p ∈ [1, 2, 3], sFail p .phase1 = true) ∧ sFail 0 .phase2 = true) := by decide
example : FailedBeforeOutcome (commit sFail [1, 2, 3]).1 := ⟨⟨2, .phase1, false⟩, by decide, rfl, Or.inl rfl⟩
/-- the hypothesis of `phase2_only_after_all_phase1` is met with a non-empty `pre` and `post` -/
example : (commit sOk [1, 2, 3]).1 =
    [⟨0, .phase1, true⟩, ⟨1, .phase1, true⟩, ⟨2, .phase1, true⟩, ⟨3, .phase1, true⟩, ⟨0, .phase2, true⟩, ⟨1, .phase2, false⟩]
      ++ ⟨2, .phase2, true⟩ :: [⟨3, .phase2, true⟩] := by decide
example : (commit sOk [1, 2, 3]).2 = .ok := by decide
example : (rollback sFail [1, 2, 3]).2 = some 1 := by decide

/-! # SOP's side as the real lifecycle (`commitL`, `rollbackL`, `sopCall`)

`SinglePhaseTransaction.HasBegun()` is SOP's own `HasBegun()`, and `common.Transaction` ends itself before it
returns a phase error. Below, SOP's side is that state machine (`Sop.TwoPC.sopCall`), for every start state, every
work-failure pattern `w`, every participant script `s` and every list of participants. The wrapper's own
`committed` flag (commit 6c4c66ea; `d`/`done` below, unset on a fresh object) is part of the state. -/

theorem callUntilFail_congr {s s' : Script} {k : Kind} {ps : List Nat} (h : ∀ p ∈ ps, s p k = s' p k) :
    callUntilFail s k ps = callUntilFail s' k ps := by
  induction ps with
  | nil => rfl
  | cons a ps ih =>
    have ha := h a (by simp)
    have ih' := ih (fun p hp => h p (List.mem_cons_of_mem _ hp))
    simp [callUntilFail, call, ha, ih']

theorem callAll_congr {s s' : Script} {k : Kind} {ps : List Nat} (h : ∀ p ∈ ps, s p k = s' p k) :
    callAll s k ps = callAll s' k ps := by
  simp only [callAll]
  exact List.map_congr_left (fun p hp => by simp [call, h p hp])

theorem lastFailed_congr {s s' : Script} {k : Kind} {ps : List Nat} (h : ∀ p ∈ ps, s p k = s' p k) :
    lastFailed s k ps = lastFailed s' k ps := by
  induction ps with
  | nil => rfl
  | cons a ps ih =>
    have ha := h a (by simp)
    have ih' := ih (fun p hp => h p (List.mem_cons_of_mem _ hp))
    simp [lastFailed, ha, ih']

theorem eff_other (w : Work) (s : Script) (ps : List Nat) (σ : SopSt) (h0 : 0 ∉ ps) (k : Kind) :
    ∀ p ∈ ps, effScript w s ps σ p k = s p k := by
  intro p hp
  have : p ≠ 0 := fun e => h0 (e ▸ hp)
  simp [effScript, this]

theorem tag_toCall (σ : SopSt) (l : List Call) : (tag σ l).map CallL.toCall = l := by
  simp [tag, CallL.toCall, Function.comp_def]

/-- One `Commit` of the code as it is on an object whose `committed` flag is unset (`d = false`), with SOP's side the
lifecycle started in ANY state `σ`, makes exactly the calls (and returns the result) of the black-box model run on the
script in which SOP answers what the lifecycle answers (`effScript`): the code never looks at that state. So `HasBegun`
turning false inside a failed phase changes nothing for the participants — every theorem above applies to such a `Commit`. -/
theorem commitL_asIs_refines (w : Work) (s : Script) (ps : List Nat) (σ : SopSt) (h0 : 0 ∉ ps) :
    ((commitL .asIs w s ps σ false).log.map CallL.toCall, (commitL .asIs w s ps σ false).ret)
      = commit (effScript w s ps σ) ps := by
  have e1 := callUntilFail_congr (k := .phase1) (eff_other w s ps σ h0 .phase1)
  have e2 := callAll_congr (k := .phase2) (eff_other w s ps σ h0 .phase2)
  have e3 := callAll_congr (k := .rollback) (eff_other w s ps σ h0 .rollback)
  have e4 := lastFailed_congr (k := .rollback) (eff_other w s ps σ h0 .rollback)
  have c1 : effScript w s ps σ 0 .phase1 = (sopCall σ .phase1 (w .phase1)).2 := by simp [effScript]
  have c2 : effScript w s ps σ 0 .phase2 = (sopCall (sopCall σ .phase1 (w .phase1)).1 .phase2 (w .phase2)).2 := by
    simp [effScript]
  have c3 : effScript w s ps σ 0 .rollback = (sopCall (if (sopCall σ .phase1 (w .phase1)).2 && (callUntilFail s .phase1 ps).2.isNone
      then (sopCall (sopCall σ .phase1 (w .phase1)).1 .phase2 (w .phase2)).1 else (sopCall σ .phase1 (w .phase1)).1) .rollback (w .rollback)).2 := by
    simp [effScript]
  unfold commit rollback commitL rollbackL sopLogged
  rw [e1]
  simp only [callAll, List.map_cons, lastFailed, call, c1, c2, c3]
  simp only [← callAll.eq_1, e2, e3, e4]
  cases h1 : (sopCall σ .phase1 (w .phase1)).2
  · simp [tag_toCall, CallL.toCall]
  · rcases hc : callUntilFail s .phase1 ps with ⟨l1, _ | p⟩
    · cases h2 : (sopCall (sopCall σ .phase1 (w .phase1)).1 .phase2 (w .phase2)).2
      · simp [tag_toCall, CallL.toCall]
      · simp [tag_toCall, CallL.toCall]
    · simp [tag_toCall, CallL.toCall]

theorem commitL_asIs_log (w : Work) (s : Script) (ps : List Nat) (σ : SopSt) (h0 : 0 ∉ ps) :
    (commitL .asIs w s ps σ false).log.map CallL.toCall = (commit (effScript w s ps σ) ps).1 :=
  congrArg Prod.fst (commitL_asIs_refines w s ps σ h0)

theorem commitL_asIs_ret (w : Work) (s : Script) (ps : List Nat) (σ : SopSt) (h0 : 0 ∉ ps) :
    (commitL .asIs w s ps σ false).ret = (commit (effScript w s ps σ) ps).2 :=
  congrArg Prod.snd (commitL_asIs_refines w s ps σ h0)

theorem sopCall_begin (σ : SopSt) (w : Bool) : sopCall σ .begin w =
    if σ.hasBegun then (σ, false) else if σ.pd = 2 then (σ, false) else if w then ({ σ with pd := 0 }, true) else (σ, false) := rfl

theorem sopCall_rollback (σ : SopSt) (w : Bool) : sopCall σ .rollback w =
    if σ.pd = 2 then (σ, !σ.committed) else if !σ.hasBegun then (σ, false) else ({ σ with pd := 2 }, w) := rfl

/-- SOP's transaction has been begun at some point: `phaseDone` is 0, 1 or 2 -/
def pdOK (σ : SopSt) : Prop := σ.pd = 0 ∨ σ.pd = 1 ∨ σ.pd = 2

/-- What one call of SOP's lifecycle does, whatever the branch. Stated for every `σ` and every `w` (a scripted SOP may
refuse even `Begin`), not only for the projections of `Sop.Lifecycle` states (for those see `lifecycle_*_sim`, last in
this file). -/
structure SopFacts (σ σ' : SopSt) (k : Kind) (ok : Bool) : Prop where
  pd : σ'.pd = σ.pd ∨ (σ.pd ≠ 2 ∧ pdOK σ')
  committed : σ'.committed = (σ.committed || (k == .phase2 && ok))
  ends : k = .rollback ∨ (k = .phase2 ∧ ok = true) → σ'.hasBegun = false

theorem sopCall_facts (σ : SopSt) (k : Kind) (w : Bool) : SopFacts σ (sopCall σ k w).1 k (sopCall σ k w).2 := by
  have nb {σ : SopSt} (h : ¬(!σ.hasBegun) = true) : σ.pd ≠ 2 := fun e => h (by simp [SopSt.hasBegun, e])
  have c (σ : SopSt) : σ.committed = (σ.committed || false) := (Bool.or_false _).symm
  fun_cases sopCall σ k w
  -- Begin
  · exact ⟨.inl rfl, c σ, nofun⟩
  · exact ⟨.inl rfl, c σ, nofun⟩
  · next h _ => exact ⟨.inr ⟨h, .inl rfl⟩, c σ, nofun⟩
  · exact ⟨.inl rfl, c σ, nofun⟩
  -- Phase1Commit
  · exact ⟨.inl rfl, c σ, nofun⟩
  · next h _ => exact ⟨.inr ⟨nb h, .inr (.inl rfl)⟩, c σ, nofun⟩
  · next h _ => exact ⟨.inr ⟨nb h, .inr (.inl rfl)⟩, c σ, nofun⟩
  · next h _ _ => exact ⟨.inr ⟨nb h, .inr (.inl rfl)⟩, c σ, nofun⟩
  · next h _ _ => exact ⟨.inr ⟨nb h, .inr (.inr rfl)⟩, c σ, nofun⟩
  -- Phase2Commit
  · exact ⟨.inl rfl, c σ, by rintro (h | ⟨_, h⟩) <;> cases h⟩
  · exact ⟨.inl rfl, c σ, by rintro (h | ⟨_, h⟩) <;> cases h⟩
  · next h _ _ _ => exact ⟨.inr ⟨nb h, .inr (.inr rfl)⟩, (Bool.or_true _).symm, fun _ => rfl⟩
  · next h _ _ _ => exact ⟨.inr ⟨nb h, .inr (.inr rfl)⟩, c σ, by rintro (h | ⟨_, h⟩) <;> cases h⟩
  · next h _ _ => exact ⟨.inr ⟨nb h, .inr (.inr rfl)⟩, (Bool.or_true _).symm, fun _ => rfl⟩
  -- Rollback
  · next h => exact ⟨.inl rfl, c σ, fun _ => by simp [SopSt.hasBegun, h]⟩
  · next h => exact ⟨.inl rfl, c σ, fun _ => by simpa using h⟩
  · next h _ => exact ⟨.inr ⟨h, .inr (.inr rfl)⟩, c σ, fun _ => rfl⟩

theorem sopCall_rollback_ends (σ : SopSt) (w : Bool) : (sopCall σ .rollback w).1.hasBegun = false :=
  (sopCall_facts σ .rollback w).ends (.inl rfl)

theorem sopCall_committed (σ : SopSt) {k : Kind} (w : Bool) (hk : k ≠ .phase2) : (sopCall σ k w).1.committed = σ.committed := by
  rw [(sopCall_facts σ k w).committed, beq_false_of_ne hk]; exact Bool.or_false _

theorem sopCall_phase2_ok (σ : SopSt) (w : Bool) (h : (sopCall σ .phase2 w).2 = true) :
    (sopCall σ .phase2 w).1.committed = true ∧ (sopCall σ .phase2 w).1.hasBegun = false :=
  ⟨by rw [(sopCall_facts σ .phase2 w).committed, h]; exact Bool.or_true _, (sopCall_facts σ .phase2 w).ends (.inr ⟨rfl, h⟩)⟩

theorem sopCall_phase2_fail (σ : SopSt) (w : Bool) (h : (sopCall σ .phase2 w).2 = false) :
    (sopCall σ .phase2 w).1.committed = σ.committed := by
  rw [(sopCall_facts σ .phase2 w).committed, h]; exact Bool.or_false _

def isDecision (c : Call) : Bool := c.who != 0 && (c.kind == .phase2 || c.kind == .rollback)

theorem filter_callAll_keep (s : Script) (k : Kind) (ps : List Nat) (h0 : 0 ∉ ps) (hk : k = .phase2 ∨ k = .rollback) :
    (callAll s k ps).filter isDecision = callAll s k ps := by
  apply List.filter_eq_self.2
  intro c hc
  obtain ⟨p, hp, rfl⟩ := mem_callAll.1 hc
  have : p ≠ 0 := fun e => h0 (e ▸ hp)
  rcases hk with rfl | rfl <;> simp [isDecision, this]

theorem decisions_eq (log : List CallL) : decisions log = (log.map CallL.toCall).filter isDecision := rfl

theorem rollbackL_asIs_st (w : Work) (s : Script) (ps : List Nat) (σ : SopSt) (d : Bool) :
    (rollbackL .asIs w s ps σ d).1 = (sopCall σ .rollback (w .rollback)).1 := by
  fun_cases rollbackL .asIs w s ps σ d
  · next h => exact absurd h.1 (by decide)
  · rfl
  · rfl

theorem commitL_asIs_state (w : Work) (s : Script) (ps : List Nat) (σ : SopSt) (hc : σ.committed = false) :
    (commitL .asIs w s ps σ false).st.hasBegun = false ∧
    ((commitL .asIs w s ps σ false).st.committed = true ↔ (commitL .asIs w s ps σ false).ret = .ok) := by
  have rb (σ' : SopSt) (h : σ'.committed = false) (r : Ret) (hr : r ≠ .ok) :
      (rollbackL .asIs w s ps σ' false).1.hasBegun = false ∧
      ((rollbackL .asIs w s ps σ' false).1.committed = true ↔ r = .ok) := by
    rw [rollbackL_asIs_st]
    refine ⟨sopCall_rollback_ends _ _, iff_of_false ?_ hr⟩
    rw [sopCall_committed _ _ (by decide), h]; decide
  have c1 : (sopCall σ .phase1 (w .phase1)).1.committed = false := (sopCall_committed _ _ (by decide)).trans hc
  fun_cases commitL .asIs w s ps σ false
  · exact rb _ c1 _ nofun
  · next h2 => exact ⟨(sopCall_phase2_ok _ _ h2).2, iff_of_true (sopCall_phase2_ok _ _ h2).1 rfl⟩
  · next h2 _ => exact rb _ ((sopCall_phase2_fail _ _ ((Bool.not_eq_true _).mp h2)).trans c1) _ nofun
  · exact rb _ c1 _ nofun

/-- **The outcome theorem under the faithful lifecycle.** After one `Commit` from a start state that is not already
committed, SOP's transaction is over (`HasBegun() == false`), and EITHER Commit returned `nil`, SOP is committed,
and the decision calls the participants received are exactly one `Phase2Commit` per attachment, in attachment
order; OR Commit returned an error, SOP is not committed, and they are exactly one `Rollback` per attachment. No
participant is left after `Phase1Commit` without a decision, none gets both, and the decision is SOP's. -/
theorem outcome_faithful (w : Work) (s : Script) (ps : List Nat) (σ : SopSt) (h0 : 0 ∉ ps) (hc : σ.committed = false) :
    ((commitL .asIs w s ps σ false).ret = .ok ∧ (commitL .asIs w s ps σ false).st.committed = true ∧
        (commitL .asIs w s ps σ false).st.hasBegun = false ∧
        decisions (commitL .asIs w s ps σ false).log = callAll s .phase2 ps) ∨
    ((commitL .asIs w s ps σ false).ret ≠ .ok ∧ (commitL .asIs w s ps σ false).st.committed = false ∧
        (commitL .asIs w s ps σ false).st.hasBegun = false ∧
        decisions (commitL .asIs w s ps σ false).log = callAll s .rollback ps) := by
  obtain ⟨hb, hcm⟩ := commitL_asIs_state w s ps σ hc
  have hlog := commitL_asIs_log w s ps σ h0
  have hret := commitL_asIs_ret w s ps σ h0
  have e2 := callAll_congr (k := .phase2) (eff_other w s ps σ h0 .phase2)
  have e3 := callAll_congr (k := .rollback) (eff_other w s ps σ h0 .rollback)
  by_cases hok : (commitL .asIs w s ps σ false).ret = .ok
  · left
    refine ⟨hok, hcm.2 hok, hb, ?_⟩
    rw [decisions_eq, hlog, commit_ok_log _ _ (hret ▸ hok)]
    simp only [List.filter_cons, List.filter_append]
    rw [(List.filter_eq_nil_iff (l := callAll _ .phase1 ps) (p := isDecision)).mpr (by
      intro c hc; obtain ⟨p, _, rfl⟩ := mem_callAll.1 hc; simp [isDecision]),
      filter_callAll_keep _ _ _ h0 (Or.inl rfl), e2]
    simp [isDecision]
  · right
    refine ⟨hok, ?_, hb, ?_⟩
    · cases hcc : (commitL .asIs w s ps σ false).st.committed
      · rfl
      · exact absurd (hcm.1 hcc) hok
    · obtain ⟨pre, c, hl, _, hk, hpre, _⟩ := commit_fail_log (effScript w s ps σ) ps (hret ▸ hok)
      rw [decisions_eq, hlog, hl]
      simp only [List.filter_cons, List.filter_append, callAll, List.map_cons]
      simp only [← callAll.eq_1]
      rw [(List.filter_eq_nil_iff (l := pre) (p := isDecision)).mpr (by
        intro d hd; have := (hpre d hd).2; simp [isDecision, this]),
        filter_callAll_keep _ _ _ h0 (Or.inr rfl), e3]
      have hcd : isDecision c = false := by
        rcases hk with hk | ⟨_, hw⟩
        · simp [isDecision, hk]
        · simp [isDecision, hw]
      simp only [hcd, Bool.false_eq_true, if_false, List.nil_append]
      simp [isDecision, call]

/-- a begun writer -/
def σW : SopSt := ⟨.forWriting, 0, false⟩
/-- SOP's phase-2 work fails (e.g. the registry flip), everything else works -/
def wP2 : Work := fun k => match k with | .phase2 => false | _ => true
def wP1 : Work := fun k => match k with | .phase1 => false | _ => true
def sAll : Script := fun _ _ => true
def wAll : Work := fun _ => true

/-- **The early-return variant leaves participants in doubt.** With `if !t.HasBegun() { return nil }` at the top
of `SinglePhaseTransaction.Rollback`, a begun writer whose phase-2 work fails (it sets `phaseDone = 2` first, so
`HasBegun()` is already false when `Commit` calls `t.Rollback`) makes the calls
`P0.phase1 P1.phase1 P2.phase1 P0.phase2(failed)` and nothing else: both participants passed `Phase1Commit` and
receive neither `Phase2Commit` nor `Rollback`. The code as it is rolls both back. -/
theorem guard_leaves_participants_in_doubt :
    (commitL .guard wP2 sAll [1, 2] σW false).log =
      [⟨0, .phase1, true, true⟩, ⟨1, .phase1, true, true⟩, ⟨2, .phase1, true, true⟩, ⟨0, .phase2, false, false⟩] ∧
    (commitL .guard wP2 sAll [1, 2] σW false).ret = .err 0 .phase2 none ∧
    decisions (commitL .guard wP2 sAll [1, 2] σW false).log = [] ∧
    decisions (commitL .asIs wP2 sAll [1, 2] σW false).log = [⟨1, .rollback, true⟩, ⟨2, .rollback, true⟩] := by
  decide +kernel

theorem phase2_only_after_all_phase1_faithful (w : Work) (s : Script) (ps : List Nat) (σ : SopSt) (h0 : 0 ∉ ps)
    (pre post : List Call) (p : Nat) (r : Bool) (hp : p ≠ 0)
    (hlog : (commitL .asIs w s ps σ false).log.map CallL.toCall = pre ++ ⟨p, .phase2, r⟩ :: post) :
    ⟨0, .phase1, true⟩ ∈ pre ∧ (∀ q ∈ ps, ⟨q, .phase1, true⟩ ∈ pre) ∧ ⟨0, .phase2, true⟩ ∈ pre ∧
    (∀ c ∈ (commitL .asIs w s ps σ false).log, c.kind ≠ .rollback) ∧ (commitL .asIs w s ps σ false).ret = .ok := by
  have hl := commitL_asIs_log w s ps σ h0
  have hret := commitL_asIs_ret w s ps σ h0
  obtain ⟨a, b, c, _, e, f⟩ := phase2_only_after_all_phase1 (effScript w s ps σ) ps pre post p r hp (hl ▸ hlog)
  refine ⟨a, b, c, ?_, hret ▸ f⟩
  intro d hd
  exact e d.toCall (hl ▸ List.mem_map_of_mem hd)

/-! both branches of `outcome_faithful` occur, and in the failing ones SOP's `HasBegun()` is already false when the
rollback fan-out starts -/
example : (commitL .asIs wAll sAll [1, 2] σW false).ret = .ok ∧
    decisions (commitL .asIs wAll sAll [1, 2] σW false).log = [⟨1, .phase2, true⟩, ⟨2, .phase2, true⟩] := by decide +kernel
example : (commitL .asIs wP1 sAll [1, 2] σW false).log =
    [⟨0, .phase1, false, false⟩, ⟨0, .rollback, true, false⟩, ⟨1, .rollback, true, false⟩, ⟨2, .rollback, true, false⟩] := by
  decide +kernel
example : (commitL .asIs wP2 sAll [1, 2] σW false).log =
    [⟨0, .phase1, true, true⟩, ⟨1, .phase1, true, true⟩, ⟨2, .phase1, true, true⟩, ⟨0, .phase2, false, false⟩,
     ⟨0, .rollback, true, false⟩, ⟨1, .rollback, true, false⟩, ⟨2, .rollback, true, false⟩] := by decide +kernel

def hasP2 (l : List CallL) : Bool := l.any isP2
def hasRb (l : List CallL) : Bool := l.any isRb

theorem hasP2_append (a b : List CallL) : hasP2 (a ++ b) = (hasP2 a || hasP2 b) := List.any_append
theorem hasRb_append (a b : List CallL) : hasRb (a ++ b) = (hasRb a || hasRb b) := List.any_append

theorem hasP2_tag (σ : SopSt) {l : List Call} {k : Kind} (hk : ∀ c ∈ l, c.kind = k) (h : k ≠ .phase2) :
    hasP2 (tag σ l) = false := by
  simp only [hasP2, tag, List.any_eq_false, List.mem_map]
  rintro c ⟨d, hd, rfl⟩
  simp [isP2, hk d hd, h]

theorem hasRb_tag (σ : SopSt) {l : List Call} {k : Kind} (hk : ∀ c ∈ l, c.kind = k) (h : k ≠ .rollback) :
    hasRb (tag σ l) = false := by
  simp only [hasRb, tag, List.any_eq_false, List.mem_map]
  rintro c ⟨d, hd, rfl⟩
  simp [isRb, hk d hd, h]

theorem hasP2_sop (σ : SopSt) (k : Kind) (w : Work) (l : List CallL) :
    hasP2 ((sopLogged σ k w).2.1 :: l) = hasP2 l := rfl

theorem hasRb_sop (σ : SopSt) (k : Kind) (w : Work) (l : List CallL) :
    hasRb ((sopLogged σ k w).2.1 :: l) = hasRb l := rfl

theorem sopCall_pdOK (σ : SopSt) (k : Kind) (w : Bool) (h : pdOK σ) : pdOK (sopCall σ k w).1 := by
  rcases (sopCall_facts σ k w).pd with e | ⟨_, e⟩
  · unfold pdOK; rw [e]; exact h
  · exact e

theorem sopCall_done_stays (σ : SopSt) (k : Kind) (w : Bool) (h : σ.pd = 2) : (sopCall σ k w).1.pd = 2 := by
  rcases (sopCall_facts σ k w).pd with e | ⟨n, _⟩
  · exact e.trans h
  · exact absurd h n

theorem pdOK_ended {σ : SopSt} (h : pdOK σ) (hb : σ.hasBegun = false) : σ.pd = 2 := by
  simp only [SopSt.hasBegun, Bool.and_eq_false_iff, decide_eq_false_iff_not] at hb
  unfold pdOK at h; omega

theorem sopCall_rollback_pd (σ : SopSt) (w : Bool) (h : pdOK σ) : (sopCall σ .rollback w).1.pd = 2 :=
  pdOK_ended (sopCall_pdOK σ .rollback w h) (sopCall_rollback_ends σ w)

theorem sopCall_phase1_done (σ : SopSt) (w : Bool) (h : σ.pd = 2) : (sopCall σ .phase1 w).2 = false := by
  simp [sopCall, SopSt.hasBegun, h]

/-- One method call on the object, for the session argument: either it is a `Commit` that went through (the flag is set,
nobody is told to roll back; impossible once SOP's transaction is over), or nobody is told to commit, the flag stays, and
the call keeps "flag set → no rollback fan-out", "over → over", "begun at some point → so still, and over if it fanned a
rollback out". -/
inductive StepFacts (τ : TxSt) (o : OutL) : Prop
  | through : o.done = true → hasRb o.log = false → τ.sop.pd ≠ 2 → StepFacts τ o
  | other : o.done = τ.done → hasP2 o.log = false → (τ.done = true → hasRb o.log = false) →
      (τ.sop.pd = 2 → o.st.pd = 2) → (pdOK τ.sop → pdOK o.st ∧ (hasRb o.log = true → o.st.pd = 2)) → StepFacts τ o

/-- the rollback fan-out run by `Rollback` or by a failing `Commit`, from SOP state `σ'` -/
theorem rollbackL_facts (w : Work) (s : Script) (ps : List Nat) (σ' : SopSt) (d : Bool) :
    (pdOK σ' → (rollbackL .asIs w s ps σ' d).1.pd = 2) ∧
    hasP2 (rollbackL .asIs w s ps σ' d).2.1 = false ∧ (d = true → hasRb (rollbackL .asIs w s ps σ' d).2.1 = false) := by
  refine ⟨fun h => by rw [rollbackL_asIs_st]; exact sopCall_rollback_pd _ _ h, ?_⟩
  fun_cases rollbackL .asIs w s ps σ' d
  · exact ⟨rfl, fun _ => rfl⟩
  · exact ⟨rfl, fun _ => rfl⟩
  · next h =>
    exact ⟨(hasP2_sop ..).trans (hasP2_tag _ (kinds_callAll s .rollback ps) (by decide)),
      fun hd => absurd ⟨by decide, hd⟩ h⟩

/-- a method call that tells nobody to commit, leaves the flag and ends in the rollback fan-out -/
theorem StepFacts.failed {σ : SopSt} {d : Bool} {o : OutL} (hd : o.done = d) (np : hasP2 o.log = false)
    (rb : d = true → hasRb o.log = false) (pd : pdOK σ → o.st.pd = 2) : StepFacts ⟨σ, d⟩ o :=
  .other hd np rb (fun h => pd (.inr (.inr h))) fun h => ⟨.inr (.inr (pd h)), fun _ => pd h⟩

theorem beginL_step (w : Work) (s : Script) (ps : List Nat) (σ : SopSt) (d : Bool) :
    StepFacts ⟨σ, d⟩ (beginL w s ps σ d) := by
  have pd (h : pdOK σ) := sopCall_pdOK σ .begin (w .begin) h
  have over (h : σ.pd = 2) := sopCall_done_stays σ .begin (w .begin) h
  fun_cases beginL w s ps σ d
  · have k := kinds_cuf s .begin ps
    have rb : hasRb ((sopLogged σ .begin w).2.1 :: tag (sopLogged σ .begin w).1 (callUntilFail s .begin ps).1) = false :=
      (hasRb_sop ..).trans (hasRb_tag _ k (by decide))
    exact .other rfl ((hasP2_sop ..).trans (hasP2_tag _ k (by decide))) (fun _ => rb) over
      fun h => ⟨pd h, fun e => by rw [rb] at e; cases e⟩
  · exact .other rfl rfl (fun _ => rfl) over fun h => ⟨pd h, nofun⟩

theorem rollbackOutL_step (w : Work) (s : Script) (ps : List Nat) (σ : SopSt) (d : Bool) :
    StepFacts ⟨σ, d⟩ (rollbackOutL .asIs w s ps σ d) :=
  have rb := rollbackL_facts w s ps σ d
  .failed rfl rb.2.1 rb.2.2 rb.1

theorem commitL_step (w : Work) (s : Script) (ps : List Nat) (σ : SopSt) (d : Bool) :
    StepFacts ⟨σ, d⟩ (commitL .asIs w s ps σ d) := by
  have rb (σ' : SopSt) := rollbackL_facts w s ps σ' d
  have a1 := sopCall_pdOK σ .phase1 (w .phase1)
  have a2 (h : pdOK σ) := sopCall_pdOK _ .phase2 (w .phase2) (a1 h)
  fun_cases commitL .asIs w s ps σ d
  · next hcu _ =>
    have k1 := hcu ▸ kinds_cuf s .phase1 ps
    refine .failed rfl ?_ (fun hd => ?_) fun h => (rb _).1 (a1 h)
    · rw [hasP2_sop, hasP2_append, hasP2_tag _ k1 (by decide), (rb _).2.1]; rfl
    · rw [hasRb_sop, hasRb_append, hasRb_tag _ k1 (by decide), (rb _).2.2 hd]; rfl
  · next h1 _ hcu _ _ =>
    have k1 := hcu ▸ kinds_cuf s .phase1 ps
    -- a transaction that is over refuses phase 1
    refine .through rfl ?_ fun h => by rw [show (sopLogged σ .phase1 w).2.2 = false from sopCall_phase1_done σ _ h] at h1; cases h1
    rw [hasRb_sop, hasRb_append, hasRb_tag _ k1 (by decide), hasRb_sop, hasRb_tag _ (kinds_callAll s .phase2 ps) (by decide)]; rfl
  · next hcu _ _ _ =>
    have k1 := hcu ▸ kinds_cuf s .phase1 ps
    refine .failed rfl ?_ (fun hd => ?_) fun h => (rb _).1 (a2 h)
    · rw [hasP2_sop, hasP2_append, hasP2_tag _ k1 (by decide), hasP2_sop, (rb _).2.1]; rfl
    · rw [hasRb_sop, hasRb_append, hasRb_tag _ k1 (by decide), hasRb_sop, (rb _).2.2 hd]; rfl
  · exact .failed rfl ((hasP2_sop ..).trans (rb _).2.1) (fun hd => (hasRb_sop ..).trans ((rb _).2.2 hd)) fun h => (rb _).1 (a1 h)

theorem stepL_facts (ps : List Nat) (τ : TxSt) (x : StepL) : StepFacts τ (stepL .asIs ps τ x) := by
  unfold stepL
  cases x.op
  · exact beginL_step ..
  · exact commitL_step ..
  · exact rollbackOutL_step ..

/-- Every session from every object state: once the flag is set nobody is told to roll back; once SOP's transaction is
over nobody is told to commit; telling somebody to commit sets the flag; from a begun, unflagged object never both. -/
theorem runL_facts (ps : List Nat) (xs : List StepL) : ∀ τ : TxSt,
    (τ.done = true → hasRb (runL .asIs ps τ xs) = false ∧ (finalL .asIs ps τ xs).done = true) ∧
    (τ.sop.pd = 2 → hasP2 (runL .asIs ps τ xs) = false) ∧
    (hasP2 (runL .asIs ps τ xs) = true → (finalL .asIs ps τ xs).done = true) ∧
    (pdOK τ.sop → τ.done = false → ¬(hasP2 (runL .asIs ps τ xs) = true ∧ hasRb (runL .asIs ps τ xs) = true)) := by
  induction xs with
  | nil => exact fun τ => ⟨fun h => ⟨rfl, h⟩, fun _ => rfl, nofun, fun _ _ => nofun⟩
  | cons x xs ih =>
    intro τ
    obtain ⟨flag, ended, p2, begun⟩ := ih (stepL .asIs ps τ x).tx
    simp only [runL, finalL, hasP2_append, hasRb_append]
    cases stepL_facts ps τ x with
    | through d rb live =>
      obtain ⟨rb', d'⟩ := flag d
      rw [rb, rb']
      exact ⟨fun _ => ⟨rfl, d'⟩, fun h => absurd h live, fun _ => d', fun _ _ => nofun⟩
    | other d np rb over pd =>
      rw [np]
      refine ⟨fun h => ?_, fun h => ended (over h), p2, fun hpd hd => ?_⟩
      · rw [rb h]; exact flag (d.trans h)
      · cases hrb : hasRb (stepL .asIs ps τ x).log with
        | false => exact begun (pd hpd).1 (d.trans hd)
        | true => rw [ended ((pd hpd).2 hrb)]; nofun

/-- **A participant told to commit is never told to roll back afterwards** — for every start state of the object
and every sequence of `Begin`/`Commit`/`Rollback` calls: neither during any later calls `ys` on the same object, nor
inside the method call that told it to commit. -/
theorem session_committed_never_rolled_back (ps : List Nat) (τ : TxSt) (xs ys : List StepL)
    (h : hasP2 (runL .asIs ps τ xs) = true) :
    hasRb (runL .asIs ps (finalL .asIs ps τ xs) ys) = false ∧
    ∀ τ' x, hasP2 (stepL .asIs ps τ' x).log = true → hasRb (stepL .asIs ps τ' x).log = false :=
  ⟨((runL_facts ps ys _).1 ((runL_facts ps xs τ).2.2.1 h)).1, fun τ' x h' => by
    cases stepL_facts ps τ' x with
    | through _ rb => exact rb
    | other _ np => rw [np] at h'; cases h'⟩

/-- The session-level reading of the property: on an object whose SOP transaction has been begun and whose `Commit`
has not yet succeeded, over every sequence of `Begin`/`Commit`/`Rollback` calls — each with its own failing SOP work
and participant answers — the session never contains both a participant's `Phase2Commit` and a participant's
`Rollback` (in either order, for the same or for different participants). -/
def Statement_C16_session : Prop :=
  ∀ (ps : List Nat) (τ : TxSt) (xs : List StepL), pdOK τ.sop → τ.done = false →
    ¬ (hasP2 (runL .asIs ps τ xs) = true ∧ hasRb (runL .asIs ps τ xs) = true)

/-- **Nobody is told both to commit and to roll back** (the code with commit 6c4c66ea). -/
theorem C16_session : Statement_C16_session := fun ps τ xs => (runL_facts ps xs τ).2.2.2

def stAll (o : OpL) : StepL := ⟨o, wAll, sAll⟩
/-- a fresh, begun writer -/
def τW : TxSt := ⟨σW, false⟩
example : pdOK τW.sop ∧ τW.done = false := ⟨Or.inl rfl, rfl⟩
example : hasP2 (runL .asIs [1] τW [stAll .commit, stAll .rollback]) = true ∧
    hasRb (runL .asIs [1] τW [stAll .commit, stAll .rollback]) = false := by decide +kernel
example : hasRb (runL .asIs [1] τW [⟨.commit, wP2, sAll⟩, stAll .rollback, stAll .commit]) = true ∧
    hasP2 (runL .asIs [1] τW [⟨.commit, wP2, sAll⟩, stAll .rollback, stAll .commit]) = false := by decide +kernel

/-- **The code before commit 6c4c66ea (findings C16-F1 and C16-F2).** There, `Begin`, `Commit` (nil),
then a deferred `Rollback` — or a second `Commit` — told the committed participant to roll back. -/
theorem legacy_rolls_back_committed_participants :
    runL .legacy [1] ⟨⟨.forWriting, -1, false⟩, false⟩ [stAll .begin, stAll .commit, stAll .rollback] =
      [⟨0, .begin, true, true⟩, ⟨1, .begin, true, true⟩,
       ⟨0, .phase1, true, true⟩, ⟨1, .phase1, true, true⟩, ⟨0, .phase2, true, false⟩, ⟨1, .phase2, true, false⟩,
       ⟨0, .rollback, false, false⟩, ⟨1, .rollback, true, false⟩] ∧
    runL .asIs [1] ⟨⟨.forWriting, -1, false⟩, false⟩ [stAll .begin, stAll .commit, stAll .rollback] =
      [⟨0, .begin, true, true⟩, ⟨1, .begin, true, true⟩,
       ⟨0, .phase1, true, true⟩, ⟨1, .phase1, true, true⟩, ⟨0, .phase2, true, false⟩, ⟨1, .phase2, true, false⟩,
       ⟨0, .rollback, false, false⟩] ∧
    hasRb (runL .legacy [1] ⟨⟨.forWriting, -1, false⟩, false⟩ [stAll .begin, stAll .commit, stAll .commit]) = true ∧
    hasRb (runL .asIs [1] ⟨⟨.forWriting, -1, false⟩, false⟩ [stAll .begin, stAll .commit, stAll .commit]) = false := by
  decide +kernel

/-- Why `C16_session` asks for a begun transaction: a `Rollback` on an object that was never begun still fans out
(SOP's own `Rollback` refuses: "no transaction to rollback"), and the same object can then be begun and committed.
Those `Rollback` calls reach participants that had not been begun. -/
theorem rollback_before_begin_then_commit :
    hasRb (runL .asIs [1] ⟨⟨.forWriting, -1, false⟩, false⟩ [stAll .rollback, stAll .begin, stAll .commit]) = true ∧
    hasP2 (runL .asIs [1] ⟨⟨.forWriting, -1, false⟩, false⟩ [stAll .rollback, stAll .begin, stAll .commit]) = true := by
  decide +kernel

/-! ## the SOP side above is the lifecycle of C14's model

`Sop.Lifecycle` (property C14) is the model of `common.Transaction` that is diffed against the real transaction on
every lifecycle call with and without failing backends. Projected to (mode, phaseDone, committed) and "returned
nil", its lifecycle calls — including their failing variants — are exactly `sopCall` with a suitable `w`; for
`Phase1Commit`, `w` is the call's own result (what decides it — tracked items, an earlier phase 1 — is not in
`SopSt`). -/
open Sop.Lifecycle in
def projMode : Lifecycle.Mode → TwoPC.Mode
  | .noCheck => .noCheck | .forWriting => .forWriting | .forReading => .forReading

def proj (s : Lifecycle.St) : SopSt := ⟨projMode s.mode, s.pd, s.committed⟩

theorem proj_hasBegun (s : Lifecycle.St) : (proj s).hasBegun = s.hasBegun := rfl

theorem rollbackCore_proj (s : Lifecycle.St) : proj (Lifecycle.rollbackCore s).1 = proj s := by
  unfold Lifecycle.rollbackCore
  split <;> rfl

theorem lifecycle_begin_sim (s : Lifecycle.St) :
    (proj (Lifecycle.beginTx s).1, (Lifecycle.beginTx s).2.1.isOk) = sopCall (proj s) .begin true := by
  rw [sopCall_begin]
  fun_cases Lifecycle.beginTx s
  · next h => rw [if_pos (show (proj s).hasBegun = true from h)]; rfl
  · next h h2 => rw [if_neg (show ¬(proj s).hasBegun = true from h), if_pos (show (proj s).pd = 2 from h2)]; rfl
  · next h h2 =>
    rw [if_neg (show ¬(proj s).hasBegun = true from h), if_neg (show ¬(proj s).pd = 2 from h2), if_pos rfl]; rfl

theorem lifecycle_rollback_sim (s : Lifecycle.St) (fx : Lifecycle.Fx) :
    (proj (Lifecycle.rollbackTxF s fx).st, (Lifecycle.rollbackTxF s fx).res.isOk) = sopCall (proj s) .rollback (!fx.undo) := by
  rw [sopCall_rollback]
  fun_cases Lifecycle.rollbackTxF s fx
  · next h2 =>
    rw [if_pos (show (proj s).pd = 2 from h2)]
    unfold Lifecycle.rollbackTx; rw [if_pos h2]
    cases hc : s.committed <;> simp [hc, proj, Lifecycle.R.ofOut, Lifecycle.Res.isOk]
  · next h2 hb =>
    rw [if_neg (show ¬(proj s).pd = 2 from h2), if_pos (show (!(proj s).hasBegun) = true from hb)]
    unfold Lifecycle.rollbackTx; rw [if_neg h2, if_pos hb]; rfl
  · next h2 hb _ hu =>
    rw [if_neg (show ¬(proj s).pd = 2 from h2), if_neg (show ¬(!(proj s).hasBegun) = true from hb), hu]
    exact Prod.ext (rollbackCore_proj _) rfl
  · next h2 hb _ hu =>
    rw [if_neg (show ¬(proj s).pd = 2 from h2), if_neg (show ¬(!(proj s).hasBegun) = true from hb), Bool.eq_false_iff.mpr hu]
    exact Prod.ext (rollbackCore_proj _) rfl

theorem lifecycle_phase2_sim (s : Lifecycle.St) (work : Bool) :
    (proj (Lifecycle.phase2TxF s work).st, (Lifecycle.phase2TxF s work).res.isOk) = sopCall (proj s) .phase2 (!work) := by
  unfold Lifecycle.phase2TxF Lifecycle.phase2Tx Lifecycle.R.ofOut sopCall
  simp only [proj_hasBegun]
  by_cases hb : ¬ s.hasBegun = true
  · have hb' : s.hasBegun = false := by simpa using hb
    simp [hb', Lifecycle.Res.isOk]
  · have hb : s.hasBegun = true := by simpa using hb
    simp only [hb, Bool.not_true, Bool.false_eq_true, if_false]
    by_cases h0 : s.pd = 0
    · have : (proj s).pd = 0 := h0
      simp [h0, this, Lifecycle.Res.isOk]
    · have : ¬ (proj s).pd = 0 := h0
      simp only [h0, this, if_false]
      cases hm : s.mode <;> cases work <;>
        simp [proj, projMode, hm, (C14.rollbackCore_frame _).1, (C14.rollbackCore_frame _).2.2.1,
          (C14.rollbackCore_frame _).2.2.2, Lifecycle.Res.isOk]

theorem lifecycle_phase1_sim (s : Lifecycle.St) (fx : Lifecycle.Fx) :
    (proj (Lifecycle.phase1TxF s fx).st, (Lifecycle.phase1TxF s fx).res.isOk)
      = sopCall (proj s) .phase1 (Lifecycle.phase1TxF s fx).res.isOk := by
  unfold Lifecycle.phase1TxF Lifecycle.phase1Tx Lifecycle.R.ofOut sopCall
  simp only [proj_hasBegun]
  by_cases hb : ¬ s.hasBegun = true
  · have hb' : s.hasBegun = false := by simpa using hb
    simp [hb', Lifecycle.Res.isOk]
  · have hb : s.hasBegun = true := by simpa using hb
    simp only [hb, Bool.not_true, Bool.false_eq_true, if_false]
    cases hm : s.mode
    · simp [proj, projMode, hm, Lifecycle.Res.isOk]
    · simp only [proj, projMode, hm]
      by_cases hw : (fx.work && Lifecycle.p1Works s) = true
      · simp [hw, (C14.rollbackCore_frame _).1, (C14.rollbackCore_frame _).2.2.1, (C14.rollbackCore_frame _).2.2.2,
          Lifecycle.Res.isOk]
      · simp only [hw, if_false, Bool.false_eq_true]
        unfold Lifecycle.phase1Writer
        cases hbk : s.backend with
        | none => simp [Lifecycle.Res.isOk]
        | some b =>
          simp only
          cases ht : b.tracked
          · simp [Lifecycle.Res.isOk]
          · cases hp : s.p1Nodes <;> simp [Lifecycle.Res.isOk]
    · simp only [proj, projMode, hm]
      by_cases hw : (fx.work && Lifecycle.readerWorks s) = true
      · simp [hw, Lifecycle.Res.isOk]
      · simp [hw, Lifecycle.Res.isOk]

end Sop.C16
