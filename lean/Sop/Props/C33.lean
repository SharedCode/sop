import Sop.Model.Vector
import Sop.Lemmas.Assoc
import Sop.Lemmas.Basics
/-!
# C33 — the vector store returns live items and correctly ranked query hits

Theorems over `Sop/Model/Vector.lean` (the model the driver `drv_c33` runs against the real `ai/vector`).
All float-valued decisions are universally quantified oracle inputs, so every statement holds for any numerics.

In order: the association lists and the Vectors tree (`afind_*`, `vfind_*`); `Query` (`hitOf`: the hit a candidate yields, `query_eq`);
`live` and the single operations; `Inv`, the invariant of the indexed store with de-duplication on, and `MigInv`, its form inside
the fold of `Optimize`; programs against the plain map `specStep` (`Good` = `Inv` and no rejected commit, `foldl_live`); witnesses.
-/
namespace Sop.C33
open Sop.Vector

section AssocList
variable {κ α : Type} [DecidableEq κ] [LT κ] [DecidableRel (fun a b : κ => a < b)]
  {l : List (κ × α)} {i j : κ} {a : α}

/-- the key asked for on the left, as in `specStep` and `C33_ops_delete` -/
theorem afind_aset : afind (aset l i a) j = if j = i then some a else afind l j := by
  induction l with
  | nil =>
    show (if i = j then some a else none) = _
    by_cases h : i = j
    · rw [if_pos h, if_pos h.symm]
    · rw [if_neg h, if_neg fun e => h e.symm]; rfl
  | cons x r ih =>
    obtain ⟨k, b⟩ := x
    unfold aset
    split
    · show (if i = j then some a else afind ((k, b) :: r) j) = _
      by_cases h : i = j
      · rw [if_pos h, if_pos h.symm]
      · rw [if_neg h, if_neg fun e => h e.symm]
    · split
      · rename_i h
        subst h
        unfold afind
        by_cases hj : i = j
        · rw [if_pos hj, if_pos hj.symm]
        · rw [if_neg hj, if_neg fun e => hj e.symm, if_neg hj]
      · rename_i h
        unfold afind
        rw [ih]
        by_cases hk : k = j
        · rw [if_pos hk, if_neg fun e : j = i => h (e.symm.trans hk.symm), if_pos hk]
        · rw [if_neg hk, if_neg hk]

omit [LT κ] [DecidableRel (fun a b : κ => a < b)] in
theorem afind_isLookup : Assoc.IsLookup (afind (κ := κ) (α := α)) := ⟨fun _ => rfl, fun _ _ _ => rfl⟩

omit [LT κ] [DecidableRel (fun a b : κ => a < b)] in
theorem afind_aerase : afind (aerase l i) j = if j = i then none else afind l j :=
  Assoc.look_filter afind_isLookup (fun e => by simp) l j
end AssocList

section Tree
-- `Vector.Id` in the lemmas: under `open Sop.Vector` a bare `Id` is ambiguous with the identity monad `_root_.Id`
variable {l : List VEnt} {e x : VEnt} {c d : Int} {i j : Vector.Id}

theorem keyEq_iff : keyEq e c d i = true ↔ e.cid = c ∧ e.dist = d ∧ e.id = i := by
  simp only [keyEq, Bool.and_eq_true, decide_eq_true_eq, and_assoc]

theorem keyEq_self (e : VEnt) : keyEq e e.cid e.dist e.id = true := keyEq_iff.2 ⟨rfl, rfl, rfl⟩

theorem keyEq_of_id_ne (h : e.id ≠ j) (c d : Int) : keyEq e c d j = false :=
  Bool.eq_false_iff.2 fun hk => h (keyEq_iff.1 hk).2.2

theorem vfind_some (h : vfind l c d i = some e) :
    e ∈ l ∧ e.cid = c ∧ e.dist = d ∧ e.id = i := by
  induction l with
  | nil => cases h
  | cons x r ih =>
    rw [vfind] at h
    split at h
    · rename_i hk
      cases h
      exact ⟨List.mem_cons_self, keyEq_iff.1 hk⟩
    · exact ⟨List.mem_cons_of_mem _ (ih h).1, (ih h).2⟩

theorem vfind_none_iff : vfind l c d i = none ↔ ∀ e ∈ l, keyEq e c d i = false := by
  induction l with
  | nil => simp only [vfind, List.not_mem_nil, false_imp_iff, implies_true]
  | cons x r ih =>
    rw [vfind, List.forall_mem_cons, ← ih]
    cases keyEq x c d i
    · simp only [Bool.false_eq_true, if_false, true_and]
    · simp only [if_true, reduceCtorEq, Bool.true_eq_false, false_and]

theorem vfind_none_iff_no_id : (∀ c d, vfind l c d j = none) ↔ ∀ x ∈ l, x.id ≠ j :=
  ⟨fun h x hx hid => Bool.false_ne_true ((hid ▸ vfind_none_iff.1 (h x.cid x.dist) x hx).symm.trans (keyEq_self x)),
   fun h c d => vfind_none_iff.2 fun e he => keyEq_of_id_ne (h e he) c d⟩

theorem vfind_cons_of_id_ne (h : e.id ≠ j) {r : List VEnt} :
    vfind (e :: r) c d j = vfind r c d j := by
  rw [vfind, keyEq_of_id_ne h, if_neg Bool.false_ne_true]

theorem vfind_vadd_ne (h : x.id ≠ j) (c d : Int) :
    vfind (vadd l x) c d j = vfind l c d j := by
  induction l with
  | nil => exact vfind_cons_of_id_ne h
  | cons e r ih =>
    rw [vadd]
    split
    · rfl
    · split
      · exact vfind_cons_of_id_ne h
      · rw [vfind, vfind, ih]

theorem vfind_vremove_ne (h : i ≠ j) (c' d' c d : Int) :
    vfind (vremove l c' d' i) c d j = vfind l c d j := by
  induction l with
  | nil => rfl
  | cons e r ih =>
    unfold vremove at ih ⊢
    cases hk : keyEq e c' d' i
    · rw [List.filter_cons_of_pos (by rw [hk]; rfl), vfind, vfind, ih]
    · rw [List.filter_cons_of_neg (by rw [hk]; exact Bool.false_ne_true), ih,
        vfind_cons_of_id_ne ((keyEq_iff.1 hk).2.2 ▸ h)]

theorem vfind_vtomb_ne (h : i ≠ j) {c' d' : Int} (c d : Int) :
    vfind (vtomb l c' d' i) c d j = vfind l c d j := by
  induction l with
  | nil => rfl
  | cons e r ih =>
    unfold vtomb at ih ⊢
    rw [List.map_cons]
    split
    · rename_i hk
      have he : e.id ≠ j := (keyEq_iff.1 hk).2.2 ▸ h
      rw [vfind_cons_of_id_ne he, vfind_cons_of_id_ne (e := { e with del := true }) he, ih]
    · rw [vfind, vfind, ih]

theorem vfind_of_mem (h1 : l.Pairwise (fun a b => a.id ≠ b.id)) (he : e ∈ l) :
    vfind l e.cid e.dist e.id = some e := by
  induction l with
  | nil => cases he
  | cons x r ih =>
    have ⟨hx, hr⟩ := List.pairwise_cons.1 h1
    rcases List.mem_cons.1 he with rfl | he
    · rw [vfind, keyEq_self, if_pos rfl]
    · rw [vfind_cons_of_id_ne (hx e he), ih hr he]

theorem vadd_spec (hx : ∀ e ∈ l, e.id ≠ x.id) :
    (vadd l x).Perm (x :: l) ∧ vfind (vadd l x) x.cid x.dist x.id = some x := by
  induction l with
  | nil => exact ⟨.refl _, by rw [vadd, vfind, keyEq_self, if_pos rfl]⟩
  | cons e r ih =>
    have hne := keyEq_of_id_ne (hx e List.mem_cons_self) x.cid x.dist
    have ⟨h1, h2⟩ := ih fun y hy => hx y (List.mem_cons_of_mem _ hy)
    rw [vadd, if_neg (hne ▸ Bool.false_ne_true)]
    split
    · exact ⟨.refl _, by rw [vfind, keyEq_self, if_pos rfl]⟩
    · exact ⟨(h1.cons e).trans (.swap x e r), by rw [vfind, if_neg (hne ▸ Bool.false_ne_true), h2]⟩

end Tree

def SortedDesc (l : List (Vector.Id × Int)) : Prop := l.Pairwise (fun a b => b.2 ≤ a.2)

theorem insertDesc_spec (x : Vector.Id × Int) {l : List (Vector.Id × Int)} (h : SortedDesc l) :
    SortedDesc (insertDesc x l) ∧ (insertDesc x l).Perm (x :: l) :=
  Ins.ins_spec (key := fun a : Vector.Id × Int => a.2) (bef := fun x y => y.2 < x.2) (ins := insertDesc) (fun _ => rfl)
    (fun _ _ _ => rfl)
    (fun x y => by
      split
      · exact Int.le_of_lt ‹_›
      · exact Int.not_lt.1 ‹_›) x h

theorem sortDesc_fold (l : List (Vector.Id × Int)) : ∀ {acc : List (Vector.Id × Int)}, SortedDesc acc →
    SortedDesc (l.foldl (fun acc x => insertDesc x acc) acc) ∧ (l.foldl (fun acc x => insertDesc x acc) acc).Perm (l ++ acc) := by
  induction l with
  | nil => exact fun h => ⟨h, .refl _⟩
  | cons x r ih =>
    intro acc h
    have hx := insertDesc_spec x h
    have ⟨h1, h2⟩ := ih hx.1
    exact ⟨h1, h2.trans ((hx.2.append_left r).trans List.perm_middle)⟩

theorem sortDesc_spec {l : List (Vector.Id × Int)} : SortedDesc (sortDesc l) ∧ (sortDesc l).Perm l := by
  have h := sortDesc_fold l (acc := []) .nil
  rwa [List.append_nil] at h

section Collect
variable (content : List (Vector.Id × CKey × Payload)) (filter : Payload → Bool) (k : Int)

def hitOf (c : Vector.Id × Int) : Option Hit :=
  match afind content c.1 with
  | some (ck, p) => if !ck.del && filter p then some ⟨c.1, c.2, p⟩ else none
  | none => none

variable {content filter} in
theorem hitOf_some {c : Vector.Id × Int} {h : Hit} (hh : hitOf content filter c = some h) :
    (h.id, h.score) = c ∧ ∃ ck, afind content h.id = some (ck, h.payload) ∧ ck.del = false ∧ filter h.payload = true := by
  unfold hitOf at hh
  split at hh
  · rename_i ck p hc
    split at hh
    · rename_i hcond
      cases hh
      rw [Bool.and_eq_true, Bool.not_eq_true'] at hcond
      exact ⟨rfl, ck, hc, hcond⟩
    · cases hh
  · cases hh

theorem collect_cons (c : Vector.Id × Int) (r : List (Vector.Id × Int)) (acc : List Hit) :
    collect content filter k (c :: r) acc =
      if (acc.length : Int) ≥ k then acc.reverse
      else match hitOf content filter c with
        | some h => collect content filter k r (h :: acc)
        | none => collect content filter k r acc := by
  rw [collect, hitOf]
  cases afind content c.1 with
  | none => rfl
  | some kp =>
    obtain ⟨ck, p⟩ := kp
    dsimp only
    cases (!ck.del && filter p) <;> rfl

theorem collect_eq (cands : List (Vector.Id × Int)) (acc : List Hit) :
    collect content filter k cands acc =
      acc.reverse ++ (cands.filterMap (hitOf content filter)).take (k.toNat - acc.length) := by
  induction cands generalizing acc with
  | nil => rw [collect, List.filterMap_nil, List.take_nil, List.append_nil]
  | cons c r ih =>
    rw [collect_cons, List.filterMap_cons]
    split
    · rename_i hk
      rw [Nat.sub_eq_zero_of_le (Int.toNat_le.2 hk), List.take_zero, List.append_nil]
    · rename_i hk
      cases hitOf content filter c with
      | none => exact ih acc
      | some h =>
        have hn : k.toNat - acc.length = k.toNat - (acc.length + 1) + 1 :=
          (Nat.succ_pred_eq_of_pos (Nat.sub_pos_of_lt (Int.lt_toNat.2 (Int.not_le.1 hk)))).symm
        dsimp only
        rw [ih, hn, List.take_succ_cons, List.reverse_cons, List.append_assoc, List.singleton_append,
          List.length_cons]
end Collect

section Query
variable (cfg : Cfg) (s : State) (k : Int) (filter : Payload → Bool) (targets : List Int) (score : Vec → Int)

theorem query_eq : query cfg s k filter targets score =
    ((sortDesc (candidates cfg s targets score)).filterMap (hitOf s.content filter)).take k.toNat := by
  rw [query, collect_eq, List.reverse_nil, List.nil_append, List.length_nil, Nat.sub_zero]

variable {cfg s k filter targets score} in
theorem mem_query {h : Hit} (hm : h ∈ query cfg s k filter targets score) :
    ∃ c ∈ candidates cfg s targets score, hitOf s.content filter c = some h := by
  rw [query_eq] at hm
  obtain ⟨c, hc, hh⟩ := List.mem_filterMap.1 (List.mem_of_mem_take hm)
  exact ⟨c, sortDesc_spec.2.mem_iff.1 hc, hh⟩

variable {cfg s k filter targets score} in
theorem query_pairwise {R : Vector.Id × Int → Vector.Id × Int → Prop}
    (h : (sortDesc (candidates cfg s targets score)).Pairwise R) :
    (query cfg s k filter targets score).Pairwise (fun a b => R (a.id, a.score) (b.id, b.score)) := by
  rw [query_eq]
  refine (h.filterMap _ fun a a' hr b hb b' hb' => ?_).sublist (List.take_sublist ..)
  rwa [(hitOf_some hb).1, (hitOf_some hb').1]

/-- **C33_query, part 1** (every state, every configuration, every oracle): at most `k` hits (none for `k ≤ 0`) -/
theorem C33_query_le_k :
    ((query cfg s k filter targets score).length : Int) ≤ k ∨ query cfg s k filter targets score = [] := by
  rw [query_eq]
  by_cases hk : 0 ≤ k
  · exact .inl (Int.le_trans (Int.ofNat_le.2 (List.length_take_le ..)) (Int.le_of_eq (Int.toNat_of_nonneg hk)))
  · exact .inr (by rw [Int.toNat_of_nonpos (Int.le_of_not_le hk), List.take_zero])

/-- **C33_query, part 2**: every hit is an id Content knows, not tombstoned, whose latest payload is the one
    returned and passes the filter -/
theorem C33_query_filter (h : Hit) (hm : h ∈ query cfg s k filter targets score) :
    ∃ ck, afind s.content h.id = some (ck, h.payload) ∧ ck.del = false ∧ filter h.payload = true :=
  have ⟨_, _, hh⟩ := mem_query hm
  (hitOf_some hh).2

/-- **C33_query, part 3**: hits are in descending score order -/
theorem C33_query_sorted : (query cfg s k filter targets score).Pairwise (fun a b => b.score ≤ a.score) :=
  query_pairwise sortDesc_spec.1

/-- **C33_query, part 4**: hits are distinct whenever the scanned candidates are (see `candidates_nodup`) -/
theorem C33_query_distinct (hc : ((candidates cfg s targets score).map (·.1)).Nodup) :
    ((query cfg s k filter targets score).map (·.id)).Nodup :=
  List.pairwise_map.2 (query_pairwise
    (List.pairwise_map.1 ((sortDesc_spec.2.map _).nodup_iff.2 hc)))
end Query

theorem live_congr {cfg : Cfg} {s s' : State} {j : Vector.Id}
    (hc : afind s'.content j = afind s.content j) (ht : afind s'.temp j = afind s.temp j)
    (hv : ∀ c d, vfind s'.vectors c d j = vfind s.vectors c d j) (hver : s'.ver = s.ver) :
    live cfg s' j = live cfg s j := by
  simp only [live, Sop.Vector.get, hc, ht, hv, hver]

/-- **C33_get**: `live` — what `Get` returns, its error kinds dropped — written out: an item exactly when Content holds
    the id un-tombstoned and the address recorded in its key resolves (the buffer entry; or the `(centroid, distance, id)`
    key of the active version, centroid ≠ 0). -/
theorem C33_get (cfg : Cfg) (s : State) (i : Id) :
    live cfg s i =
      match afind s.content i with
      | none => none
      | some (k, p) =>
        if k.del then none
        else if cfg.buffer then (afind s.temp i).map (fun v => (v, p))
        else if (activeKey s.ver k).1 = 0 then none
        else (vfind s.vectors (activeKey s.ver k).1 (activeKey s.ver k).2 i).map (fun e => (e.vec, p)) := by
  unfold live Sop.Vector.get
  cases afind s.content i with
  | none => rfl
  | some kp =>
    obtain ⟨k, p⟩ := kp
    dsimp only
    cases k.del
    · cases cfg.buffer
      · simp only [Bool.false_eq_true, if_false]
        by_cases h0 : (activeKey s.ver k).1 = 0
        · rw [if_pos h0, if_pos h0]
        · rw [if_neg h0, if_neg h0]
          cases vfind s.vectors (activeKey s.ver k).1 (activeKey s.ver k).2 i <;> rfl
      · cases afind s.temp i <;> rfl
    · rfl

section Live
variable {cfg : Cfg} {s : State} {i : Vector.Id}

theorem live_of_vfind {k : CKey} {p : Payload} {c d : Int} {e : VEnt}
    (hb : cfg.buffer = false) (hk : afind s.content i = some (k, p)) (ha : activeKey s.ver k = (c, d)) (hc : c ≠ 0)
    (hf : vfind s.vectors c d i = some e) : live cfg s i = if k.del then none else some (e.vec, p) := by
  rw [C33_get, hk]
  simp only [hb, ha, hf, hc, Bool.false_eq_true, if_false, Option.map_some]

theorem live_none_of_no_entry (hb : cfg.buffer = false) (h : ∀ e ∈ s.vectors, e.id ≠ i) : live cfg s i = none := by
  rw [C33_get]
  cases afind s.content i with
  | none => rfl
  | some kp => simp only [hb, vfind_none_iff_no_id.2 h, Option.map_none, Bool.false_eq_true, if_false, ite_self]

theorem live_none_of_unknown (h : afind s.content i = none) : live cfg s i = none := by
  rw [C33_get, h]
end Live

theorem cleaned_sublist {cfg : Cfg} {s : State} {id : Vector.Id} : (cleaned cfg s id).Sublist s.vectors := by
  unfold cleaned
  split
  · exact List.filter_sublist
  · exact .refl _

/-- **C33_ops (upsert), other ids**: an `Upsert` (one item of a batch) leaves every other id as it was -/
theorem C33_ops_upsert_other (cfg : Cfg) (s : State) (it : Item) (j : Vector.Id) (h : j ≠ it.id) :
    live cfg (upsertItem cfg s it) j = live cfg s j := by
  unfold upsertItem
  split
  · exact live_congr (afind_aset.trans (if_neg h)) (afind_aset.trans (if_neg h)) (fun _ _ => rfl) rfl
  · refine live_congr (afind_aset.trans (if_neg h)) rfl (fun c d => (vfind_vadd_ne h.symm ..).trans ?_) rfl
    unfold cleaned
    split
    · exact vfind_vremove_ne h.symm ..
    · rfl

theorem C33_ops_upsert_buffered (cfg : Cfg) (s : State) (it : Item) (hb : cfg.buffer = true) :
    live cfg (upsertItem cfg s it) it.id = some (it.vec, it.payload) := by
  rw [C33_get]
  simp only [upsertItem, upsertBuffered, afind_aset, hb, if_true, Option.map_some, Bool.false_eq_true, if_false]

theorem delKey_spec {ver : Nat} {k : CKey} :
    (delKey ver k).del = true ∧ activeKey ver (delKey ver k) = activeKey ver k ∧
      (k.ver ≤ ver ∧ k.nver ≤ ver → (delKey ver k).ver ≤ ver ∧ (delKey ver k).nver ≤ ver) := by
  unfold delKey activeKey
  split
  · rename_i h
    exact ⟨rfl, by rw [if_neg (fun h' => h'.1 h.2)], fun hv => ⟨hv.2, Nat.zero_le _⟩⟩
  · exact ⟨rfl, rfl, id⟩

theorem activeKey_fresh {ver : Nat} {c d : Int} : activeKey ver ⟨c, d, ver, false, 0, 0, 0⟩ = (c, d) :=
  if_neg fun h => h.1 rfl

theorem delete_cases (cfg : Cfg) (s : State) (i : Vector.Id) :
    (afind s.content i = none ∧ (delete cfg s i).1 = s) ∨
    ∃ k p t v n, afind s.content i = some (k, p) ∧
      (delete cfg s i).1 =
        { s with content := aset s.content i (delKey s.ver k, p), temp := t, vectors := v, cents := n } ∧
      (∀ j, i ≠ j → afind t j = afind s.temp j ∧ ∀ c d, vfind v c d j = vfind s.vectors c d j) ∧
      ∃ f : VEnt → VEnt, v = s.vectors.map f ∧ ∀ e, (f e).cid = e.cid ∧ (f e).dist = e.dist ∧ (f e).id = e.id := by
  rw [delete]
  cases hc : afind s.content i with
  | none => exact .inl ⟨rfl, rfl⟩
  | some kp =>
    obtain ⟨k, p⟩ := kp
    refine .inr ⟨k, p, ?_⟩
    dsimp only
    by_cases hb : cfg.buffer = true
    · rw [if_pos hb]
      refine ⟨_, s.vectors, s.cents, rfl, rfl, fun j hj => ⟨?_, fun _ _ => rfl⟩, id, (List.map_id _).symm,
        fun _ => ⟨rfl, rfl, rfl⟩⟩
      split
      · exact afind_aset.trans (if_neg (Ne.symm hj))
      · rfl
    · rw [if_neg hb]
      by_cases h0 : (delKey s.ver k).cid = 0
      · rw [if_pos h0]
        exact ⟨s.temp, s.vectors, s.cents, rfl, rfl, fun _ _ => ⟨rfl, fun _ _ => rfl⟩, id, (List.map_id _).symm,
          fun _ => ⟨rfl, rfl, rfl⟩⟩
      · rw [if_neg h0]
        refine ⟨s.temp, _, _, rfl, rfl, fun _ hj => ⟨rfl, vfind_vtomb_ne hj⟩, _, rfl, fun e => ?_⟩
        split <;> exact ⟨rfl, rfl, rfl⟩

/-- **C33_ops (delete)**: after `Delete i`, `i` is gone and every other id reads as before -/
theorem C33_ops_delete (cfg : Cfg) (s : State) (i j : Vector.Id) :
    live cfg (delete cfg s i).1 j = if j = i then none else live cfg s j := by
  rcases delete_cases cfg s i with ⟨hc, heq⟩ | ⟨k, p, t, v, n, hc, heq, hj, -⟩
  · rw [heq]
    split
    · rename_i h
      rw [C33_get, h, hc]
    · rfl
  · rw [heq]
    split
    · rename_i h
      subst h
      rw [C33_get, afind_aset, if_pos rfl]
      exact if_pos delKey_spec.1
    · rename_i h
      exact live_congr (afind_aset.trans (if_neg h)) (hj j (Ne.symm h)).1 (hj j (Ne.symm h)).2 rfl

/-! The invariant of the indexed store with de-duplication on. (With de-duplication off and an id upserted twice
it is false: `C33_witness_dedup_off_duplicate_hit`.) -/

structure Inv (s : State) : Prop where
  one : s.vectors.Pairwise (fun a b => a.id ≠ b.id)
  ref : ∀ e ∈ s.vectors, e.cid ≠ 0 ∧ ∃ k p, afind s.content e.id = some (k, p) ∧ activeKey s.ver k = (e.cid, e.dist)
  vers : ∀ i k p, afind s.content i = some (k, p) → k.ver ≤ s.ver ∧ k.nver ≤ s.ver

theorem Inv_empty : Inv {} := ⟨.nil, fun _ h => (nomatch h), fun _ _ _ h => (nomatch h)⟩

section Keys
variable {P : CKey → Prop} {content : List (Vector.Id × CKey × Payload)}

theorem keys_aset (h : ∀ i k p, afind content i = some (k, p) → P k) {i0 : Vector.Id} {k0 : CKey} (h0 : P k0)
    (p0 : Payload) : ∀ i k p, afind (aset content i0 (k0, p0)) i = some (k, p) → P k := by
  intro i k p hk
  rw [afind_aset] at hk
  split at hk
  · cases hk
    exact h0
  · exact h i k p hk

theorem keys_aerase (h : ∀ i k p, afind content i = some (k, p) → P k) (i0 : Vector.Id) :
    ∀ i k p, afind (aerase content i0) i = some (k, p) → P k := by
  intro i k p hk
  rw [afind_aerase] at hk
  split at hk
  · cases hk
  · exact h i k p hk
end Keys

theorem cleaned_no_id {cfg : Cfg} {s : State} (hd : cfg.dedup = true) (hinv : Inv s) (id : Vector.Id) :
    ∀ e ∈ cleaned cfg s id, e.id ≠ id := by
  intro e he heq
  have hmem := cleaned_sublist.subset he
  obtain ⟨hc0, k, p, hk, hact⟩ := hinv.ref e hmem
  have hold : oldEntry cfg s id = some (e.cid, e.dist) := by
    have hfind := vfind_of_mem hinv.one hmem
    rw [heq] at hk hfind
    simp only [oldEntry, hd, if_true, hk, hact, hc0, if_false, hfind, Option.isSome_some]
  rw [cleaned, hold] at he
  have := (List.mem_filter.1 he).2
  rw [← heq, keyEq_self] at this
  exact Bool.false_ne_true this

/-- the common shape of `Upsert` and of `migrateEntry` -/
theorem Inv_put {s : State} (hinv : Inv s) {l : List VEnt} {x : VEnt} {k : CKey} {p : Payload}
    (hl : l.Sublist s.vectors) (hno : ∀ e ∈ l, e.id ≠ x.id) (hc : x.cid ≠ 0)
    (hk : activeKey s.ver k = (x.cid, x.dist)) (hkv : k.ver ≤ s.ver ∧ k.nver ≤ s.ver)
    {t : List (Vector.Id × Vec)} {c : List (Int × Int)} {b : Bool} :
    Inv { content := aset s.content x.id (k, p), vectors := vadd l x, temp := t, cents := c, ver := s.ver, bad := b } := by
  refine ⟨?_, fun e he => ?_, keys_aset hinv.vers hkv p⟩
  · exact ((vadd_spec hno).1.pairwise_iff Ne.symm).2
      (List.pairwise_cons.2 ⟨fun y hy => (hno y hy).symm, hinv.one.sublist hl⟩)
  · show _ ∧ ∃ k' p', afind (aset s.content x.id (k, p)) e.id = some (k', p') ∧ _
    rw [afind_aset]
    rcases List.mem_cons.1 ((vadd_spec hno).1.mem_iff.1 he) with rfl | he
    · exact ⟨hc, k, p, if_pos rfl, hk⟩
    · have ⟨h0, k2, p2, hk2, ha⟩ := hinv.ref e (hl.subset he)
      exact ⟨h0, k2, p2, (if_neg (hno e he)).trans hk2, ha⟩

/-- garbage collection: Content forgets an id no item carries -/
theorem Inv_erase {s : State} (hinv : Inv s) {i : Vector.Id} (hno : ∀ e ∈ s.vectors, e.id ≠ i) :
    Inv { s with content := aerase s.content i } := by
  refine ⟨hinv.one, fun e he => ?_, keys_aerase hinv.vers i⟩
  show _ ∧ ∃ k p, afind (aerase s.content i) e.id = some (k, p) ∧ _
  rw [afind_aerase, if_neg (hno e he)]
  exact hinv.ref e he

theorem Inv_upsertIndexed (cfg : Cfg) (s : State) (it : Item) (hd : cfg.dedup = true) (hc : it.cid ≠ 0) (hinv : Inv s) :
    Inv (upsertIndexed cfg s it) :=
  Inv_put hinv (x := ⟨it.cid, it.odist, it.id, false, it.vec⟩) cleaned_sublist
    (cleaned_no_id hd hinv it.id) hc activeKey_fresh ⟨Nat.le_refl _, Nat.zero_le _⟩

/-- **C33_ops (upsert), the id itself**: with de-duplication on, an `Upsert` on the indexed path makes the id read
    back as the vector and payload just given, whatever centroid and distance the numerics chose (centroid ≠ 0) -/
theorem C33_ops_upsert_self (cfg : Cfg) (s : State) (it : Item) (hb : cfg.buffer = false) (hd : cfg.dedup = true)
    (hc : it.cid ≠ 0) (hinv : Inv s) :
    live cfg (upsertItem cfg s it) it.id = some (it.vec, it.payload) := by
  simp only [upsertItem, hb, Bool.false_eq_true, if_false]
  exact live_of_vfind (s := upsertIndexed cfg s it) hb (afind_aset.trans (if_pos rfl)) activeKey_fresh hc
    (vadd_spec (x := ⟨it.cid, it.odist, it.id, false, it.vec⟩) (cleaned_no_id hd hinv it.id)).2

theorem Inv_delete (cfg : Cfg) (s : State) (i : Vector.Id) (hinv : Inv s) : Inv (delete cfg s i).1 := by
  rcases delete_cases cfg s i with ⟨-, heq⟩ | ⟨k, p, t, v, n, hc, heq, -, f, rfl, hf⟩
  · rwa [heq]
  · rw [heq]
    refine ⟨?_, fun e' he' => ?_, keys_aset hinv.vers (delKey_spec.2.2 (hinv.vers i k p hc)) p⟩
    · exact List.pairwise_map.2 (hinv.one.imp fun h => by rwa [(hf _).2.2, (hf _).2.2])
    · obtain ⟨e, he, rfl⟩ := List.mem_map.1 he'
      obtain ⟨h0, k2, p2, hk2, ha2⟩ := hinv.ref e he
      rw [(hf e).1, (hf e).2.1, (hf e).2.2]
      refine ⟨h0, ?_⟩
      show ∃ k' p', afind (aset s.content i (delKey s.ver k, p)) e.id = some (k', p') ∧ _
      rw [afind_aset]
      split
      · rename_i h
        rw [h, hc] at hk2
        cases hk2
        exact ⟨_, p, rfl, delKey_spec.2.1.trans ha2⟩
      · exact ⟨k2, p2, hk2, ha2⟩

/-- the state phase 3 is building: `migrate` returns `migState s.ver` of its fold's result -/
def migState (cur : Nat) (m : Mig) : State :=
  { content := m.content, vectors := m.newVecs, temp := [], cents := m.newCents, ver := cur + 1, bad := false }

theorem promote_del (cur : Nat) (k : CKey) : (promote cur k).del = k.del := by
  unfold promote; split <;> rfl

theorem promote_ver_le {cur : Nat} {k : CKey} (h : k.ver ≤ cur) : (promote cur k).ver ≤ cur := by
  unfold promote
  split
  · rename_i hn; exact Nat.le_of_eq hn
  · exact h

/-- the Content key and the item `migrateEntry` writes for an item assigned to `a` -/
def migKey (cur new : Nat) (a : Int × Int) (k : CKey) : CKey := { promote cur k with ncid := a.1, ndist := a.2, nver := new }
def migItem (a : Int × Int) (e : VEnt) : VEnt := ⟨a.1, a.2, e.id, false, e.vec⟩

theorem activeKey_migKey {cur : Nat} {k : CKey} (h : k.ver ≤ cur) (a : Int × Int) :
    activeKey (cur + 1) (migKey cur (cur + 1) a k) = (a.1, a.2) :=
  if_pos ⟨Nat.ne_of_lt (Nat.lt_succ_of_le (promote_ver_le h)), rfl⟩

/-- the oracle of the migration never answers centroid 0 (`findClosestCentroid` answers an existing centroid id,
    which is ≥ 1, or -1 when there is none) -/
def MigOk (mig : Id → Vec → Int × Int) : Prop := ∀ i v, (mig i v).1 ≠ 0

section Migration
variable {cfg : Cfg} (hd : cfg.dedup = true) (cur : Nat) (mig : Vector.Id → Vec → Int × Int)
include hd

theorem migStep_cases (new : Nat) (m : Mig) (e : VEnt) :
    (∃ k p, afind m.content e.id = some (k, p) ∧ k.del = true ∧
      migStep cfg cur new mig m e = { m with content := aerase m.content e.id }) ∨
    (∃ k p, afind m.content e.id = some (k, p) ∧ k.del = false ∧ activeKey cur k = (e.cid, e.dist) ∧
      ∃ n, migStep cfg cur new mig m e =
        { content := aset m.content e.id (migKey cur new (mig e.id e.vec) k, p)
          newVecs := vadd m.newVecs (migItem (mig e.id e.vec) e), newCents := n }) ∨
    (migStep cfg cur new mig m e = m ∧
      ∀ k p, afind m.content e.id = some (k, p) → k.del = false ∧ activeKey cur k ≠ (e.cid, e.dist)) := by
  simp only [migStep, hd, Bool.not_true, Bool.false_eq_true, if_false]
  cases hk : afind m.content e.id with
  | none => exact .inr (.inr ⟨rfl, fun _ _ h => nomatch h⟩)
  | some kp =>
    obtain ⟨k, p⟩ := kp
    dsimp only
    cases hdel : k.del
    · by_cases ha : activeKey cur k = (e.cid, e.dist)
      · rw [if_neg Bool.false_ne_true, if_pos ha, migrateEntry, hk]
        exact .inr (.inl ⟨k, p, rfl, hdel, ha, _, rfl⟩)
      · refine .inr (.inr ⟨by rw [if_neg Bool.false_ne_true, if_neg ha], fun k' p' h => ?_⟩)
        cases h
        exact ⟨hdel, ha⟩
    · exact .inl ⟨k, p, rfl, hdel, if_pos rfl⟩

theorem migStep_frame (new : Nat) (m : Mig) (e : VEnt) {j : Vector.Id} (h : e.id ≠ j) :
    afind (migStep cfg cur new mig m e).content j = afind m.content j ∧
    ∀ c d, vfind (migStep cfg cur new mig m e).newVecs c d j = vfind m.newVecs c d j := by
  rcases migStep_cases hd cur mig new m e with ⟨k, p, -, -, heq⟩ | ⟨k, p, -, -, -, n, heq⟩ | ⟨heq, -⟩
  · rw [heq]
    exact ⟨afind_aerase.trans (if_neg (Ne.symm h)), fun _ _ => rfl⟩
  · rw [heq]
    exact ⟨afind_aset.trans (if_neg (Ne.symm h)), vfind_vadd_ne h⟩
  · rw [heq]
    exact ⟨rfl, fun _ _ => rfl⟩

theorem migFold_frame (new : Nat) (l : List VEnt) (m : Mig) {j : Vector.Id} (h : ∀ e ∈ l, e.id ≠ j) :
    afind (l.foldl (migStep cfg cur new mig) m).content j = afind m.content j ∧
    ∀ c d, vfind (l.foldl (migStep cfg cur new mig) m).newVecs c d j = vfind m.newVecs c d j := by
  induction l generalizing m with
  | nil => exact ⟨rfl, fun _ _ => rfl⟩
  | cons e r ih =>
    have h1 := migStep_frame hd cur mig new m e (h e List.mem_cons_self)
    have h2 := ih (migStep cfg cur new mig m e) (fun x hx => h x (List.mem_cons_of_mem _ hx))
    exact ⟨h2.1.trans h1.1, fun c d => (h2.2 c d).trans (h1.2 c d)⟩

variable {cur mig}

theorem migStep_live (hb : cfg.buffer = false) (hmig : MigOk mig) {m : Mig} {e : VEnt} {k : CKey} {p : Payload}
    (hk : afind m.content e.id = some (k, p)) (ha : activeKey cur k = (e.cid, e.dist)) (hv : k.ver ≤ cur)
    (hfresh : ∀ x ∈ m.newVecs, x.id ≠ e.id) :
    live cfg (migState cur (migStep cfg cur (cur + 1) mig m e)) e.id = if k.del then none else some (e.vec, p) := by
  rcases migStep_cases hd cur mig (cur + 1) m e with
    ⟨k', p', hk', hdel, heq⟩ | ⟨k', p', hk', hdel, -, n, heq⟩ | ⟨-, hst⟩
  · cases hk.symm.trans hk'
    rw [heq, hdel]
    exact live_none_of_unknown (afind_aerase.trans (if_pos rfl))
  · cases hk.symm.trans hk'
    rw [heq, ← promote_del cur k]
    exact live_of_vfind (s := migState cur _) (k := migKey ..) (e := migItem ..) hb
      (afind_aset.trans (if_pos rfl)) (activeKey_migKey hv _) (hmig e.id e.vec) (vadd_spec (x := migItem ..) hfresh).2
  · exact absurd ha (hst k p hk).2

/-- what the fold of phase 3 maintains (`cur` = the version being left) -/
structure MigInv (cur : Nat) (m : Mig) : Prop where
  inv : Inv (migState cur m)
  /-- strictly below the version being built: that makes the `Next*` fields of a migrated key the active ones -/
  vers : ∀ i k p, afind m.content i = some (k, p) → k.ver ≤ cur

theorem MigInv_fold (hmig : MigOk mig) (l : List VEnt) {m : Mig} (hm : MigInv cur m)
    (hl : l.Pairwise (fun a b => a.id ≠ b.id)) (hfresh : ∀ e ∈ l, ∀ c d, vfind m.newVecs c d e.id = none) :
    MigInv cur (l.foldl (migStep cfg cur (cur + 1) mig) m) := by
  induction l generalizing m with
  | nil => exact hm
  | cons e r ih =>
    have ⟨he, hr⟩ := List.pairwise_cons.1 hl
    have hno := vfind_none_iff_no_id.1 (hfresh e List.mem_cons_self)
    refine ih ?_ hr fun e' he' c d => ?_
    · rcases migStep_cases hd cur mig (cur + 1) m e with ⟨k, p, -, -, heq⟩ | ⟨k, p, hk, -, -, n, heq⟩ | ⟨heq, -⟩
      · rw [heq]
        exact ⟨Inv_erase hm.inv hno, keys_aerase hm.vers _⟩
      · rw [heq]
        have hv := hm.vers e.id k p hk
        exact ⟨Inv_put hm.inv (x := migItem ..) (.refl _) hno (hmig e.id e.vec) (activeKey_migKey hv _)
            ⟨Nat.le_succ_of_le (promote_ver_le hv), Nat.le_refl _⟩,
          keys_aset (k0 := migKey ..) hm.vers (promote_ver_le hv) p⟩
      · rwa [heq]
    · rw [(migStep_frame hd cur mig (cur + 1) m e (he e' he')).2]
      exact hfresh e' (List.mem_cons_of_mem _ he') c d
end Migration

/-- on the indexed store `Optimize` has nothing to consolidate: it is the migration -/
theorem optimize_indexed {cfg : Cfg} (hb : cfg.buffer = false) (s : State) (cons : Id → Int × Int)
    (mig : Id → Vec → Int × Int) (cents : List Int) : (optimize cfg s cons mig cents).1 = migrate cfg s mig cents := by
  rw [optimize, consolidate, hb]
  rfl

/-- **C33_optimize**: on the indexed store with de-duplication on, `migrate` (phases 1–4; all of `Optimize` there,
    `optimize_indexed`) leaves `live` unchanged for every id, whatever centroids k-means produced and wherever the vectors
    were assigned: nothing is lost, nothing deleted comes back, and (`Inv_migrate`) there is again one item per id. -/
theorem C33_optimize (cfg : Cfg) (s : State) (mig : Id → Vec → Int × Int) (newCentIds : List Int)
    (hb : cfg.buffer = false) (hd : cfg.dedup = true) (hinv : Inv s) (hmig : MigOk mig) (j : Id) :
    live cfg (migrate cfg s mig newCentIds) j = live cfg s j := by
  let m0 : Mig := { content := s.content, newVecs := [], newCents := newCentIds.map (fun c => (c, 0)) }
  let step := migStep cfg s.ver (s.ver + 1) mig
  by_cases hj : ∃ e ∈ s.vectors, e.id = j
  · -- the fold before, at and after the one item `e` of that id
    obtain ⟨e, he, rfl⟩ := hj
    obtain ⟨l1, l2, hl⟩ := List.append_of_mem he
    have hone := hinv.one
    rw [hl, List.pairwise_append] at hone
    obtain ⟨-, hp2, hcross⟩ := hone
    obtain ⟨hc0, k, p, hk, hact⟩ := hinv.ref e he
    have f1 := migFold_frame hd s.ver mig (s.ver + 1) l1 m0 fun x hx => hcross x hx e List.mem_cons_self
    have f3 := migFold_frame hd s.ver mig (s.ver + 1) l2 (step (l1.foldl step m0) e)
      fun x hx => ((List.pairwise_cons.1 hp2).1 x hx).symm
    rw [live_of_vfind hb hk hact hc0 (vfind_of_mem hinv.one he)]
    show live cfg (migState s.ver (s.vectors.foldl step m0)) e.id = _
    rw [hl, List.foldl_append, List.foldl_cons,
      live_congr (s' := migState s.ver _) (s := migState s.ver _) f3.1 rfl f3.2 rfl]
    exact migStep_live hd hb hmig (f1.1.trans hk) hact (hinv.vers _ _ _ hk).1 (vfind_none_iff_no_id.1 f1.2)
  · -- no item of that id: untouched, and the new tree has no item of that id either
    have hno : ∀ e ∈ s.vectors, e.id ≠ j := fun e he h => hj ⟨e, he, h⟩
    rw [live_none_of_no_entry hb hno]
    exact live_none_of_no_entry hb (vfind_none_iff_no_id.1 (migFold_frame hd s.ver mig (s.ver + 1) s.vectors m0 hno).2)

theorem Inv_migrate (cfg : Cfg) (s : State) (mig : Id → Vec → Int × Int) (newCentIds : List Int)
    (hd : cfg.dedup = true) (hmig : MigOk mig) (hinv : Inv s) : Inv (migrate cfg s mig newCentIds) :=
  have h0 : MigInv s.ver { content := s.content, newVecs := [], newCents := newCentIds.map (fun c => (c, 0)) } :=
    ⟨⟨.nil, fun _ h => (List.not_mem_nil h).elim,
        fun i k p hk => (hinv.vers i k p hk).imp Nat.le_succ_of_le Nat.le_succ_of_le⟩,
      fun i k p hk => (hinv.vers i k p hk).1⟩
  (MigInv_fold hd hmig s.vectors h0 hinv.one fun _ _ _ _ => rfl).inv

theorem mem_candidates {cfg : Cfg} (hb : cfg.buffer = false) (s : State) (targets : List Int) (score : Vec → Int)
    (x : Vector.Id × Int) :
    x ∈ candidates cfg s targets score ↔
      ∃ c ∈ targets, ∃ e ∈ s.vectors, e.cid = c ∧ e.del = false ∧ x = (e.id, score e.vec) := by
  simp only [candidates, hb, Bool.false_eq_true, if_false, List.mem_flatMap, List.mem_map, List.mem_filter,
    Bool.and_eq_true, decide_eq_true_eq, Bool.not_eq_true', and_assoc, eq_comm (a := x)]

theorem candidates_nodup (cfg : Cfg) (s : State) (targets : List Int) (score : Vec → Int) (hb : cfg.buffer = false)
    (hinv : Inv s) (ht : targets.Nodup) : ((candidates cfg s targets score).map (·.1)).Nodup := by
  rw [candidates, hb, if_neg Bool.false_ne_true]
  refine List.pairwise_map.2 (List.pairwise_flatMap.2 ⟨fun c _ => ?_, ht.imp fun hne x hx y hy hxy => ?_⟩)
  · exact List.pairwise_map.2 (hinv.one.sublist List.filter_sublist)
  · -- two targets scanning the same id scan the same item, so they are its one centroid
    obtain ⟨e1, he1, rfl⟩ := List.mem_map.1 hx
    obtain ⟨e2, he2, rfl⟩ := List.mem_map.1 hy
    have ⟨h1, c1⟩ := List.mem_filter.1 he1
    have ⟨h2, c2⟩ := List.mem_filter.1 he2
    cases List.Pairwise.forall_of_forall_of_flip (R := fun a b : VEnt => a.id = b.id → a = b) (fun _ _ _ => rfl)
      (hinv.one.imp fun hne he => absurd he hne) (hinv.one.imp fun hne he => absurd he.symm hne) h1 h2 hxy
    rw [Bool.and_eq_true, decide_eq_true_eq] at c1 c2
    exact hne (c1.1.symm.trans c2.1)

/-- **C33_query, hits ⊆ live** (indexed store, de-duplication on): every hit is a live item, returned with its
    latest payload and scored by its latest vector -/
theorem C33_query_live (cfg : Cfg) (s : State) (k : Int) (filter : Payload → Bool) (targets : List Int) (score : Vec → Int)
    (hb : cfg.buffer = false) (hinv : Inv s) (h : Hit) (hm : h ∈ query cfg s k filter targets score) :
    ∃ v, live cfg s h.id = some (v, h.payload) ∧ h.score = score v ∧ filter h.payload = true := by
  obtain ⟨c, hc, hh⟩ := mem_query hm
  obtain ⟨hkey, ck, hck, hdel, hfil⟩ := hitOf_some hh
  obtain ⟨-, -, e, he, -, -, rfl⟩ := (mem_candidates hb s targets score c).1 hc
  obtain ⟨hid, hsc⟩ := Prod.mk.inj hkey
  obtain ⟨h0, k2, p2, hk2, hact⟩ := hinv.ref e he
  rw [← hid, hck] at hk2
  cases hk2
  refine ⟨e.vec, ?_, hsc, hfil⟩
  rw [hid] at hck ⊢
  rw [live_of_vfind hb hck hact h0 (vfind_of_mem hinv.one he), hdel]
  rfl

/-- **C33_query** assembled: at most k, distinct, live, passing the filter, in descending score order -/
theorem C33_query (cfg : Cfg) (s : State) (k : Int) (filter : Payload → Bool) (targets : List Int) (score : Vec → Int)
    (hb : cfg.buffer = false) (hinv : Inv s) (ht : targets.Nodup) :
    let hits := query cfg s k filter targets score
    (((hits.length : Int) ≤ k ∨ hits = []) ∧ (hits.map (·.id)).Nodup ∧
      hits.Pairwise (fun a b => b.score ≤ a.score) ∧
      ∀ h ∈ hits, ∃ v, live cfg s h.id = some (v, h.payload) ∧ h.score = score v ∧ filter h.payload = true) :=
  ⟨C33_query_le_k cfg s k filter targets score,
   C33_query_distinct cfg s k filter targets score (candidates_nodup cfg s targets score hb hinv ht),
   C33_query_sorted cfg s k filter targets score,
   fun h hm => C33_query_live cfg s k filter targets score hb hinv h hm⟩

inductive Op where
  | upsert (it : Item)
  | batch (items : List Item)
  | delete (i : Id)
  | optimize (cons : Id → Int × Int) (mig : Id → Vec → Int × Int) (cents : List Int)

def OpOk : Op → Prop
  | .upsert it => it.cid ≠ 0
  | .batch items => ∀ it ∈ items, it.cid ≠ 0
  | .delete _ => True
  | .optimize _ mig _ => MigOk mig

/-- the model's top-level operations (commit wrapper included) -/
def step (cfg : Cfg) (s : State) : Op → State
  | .upsert it => (upsert cfg s it []).1
  | .batch items => (upsertBatch cfg s items []).1
  | .delete i => (delete cfg s i).1
  | .optimize cons mig cents => (optimize cfg s cons mig cents).1

abbrev Spec := Id → Option (Vec × Payload)

/-- the reference: a plain map -/
def specStep (m : Spec) : Op → Spec
  | .upsert it => fun j => if j = it.id then some (it.vec, it.payload) else m j
  | .batch items => items.foldl (fun m it => fun j => if j = it.id then some (it.vec, it.payload) else m j) m
  | .delete i => fun j => if j = i then none else m j
  | .optimize _ _ _ => m

def specUpsert (m : Spec) (it : Item) : Spec := fun j => if j = it.id then some (it.vec, it.payload) else m j

theorem specStep_upsert (m : Spec) (it : Item) : specStep m (.upsert it) = specUpsert m it := rfl

theorem specStep_batch (m : Spec) (items : List Item) : specStep m (.batch items) = items.foldl specUpsert m := rfl

structure Good (s : State) : Prop where
  inv : Inv s
  bad : s.bad = false

theorem Good_with_cents {s : State} (hg : Good s) (c : List (Int × Int)) : Good { s with cents := c } :=
  ⟨⟨hg.inv.one, hg.inv.ref, hg.inv.vers⟩, hg.bad⟩

theorem foldl_live {ι : Type} {f : State → ι → State} {g : Spec → ι → Spec} {P : State → Prop} {Q : ι → Prop}
    (cfg : Cfg) (h : ∀ s x, Q x → P s → P (f s x) ∧ live cfg (f s x) = g (live cfg s) x) :
    ∀ (l : List ι) (s : State), (∀ x ∈ l, Q x) → P s →
      P (l.foldl f s) ∧ live cfg (l.foldl f s) = l.foldl g (live cfg s)
  | [], _, _, hp => ⟨hp, rfl⟩
  | x :: l, s, hq, hp =>
    have ⟨h1, h2⟩ := h s x (hq x List.mem_cons_self) hp
    have ih := foldl_live cfg h l (f s x) (fun y hy => hq y (List.mem_cons_of_mem _ hy)) h1
    ⟨ih.1, ih.2.trans (congrArg (l.foldl g) h2)⟩

theorem upsertItem_live {cfg : Cfg} {s : State} {it : Item}
    (hself : live cfg (upsertItem cfg s it) it.id = some (it.vec, it.payload)) :
    live cfg (upsertItem cfg s it) = specUpsert (live cfg s) it := by
  funext j
  unfold specUpsert
  split
  · rename_i h
    rw [h, hself]
  · rename_i h
    exact C33_ops_upsert_other cfg s it j h

theorem commit_eq_new {cfg : Cfg} {old new : State} (ht : cfg.tracking = false) (hn : new.bad = false) :
    (commit cfg [] old new).1 = new := by
  rw [commit, hn, if_neg Bool.false_ne_true, applyRw, ht]
  rfl

/-- the centroids `UpsertBatch` starts its items from: the seeded ones when it seeds, else the store's -/
def batchCents (cfg : Cfg) (s : State) (items : List Item) : List (Int × Int) :=
  if !cfg.buffer && s.cents.isEmpty && items.any (fun it => decide (it.ecid = 0)) && !items.isEmpty then
    seedCentroids items.length
  else s.cents

/-- `UpsertBatch`: seeding centroids touches neither Content nor Vectors -/
theorem step_batch {cfg : Cfg} (ht : cfg.tracking = false) (s : State) (items : List Item)
    (h : (items.foldl (upsertItem cfg) { s with cents := batchCents cfg s items }).bad = false) :
    step cfg s (.batch items) = items.foldl (upsertItem cfg) { s with cents := batchCents cfg s items } := by
  have hs : (if !cfg.buffer && s.cents.isEmpty && items.any (fun it => decide (it.ecid = 0)) && !items.isEmpty then
      { s with cents := seedCentroids items.length } else s) = { s with cents := batchCents cfg s items } := by
    unfold batchCents
    split <;> rfl
  show (upsertBatch cfg s items []).1 = _
  rw [upsertBatch, hs]
  exact commit_eq_new ht h

theorem delete_bad {cfg : Cfg} {s : State} {i : Vector.Id} : (delete cfg s i).1.bad = s.bad := by
  rcases delete_cases cfg s i with ⟨-, heq⟩ | ⟨k, p, t, v, n, -, heq, -, -⟩
  · rw [heq]
  · rw [heq]

theorem upsertItem_good_spec (cfg : Cfg) (hb : cfg.buffer = false) (hd : cfg.dedup = true) (ht : cfg.tracking = false)
    (s : State) (it : Item) (hc : it.cid ≠ 0) (hg : Good s) :
    Good (upsertItem cfg s it) ∧
      live cfg (upsertItem cfg s it) = specUpsert (live cfg s) it := by
  refine ⟨?_, upsertItem_live (C33_ops_upsert_self cfg s it hb hd hc hg.inv)⟩
  simp only [upsertItem, hb, Bool.false_eq_true, if_false]
  refine ⟨Inv_upsertIndexed cfg s it hd hc hg.inv, ?_⟩
  show (s.bad || (cfg.tracking && _ && _)) = _
  rw [ht, Bool.false_and, Bool.false_and, Bool.or_false, hg.bad]

theorem step_good_spec (cfg : Cfg) (hb : cfg.buffer = false) (hd : cfg.dedup = true) (ht : cfg.tracking = false)
    (s : State) (o : Op) (ho : OpOk o) (hg : Good s) :
    Good (step cfg s o) ∧ live cfg (step cfg s o) = specStep (live cfg s) o := by
  cases o with
  | upsert it =>
    have h := upsertItem_good_spec cfg hb hd ht s it ho hg
    rwa [specStep_upsert, show step cfg s (.upsert it) = _ from commit_eq_new ht h.1.bad]
  | batch items =>
    have h := foldl_live cfg (upsertItem_good_spec cfg hb hd ht) items _ ho (Good_with_cents hg (batchCents cfg s items))
    rwa [specStep_batch, step_batch ht s items h.1.bad]
  | delete i =>
    exact ⟨⟨Inv_delete cfg s i hg.inv, delete_bad.trans hg.bad⟩, funext (C33_ops_delete cfg s i)⟩
  | optimize cons mig cents =>
    rw [show step cfg s (.optimize cons mig cents) = _ from optimize_indexed hb ..]
    exact ⟨⟨Inv_migrate cfg s mig cents hd ho hg.inv, rfl⟩, funext (C33_optimize cfg s mig cents hb hd hg.inv ho)⟩

/-- **C33 (item set)**: on the indexed store with de-duplication on and no count tracking, after *any* program of
    Upsert / UpsertBatch / Delete / Optimize — for any numerics (any centroid ≠ 0 and distance chosen for an upsert, any
    k-means outcome, any assignment at migration) — `Get` of every id answers exactly what a plain map would: its
    latest vector and payload if it is live, nothing if it was deleted or never stored; and the invariant that makes
    query hits distinct and live (`C33_query`) holds. -/
theorem C33_partial (cfg : Cfg) (hb : cfg.buffer = false) (hd : cfg.dedup = true) (ht : cfg.tracking = false)
    (ops : List Op) (hok : ∀ o ∈ ops, OpOk o) :
    Good (ops.foldl (step cfg) {}) ∧ ∀ j, live cfg (ops.foldl (step cfg) {}) j = ops.foldl specStep (fun _ => none) j :=
  have ⟨h1, h2⟩ := foldl_live cfg (step_good_spec cfg hb hd ht) ops {} hok ⟨Inv_empty, rfl⟩
  ⟨h1, congrFun h2⟩

def NoOptimize : Op → Prop
  | .optimize _ _ _ => False
  | _ => True

theorem upsertItem_buffered_spec (cfg : Cfg) (hb : cfg.buffer = true) (s : State) (it : Item)
    (h : s.bad = false) :
    (upsertItem cfg s it).bad = false ∧
      live cfg (upsertItem cfg s it) = specUpsert (live cfg s) it := by
  refine ⟨?_, upsertItem_live (C33_ops_upsert_buffered cfg s it hb)⟩
  simp only [upsertItem, hb, if_true]
  exact h

theorem step_buffered_spec (cfg : Cfg) (hb : cfg.buffer = true) (ht : cfg.tracking = false)
    (s : State) (o : Op) (ho : NoOptimize o) (h : s.bad = false) :
    (step cfg s o).bad = false ∧ live cfg (step cfg s o) = specStep (live cfg s) o := by
  cases o with
  | upsert it =>
    have h' := upsertItem_buffered_spec cfg hb s it h
    rwa [specStep_upsert, show step cfg s (.upsert it) = _ from commit_eq_new ht h'.1]
  | batch items =>
    have h' := foldl_live (P := fun s => s.bad = false) (Q := fun _ => True) cfg
      (fun s it _ => upsertItem_buffered_spec cfg hb s it) items { s with cents := batchCents cfg s items }
      (fun _ _ => trivial) h
    rwa [specStep_batch, step_batch ht s items h'.1]
  | delete i => exact ⟨delete_bad.trans h, funext (C33_ops_delete cfg s i)⟩
  | optimize _ _ _ => exact ho.elim

/-- **C33 (buffered stage)**: with the ingestion buffer on (no count tracking), any program of Upsert / UpsertBatch /
    Delete answers `Get` exactly as the plain map does. What breaks is the step out of this stage: `C33_counterexample`. -/
theorem C33_buffer_stage (cfg : Cfg) (hb : cfg.buffer = true) (ht : cfg.tracking = false)
    (ops : List Op) (hno : ∀ o ∈ ops, NoOptimize o) :
    ∀ j, live cfg (ops.foldl (step cfg) {}) j = ops.foldl specStep (fun _ => none) j :=
  congrFun (foldl_live (P := fun s => s.bad = false) cfg (step_buffered_spec cfg hb ht) ops {} hno rfl).2

/-- the full-strength statement about `Optimize`: in *every* configuration a successful Optimize changes no answer of
    `Get` (the ingestion buffer, when it was in use, is dropped afterwards as the usage rule says) -/
def Statement_C33_optimize : Prop :=
  ∀ (cfg : Cfg) (s : State) (cons : Id → Int × Int) (mig : Id → Vec → Int × Int) (cents : List Int) (j : Id),
    Good s → MigOk mig → (optimize cfg s cons mig cents).2 = "ok" →
      live { cfg with buffer := false } (optimize cfg s cons mig cents).1 j = live cfg s j

def cfgBuf : Cfg := ⟨true, true, false⟩
def cfgIdx : Cfg := ⟨false, true, false⟩
def cfgTrk : Cfg := ⟨false, true, true⟩
def cfgOff : Cfg := ⟨false, false, false⟩

/-- buffered: `up 0; up 1; del 1` -/
def sBuf : State :=
  (delete cfgBuf (upsert cfgBuf (upsert cfgBuf {} ⟨0, 1, 1, 0, 0, 0⟩ []).1 ⟨1, 2, 2, 0, 0, 0⟩ []).1 1).1

/-- **C33_counterexample** (finding C33-F1): a buffered id deleted before the first Optimize is live again after it,
    with an empty vector — `Consolidate` re-upserts every buffered id Content still knows, tombstoned or not. -/
theorem C33_counterexample : ¬ Statement_C33_optimize := by
  intro h
  have hgood : Good sBuf :=
    ⟨⟨.nil, fun _ h => (nomatch h), fun i k p hk =>
      (by decide +kernel : ∀ x ∈ sBuf.content, x.2.1.ver ≤ sBuf.ver ∧ x.2.1.nver ≤ sBuf.ver) _
        (Assoc.look_mem afind_isLookup hk)⟩, rfl⟩
  have h1 := h cfgBuf sBuf (fun _ => (1, 7)) (fun _ _ => (-1, 2139095039)) [] 1 hgood (fun _ _ => nofun) (by decide +kernel)
  revert h1
  decide +kernel

/-- (finding C33-F2) the same with the *first* buffered id deleted: `Consolidate` seeds centroid 1 with that id's
    empty vector and the distance routine indexes past its end — Optimize panics -/
theorem C33_witness_buffer_first_deleted_panics :
    (optimize cfgBuf (delete cfgBuf (upsert cfgBuf (upsert cfgBuf {} ⟨0, 1, 1, 0, 0, 0⟩ []).1 ⟨1, 2, 2, 0, 0, 0⟩ []).1 0).1
      (fun _ => (1, 0)) (fun _ _ => (-1, 2139095039)) []).2 = "panic index" := by decide +kernel

/-- count tracking: `up 0; del 0; up 0; del 0; up 0` leaves centroid 1 with count -1 and one live vector -/
def sTrk : State :=
  let u := fun (s : State) (p : Int) => (upsert cfgTrk s ⟨0, 1, p, 0, 1, 0⟩ []).1
  let d := fun (s : State) => (delete cfgTrk s 0).1
  u (d (u (d (u {} 1)) 2)) 3

/-- (finding C33-F5) the next new id divides by zero in the rolling average: its commit is rejected, it is not stored -/
theorem C33_witness_tracking_rejects_upsert :
    afind sTrk.cents 1 = some (-1) ∧ (upsert cfgTrk sTrk ⟨1, 2, 4, 0, 1, 5⟩ []).2 = "err:commit" ∧
    live cfgTrk (upsert cfgTrk sTrk ⟨1, 2, 4, 0, 1, 5⟩ []).1 1 = none := by decide +kernel

/-- count tracking: `up 0 v6; up 1 v6; del 1; del 1` — the second Delete of the tombstoned id decrements again:
    centroid 1 has count 0 with id 0 live (its vector is the slice the centroid was seeded with) -/
def sTrk0 : State :=
  (delete cfgTrk (delete cfgTrk (upsert cfgTrk (upsert cfgTrk {} ⟨0, 6, 1, 0, 1, 0⟩ []).1 ⟨1, 6, 2, 0, 1, 0⟩ []).1 1).1 1).1

/-- (finding C33-F4) the next new id's rolling average `(c*0+v)/1` is exactly its own vector `v8`, and it is written
    through the slice the centroid shares with id 0 (`rw = [(0, 8)]`): the commit succeeds and `Get` of id 0 — never
    touched by the op — returns `v8` instead of its latest vector `v6` -/
theorem C33_witness_tracking_overwrite_exact :
    afind sTrk0.cents 1 = some 0 ∧ live cfgTrk sTrk0 0 = some (6, 1) ∧
    (upsert cfgTrk sTrk0 ⟨2, 8, 3, 0, 1, 1083746799⟩ [(0, 8)]).2 = "ok" ∧
    live cfgTrk (upsert cfgTrk sTrk0 ⟨2, 8, 3, 0, 1, 1083746799⟩ [(0, 8)]).1 0 = some (8, 1) ∧
    live cfgTrk (upsert cfgTrk sTrk0 ⟨2, 8, 3, 0, 1, 1083746799⟩ [(0, 8)]).1 2 = some (8, 3) := by decide +kernel

/-- de-duplication off and an id upserted twice (outside the documented rule "only if you are certain IDs are
    unique"): the old `(centroid, distance, id)` item stays and the id is hit twice -/
theorem C33_witness_dedup_off_duplicate_hit :
    (query cfgOff (upsert cfgOff (upsert cfgOff {} ⟨0, 1, 1, 0, 1, 0⟩ []).1 ⟨0, 3, 2, 0, 1, 5⟩ []).1 10 (fun _ => true) [1]
      (fun v => v)).map (·.id) = [0, 0] := by decide +kernel

/-- the full-strength item-set statement: *every* configuration behaves like the plain map -/
def Statement_C33 : Prop :=
  ∀ (cfg : Cfg) (ops : List Op), (∀ o ∈ ops, OpOk o) →
    ∀ j, live cfg (ops.foldl (step cfg) {}) j = ops.foldl specStep (fun _ => none) j

/-- `Statement_C33` fails with count tracking (the rejected Upsert above) -/
theorem C33_counterexample_tracking : ¬ Statement_C33 := by
  intro h
  have h1 := h cfgTrk
    [.upsert ⟨0, 1, 1, 0, 1, 0⟩, .delete 0, .upsert ⟨0, 1, 2, 0, 1, 0⟩, .delete 0, .upsert ⟨0, 1, 3, 0, 1, 0⟩,
     .upsert ⟨1, 2, 4, 0, 1, 5⟩]
    (by simp only [List.forall_mem_cons, List.not_mem_nil, false_imp_iff, implies_true, OpOk]; decide) 1
  revert h1
  decide +kernel

/-- non-vacuity of `C33_partial`: a program with a live item, a tombstoned item, a migration and an explicit centroid -/
def sampleOps : List Op :=
  [.upsert ⟨0, 1, 1, 0, 1, 0⟩, .batch [⟨1, 2, 2, 0, 1, 5⟩, ⟨2, 3, 3, 0, 1, 9⟩], .delete 1,
   .optimize (fun _ => (0, 0)) (fun i _ => (1, (i : Int) + 3)) [1], .upsert ⟨1, 4, 4, 2, 0, 6⟩]

theorem sampleOps_ok : ∀ o ∈ sampleOps, OpOk o := by
  simp only [sampleOps, List.forall_mem_cons, List.not_mem_nil, false_imp_iff, implies_true, OpOk, MigOk]
  exact ⟨by decide, by decide, trivial, fun _ _ => Int.one_ne_zero, by decide, trivial⟩

example : (List.range 3).map (live cfgIdx (sampleOps.foldl (step cfgIdx) {})) = [some (1, 1), some (4, 4), some (3, 3)] := by
  decide +kernel

example : Inv (sampleOps.foldl (step cfgIdx) {}) := (C33_partial cfgIdx rfl rfl rfl sampleOps sampleOps_ok).1.inv

/-- nor is `C33_query` vacuous on it -/
example : (query cfgIdx (sampleOps.foldl (step cfgIdx) {}) 2 (fun _ => true) [1, 2] (fun v => v)).map (fun h => (h.id, h.score))
    = [(1, 4), (2, 3)] := by decide +kernel

end Sop.C33
