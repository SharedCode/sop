import Sop.Model.StoreRepo
import Sop.Lemmas.Basics
import Sop.Lemmas.StoreRepoLock
import Sop.Model.StoreRepoCommit
/-!
# C12 — creating and removing stores is transactional and complete

Three levels. `Sop.C12`: over `Sop.StoreRepo` (one `StoreRepository` call per step), for `NewBtree` with the root-id check
(`fixed = true`) unless stated otherwise; without the check the loser of a same-name race deletes the winner's store.
`Sop.C12.Lock`: the atomicity of one `StoreRepository.Add` assumed there, over `Sop.StoreRepoLock` (one step per
program point of `Add`), every interleaving; false when the list is read and checked before the lock is taken.
`Sop.C12.Commit`: `Commit` round by round over `Sop.StoreRepoCommit` (conflict round = partial rollback, faults and
crashes inside `NewBtree`, other committers' whole transactions in between).
-/
namespace Sop.C12
open Sop.StoreRepo

theorem has_eq (d : List Store) (n : String) : has d n = decide (n ∈ names d) := by
  rw [Bool.eq_iff_iff]; simp [has, names]

theorem names_filter (d : List Store) (p : String → Bool) :
    names (d.filter fun st => p st.name) = (names d).filter p := by
  simp only [names, List.filter_map]; rfl

theorem eraseAll_eq (ns : List String) : ∀ d : List Store, eraseAll d ns = d.filter fun st => !decide (st.name ∈ ns) := by
  induction ns with
  | nil => intro d; exact (List.filter_eq_self.mpr fun _ _ => by simp).symm
  | cons a as ih =>
    intro d
    show eraseAll (erase d a) as = _
    rw [ih, erase, List.filter_filter]
    exact List.filter_congr fun st _ => by simp [Bool.and_comm, eq_comm]

theorem names_erase (d : List Store) (n : String) : names (erase d n) = (names d).filter fun m => !decide (m = n) :=
  names_filter d fun m => !decide (m = n)

theorem names_eraseAll (d : List Store) (ns : List String) :
    names (eraseAll d ns) = (names d).filter fun m => !decide (m ∈ ns) := by
  rw [eraseAll_eq]; exact names_filter d fun m => !decide (m ∈ ns)

theorem names_append (d : List Store) (st : Store) : names (d ++ [st]) = names d ++ [st.name] := by simp [names]

theorem mem_erase {d : List Store} {n : String} {st : Store} : st ∈ erase d n ↔ st ∈ d ∧ st.name ≠ n := by
  simp [erase]

theorem mem_eraseAll {ns : List String} {d : List Store} {st : Store} : st ∈ eraseAll d ns ↔ st ∈ d ∧ st.name ∉ ns := by
  simp [eraseAll_eq]

theorem has_iff {d : List Store} {n : String} : has d n = true ↔ ∃ st ∈ d, st.name = n := by
  simp [has]

theorem has_false_iff {d : List Store} {n : String} : has d n = false ↔ ∀ st ∈ d, st.name ≠ n := by
  rw [← Bool.not_eq_true, has_iff]; simp

theorem has_append (d : List Store) (st : Store) (n : String) :
    has (d ++ [st]) n = (has d n || decide (st.name = n)) := by
  rw [Bool.eq_iff_iff]; simp [has_eq, names_append, eq_comm (a := n)]

theorem has_erase_eq (d : List Store) (m n : String) : has (erase d m) n = (has d n && !decide (m = n)) := by
  rw [Bool.eq_iff_iff]; simp [has_eq, names_erase, eq_comm (a := n)]

theorem has_eraseAll (ns : List String) (d : List Store) (n : String) :
    has (eraseAll d ns) n = (has d n && !decide (n ∈ ns)) := by
  rw [Bool.eq_iff_iff]; simp [has_eq, names_eraseAll]

theorem has_of_names {d d' : List Store} (h : names d' = names d) (n : String) : has d' n = has d n := by
  rw [has_eq, has_eq, h]

theorem eraseAll_gone {ns : List String} {n : String} (h : n ∈ ns) (d : List Store) : n ∉ names (eraseAll d ns) := by
  rw [names_eraseAll]; simp [h]

theorem lookup_none {d : List Store} {n : String} (h : has d n = false) : lookup d n = none := by
  rw [has_false_iff] at h
  simp only [lookup, List.find?_eq_none, decide_eq_true_eq]
  exact h

theorem lookup_some_mem {d : List Store} {n : String} {st : Store} (h : lookup d n = some st) : st ∈ d ∧ st.name = n := by
  have h1 := List.mem_of_find?_eq_some h
  have h2 := List.find?_some h
  exact ⟨h1, by simpa using h2⟩

theorem has_erase (d : List Store) (n : String) : has (erase d n) n = false := by
  simp [has_erase_eq]

theorem lookup_append_new {d : List Store} {st : Store} (h : has d st.name = false) :
    lookup (d ++ [st]) st.name = some st := by
  have := lookup_none h
  unfold lookup at this ⊢
  simp [List.find?_append, this]

theorem nodup_erase {d : List Store} (n : String) (h : (names d).Nodup) : (names (erase d n)).Nodup := by
  rw [names_erase]; exact h.filter _

theorem nodup_eraseAll {ns : List String} {d : List Store} (h : (names d).Nodup) : (names (eraseAll d ns)).Nodup := by
  rw [names_eraseAll]; exact h.filter _

/-- what identifies a store in the catalogue; a commit changes items and counts, never these -/
def keys (d : List Store) : List (String × Nat × Opts) := d.map fun st => (st.name, st.root, st.opts)

theorem names_keys (d : List Store) : names d = (keys d).map (·.1) := by
  simp only [names, keys, List.map_map]; rfl

theorem mem_keys {d : List Store} {n : String} {r : Nat} {o : Opts} :
    (n, r, o) ∈ keys d ↔ ∃ st ∈ d, st.name = n ∧ st.root = r ∧ st.opts = o := by
  simp only [keys, List.mem_map, Prod.mk.injEq]

theorem keys_map (d : List Store) (f : Store → Store)
    (hf : ∀ st, (f st).name = st.name ∧ (f st).root = st.root ∧ (f st).opts = st.opts) : keys (d.map f) = keys d := by
  simp only [keys, List.map_map]
  exact List.map_congr_left fun st _ => by simp only [Function.comp, hf st]

theorem names_map (d : List Store) (f : Store → Store) (hf : ∀ st, (f st).name = st.name) : names (d.map f) = names d := by
  simp only [names, List.map_map]
  exact List.map_congr_left fun st _ => hf st

theorem keys_applyItems (d : List Store) (x : Opened) : keys (applyItems d x) = keys d := by
  unfold applyItems
  split
  · rfl
  · exact keys_map d _ fun st => by split <;> exact ⟨rfl, rfl, rfl⟩

theorem keys_applyCount (d : List Store) (x : Opened) : keys (applyCount d x) = keys d := by
  unfold applyCount
  split
  · rfl
  · exact keys_map d _ fun st => by split <;> exact ⟨rfl, rfl, rfl⟩

theorem keys_foldl_applyItems (os : List Opened) (d : List Store) : keys (os.foldl applyItems d) = keys d :=
  foldl_keeps keys applyItems keys_applyItems os d

theorem keys_applyCounts (d : List Store) (os : List Opened) : keys (applyCounts d os) = keys d := by
  unfold applyCounts
  split
  · exact foldl_keeps keys applyCount keys_applyCount os d
  · rfl

theorem names_foldl_applyItems (os : List Opened) (d : List Store) : names (os.foldl applyItems d) = names d := by
  rw [names_keys, keys_foldl_applyItems, ← names_keys]

theorem names_applyCounts (d : List Store) (os : List Opened) : names (applyCounts d os) = names d := by
  rw [names_keys, keys_applyCounts, ← names_keys]

theorem nodup_append_new {d : List Store} {st : Store} (h : (names d).Nodup) (hn : has d st.name = false) :
    (names (d ++ [st])).Nodup := by
  rw [has_eq, decide_eq_false_iff_not] at hn
  rw [names_append]
  refine List.nodup_append.mpr ⟨h, List.nodup_cons.mpr ⟨List.not_mem_nil, List.nodup_nil⟩, fun a ha b hb e => hn ?_⟩
  rw [← List.mem_singleton.mp hb, ← e]; exact ha

theorem mem_createdNames {os : List Opened} {o : Opened} (ho : o ∈ os) (hc : o.created = true) : o.name ∈ createdNames os := by
  simp only [createdNames, List.mem_map, List.mem_filter]
  exact ⟨o, ⟨ho, hc⟩, rfl⟩

theorem rollback_removes_created (s : State) (t : Nat) (o : Opened) (ho : o ∈ (s.txn t).opened) (hc : o.created = true) :
    o.name ∉ names (rollbackTxn s t).disk :=
  eraseAll_gone (mem_createdNames ho hc) s.disk

/-- the outcomes that mean "the transaction is over and failed" -/
def aborted (out : String) : Prop :=
  out = "err:commit" ∨ out = "err:exists" ∨ out = "err:incompatible" ∨ out = "err:missing"

def actor : Op → Option Nat
  | .begin t | .new t _ _ | .lookupNew t _ _ | .resume t | .open_ t _ | .add t _ _ _ | .failNext t | .commit t | .rollback t => some t
  | .remove _ => none

def Won (w : Nat) (n : String) (r : Nat) (o : Opts) (s : State) : Prop :=
  (∃ st ∈ s.disk, st.name = n ∧ st.root = r ∧ st.opts = o) ∧ ∀ t', t' ≠ w → n ∉ createdNames (s.txn t').opened

theorem won_rollback {w n r o s} (t : Nat) (ht : t ≠ w) (h : Won w n r o s) : Won w n r o (rollbackTxn s t) := by
  obtain ⟨⟨st, hst, hn, hr, ho⟩, hc⟩ := h
  refine ⟨⟨st, ?_, hn, hr, ho⟩, ?_⟩
  · simp only [rollbackTxn, setTxn]
    exact mem_eraseAll.mpr ⟨hst, by rw [hn]; exact hc t ht⟩
  · intro t' ht'
    simp only [rollbackTxn, setTxn]
    split
    · simp [createdNames]
    · exact hc t' ht'

theorem createdNames_append_opened (os : List Opened) (x : Opened) (hx : x.created = false) :
    createdNames (os ++ [x]) = createdNames os := by
  simp [createdNames, List.filter_append, hx]

theorem createdNames_addLast (os : List Opened) (n : String) (kv : Int × String) :
    createdNames (addLast os n kv) = createdNames os := by
  induction os with
  | nil => rfl
  | cons x xs ih =>
    simp only [addLast]
    split
    · simp only [createdNames, List.filter_cons] at ih ⊢
      split <;> simp [ih]
    · split
      · simp only [createdNames, List.filter_cons]
        cases x.created <;> simp
      · rfl

theorem won_foldl_applyItems {n r o} (os : List Opened) : ∀ (d : List Store),
    (∃ st ∈ d, st.name = n ∧ st.root = r ∧ st.opts = o) → ∃ st ∈ os.foldl applyItems d, st.name = n ∧ st.root = r ∧ st.opts = o :=
  fun d h => mem_keys.mp (keys_foldl_applyItems os d ▸ mem_keys.mpr h)

theorem won_applyCounts {n r o} (d : List Store) (os : List Opened)
    (h : ∃ st ∈ d, st.name = n ∧ st.root = r ∧ st.opts = o) : ∃ st ∈ applyCounts d os, st.name = n ∧ st.root = r ∧ st.opts = o :=
  mem_keys.mp (keys_applyCounts d os ▸ mem_keys.mpr h)

theorem created_append_created (os : List Opened) (n : String) (r : Nat) :
    createdNames (os ++ [{ name := n, root := r, created := true, adds := [] }]) = createdNames os ++ [n] := by
  simp [createdNames, List.filter_append]

/-- the record a finished transaction is left with -/
abbrev over : Txn := { begun := true, done := true, opened := [], pending := none, failCommit := false }

/-- the outcomes of a call after which the transaction goes on -/
def quiet : List String := ["bad-op", "opened", "parked", "ok", "created"]

theorem quiet_badop : "bad-op" ∈ quiet := .head _
theorem quiet_opened : "opened" ∈ quiet := .tail _ (.head _)
theorem quiet_parked : "parked" ∈ quiet := .tail _ (.tail _ (.head _))
theorem quiet_ok : "ok" ∈ quiet := .tail _ (.tail _ (.tail _ (.head _)))
theorem quiet_created : "created" ∈ quiet := .tail _ (.tail _ (.tail _ (.tail _ (.head _))))

theorem not_aborted_quiet {out : String} (h : out ∈ quiet) : ¬ aborted out := by
  simp only [quiet, List.mem_cons, List.not_mem_nil, or_false] at h
  unfold aborted
  rcases h with rfl | rfl | rfl | rfl | rfl <;> decide

/-- What one call of transaction `t` does to the catalogue and to `t`'s own record (nothing else changes). -/
inductive Move (fixed : Bool) (s : State) (t : Nat) : State → String → Prop
  /-- refused, or nothing to do -/
  | same {out} : out ∈ quiet → Move fixed s t s out
  /-- only `t`'s record changes, and it creates nothing -/
  | txn (x : Txn) {out} : (∀ m ∈ createdNames x.opened, m ∈ createdNames (s.txn t).opened) → out ∈ quiet →
      Move fixed s t (setTxn s t x) out
  /-- the transaction ends and its created stores go; without the root-id check a store of the refused name goes too -/
  | rollback (d : List Store) {out} : d = s.disk ∨ (fixed = false ∧ ∃ n, d = erase s.disk n) →
      Move fixed s t (rollbackTxn { s with disk := d } t) out
  | create (st : Store) (x : Txn) : has s.disk st.name = false →
      createdNames x.opened = createdNames (s.txn t).opened ++ [st.name] →
      Move fixed s t (setTxn { s with disk := s.disk ++ [st], next := s.next + 1 } t x) "created"
  | commit : Move fixed s t
      (setTxn { s with disk := applyCounts ((s.txn t).opened.foldl applyItems s.disk) (s.txn t).opened } t over) "ok"

theorem newLookup_move (fixed : Bool) (s : State) (t : Nat) (n : String) (o : Opts) :
    Move fixed s t (newLookup s t n o).1 (newLookup s t n o).2 := by
  fun_cases newLookup s t n o
  · exact .same quiet_badop
  · exact .same quiet_opened
  · exact .txn _ (fun m hm => by rwa [createdNames_append_opened _ _ (by rfl)] at hm) quiet_opened
  · exact .rollback s.disk (.inl rfl)
  · exact .txn _ (fun _ hm => hm) quiet_parked

theorem newResume_move (fixed : Bool) (s : State) (t : Nat) :
    Move fixed s t (newResume fixed s t).1 (newResume fixed s t).2 := by
  fun_cases newResume fixed s t
  · exact .same quiet_badop
  · exact .same quiet_badop
  · next n _ _ _ _ =>
    cases fixed
    · exact .rollback (erase s.disk n) (.inr ⟨rfl, n, rfl⟩)
    · exact .rollback s.disk (.inl rfl)
  · next n o _ hn _ => exact .create _ _ (by simpa using hn) (created_append_created _ n s.next)

theorem openBtree_move (fixed : Bool) (s : State) (t : Nat) (n : String) :
    Move fixed s t (openBtree s t n).1 (openBtree s t n).2 := by
  fun_cases openBtree s t n
  · exact .same quiet_badop
  · exact .same quiet_opened
  · exact .txn _ (fun m hm => by rwa [createdNames_append_opened _ _ (by rfl)] at hm) quiet_opened
  · exact .rollback s.disk (.inl rfl)

theorem addItem_move (fixed : Bool) (s : State) (t : Nat) (n : String) (k : Int) (v : String) :
    Move fixed s t (addItem s t n k v).1 (addItem s t n k v).2 := by
  fun_cases addItem s t n k v
  · exact .same quiet_badop
  · exact .txn _ (fun m hm => by rwa [createdNames_addLast] at hm) quiet_ok
  · exact .same quiet_badop

theorem commit_move (fixed : Bool) (s : State) (t : Nat) : Move fixed s t (commit s t).1 (commit s t).2 := by
  fun_cases commit s t
  · exact .same quiet_badop
  · exact .rollback s.disk (.inl rfl)
  · exact .commit

/-- `NewBtree` is two calls; every other call of a transaction is one move. -/
theorem step_move (fixed : Bool) (s : State) (op : Op) (t : Nat) (ht : actor op = some t) :
    Move fixed s t (step fixed s op).1 (step fixed s op).2 ∨
    ∃ s1, Move fixed s t s1 "parked" ∧ Move fixed s1 t (step fixed s op).1 (step fixed s op).2 := by
  cases op with
  | remove => cases ht
  | begin t' =>
    cases ht; simp only [step]; split
    · exact .inl (.same quiet_badop)
    · exact .inl (.txn _ nofun quiet_ok)
  | new t' n o =>
    cases ht; simp only [step, newBtree]; split
    · next h => exact .inr ⟨_, h ▸ newLookup_move fixed s t n o, newResume_move fixed _ t⟩
    · exact .inl (newLookup_move fixed s t n o)
  | lookupNew t' n o => cases ht; exact .inl (newLookup_move fixed s t n o)
  | resume t' => cases ht; exact .inl (newResume_move fixed s t)
  | open_ t' n => cases ht; exact .inl (openBtree_move fixed s t n)
  | add t' n k v => cases ht; exact .inl (addItem_move fixed s t n k v)
  | failNext t' =>
    cases ht; simp only [step]; split
    · exact .inl (.txn _ (fun _ hm => hm) quiet_ok)
    · exact .inl (.same quiet_badop)
  | commit t' => cases ht; exact .inl (commit_move fixed s t)
  | rollback t' =>
    cases ht; simp only [step]; split
    · exact .inl (.rollback s.disk (.inl rfl))
    · exact .inl (.same quiet_badop)

theorem inv_of_moves {fixed : Bool} {I : State → Prop} (s : State) (op : Op)
    (hmove : ∀ t, actor op = some t → ∀ s s' out, I s → Move fixed s t s' out → I s')
    (hrem : ∀ n, op = .remove n → I s → I { s with disk := erase s.disk n }) (h : I s) : I (step fixed s op).1 := by
  cases ha : actor op with
  | none =>
    cases op with
    | remove n => exact hrem n rfl h
    | _ => cases ha
  | some t =>
    rcases step_move fixed s op t ha with m | ⟨s1, m1, m2⟩
    · exact hmove t ha _ _ _ h m
    · exact hmove t ha _ _ _ (hmove t ha _ _ _ h m1) m2

theorem nodup_move {fixed : Bool} {s s' : State} {t : Nat} {out : String} (h : (names s.disk).Nodup)
    (m : Move fixed s t s' out) : (names s'.disk).Nodup := by
  cases m with
  | same => exact h
  | txn => exact h
  | rollback d hd =>
    refine nodup_eraseAll (d := d) ?_
    rcases hd with rfl | ⟨_, n, rfl⟩
    · exact h
    · exact nodup_erase n h
  | create st x hn => exact nodup_append_new h hn
  | commit => show (names (applyCounts _ _)).Nodup; rw [names_applyCounts, names_foldl_applyItems]; exact h

theorem names_nodup_step (fixed : Bool) (s : State) (op : Op) (h : (names s.disk).Nodup) :
    (names (step fixed s op).1.disk).Nodup :=
  inv_of_moves (I := fun s => (names s.disk).Nodup) s op (fun _ _ _ _ _ h m => nodup_move h m) (fun n _ h => nodup_erase n h) h

theorem aborted_move {fixed : Bool} {s s' : State} {t : Nat} {out : String} (m : Move fixed s t s' out) (hab : aborted out)
    (o : Opened) (ho : o ∈ (s.txn t).opened) (hc : o.created = true) : o.name ∉ names s'.disk := by
  cases m with
  | same h => exact absurd hab (not_aborted_quiet h)
  | txn _ _ h => exact absurd hab (not_aborted_quiet h)
  | rollback d _ => exact rollback_removes_created { s with disk := d } t o ho hc
  | create => exact absurd hab (not_aborted_quiet quiet_created)
  | commit => exact absurd hab (not_aborted_quiet quiet_ok)

theorem won_move {w n r o} {s s' : State} {t : Nat} {out : String} (ht : t ≠ w) (h : Won w n r o s)
    (m : Move true s t s' out) : Won w n r o s' := by
  have other (x : Txn) (hx : ∀ m ∈ createdNames x.opened, m ≠ n) (d : List Store) (nx : Nat) :
      ∀ t', t' ≠ w → n ∉ createdNames ((setTxn { s with disk := d, next := nx } t x).txn t').opened := by
    intro t' ht'
    show n ∉ createdNames (if t' = t then x else s.txn t').opened
    split
    · exact fun hm => hx n hm rfl
    · exact h.2 t' ht'
  cases m with
  | same => exact h
  | txn x hx => exact ⟨h.1, other x (fun m hm e => h.2 t ht (e ▸ hx m hm)) s.disk s.next⟩
  | rollback d hd =>
    rcases hd with rfl | ⟨hf, _⟩
    · exact won_rollback t ht h
    · cases hf
  | create st' x hm hx =>
    obtain ⟨st, hst, hn, hr, ho⟩ := h.1
    have hmn : st'.name ≠ n := fun e => by rw [e, has_iff.mpr ⟨st, hst, hn⟩] at hm; cases hm
    refine ⟨⟨st, List.mem_append_left _ hst, hn, hr, ho⟩, other x (fun k hk e => ?_) _ _⟩
    rw [hx, List.mem_append, List.mem_singleton] at hk
    exact hk.elim (fun hk => h.2 t ht (e ▸ hk)) fun hk => hmn (hk.symm.trans e)
  | commit => exact ⟨won_applyCounts _ _ (won_foldl_applyItems _ _ h.1), other over nofun _ _⟩

theorem won_step {w n r o s} (op : Op) (hact : actor op ≠ some w) (hrm : op ≠ .remove n) (h : Won w n r o s) :
    Won w n r o (step true s op).1 :=
  inv_of_moves (I := Won w n r o) s op (fun t ht _ _ _ h m => won_move (fun e => hact (e ▸ ht)) h m)
    (fun m hm h =>
      have hmn : m ≠ n := fun e => hrm (e ▸ hm)
      have ⟨⟨st, hst, hn, hr, ho⟩, hc⟩ := h
      ⟨⟨st, mem_erase.mpr ⟨hst, by rw [hn]; exact Ne.symm hmn⟩, hn, hr, ho⟩, hc⟩) h

/-- A store created in transaction `t` (an entry of its `btreesBackend` with `created`) is not
in the catalogue after `t` is rolled back explicitly, after its `Commit` fails, or after one of its `NewBtree` /
`OpenBtree` calls fails — with and without the root-id check. -/
theorem create_rollback (fixed : Bool) (s : State) (t : Nat) (o : Opened)
    (ho : o ∈ (s.txn t).opened) (hc : o.created = true) :
    (live (s.txn t) = true → (s.txn t).pending = none → o.name ∉ names (step fixed s (.rollback t)).1.disk) ∧
    (aborted (step fixed s (.commit t)).2 → o.name ∉ names (step fixed s (.commit t)).1.disk) ∧
    (∀ n, aborted (step fixed s (.open_ t n)).2 → o.name ∉ names (step fixed s (.open_ t n)).1.disk) ∧
    (∀ n o', aborted (step fixed s (.lookupNew t n o')).2 → o.name ∉ names (step fixed s (.lookupNew t n o')).1.disk) ∧
    (aborted (step fixed s (.resume t)).2 → o.name ∉ names (step fixed s (.resume t)).1.disk) := by
  refine ⟨fun hl hp => ?_, fun hab => aborted_move (commit_move fixed s t) hab o ho hc,
    fun n hab => aborted_move (openBtree_move fixed s t n) hab o ho hc,
    fun n o' hab => aborted_move (newLookup_move fixed s t n o') hab o ho hc,
    fun hab => aborted_move (newResume_move fixed s t) hab o ho hc⟩
  simp only [step, hl, hp, Option.isSome_none, Bool.not_false, Bool.and_self, ↓reduceIte]
  exact rollback_removes_created s t o ho hc

/-- After the winner `w` created store `n`, every sequence of steps of other transactions — any number of `NewBtree(n)`
lookups and `Add`s in any interleaving, with their failure paths, opens, item adds, rollbacks, commits — and
`RemoveBtree`s of other names leaves a store named `n` with the winner's root id and options in the catalogue; with
`names_nodup_step` it is the only one of that name. -/
theorem create_race_all {w n r o} (ops : List Op) : ∀ (s : State), Won w n r o s →
    (∀ op ∈ ops, actor op ≠ some w ∧ op ≠ .remove n) → Won w n r o (run true s ops) := by
  induction ops with
  | nil => intro s h _; exact h
  | cons op ops ih =>
    intro s h hops
    exact ih _ (won_step op (hops op List.mem_cons_self).1 (hops op List.mem_cons_self).2 h)
      fun op' hop' => hops op' (List.mem_cons_of_mem _ hop')

/-- `create_race_all` for sequences in which no other transaction commits. -/
theorem create_race {w n r o} (ops : List Op) : ∀ (s : State), Won w n r o s →
    (∀ op ∈ ops, actor op ≠ some w ∧ op ≠ .remove n ∧ ∀ t, op ≠ .commit t) → Won w n r o (run true s ops) :=
  fun s h hops => create_race_all ops s h fun op hop => ⟨(hops op hop).1, (hops op hop).2.1⟩

/-- `StoreRepository.Add` of an absent name, as the second half of `NewBtree` -/
theorem newResume_created (fixed : Bool) (s : State) (w : Nat) (n : String) (o : Opts)
    (hl : live (s.txn w) = true) (hp : (s.txn w).pending = some (n, o)) (hn : has s.disk n = false) :
    newResume fixed s w =
      (setTxn { s with disk := s.disk ++ [{ name := n, root := s.next, opts := o.norm, count := 0, items := [] }], next := s.next + 1 } w
        { s.txn w with pending := none, opened := (s.txn w).opened ++ [{ name := n, root := s.next, created := true, adds := [] }] }, "created") := by
  unfold newResume
  simp only [hl, hp, hn, Bool.not_true, Bool.false_eq_true, ↓reduceIte]

/-- The first `Add` to run establishes `Won`, the premise of `create_race`. -/
theorem create_race_first_add_wins (fixed : Bool) (s : State) (w : Nat) (n : String) (o : Opts)
    (hl : live (s.txn w) = true) (hp : (s.txn w).pending = some (n, o)) (hn : has s.disk n = false)
    (hstale : ∀ t', t' ≠ w → n ∉ createdNames (s.txn t').opened) :
    (newResume fixed s w).2 = "created" ∧
    lookup (newResume fixed s w).1.disk n = some { name := n, root := s.next, opts := o.norm, count := 0, items := [] } ∧
    Won w n s.next o.norm (newResume fixed s w).1 := by
  rw [newResume_created fixed s w n o hl hp hn]
  refine ⟨rfl, lookup_append_new (st := { name := n, root := s.next, opts := o.norm, count := 0, items := [] }) hn,
    ⟨_, List.mem_append_right _ List.mem_cons_self, rfl, rfl, rfl⟩, fun t' ht' => ?_⟩
  simp only [setTxn, ht', ↓reduceIte]
  exact hstale t' ht'

/-- `NewBtree` without the root-id check (`fixed = false`): transactions 1 and 2 both look `sa` up before either adds it; 1 adds it (and wins),
2's `Add` is refused and its cleanup removes the store by name: the catalogue is empty although 1 can still commit. -/
def raceOps : List Op :=
  [.begin 1, .begin 2, .lookupNew 1 "sa" ⟨4, true⟩, .lookupNew 2 "sa" ⟨4, true⟩, .resume 1, .resume 2]

theorem create_race_legacy_counterexample :
    names (run false {} raceOps).disk = [] ∧ (step false (run false {} raceOps) (.commit 1)).2 = "ok" := by
  decide

theorem create_race_fixed_witness : names (run true {} raceOps).disk = ["sa"] := by
  decide

/-- `RemoveBtree(n)` then `NewBtree(n, o')` by a live transaction reports a creation, and the catalogue's store `n` is
a fresh one — new root id, the requested (normalised) options, no items, count 0 — whatever store `n` was before. -/
theorem remove_complete (fixed : Bool) (s : State) (t : Nat) (n : String) (o' : Opts)
    (hl : live (s.txn t) = true) (hp : (s.txn t).pending = none) :
    let s1 := (step fixed s (.remove n)).1
    let r := step fixed s1 (.new t n o')
    r.2 = "created" ∧
    lookup r.1.disk n = some { name := n, root := s.next, opts := o'.norm, count := 0, items := [] } := by
  intro s1 r
  have hno : has s1.disk n = false := has_erase s.disk n
  have hlk : newLookup s1 t n o' = (setTxn s1 t { s1.txn t with pending := some (n, o') }, "parked") := by
    unfold newLookup
    have : s1.txn t = s.txn t := rfl
    simp only [this, hl, hp, Option.isSome_none, Bool.not_true, Bool.or_self, Bool.false_eq_true, ↓reduceIte, lookup_none hno]
  have hr : r = newResume fixed (setTxn s1 t { s1.txn t with pending := some (n, o') }) t := by
    show newBtree fixed s1 t n o' = _
    unfold newBtree
    simp only [hlk, ↓reduceIte]
  rw [hr, newResume_created fixed (setTxn s1 t { s1.txn t with pending := some (n, o') }) t n o'
    (by simp only [setTxn, ↓reduceIte]; exact hl) (by simp [setTxn]) hno]
  exact ⟨rfl, lookup_append_new (st := { name := n, root := s.next, opts := o'.norm, count := 0, items := [] }) hno⟩

/-- non-vacuity of `create_race`'s premise: the race above, with the check -/
example : Won 1 "sa" 1 ⟨4, true⟩ (run true {} [.begin 1, .begin 2, .lookupNew 1 "sa" ⟨4, true⟩, .lookupNew 2 "sa" ⟨4, true⟩, .resume 1]) := by
  refine ⟨⟨{ name := "sa", root := 1, opts := ⟨4, true⟩, count := 0, items := [] }, by decide, rfl, rfl, rfl⟩, ?_⟩
  intro t' _
  by_cases h2 : t' = 2
  · subst h2; decide
  · by_cases h1 : t' = 1
    · subst h1; contradiction
    · simp [run, step, newLookup, newResume, setTxn, live, lookup, has, createdNames, h1, h2]

end Sop.C12

namespace Sop.C12.Lock
open Sop.StoreRepoLock

/-- `outside = false`: the code's order, check and write under the lock. -/
def Statement_add_race (outside : Bool) : Prop :=
  ∀ (s0 : State) (sched : List Nat), Start s0 →
    let s := run outside s0 sched
    (∀ i j, told (s.actor i) → told (s.actor j) → (s.actor i).name = (s.actor j).name → i = j) ∧
    -- store list, store info file, cache entry
    (∀ i, told (s.actor i) → (s.actor i).name ∈ s.list ∧ s.info (s.actor i).name = some (s.actor i).inf ∧
      s.cache (s.actor i).name = some (s.actor i).inf) ∧
    (∀ n, n ∈ s0.list → n ∈ s.list) ∧
    (∀ i, s.lock = some i ↔ inCS (s.actor i).pc = true)

theorem add_race_locked : Statement_add_race false := by
  intro s0 sched h0
  have h := inv_run sched (inv_start h0)
  refine ⟨?_, ?_, ?_, h.hold⟩
  · intro i j hi hj hn
    exact h.uniq i j (Or.inr (Or.inr hi)) (Or.inr (Or.inr hj)) hn
  · intro i hi
    have := h.own i (Or.inr (Or.inr hi))
    exact ⟨this.1, this.2.1, this.2.2 (by rw [hi.1]; simp)⟩
  · intro n hn
    exact (h.src n).mpr (Or.inl hn)

theorem add_race_list_exact (s0 : State) (sched : List Nat) (h0 : Start s0)
    (hdone : ∀ k, ((run false s0 sched).actor k).pc = .done) (n : String) :
    n ∈ (run false s0 sched).list ↔ n ∈ s0.list ∨ ∃ i, told ((run false s0 sched).actor i) ∧ ((run false s0 sched).actor i).name = n := by
  have h := inv_run sched (inv_start h0)
  rw [h.src n]
  constructor
  · rintro (hb | ⟨i, ho, hn⟩)
    · exact Or.inl hb
    · rcases ho with ho | ho | ho
      · rw [hdone i] at ho; cases ho
      · rw [hdone i] at ho; cases ho
      · exact Or.inr ⟨i, ho, hn⟩
  · rintro (hb | ⟨i, ht, hn⟩)
    · exact Or.inl hb
    · exact Or.inr ⟨i, Or.inr (Or.inr ht), hn⟩

theorem add_race_exactly_one (s0 : State) (sched : List Nat) (h0 : Start s0)
    (hdone : ∀ k, ((run false s0 sched).actor k).pc = .done) (i : Nat)
    (hres : ((run false s0 sched).actor i).res = .exists_) (hnew : ((run false s0 sched).actor i).name ∉ s0.list) :
    ∃ j, (told ((run false s0 sched).actor j) ∧ ((run false s0 sched).actor j).name = ((run false s0 sched).actor i).name) ∧
      ∀ j', told ((run false s0 sched).actor j') ∧ ((run false s0 sched).actor j').name = ((run false s0 sched).actor i).name → j' = j := by
  have h := inv_run sched (inv_start h0)
  have hin := h.refused i (Or.inr ⟨hdone i, hres⟩)
  rcases (add_race_list_exact s0 sched h0 hdone _).mp hin with hb | ⟨j, ht, hn⟩
  · exact absurd hb hnew
  · refine ⟨j, ⟨ht, hn⟩, ?_⟩
    rintro j' ⟨ht', hn'⟩
    exact h.uniq j' j (Or.inr (Or.inr ht')) (Or.inr (Or.inr ht)) (hn'.trans hn.symm)

/-! the check-outside-the-lock order: creator 1 reads the list and passes the check, a third party (3) adds `sb`,
creator 2 adds `sa`, creator 1 takes the lock and writes from its stale snapshot -/

def raceStart : State :=
  { list := ["so"],
    actor := fun i =>
      if i = 1 then { kind := .add, name := "sa", inf := ⟨1, 4, true⟩, pc := .init }
      else if i = 2 then { kind := .add, name := "sa", inf := ⟨2, 8, false⟩, pc := .init }
      else if i = 3 then { kind := .add, name := "sb", inf := ⟨3, 8, false⟩, pc := .init }
      else {} }

def raceSched : List Nat := [1, 1, 1] ++ List.replicate 7 3 ++ List.replicate 7 2 ++ List.replicate 4 1

theorem raceStart_start : Start raceStart := by
  refine ⟨rfl, fun i => ?_⟩
  by_cases h1 : i = 1
  · subst h1; exact ⟨rfl, Or.inl rfl⟩
  · by_cases h2 : i = 2
    · subst h2; exact ⟨rfl, Or.inl rfl⟩
    · by_cases h3 : i = 3
      · subst h3; exact ⟨rfl, Or.inl rfl⟩
      · simp [raceStart, h1, h2, h3]

/-- what the stale snapshot does: both creators of `sa` are told they created it, the store info file and the cache
entry are creator 1's although creator 2 was told first, and the third party's `sb` is gone from the list -/
theorem add_race_outside_witness :
    let s := run true raceStart raceSched
    ((s.actor 1).pc = .done ∧ (s.actor 1).res = .created) ∧ ((s.actor 2).pc = .done ∧ (s.actor 2).res = .created) ∧
    ((s.actor 3).pc = .done ∧ (s.actor 3).res = .created) ∧
    s.info "sa" = some ⟨1, 4, true⟩ ∧ s.cache "sa" = some ⟨1, 4, true⟩ ∧ s.list = ["so", "sa"] := by
  decide +kernel

/-- the corresponding schedule on the code's order (creator 1 parked right before `DualLock`): creator 1 is refused,
nothing is lost -/
theorem add_race_locked_witness :
    let s := run false raceStart ([1] ++ List.replicate 7 3 ++ List.replicate 7 2 ++ List.replicate 4 1)
    ((s.actor 1).pc = .done ∧ (s.actor 1).res = .exists_) ∧
    ((s.actor 2).pc = .done ∧ (s.actor 2).res = .created) ∧ ((s.actor 3).pc = .done ∧ (s.actor 3).res = .created) ∧
    s.info "sa" = some ⟨2, 8, false⟩ ∧ s.cache "sa" = some ⟨2, 8, false⟩ ∧ s.list = ["so", "sb", "sa"] := by
  decide +kernel

theorem add_race_outside_counterexample : ¬ Statement_add_race true := by
  intro h
  have hw := add_race_outside_witness
  have := (h raceStart raceSched raceStart_start).1 1 2 hw.1 hw.2.1 (by decide +kernel)
  exact absurd this (by decide)

end Sop.C12.Lock

namespace Sop.C12.Commit
open Sop.StoreRepo (Store Opened Opts has erase eraseAll names createdNames lookup applyCounts applyItems addLast insertSorted)
open Sop.StoreRepoCommit

/-- `N` = the names `T` may create. The other transactions create no store of such a name and do not `RemoveBtree`
one: either would change a store `T` created under `T`'s feet (`create_race` likewise excludes `RemoveBtree` of the
winner's name). -/
def Calm (N : List String) : Op → Prop
  | .new n _ => n ∈ N
  | .newLog n _ _ => n ∈ N
  | .newAdd n _ _ => n ∈ N
  | .otherNew n _ => n ∉ N
  | .otherRemove n => n ∉ N
  | _ => True

structure CInv (N : List String) (s : StoreRepoCommit.State) : Prop where
  sub : ∀ n ∈ created s, n ∈ N
  idle : s.phase = .idle → created s = []
  live : s.phase = .live → (created s ≠ [] → s.logged = true) ∧ ∀ n ∈ created s, has s.disk n = true
  retry : s.phase = .retry → ∀ n ∈ created s, has s.disk n = false
  failed : s.phase = .failed → ∀ n ∈ created s, has s.disk n = false
  committed : s.phase = .committed → ∀ n ∈ created s, has s.disk n = true

/-- the rollback will remove the created stores (the log state is set when there are any), or they are gone already -/
abbrev WillBeGone (s : StoreRepoCommit.State) : Prop :=
  (created s ≠ [] → s.logged = true) ∨ ∀ n ∈ created s, has s.disk n = false

theorem removeCreated_gone {s : StoreRepoCommit.State}
    (h : WillBeGone s) :
    ∀ n ∈ created s, has (removeCreated s) n = false := by
  intro n hn
  unfold removeCreated
  split
  · rw [has_eq]; exact decide_eq_false (eraseAll_gone hn s.disk)
  · rename_i hl
    rcases h with h | h
    · exact absurd (h (List.ne_nil_of_mem hn)) hl
    · exact h n hn

theorem created_finalRollback (s : StoreRepoCommit.State) : created (finalRollback s) = created s := rfl

/-- Facts about the names `T`'s `Add` was ever performed for (`everAdded`, a ghost field). `durable` is the point of
writing the `createStore` record BEFORE `StoreRepository.Add`: while `T` runs, a store it added that is on disk has
its record in the transaction log, so that a recovery which knows nothing but the log can remove it. -/
structure DInv (N : List String) (s : StoreRepoCommit.State) : Prop where
  esub : ∀ n ∈ s.everAdded, n ∈ N
  idle : s.phase = .idle → s.everAdded = []
  noPA : s.pendingAdd = none
  tracked : (s.phase = .live ∨ s.phase = .retry) → ∀ n ∈ s.everAdded, n ∈ created s ∨ has s.disk n = false
  durable : (s.phase = .live ∨ s.phase = .retry ∨ s.phase = .crashed) → ∀ n ∈ s.everAdded, has s.disk n = true → n ∈ s.tlog
  pend : ∀ n o, s.pendingLog = some (n, o) → n ∈ s.tlog ∧ s.logged = true ∧ s.phase = .live
  gone : (s.phase = .failed ∨ s.phase = .recovered) → ∀ n ∈ s.everAdded, has s.disk n = false

theorem has_removeCreated_false {s : StoreRepoCommit.State} {n : String} (h : has s.disk n = false) : has (removeCreated s) n = false := by
  unfold removeCreated; split
  · simp [has_eraseAll, h]
  · exact h

/-- what `CInv` says of the created stores in phase `p` -/
def CAt (s : StoreRepoCommit.State) : Phase → Prop
  | .idle => created s = []
  | .live => (created s ≠ [] → s.logged = true) ∧ ∀ n ∈ created s, has s.disk n = true
  | .retry | .failed => ∀ n ∈ created s, has s.disk n = false
  | .committed => ∀ n ∈ created s, has s.disk n = true
  | .crashed | .recovered => True

/-- `CInv` of a state whose phase is known: the one clause of that phase -/
theorem CInv.of_phase {N : List String} {s : StoreRepoCommit.State} (p : Phase) (hp : s.phase = p)
    (sub : ∀ n ∈ created s, n ∈ N) (h : CAt s p) : CInv N s := by
  subst hp
  refine ⟨sub, ?_, ?_, ?_, ?_, ?_⟩ <;> intro hq <;> rw [hq] at h <;> exact h

def DAt (s : StoreRepoCommit.State) : Phase → Prop
  | .idle => s.everAdded = []
  | .live | .retry => (∀ n ∈ s.everAdded, n ∈ created s ∨ has s.disk n = false) ∧
      ∀ n ∈ s.everAdded, has s.disk n = true → n ∈ s.tlog
  | .crashed => ∀ n ∈ s.everAdded, has s.disk n = true → n ∈ s.tlog
  | .failed | .recovered => ∀ n ∈ s.everAdded, has s.disk n = false
  | .committed => True

theorem DInv.of_phase {N : List String} {s : StoreRepoCommit.State} (p : Phase) (hp : s.phase = p)
    (esub : ∀ n ∈ s.everAdded, n ∈ N) (noPA : s.pendingAdd = none)
    (pend : ∀ n o, s.pendingLog = some (n, o) → n ∈ s.tlog ∧ s.logged = true ∧ s.phase = .live) (h : DAt s p) : DInv N s := by
  subst hp
  refine ⟨esub, fun hq => ?_, noPA, fun hq => ?_, fun hq => ?_, pend, fun hq => ?_⟩
  · rw [hq] at h; exact h
  · rcases hq with hq | hq <;> rw [hq] at h <;> exact h.1
  · rcases hq with hq | hq | hq <;> rw [hq] at h
    · exact h.2
    · exact h.2
    · exact h
  · rcases hq with hq | hq <;> rw [hq] at h <;> exact h

/-- What a move `s → s'` keeps, as two implications because `cinv_step` is stated without `DInv`: `CInv` of `s'` (each
`keeps_*` takes `CInv N s` itself), given that a pending `createStore` record means the log state is set — `DInv.pend`
supplies that in `inv2_step` —, and `DInv` of `s'` from `DInv` of `s`. -/
def Keeps (N : List String) (s s' : StoreRepoCommit.State) : Prop :=
  ((s.pendingLog.isSome = true → s.logged = true) → CInv N s') ∧ (DInv N s → DInv N s')

/-- a move that does not look at the pending record -/
theorem Keeps.of {N : List String} {s s' : StoreRepoCommit.State} (c : CInv N s') (d : DInv N s → DInv N s') : Keeps N s s' :=
  ⟨fun _ => c, d⟩

/-- the live rollback, from the state `s` the failing call has reached -/
theorem keeps_final {N : List String} {s0 s : StoreRepoCommit.State} (hsub : ∀ n ∈ created s, n ∈ N) (h : WillBeGone s)
    (hd : DInv N s0 → (∀ n ∈ s.everAdded, n ∈ N) ∧ ∀ n ∈ s.everAdded, n ∈ created s ∨ has s.disk n = false) :
    Keeps N s0 (finalRollback s) := by
  have gone : ∀ n ∈ created s, has (removeCreated s) n = false := removeCreated_gone h
  refine .of (.of_phase .failed rfl hsub gone) fun hd0 => ?_
  obtain ⟨hes, ht⟩ := hd hd0
  exact .of_phase .failed rfl hes rfl nofun fun n hn => (ht n hn).elim (gone n) has_removeCreated_false

/-- another committer changes the catalogue, not the names of `N` -/
theorem keeps_env {N : List String} {s : StoreRepoCommit.State} (hc : CInv N s) (d' : List Store) (nx : Nat)
    (hd : ∀ n ∈ N, has d' n = has s.disk n) : Keeps N s { s with disk := d', next := nx } := by
  have hd' : ∀ n ∈ created s, has d' n = has s.disk n := fun n hn => hd n (hc.sub n hn)
  refine .of ⟨hc.sub, hc.idle, fun hp => ⟨(hc.live hp).1, fun n hn => ?_⟩, fun hp n hn => ?_, fun hp n hn => ?_,
      fun hp n hn => ?_⟩
    fun h => ⟨h.esub, h.idle, h.noPA, fun hp n hn => ?_, fun hp n hn hh => ?_, h.pend, fun hp n hn => ?_⟩
  · exact (hd' n hn).trans ((hc.live hp).2 n hn)
  · exact (hd' n hn).trans (hc.retry hp n hn)
  · exact (hd' n hn).trans (hc.failed hp n hn)
  · exact (hd' n hn).trans (hc.committed hp n hn)
  · exact (h.tracked hp n hn).imp_right (hd n (h.esub n hn)).trans
  · exact h.durable hp n hn ((hd n (h.esub n hn)).symm.trans hh)
  · exact (hd n (h.esub n hn)).trans (h.gone hp n hn)

/-- a B-tree is attached or gets an item: the created names stay -/
theorem keeps_reopen {N : List String} {s : StoreRepoCommit.State} (hc : CInv N s) (os : List Opened)
    (hos : createdNames os = created s) : Keeps N s { s with opened := os } := by
  have e : created { s with opened := os } = created s := hos
  refine .of ⟨?_, ?_, ?_, ?_, ?_, ?_⟩ fun h => ⟨h.esub, h.idle, h.noPA, ?_, h.durable, h.pend, h.gone⟩
  · rw [e]; exact hc.sub
  · rw [e]; exact hc.idle
  · rw [e]; exact hc.live
  · rw [e]; exact hc.retry
  · rw [e]; exact hc.failed
  · rw [e]; exact hc.committed
  · rw [e]; exact h.tracked

theorem keeps_begin {N : List String} {s : StoreRepoCommit.State} (hc : CInv N s) (hp : s.phase = .idle) :
    Keeps N s { s with phase := .live } := by
  have none : ∀ n, n ∉ created s := fun n hn => by rw [hc.idle hp] at hn; cases hn
  refine .of (.of_phase .live rfl hc.sub ⟨fun hne => absurd (hc.idle hp) hne, fun n hn => absurd hn (none n)⟩)
    fun h => .of_phase .live rfl h.esub h.noPA (fun n o hpl => ?_) ?_
  · have := (h.pend n o hpl).2.2; rw [hp] at this; cases this
  · have none' : ∀ n, n ∉ s.everAdded := fun n hn => by rw [h.idle hp] at hn; cases hn
    exact ⟨fun n hn => absurd hn (none' n), fun n hn => absurd hn (none' n)⟩

/-- `T` adds the store `st` of a name `n ∈ N`: `NewBtree` in one step, or `StoreRepository.Add` after the `createStore`
record was written (then `hl` and `hrec` come from the pending record). -/
theorem keeps_create {N : List String} {s s' : StoreRepoCommit.State} (hc : CInv N s) {n : String} {st : Store}
    (hn : n ∈ N) (hst : st.name = n) (hpl : s.phase = .live) (hp : s'.phase = .live)
    (hd : s'.disk = s.disk ++ [st]) (hcr : created s' = created s ++ [n]) (he : s'.everAdded = s.everAdded ++ [n])
    (hl : (s.pendingLog.isSome = true → s.logged = true) → s'.logged = true)
    (hrec : DInv N s → n ∈ s'.tlog) (htl : ∀ m ∈ s.tlog, m ∈ s'.tlog)
    (hpe : s'.pendingLog = none) (hpa : s'.pendingAdd = s.pendingAdd) : Keeps N s s' := by
  have sub' {l : List String} (hl : ∀ m ∈ l, m ∈ N) : ∀ m ∈ l ++ [n], m ∈ N := fun m hm =>
    (List.mem_append.mp hm).elim (hl m) fun hm => List.mem_singleton.mp hm ▸ hn
  refine ⟨fun hpend => .of_phase .live hp (hcr ▸ sub' hc.sub) ⟨fun _ => hl hpend, ?_⟩,
    fun h => .of_phase .live hp (he ▸ sub' h.esub) (hpa.trans h.noPA) (fun m o hx => by rw [hpe] at hx; cases hx) ⟨?_, ?_⟩⟩
  · intro m hm; rw [hcr] at hm; rw [hd]
    rcases List.mem_append.mp hm with hm | hm
    · simp [has_append, (hc.live hpl).2 m hm]
    · simp [has_append, List.mem_singleton.mp hm, hst]
  · intro m hm; rw [he] at hm; rw [hcr, hd]
    rcases List.mem_append.mp hm with hm | hm
    · rcases h.tracked (.inl hpl) m hm with hcm | hf
      · exact .inl (List.mem_append.mpr (.inl hcm))
      · by_cases hmn : m = n
        · exact .inl (List.mem_append.mpr (.inr (List.mem_singleton.mpr hmn)))
        · exact .inr (by simp [has_append, hf, hst, Ne.symm hmn])
    · exact .inl (List.mem_append.mpr (.inr hm))
  · intro m hm hh; rw [he] at hm; rw [hd] at hh
    by_cases hmn : m = n
    · rw [hmn]; exact hrec h
    · rcases List.mem_append.mp hm with hm | hm
      · simp only [has_append, hst, Ne.symm hmn, decide_false, Bool.or_false] at hh
        exact htl m (h.durable (.inl hpl) m hm hh)
      · exact absurd (List.mem_singleton.mp hm) hmn

/-- the `createStore` record of `NewBtree(n)` is written -/
theorem keeps_logged {N : List String} {s : StoreRepoCommit.State} (hc : CInv N s) (n : String) (o : Opts)
    (hpl : s.phase = .live) :
    Keeps N s { s with logged := true, tlog := s.tlog ++ [n], pendingLog := some (n, o) } := by
  refine .of (.of_phase .live hpl hc.sub ⟨fun _ => rfl, (hc.live hpl).2⟩)
    fun h => .of_phase .live hpl h.esub h.noPA (fun m o' hx => ?_)
      ⟨h.tracked (.inl hpl), fun m hm hh => List.mem_append.mpr (.inl (h.durable (.inl hpl) m hm hh))⟩
  simp only [Option.some.injEq, Prod.mk.injEq] at hx
  exact ⟨List.mem_append.mpr (.inr (by rw [← hx.1]; exact List.mem_singleton.mpr rfl)), rfl, hpl⟩

/-- a conflict round: the round logged `lockTrackedItems`, the partial rollback removes the created stores -/
theorem keeps_conflict {N : List String} {s : StoreRepoCommit.State} (hc : CInv N s)
    (hp : s.phase = .live ∨ s.phase = .retry) (hnp : s.pendingLog = none) :
    Keeps N s (partialRollback false { s with logged := true }) := by
  have gone : ∀ n ∈ created s, has (removeCreated { s with logged := true }) n = false :=
    removeCreated_gone (s := { s with logged := true }) (.inl fun _ => rfl)
  refine .of (.of_phase .retry rfl hc.sub gone) fun h => ?_
  have hgone : ∀ n ∈ s.everAdded, has (removeCreated { s with logged := true }) n = false := fun n hn =>
    (h.tracked hp n hn).elim (gone n) (has_removeCreated_false (s := { s with logged := true }))
  refine .of_phase .retry rfl h.esub h.noPA (fun n o hx => ?_) ⟨fun n hn => .inr (hgone n hn), fun n hn hh => ?_⟩
  · simp only [partialRollback] at hx; rw [hnp] at hx; cases hx
  · have := hgone n hn
    simp only [partialRollback, Bool.false_eq_true, if_false] at hh
    rw [this] at hh; cases hh

theorem keeps_commitOk {N : List String} {s : StoreRepoCommit.State} (hc : CInv N s)
    (hall : ∀ n ∈ created s, has s.disk n = true) (hnp : s.pendingLog = none) : Keeps N s (commitOk s) := by
  have hnames : names (applyCounts (s.opened.foldl applyItems s.disk) s.opened) = names s.disk := by
    rw [names_applyCounts, names_foldl_applyItems]
  refine .of (.of_phase .committed rfl hc.sub fun n hn => ?_)
    fun h => .of_phase .committed rfl h.esub h.noPA (fun n o hx => ?_) trivial
  · show has (applyCounts (s.opened.foldl applyItems s.disk) s.opened) n = true
    rw [has_of_names hnames]; exact hall n hn
  · simp only [commitOk] at hx; rw [hnp] at hx; cases hx

/-- the process dies: the disk and the transaction log stay -/
theorem keeps_crash {N : List String} {s : StoreRepoCommit.State} (hp : s.phase = .live ∨ s.phase = .retry) :
    Keeps N s { s with phase := .crashed, opened := [], logged := false, pendingLog := none, pendingAdd := none } :=
  .of (.of_phase .crashed rfl nofun trivial)
    fun h => .of_phase .crashed rfl h.esub rfl nofun fun n hn hh => h.durable (hp.elim .inl (.inr ∘ .inl)) n hn hh

/-- the expired-log recovery removes the store of every `createStore` record -/
theorem keeps_recover {N : List String} {s : StoreRepoCommit.State} (hc : CInv N s) (hp : s.phase = .crashed) :
    Keeps N s { s with disk := eraseAll s.disk s.tlog, tlog := [], phase := .recovered } := by
  refine .of (.of_phase .recovered rfl hc.sub trivial)
    fun h => .of_phase .recovered rfl h.esub h.noPA (fun n o hx => ?_) fun n hn => ?_
  · have := (h.pend n o hx).2.2; rw [hp] at this; cases this
  · show has (eraseAll s.disk s.tlog) n = false
    cases hh : has s.disk n with
    | false => simp [has_eraseAll, hh]
    | true => simp [has_eraseAll, h.durable (.inr (.inr hp)) n hn hh]

/-- `StoreRepository.Add` was performed and reported an error: `NewBtree` finds its own store (the root id it generated),
removes it, and the live rollback follows -/
theorem keeps_addUndone {N : List String} {s : StoreRepoCommit.State} (hc : CInv N s) {n : String} (o : Opts) (hn : n ∈ N)
    (hpl : s.phase = .live) (hnot : has s.disk n = false) :
    Keeps N s (addFailed { s with disk := s.disk ++ [newStore s n o], next := s.next + 1, everAdded := s.everAdded ++ [n] } n s.next) := by
  have hlk : lookup (s.disk ++ [newStore s n o]) n = some (newStore s n o) := lookup_append_new (st := newStore s n o) hnot
  have : addFailed { s with disk := s.disk ++ [newStore s n o], next := s.next + 1, everAdded := s.everAdded ++ [n] } n s.next
      = finalRollback { s with disk := erase (s.disk ++ [newStore s n o]) n, next := s.next + 1, everAdded := s.everAdded ++ [n] } := by
    simp only [addFailed, hlk]
    simp [newStore]
  rw [this]
  refine keeps_final
    (s := { s with disk := erase (s.disk ++ [newStore s n o]) n, next := s.next + 1, everAdded := s.everAdded ++ [n] })
    hc.sub (.inl (hc.live hpl).1) fun hd => ⟨?_, ?_⟩
  · intro m hm
    rcases List.mem_append.mp hm with hm | hm
    · exact hd.esub m hm
    · rw [List.mem_singleton.mp hm]; exact hn
  · intro m hm
    rcases List.mem_append.mp hm with hm | hm
    · rcases hd.tracked (.inl hpl) m hm with hcm | hf
      · exact .inl hcm
      · by_cases hmn : m = n
        · rw [hmn]; exact .inr (has_erase _ n)
        · exact .inr (by simp [has_erase_eq, has_append, hf, newStore, Ne.symm hmn])
    · rw [List.mem_singleton.mp hm]; exact .inr (has_erase _ n)

/-- Every branch of `step` (the code's variant) is one of the moves above, or changes nothing. -/
theorem step_keeps {N : List String} {s : StoreRepoCommit.State} (hc : CInv N s) (op : StoreRepoCommit.Op)
    (hcalm : Calm N op) : Keeps N s (step {} s op).1 := by
  have keep : Keeps N s s := .of hc id
  -- the live rollback, after the log state and the log were set to `l`, `tl`
  have rb' (l : Bool) (tl : List String) (hph : s.phase = .live ∨ s.phase = .retry)
      (hl : WillBeGone { s with logged := l, tlog := tl }) :
      Keeps N s (finalRollback { s with logged := l, tlog := tl }) :=
    keeps_final (s := { s with logged := l, tlog := tl }) hc.sub hl fun hd => ⟨hd.esub, hd.tracked hph⟩
  have rb (hp : s.phase = .live) := rb' s.logged s.tlog (.inl hp) (.inl (hc.live hp).1)
  -- what the guard of `NewBtree` / `OpenBtree` says when it lets the call through
  have live {a b : Prop} (h : ¬(s.phase ≠ .live ∨ a ∨ b)) : s.phase = .live := Decidable.not_not.mp fun hne => h (.inl hne)
  have noPending {b : Prop} (h : ¬(s.phase ≠ .live ∨ s.pendingLog.isSome = true ∨ b)) : s.pendingLog = none :=
    Option.not_isSome_iff_eq_none.mp fun hs => h (.inr (.inl hs))
  revert hcalm
  fun_cases StoreRepoCommit.step {} s op
  all_goals intro hcalm
  -- begin
  · next hp => exact keeps_begin hc hp
  · exact keep
  -- new: refused; exists (attached already / attached now / other options); absent
  · exact keep
  · exact keep
  · exact keeps_reopen hc _ (createdNames_append_opened _ _ rfl)
  · next hg _ _ _ => exact rb (live hg)
  · next n o hg _ _ =>
    exact keeps_create hc (n := n) hcalm rfl (live hg) (live hg) rfl (created_append_created s.opened n s.next) rfl
      (fun _ => rfl) (fun _ => List.mem_append.mpr (.inr (List.mem_singleton.mpr rfl)))
      (fun m hm => List.mem_append.mpr (.inl hm)) (noPending hg) rfl
  -- newLog: refused; (the swapped order does not occur); refused; the record is written / fails before / fails after
  · exact keep
  · next hf _ _ _ _ => cases hf
  · next hf _ _ _ _ => cases hf
  · next hf _ _ _ _ => cases hf
  · next hf _ _ _ _ => cases hf
  · next hf _ => cases hf
  · exact keep
  · next n o hp _ _ => exact keeps_logged hc n o (Decidable.not_not.mp hp)
  · next hp _ _ => exact rb' true s.tlog (.inl (Decidable.not_not.mp hp)) (.inl fun _ => rfl)
  · next n _ hp _ _ => exact rb' true (s.tlog ++ [n]) (.inl (Decidable.not_not.mp hp)) (.inl fun _ => rfl)
  -- newAdd: refused; (the swapped order does not occur); refused; Add is performed / fails before / fails after; refused
  · exact keep
  · next hf _ => cases hf
  · next hf _ => cases hf
  · next hf _ => cases hf
  · next hf _ => cases hf
  · exact keep
  · next n o hp _ n' o' hpnd hg =>
    have hpl : s.phase = .live := Decidable.not_not.mp hp
    have hnn : n' = n := Decidable.not_not.mp fun hne => hg (.inl hne)
    exact keeps_create hc (n := n) (st := newStore s n o) hcalm rfl hpl hpl rfl (created_append_created s.opened n s.next) rfl
      (fun hpend => hpend (by rw [hpnd]; rfl)) (fun hd => hnn ▸ (hd.pend n' o' hpnd).1) (fun _ hm => hm) rfl rfl
  · next n _ hp _ _ _ _ hg =>
    have hnot : has s.disk n = false := Bool.eq_false_iff.mpr fun hh => hg (.inr hh)
    have : addFailed s n s.next = finalRollback s := by simp only [addFailed, lookup_none hnot]
    exact this ▸ rb (Decidable.not_not.mp hp)
  · next n o hp _ _ _ _ hg =>
    exact keeps_addUndone hc o hcalm (Decidable.not_not.mp hp) (Bool.eq_false_iff.mpr fun hh => hg (.inr hh))
  · exact keep
  -- crash; recover
  · next hp => exact keeps_crash hp
  · exact keep
  · next hp => exact keeps_recover hc hp
  · exact keep
  -- open_: refused; attached already; found; missing
  · exact keep
  · exact keep
  · exact keeps_reopen hc _ (createdNames_append_opened _ _ rfl)
  · next hg _ _ => exact rb (live hg)
  -- add
  · exact keeps_reopen hc _ (createdNames_addLast _ _ _)
  · exact keep
  -- conflict
  · next hg => exact keeps_conflict hc hg.1 (Option.isNone_iff_eq_none.mp hg.2.1)
  · exact keep
  -- finish: a created store is gone / ok / failed; refused
  · next hph hr => exact rb' s.logged s.tlog hph.1 (.inr (hc.retry hr.1))
  · next hph hr =>
    refine keeps_commitOk hc (fun n hn => ?_) (Option.isNone_iff_eq_none.mp hph.2.1)
    rcases hph.1 with hl | hrt
    · exact (hc.live hl).2 n hn
    · have : ¬ ((created s).any fun n => !has s.disk n) = true := fun e => hr ⟨hrt, e⟩
      simp only [List.any_eq_true, Bool.not_eq_true', not_exists, not_and, Bool.not_eq_false] at this
      exact this n hn
  · next relogged hph _ _ =>
    refine rb' (s.logged || relogged) s.tlog hph.1 ?_
    rcases hph.1 with hl | hrt
    · exact .inl fun hne => by simp [(hc.live hl).1 hne]
    · exact .inr (hc.retry hrt)
  · exact keep
  -- rollback
  · next hp => exact rb hp.1
  · exact keep
  -- another committer: adds an item; creates a store (exists / new); removes a store
  · exact keeps_env hc _ s.next fun m _ => has_of_names (names_map _ _ fun st => by split <;> rfl) m
  · exact keep
  · next m _ _ =>
    refine keeps_env hc _ _ fun n hn => ?_
    have hne : m ≠ n := fun e => hcalm (e ▸ hn)
    simp [has_append, hne]
  · next m =>
    refine keeps_env hc _ s.next fun n hn => ?_
    have hne : m ≠ n := fun e => hcalm (e ▸ hn)
    simp [has_erase_eq, hne]

theorem cinv_step {N : List String} {s : StoreRepoCommit.State} (h : CInv N s) (op : StoreRepoCommit.Op) (hc : Calm N op)
    (hpend : s.pendingLog.isSome = true → s.logged = true) :
    CInv N (step {} s op).1 := (step_keeps h op hc).1 hpend

theorem dinv_step {N : List String} {s : StoreRepoCommit.State} (hc' : CInv N s) (h : DInv N s) (op : StoreRepoCommit.Op) (hc : Calm N op) :
    DInv N (step {} s op).1 := (step_keeps hc' op hc).2 h

structure Inv2 (N : List String) (s : StoreRepoCommit.State) : Prop where
  c : CInv N s
  d : DInv N s

theorem inv2_step {N : List String} {s : StoreRepoCommit.State} (h : Inv2 N s) (op : StoreRepoCommit.Op) (hc : Calm N op) :
    Inv2 N (step {} s op).1 :=
  ⟨cinv_step h.c op hc (fun hs => by
      cases hpl : s.pendingLog with
      | none => rw [hpl] at hs; cases hs
      | some x => exact (h.d.pend x.1 x.2 hpl).2.1),
   dinv_step h.c h.d op hc⟩

theorem inv2_run {N : List String} (ops : List StoreRepoCommit.Op) : ∀ {s : StoreRepoCommit.State}, Inv2 N s → (∀ op ∈ ops, Calm N op) →
    Inv2 N (StoreRepoCommit.run {} s ops) := by
  induction ops with
  | nil => intro s h _; exact h
  | cons op ops ih =>
    intro s h hc
    exact ih (inv2_step h op (hc op (List.mem_cons_self ..))) (fun o ho => hc o (List.mem_cons_of_mem _ ho))

theorem inv2_start (N : List String) (d : List Store) (nx : Nat) : Inv2 N { disk := d, next := nx } :=
  ⟨.of_phase .idle rfl nofun rfl, .of_phase .idle rfl nofun rfl nofun rfl⟩

/-- **A transaction that ends without committing leaves no store it created**, whatever the catalogue was, whatever
`T` did (any `NewBtree`/`OpenBtree`/adds, any number of conflict rounds, a last round failing before or after it
logged again, an explicit `Rollback`, a failed `NewBtree`/`OpenBtree`), and however the whole transactions of other
committers interleave with its steps — provided the script is `Calm N`: `T` passes only names of `N` to `NewBtree`, and
the others neither create nor `RemoveBtree` a store of such a name. -/
theorem abort_leaves_no_created_store (N : List String) (d : List Store) (nx : Nat) (ops : List StoreRepoCommit.Op)
    (hc : ∀ op ∈ ops, Calm N op) :
    let s := StoreRepoCommit.run {} { disk := d, next := nx } ops
    s.phase = .failed → ∀ n ∈ created s, has s.disk n = false :=
  (inv2_run ops (inv2_start N d nx) hc).c.failed

theorem conflict_removes_created (N : List String) (d : List Store) (nx : Nat) (ops : List StoreRepoCommit.Op)
    (hc : ∀ op ∈ ops, Calm N op) :
    let s := StoreRepoCommit.run {} { disk := d, next := nx } ops
    s.phase = .retry → ∀ n ∈ created s, has s.disk n = false :=
  (inv2_run ops (inv2_start N d nx) hc).c.retry

theorem commit_keeps_created (N : List String) (d : List Store) (nx : Nat) (ops : List StoreRepoCommit.Op)
    (hc : ∀ op ∈ ops, Calm N op) :
    let s := StoreRepoCommit.run {} { disk := d, next := nx } ops
    s.phase = .committed → ∀ n ∈ created s, has s.disk n = true :=
  (inv2_run ops (inv2_start N d nx) hc).c.committed

/-- **Faults and crashes inside `NewBtree` included**: `NewBtree` of an absent name is the `createStore` record, then
`StoreRepository.Add` (`Variant.addFirst = false`, the order the proof uses through `DInv.durable`); each of the two
calls may fail before or after it was performed, the process may die between any two steps (`crash`), and the
transaction ends by the live rollback (`failed`) or, after a crash, by another process's expired-log recovery
(`recovered`). Then, for a `Calm N` script, no store `T` ever added is in the catalogue. -/
theorem create_fault_crash_leaves_no_store (N : List String) (d : List Store) (nx : Nat) (ops : List StoreRepoCommit.Op)
    (hc : ∀ op ∈ ops, Calm N op) :
    let s := StoreRepoCommit.run { addFirst := false } { disk := d, next := nx } ops
    (s.phase = .failed ∨ s.phase = .recovered) → ∀ n ∈ s.everAdded, has s.disk n = false :=
  (inv2_run ops (inv2_start N d nx) hc).d.gone

theorem created_store_has_record (N : List String) (d : List Store) (nx : Nat) (ops : List StoreRepoCommit.Op)
    (hc : ∀ op ∈ ops, Calm N op) :
    let s := StoreRepoCommit.run { addFirst := false } { disk := d, next := nx } ops
    (s.phase = .live ∨ s.phase = .retry ∨ s.phase = .crashed) → ∀ n ∈ s.everAdded, has s.disk n = true → n ∈ s.tlog :=
  (inv2_run ops (inv2_start N d nx) hc).d.durable

def leakOps : List StoreRepoCommit.Op := [.begin, .open_ "se", .new "sn" ⟨4, true⟩, .add "sn" 10 "a", .otherAdd "se" 5 "x", .conflict, .finish false false]

def leakStart : StoreRepoCommit.State := { disk := [{ name := "se", root := 1, opts := ⟨8, true⟩, count := 4, items := [] }], next := 2 }

/-- non-vacuity: this history meets the theorems' hypothesis -/
theorem leakOps_calm : ∀ op ∈ leakOps, Calm ["sn"] op := by
  intro op hop
  simp only [leakOps, List.mem_cons, List.mem_nil_iff, or_false] at hop
  rcases hop with rfl | rfl | rfl | rfl | rfl | rfl | rfl <;> simp [Calm]

/-- the partial rollback that keeps created stores but rewinds the log state: the transaction ends failed and `sn`
is still in the catalogue -/
theorem abort_forgetful_counterexample :
    let s := StoreRepoCommit.run { forget := true } leakStart leakOps
    s.phase = .failed ∧ created s = ["sn"] ∧ has s.disk "sn" = true := by
  decide +kernel

/-- the same history on the code's partial rollback: failed, `sn` gone -/
theorem abort_witness :
    let s := StoreRepoCommit.run {} leakStart leakOps
    s.phase = .failed ∧ created s = ["sn"] ∧ has s.disk "sn" = false ∧ has s.disk "se" = true := by
  decide +kernel

/-! the swapped order of `NewBtree`'s two calls (`addFirst`): the store is on disk while nothing records it -/

/-- `Add`, then the `createStore` record fails (before or after it was written): the live rollback knows no created
B-tree (it is registered after the record), the failed transaction leaves `sn` -/
theorem create_addFirst_fault_counterexample :
    let o : Opts := ⟨4, true⟩
    let s1 := StoreRepoCommit.run { addFirst := true } leakStart [.begin, .newAdd "sn" o .none, .newLog "sn" o .before]
    let s2 := StoreRepoCommit.run { addFirst := true } leakStart [.begin, .newAdd "sn" o .none, .newLog "sn" o .after]
    (s1.phase = .failed ∧ s1.everAdded = ["sn"] ∧ has s1.disk "sn" = true) ∧
    (s2.phase = .failed ∧ s2.everAdded = ["sn"] ∧ has s2.disk "sn" = true) := by
  decide +kernel

/-- `Add`, then the process dies before the record is written: the recovery finds no record, `sn` stays -/
theorem create_addFirst_crash_counterexample :
    let s := StoreRepoCommit.run { addFirst := true } leakStart [.begin, .newAdd "sn" ⟨4, true⟩ .none, .crash, .recover]
    s.phase = .recovered ∧ s.everAdded = ["sn"] ∧ has s.disk "sn" = true := by
  decide +kernel

/-- the code's order: a crash after the record, after `Add` and after an item was added; `Add` failing after and before it
was performed; the record failing after it was written: nothing stays; and a commit keeps the store -/
theorem create_logFirst_witness :
    let o : Opts := ⟨4, true⟩
    let r (ops : List StoreRepoCommit.Op) := StoreRepoCommit.run {} leakStart (.begin :: ops)
    has (r [.newLog "sn" o .none, .crash, .recover]).disk "sn" = false ∧
    (let s := r [.newLog "sn" o .none, .newAdd "sn" o .none, .crash, .recover]
     s.phase = .recovered ∧ s.everAdded = ["sn"] ∧ has s.disk "sn" = false ∧ has s.disk "se" = true) ∧
    (let s := r [.newLog "sn" o .none, .newAdd "sn" o .none, .add "sn" 1 "a", .crash, .recover]
     s.phase = .recovered ∧ has s.disk "sn" = false) ∧
    (let s := r [.newLog "sn" o .none, .newAdd "sn" o .after]
     s.phase = .failed ∧ s.everAdded = ["sn"] ∧ has s.disk "sn" = false) ∧
    (let s := r [.newLog "sn" o .none, .newAdd "sn" o .before]
     s.phase = .failed ∧ has s.disk "sn" = false) ∧
    (let s := r [.newLog "sn" o .after]
     s.phase = .failed ∧ has s.disk "sn" = false ∧ s.tlog = []) ∧
    (let s := r [.newLog "sn" o .none, .newAdd "sn" o .none, .add "sn" 1 "a", .finish true true]
     s.phase = .committed ∧ has s.disk "sn" = true) := by
  decide +kernel

end Sop.C12.Commit
