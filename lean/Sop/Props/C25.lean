import Sop.Lemmas.Erasure
/-! # C25 — erasure-coded blobs survive up to `p` damaged shards

About `Variant.fixed` (the code since commit `497409ba`): the theorems. About `Variant.orig` (the code
before that commit): the counterexamples. -/
namespace Sop.C25
open Sop.Erasure

/-- how many shard files differ from what `Add` wrote (absent, truncated, any byte changed) -/
def damaged (files0 : List Bytes) (fs : List (Option Bytes)) : Nat :=
  (fs.zip files0).countP fun x => x.1 != some x.2

/-- "md5 detects the modelled corruption": a shard file that is present and differs from what was
written at that position is either shorter than the 17-byte prefix or fails its own checksum.
(A file in which only the pad-count byte changed does not satisfy this: that byte is not covered.) -/
def ChecksumDetects (md5 : Bytes → Bytes) (files0 : List Bytes) (fs : List (Option Bytes)) : Prop :=
  ∀ x ∈ fs.zip files0, ∀ b, x.1 = some b → b ≠ x.2 → metaSize ≤ b.length →
    (b.take metaSize).drop 1 ≠ md5 (b.drop metaSize)

/-- the shard bodies as `GetOne` hands them to `Decode` -/
def bodies (fs : List (Option Bytes)) : List Shard := fs.map fun f => (rd f).1

/-- "the damage is not itself a code word": if every shard is present and Reed–Solomon `Verify`
accepts the set, it is the set that was written. Follows from the MDS law when at most `p` shards are
damaged (`Stored.noAccidental`); an assumption beyond that (the fast path of `Decode` trusts `Verify`). -/
def NoAccidentalCodeword (C : Code) (data : Bytes) (fs : List (Option Bytes)) : Prop :=
  verify C (bodies fs) = .pass → bodies fs = (cwOf C data).map some

/-- `files0` are the shard files `Add` wrote, `fs` the directory now -/
structure Stored (C : Code) (md5 : Bytes → Bytes) (data : Bytes) (files0 : List Bytes)
    (fs : List (Option Bytes)) : Prop extends Blob C md5 data where
  enc : encodeFiles C md5 data = some files0
  len : fs.length = files0.length

namespace Stored
variable {C : Code} {md5 : Bytes → Bytes} {data : Bytes} {files0 : List Bytes} {fs : List (Option Bytes)}
  (S : Stored C md5 data files0 fs)
include S

theorem files_eq : files0 = (cwOf C data).map (shardFile md5 C.d data.length) :=
  Option.some.inj (S.enc.symm.trans (encodeFiles_eq C md5 S.nonempty))

theorem intact_count : intactCount files0 fs + damaged files0 fs = C.d + C.p := by
  have hn : (fs.zip files0).length = C.d + C.p := by
    rw [List.length_zip, S.len, Nat.min_self, S.files_eq, List.length_map, S.cw_length]
  unfold damaged intactCount
  rw [← hn, List.length_eq_countP_add_countP intact]
  congr 1
  exact List.countP_congr fun x _ => by simp [intact]

theorem noAccidental (hdam : damaged files0 fs ≤ C.p) : NoAccidentalCodeword C data fs :=
  S.pass_is_codeword S.files_eq S.len (by have := S.intact_count; omega)

/-- `Blob.decode_fixed` in the words of this file: `ChecksumDetects` is `Detects` of the zip it is stated over -/
theorem decode_fixed (hdet : ChecksumDetects md5 files0 fs) (hnc : NoAccidentalCodeword C data fs) :
    decode .fixed C md5 (fs.map rd) =
      if verify C (bodies fs) = .pass then
        if (fs.map rd).any (fun x => metaMatches md5 x.1 x.2) then .ok data [] else .err
      else if C.d ≤ intactCount files0 fs then .ok data (lost files0 fs)
      else .err :=
  S.toBlob.decode_fixed S.files_eq S.len hdet hnc

/-- within parity `Decode` succeeds; it reports the files that failed their checksum unless `Verify` passed at once -/
theorem decode_within (hdam : damaged files0 fs ≤ C.p) (hdet : ChecksumDetects md5 files0 fs) :
    ((fs.map rd).all fun x => x.1.isNone) = false ∧
    decode .fixed C md5 (fs.map rd) = .ok data (if verify C (bodies fs) = .pass then [] else lost files0 fs) := by
  have hcnt := S.intact_count
  obtain ⟨hne, hany⟩ := S.some_intact S.files_eq S.len (by have := S.dPos; omega)
  refine ⟨hne, ?_⟩
  rw [S.decode_fixed hdet (S.noAccidental hdam), hany, if_pos rfl, if_pos (show C.d ≤ intactCount files0 fs by omega)]
  split <;> rfl

end Stored

section
variable {C : Code} (hC : C.Laws) (md5 : Bytes → Bytes) (hmd : ∀ b, (md5 b).length = 16)
  (data : Bytes) (hdata : data ≠ []) (hd : 0 < C.d) (h256 : C.d < 256)
  (files0 : List Bytes) (he : encodeFiles C md5 data = some files0)
  (fs : List (Option Bytes)) (hlen : fs.length = files0.length)
include hC hmd hdata hd h256 he hlen

theorem stored : Stored C md5 data files0 fs := ⟨⟨hC, hmd, hdata, hd, h256⟩, he, hlen⟩

/-- whatever has happened to the shard files (any number missing, truncated or altered), as long as the checksum detects
the alteration (`hdet`) and the damage is not itself a code word (`hnc`), the fixed `GetOne` returns the stored bytes or an
error — never other bytes, never a panic. Without `hdet`: `C25_pad_byte_unprotected`; without `hnc`:
`C25_needs_no_accidental_codeword`. -/
theorem C25_read_safe (hdet : ChecksumDetects md5 files0 fs) (hnc : NoAccidentalCodeword C data fs)
    (repair : Bool) :
    (∃ idxs, (getOne .fixed C md5 repair fs).1 = .ok data idxs) ∨ (getOne .fixed C md5 repair fs).1 = .err := by
  have S := stored hC md5 hmd data hdata hd h256 files0 he fs hlen
  rw [getOne_fixed_fst, S.decode_fixed hdet hnc]
  by_cases h0 : ((fs.map rd).all fun x => x.1.isNone) = true
  · rw [if_pos h0]; exact Or.inr rfl
  rw [if_neg h0]
  by_cases hv : verify C (bodies fs) = .pass
  · rw [if_pos hv]
    split
    · exact Or.inl ⟨_, rfl⟩
    · exact Or.inr rfl
  · rw [if_neg hv]
    split
    · exact Or.inl ⟨_, rfl⟩
    · exact Or.inr rfl

/-- **C25, read side**: at most `p` shard files damaged in any way the checksum detects ⇒ the fixed
`GetOne` returns exactly the stored bytes. All `1 ≤ d < 256` (the pad count is one byte), all `p`, every
size ≥ 1 (`size % d ≠ 0` included), any lawful code. -/
theorem C25_read (hdam : damaged files0 fs ≤ C.p) (hdet : ChecksumDetects md5 files0 fs) (repair : Bool) :
    ∃ idxs, (getOne .fixed C md5 repair fs).1 = .ok data idxs := by
  have S := stored hC md5 hmd data hdata hd h256 files0 he fs hlen
  obtain ⟨hne, hdec⟩ := S.decode_within hdam hdet
  rw [getOne_fixed_fst, if_neg (by rw [hne]; exact Bool.false_ne_true), hdec]
  exact ⟨_, rfl⟩

/-- beyond parity: fewer than `d` intact files and at least one shard body missing or altered ⇒ an error -/
theorem C25_read_beyond (hdam : C.p < damaged files0 fs) (hbody : bodies fs ≠ (cwOf C data).map some)
    (hdet : ChecksumDetects md5 files0 fs) (hnc : NoAccidentalCodeword C data fs) (repair : Bool) :
    (getOne .fixed C md5 repair fs).1 = .err := by
  have S := stored hC md5 hmd data hdata hd h256 files0 he fs hlen
  have hcnt := S.intact_count
  rw [getOne_fixed_fst]
  split
  · rfl
  · rw [S.decode_fixed hdet hnc, if_neg (fun hv => hbody (hnc hv)), if_neg (by omega)]

end

/-- **C25, write side**: `Add` of a non-empty blob succeeds exactly when at most `p` shard writes fail -/
theorem C25_write (C : Code) (md5 : Bytes → Bytes) (data : Bytes) (hdata : data ≠ []) (fail : List Bool)
    (old : List (Option Bytes)) : (add C md5 data fail old).1 = true ↔ fail.count true ≤ C.p := by
  unfold add
  rw [encodeFiles_eq C md5 hdata]
  simp

/-- … and an empty blob is refused whatever the drives do (`reedsolomon.Split`: `ErrShortData`) -/
theorem C25_write_empty (C : Code) (md5 : Bytes → Bytes) (fail : List Bool) (old : List (Option Bytes)) :
    (add C md5 [] fail old).1 = false := by
  simp [add, encodeFiles, encode]

theorem writeShards_fresh (md5 : Bytes → Bytes) : ∀ (n : Nat) (files : List Bytes) (fl : List Bool), files.length = n → fl.length = n →
    (writeShards (List.replicate n none) files fl).length = n ∧
    damaged files (writeShards (List.replicate n none) files fl) ≤ fl.count true ∧
    ChecksumDetects md5 files (writeShards (List.replicate n none) files fl) := by
  intro n
  induction n with
  | zero =>
    intro files fl h1 h2
    simp [writeShards, damaged, ChecksumDetects]
  | succ n ih =>
    intro files fl h1 h2
    cases files with
    | nil => simp at h1
    | cons f files =>
      cases fl with
      | nil => simp at h2
      | cons b fl =>
        simp only [List.length_cons, Nat.add_right_cancel_iff] at h1 h2
        obtain ⟨i1, i2, i3⟩ := ih files fl h1 h2
        simp only [List.replicate_succ, writeShards]
        refine ⟨by simp [i1], ?_, ?_⟩
        · unfold damaged at i2 ⊢
          simp only [List.zip_cons_cons, List.countP_cons, List.count_cons]
          cases b <;> simp <;> omega
        · intro x hx bb hb hne hl
          simp only [List.zip_cons_cons, List.mem_cons] at hx
          rcases hx with rfl | hx
          · cases b <;> simp at hb
            exact absurd hb.symm hne
          · exact i3 x hx bb hb hne hl

/-- a tolerated write is a readable blob: the shards whose write failed are simply missing -/
theorem C25_write_then_read {C : Code} (hC : C.Laws) (md5 : Bytes → Bytes) (hmd : ∀ b, (md5 b).length = 16)
    (data : Bytes) (hdata : data ≠ []) (hd : 0 < C.d) (h256 : C.d < 256) (fail : List Bool)
    (hfl : fail.length = C.d + C.p) (hok : (add C md5 data fail (List.replicate (C.d + C.p) none)).1 = true)
    (repair : Bool) :
    ∃ idxs, (getOne .fixed C md5 repair (add C md5 data fail (List.replicate (C.d + C.p) none)).2).1 = .ok data idxs := by
  have hcnt := (C25_write C md5 data hdata fail _).mp hok
  have he := encodeFiles_eq C md5 hdata
  have hcl : (cwOf C data).length = C.d + C.p := Blob.cw_length ⟨hC, hmd, hdata, hd, h256⟩
  have hadd : (add C md5 data fail (List.replicate (C.d + C.p) none)).2 =
      writeShards (List.replicate (C.d + C.p) none) ((cwOf C data).map (shardFile md5 C.d data.length)) fail := by
    unfold add; rw [he]
  rw [hadd]
  obtain ⟨k1, k2, k3⟩ := writeShards_fresh md5 (C.d + C.p) ((cwOf C data).map (shardFile md5 C.d data.length)) fail
    (by rw [List.length_map, hcl]) hfl
  exact C25_read hC md5 hmd data hdata hd h256 _ he _ (by simp [k1, hcl]) (by omega) k3 repair

private theorem find_mask (s : Bytes) : ∀ (n : Nat) (mask : List (Option Bytes)), IsMask mask (List.replicate n s) →
    0 < mask.countP Option.isSome → mask.find? Option.isSome = some (some s) := by
  intro n
  induction n with
  | zero => intro mask hm hc; cases mask <;> simp_all [IsMask]
  | succ n ih =>
    intro mask hm hc
    cases mask with
    | nil => simp [IsMask] at hm
    | cons m ms =>
      simp only [List.replicate_succ, IsMask] at hm
      rcases hm.1 with rfl | rfl
      · simp only [List.countP_cons, Option.isSome_none, Bool.false_eq_true, if_false, Nat.add_zero] at hc
        simp [ih ms hm.2 hc]
      · simp

/-- the MDS laws are satisfiable: the repetition code (`d = 1`, any `p`) -/
theorem repCode_laws (p : Nat) : (repCode p).Laws where
  parity_shape := by
    intro ds L hds hl
    cases ds with
    | nil => simp [repCode] at hds
    | cons s t =>
      simp only [repCode, List.headD_cons, List.length_replicate, true_and]
      intro x hx
      rw [List.eq_of_mem_replicate hx]
      exact hl s (List.mem_cons_self ..)
  recon_spec := by
    intro ds L mask hds _ hm hc
    cases ds with
    | nil => simp [repCode] at hds
    | cons s t =>
      cases t with
      | cons _ _ => simp [repCode] at hds
      | nil =>
        simp only [repCode, List.headD_cons, List.singleton_append] at hm hc ⊢
        rw [← List.replicate_succ] at hm
        rw [find_mask s _ mask hm (by omega)]
        simp [List.replicate_succ, Nat.add_comm]

def toyMd5 (b : Bytes) : Bytes := (b.foldl (· + ·) 7 % 256) :: List.replicate 15 0

theorem toyMd5_length (b : Bytes) : (toyMd5 b).length = 16 := by simp [toyMd5]

/-- the file of the blob `[1,2,3]` under `repCode p` and `toyMd5` (every shard is a copy) -/
def f123 : Bytes := 0 :: toyMd5 [1, 2, 3] ++ [1, 2, 3]
/-- the same file with one body byte flipped -/
def f123c : Bytes := 0 :: toyMd5 [1, 2, 3] ++ [1, 9, 3]

/-- `ChecksumDetects`, runnable on concrete directories -/
def detectsB (md5 : Bytes → Bytes) (files0 : List Bytes) (fs : List (Option Bytes)) : Bool :=
  (fs.zip files0).all fun x => match x.1 with
    | none => true
    | some b => b == x.2 || decide (b.length < metaSize) || (b.take metaSize).drop 1 != md5 (b.drop metaSize)

theorem checksumDetects_of {md5 : Bytes → Bytes} {files0 : List Bytes} {fs : List (Option Bytes)}
    (h : detectsB md5 files0 fs = true) : ChecksumDetects md5 files0 fs := by
  intro x hx b hb hne hl
  have := List.all_eq_true.mp h x hx
  rw [hb] at this
  simp only [Bool.or_eq_true, beq_iff_eq, decide_eq_true_eq, bne_iff_ne, ne_eq] at this
  rcases this with (h1 | h1) | h1
  · exact absurd h1 hne
  · omega
  · exact h1

/-- non-vacuity of `C25_read`: one missing and one corrupted shard within `p = 2`, the very input on which
`Variant.orig` panics (`C25_counterexample_nil_metadata`) -/
example : ∃ idxs, (getOne .fixed (repCode 2) toyMd5 false [none, some f123c, some f123]).1 = .ok [1, 2, 3] idxs :=
  C25_read (repCode_laws 2) toyMd5 toyMd5_length [1, 2, 3] (by simp) (by decide) (by decide)
    [f123, f123, f123] (by rfl) [none, some f123c, some f123] rfl (by decide)
    (checksumDetects_of (by decide)) false

def Statement_C25 (v : Variant) : Prop :=
  ∀ (C : Code), C.Laws → ∀ (md5 : Bytes → Bytes), (∀ b, (md5 b).length = 16) → ∀ (data : Bytes), data ≠ [] →
    0 < C.d → C.d < 256 → ∀ files0, encodeFiles C md5 data = some files0 → ∀ fs : List (Option Bytes),
    fs.length = files0.length → damaged files0 fs ≤ C.p → ChecksumDetects md5 files0 fs →
    ∃ idxs, (getOne v C md5 false fs).1 = .ok data idxs

theorem Statement_C25_fixed : Statement_C25 .fixed :=
  fun _ hC md5 hmd data hdata hd h256 files0 he fs hlen hdam hdet =>
    C25_read hC md5 hmd data hdata hd h256 files0 he fs hlen hdam hdet false

/-- (1) a shard file shorter than its 17-byte prefix: a worker goroutine of `GetOne` slices out of range -/
theorem C25_counterexample_short_file :
    (getOne .orig (repCode 2) toyMd5 false [some [0, 0, 0, 0, 0], some f123, some f123]).1 = .panic := by decide

/-- (2) one missing and one corrupted shard, within `p = 2`: `detectBadShardsThenReconstruct` slices the nil metadata entry -/
theorem C25_counterexample_nil_metadata :
    (getOne .orig (repCode 2) toyMd5 false [none, some f123c, some f123]).1 = .panic := by decide

/-- (3) beyond parity (`p = 1`, two damaged): the corrupted shard is used to rebuild the missing one, `Verify`
passes trivially, wrong bytes come back with a nil error -/
theorem C25_counterexample_wrong_bytes :
    (getOne .orig (repCode 1) toyMd5 false [none, some f123c]).1 = .ok [1, 9, 3] [0] := by decide

/-- (4) a shard truncated after its prefix, within parity: `ErrShardSize`, the read fails -/
theorem C25_counterexample_truncated :
    (getOne .orig (repCode 2) toyMd5 false [some (f123.take 18), some f123, some f123]).1 = .err := by decide

theorem C25_counterexample : ¬ Statement_C25 .orig := by
  intro h
  have := h (repCode 2) (repCode_laws 2) toyMd5 toyMd5_length [1, 2, 3] (by simp) (by decide) (by decide)
    [f123, f123, f123] (by rfl) [some [0, 0, 0, 0, 0], some f123, some f123] rfl (by decide)
    (checksumDetects_of (by decide))
  rw [C25_counterexample_short_file] at this
  obtain ⟨_, h⟩ := this
  exact DecodeResult.noConfusion h

/-! What `Variant.fixed` does not cover (open findings) -/

/-- the pad-count byte is outside the checksum: with ONE shard file changed in that byte only (so
`ChecksumDetects` does not hold) the fixed code still returns a blob of the wrong length -/
theorem C25_pad_byte_unprotected :
    (getOne .fixed (repCode 2) toyMd5 false [some (1 :: f123.drop 1), some f123, some f123]).1 = .ok [1, 2] [] := by decide

/-- shard file `i` of blob `data` under the XOR code `d = 2, p = 1` -/
def xfile (data : Bytes) (i : Nat) : Bytes := ((encodeFiles (xorCode 2) toyMd5 data).getD []).getD i []
/-- shard file `i` of blob `a` with its body replaced by the body of blob `b`'s shard `i` (old checksum kept) -/
def swapped (a b : Bytes) (i : Nat) : Bytes := (xfile a i).take 17 ++ (xfile b i).drop 17

/-- without `NoAccidentalCodeword`: `p + 1 = 2` of 3 shards replaced by the bodies of another blob's
shards (old checksums kept, so both fail their checksum) pass `Verify`, and the other blob is returned -/
theorem C25_needs_no_accidental_codeword :
    (getOne .fixed (xorCode 2) toyMd5 false
      [some (swapped [1, 2, 3, 4] [9, 2, 3, 4] 0), some (xfile [1, 2, 3, 4] 1), some (swapped [1, 2, 3, 4] [9, 2, 3, 4] 2)]).1
      = .ok [9, 2, 3, 4] [] := by decide

end Sop.C25
