import Sop.Lemmas.RecoveryAtomic
/-!
# C09 — work left by a crashed transaction is recovered by later transactions

Model: `Sop.Recovery` — the maintenance scheduling of `common/twophasecommittransaction2.go` (`onIdle`,
`processPriorityRollbackOnRestart`, `processScheduledPriorityRollback`, `processExpiredLogs` with the package
globals `lastPriorityOnIdleTime`, `lastOnIdleRunTime`, `hourBeingProcessed`, `priorityLogFound`, `onStartUpFlag`)
and `Transaction.Begin → onIdle`.

The code does NOT have the property. `onIdle` starts with `if len(t.btreesBackend) == 0 { return }`; its only
caller is `Begin`; a store can be attached only after `Begin`. So on the public path the guard always fires:
`C09_public_path_inert` — any number of public transactions leaves the dead transaction's files, the registry
and the scheduling globals exactly as they were — and `C09_counterexample` refutes `Statement_C09`.

What does hold: `C09_recovered_if_idle_runs_partial` — the maintenance itself, once invoked with a store
attached in a freshly started process with the ages past their thresholds, removes the dead transaction's log on
its first run, and the priority log when the logged versions fit. That first run is exactly C08's recovery
(`onIdle_first_is_recover`), so outside the three C08 finding windows the crashed commit is recovered all-or-nothing
(`C09_idle_recovers_atomically_partial`); inside each window there are crash points where it is not (C08-F1..F3,
witnesses in `Props/C08`), which is why wiring `onIdle` to the first attached store is not proposed as a repair.
-/
namespace Sop.C09
open Sop.Commit Sop.Recovery

/-- milliseconds in four hours: a freshly started process (`lastOnIdleRunTime = 0`) is past every interval
as soon as its clock reads more than this (Unix milliseconds always do) -/
def fourHours : Int := 4 * 60 * 60000

/-- The property: in a new process (globals at their initial values) with the dead transaction's files aged past
the thresholds, after n ≥ 1 public transactions (Begin, open a store, Commit) no priority log and no
transaction log of the dead transaction remain. -/
def Statement_C09 : Prop :=
  ∀ (d : DState) (ts : List Int), ts ≠ [] → (∀ t ∈ ts, t > fourHours) → plogFits d = true →
    let i := publicTxns ts { x := (d, []) }
    i.x.1.plg = none ∧ i.x.1.s.tlog d.tid = false

theorem begin_inert (now : Int) (i : Idle) : (begin now i).x = i.x ∧ (begin now i).g = i.g := by
  simp [begin, onIdle]

/-- **Public transactions never run the maintenance** -/
theorem C09_public_path_inert (ts : List Int) : ∀ i : Idle, (publicTxns ts i).x = i.x ∧ (publicTxns ts i).g = i.g := by
  induction ts with
  | nil => intro i; simp [publicTxns]
  | cons t rest ih =>
    intro i
    have h1 := begin_inert t i
    have h2 := ih (publicTxn t i)
    show (publicTxns rest (publicTxn t i)).x = i.x ∧ (publicTxns rest (publicTxn t i)).g = i.g
    exact ⟨h2.1.trans h1.1, h2.2.trans h1.2⟩

/-- start state and write set of C08's witness 1 -/
def s1 : State :=
  let s0 : State := (({} : State).setReg ⟨1, 1, 0, false, 0, 0, false⟩).setBlob 1 true
  { s0 with cnt := fun k => if k = 0 then 2 else 0, storeExists := fun k => k == 0 }
def w1 : WS := { stores := [{ store := 0, updated := [(1, 0)], delta := 1 }] }
/-- that commit crashed at point 14 (after `tlog.Add 11`): both files exist -/
def dead : DState := crashAt s1 1 [(1, 2)] w1 14

theorem dead_has_files : dead.plg.isSome = true ∧ dead.s.tlog dead.tid = true ∧ plogFits dead = true := by decide +kernel

theorem C09_counterexample : ¬ Statement_C09 := by
  intro h
  have h1 := h dead [fourHours + 1, fourHours + 180001] (by simp) (by simp [fourHours]) dead_has_files.2.2
  have h2 := C09_public_path_inert [fourHours + 1, fourHours + 180001] { x := (dead, []) }
  have h3 : (publicTxns [fourHours + 1, fourHours + 180001] { x := (dead, []) }).x.1.plg = none := h1.1
  rw [h2.1] at h3
  have := dead_has_files.1
  rw [h3] at this; exact absurd this (by decide)

/-- The first `onIdle` of a freshly started process with a store attached and the ages past their thresholds runs both
rollbacks, in the order of `recover`: `doPriorityRollbacks` (a missing priority log is skipped, which is what
`priorityRollback` does with it), then `processExpiredTransactionLogs` (likewise for a missing log). -/
theorem onIdle_first (d : DState) (stores : Nat) (now : Int) (hnow : now > fourHours) :
    (onIdle (stores + 1) now { x := (d, []) }).x = expiredRollback (priorityRollback (d, []))
    ∧ (onIdle (stores + 1) now { x := (d, []) }).ranExpired = true
    ∧ (onIdle (stores + 1) now { x := (d, []) }).ranPriority = true := by
  have hp := priorityRollback_spec (d, [])
  have h1 : ¬ (now < now - 300000) := by omega
  have h2 : (14400000 : Int) < now := by unfold fourHours at hnow; omega
  unfold onIdle doPriorityRollbacks processExpired
  by_cases hplg : d.plg.isSome = true
  · by_cases htl : d.s.tlog d.tid = true
    · simp [hplg, htl, h1, h2, hp.1, hp.2]
    · simp at htl
      simp [hplg, htl, h1, h2, hp.1, hp.2]
      rw [expiredRollback_no_log _ (by rw [hp.1, hp.2]; exact htl)]
  · simp at hplg
    rw [priorityRollback_none (d, []) hplg]
    by_cases htl : d.s.tlog d.tid = true
    · simp [hplg, htl, h1, h2]
    · simp at htl
      simp [hplg, htl, h1, h2]
      rw [expiredRollback_no_log _ htl]

/-- The maintenance, when it does run (a store attached, first call in a new process, ages past the thresholds) -/
theorem C09_recovered_if_idle_runs_partial (d : DState) (stores : Nat) (now : Int) (hnow : now > fourHours) :
    let i := onIdle (stores + 1) now { x := (d, []) }
    i.x.1.s.tlog d.tid = false ∧ (plogFits d = true → i.x.1.plg = none) ∧ i.ranExpired = true ∧ i.ranPriority = true := by
  obtain ⟨hx, he, hp⟩ := onIdle_first d stores now hnow
  simp only [hx]
  exact ⟨recover_removes_log d, recover_removes_plog d, he, hp⟩

theorem onIdle_first_is_recover (d : DState) (stores : Nat) (now : Int) (hnow : now > fourHours) :
    (onIdle (stores + 1) now { x := (d, []) }).x = expiredRollback (priorityRollback (d, [])) :=
  (onIdle_first d stores now hnow).1

/-- **When the maintenance does run, the crashed commit is recovered all-or-nothing** outside the three C08 finding
windows (`Sop.Recovery.atomic_outside_windows`). -/
theorem C09_idle_recovers_atomically_partial {s0 : State} {w : WS} {fresh : List (UUID × UUID)} (wf : WF s0 w fresh)
    (tid : Tid) (m : Nat) (hw : inWindow w ((commitOps s0 fresh w).take m) = false)
    (stores : Nat) (now : Int) (hnow : now > fourHours) :
    let a := (onIdle (stores + 1) now { x := (crashAt s0 tid fresh w m, []) }).x.1
    (OldOutcome s0 a.s ∨
      (hasLog .deleteObsoleteEntries ((commitOps s0 fresh w).take m) = true ∧ NewOutcome s0 fresh w a.s))
    ∧ RootsOK w a.s ∧ a.plg = none ∧ a.s.tlog tid = false := by
  simp only
  rw [onIdle_first_is_recover _ _ _ hnow, ← recover_fst]
  exact atomic_outside_windows wf tid m hw

/-- non-vacuity: the premises, a crash point outside the windows that left the transaction log -/
example : WF Witness.s0 (wU 1) [(1, 9)] ∧ inWindow (wU 1) ((commitOps Witness.s0 [(1, 9)] (wU 1)).take 7) = false
    ∧ (crashAt Witness.s0 1 [(1, 9)] (wU 1) 7).s.tlog 1 = true ∧ fourHours + 1 > fourHours :=
  ⟨wf_upd 1, by decide +kernel, by decide +kernel, by decide⟩

/-- non-vacuity: on the witness the maintenance does remove both files -/
example : let i := onIdle 1 (fourHours + 1) { x := (dead, []) }
    i.x.1.s.tlog 1 = false ∧ i.x.1.plg = none ∧ i.g.hourBeingProcessed = true ∧ i.g.onStartUpFlag = false := by decide +kernel

end Sop.C09
