import Sop.Lemmas.BTreeReadAll
/-!
# C18 — key search positions the cursor so range scans return exactly the range

About Model B (`Sop/Model/BTree.lean`), for EVERY well-formed tree `WF t` (any size, any slot length, nil children
allowed, unique or duplicate keys): `First`/`Last`/`Next`/`Previous` move along the in-order contents `abs` and
enumerate exactly `abs` and `abs.reverse`; `Find(k, true)` answers whether `k` is stored, a hit leaves the cursor on the
FIRST item of key `k` (lower bound), a miss on the first greater item or on the item just before it (the code parks on
the predecessor when the descent ends past the last slot of a node); `FindInDescendingOrder` is the mirror image (LAST
item of key `k`); `Range`/`RangeDesc` return exactly the items of the range, in order. `Find(k, false)` with its
(repaired) fast path and `FindWithID` (repaired) answer whether the key (and id) is stored. Every stored node of a
well-formed repository is reachable (`WF.all_reachable`), so ANY cursor that passes the guards of `Next`/`Previous` is a
position (`cursorPos_of_guards`, Lemmas/BTreeReadOps.lean).

The cursor statement is `CursorPos t t' L R` (Lemmas/BTreeOps.lean): a structural position, not a value comparison, so
it can be chained. WF clauses used: tree shape (`Nodup (reach …)`) and parent links for the climbs; array sizes, zeroed
children tail and the memo bounds for `getIndexOfChild`; "non-root nodes are not empty" for `First`/`Last`/descents/`Find`
misses; sortedness with separator bounds only through `abs` being sorted (`Find`, `Range`); liveness of items for
`Range`'s miss branch; `Count = |abs|` for the public wrappers' emptiness test and loop bounds. `2 ≤ sl`, `sl` even are
not used on the read side.

The remaining assumption is the tie between Model B and the Go code (correspondence run); without the repairs
(`fixFast = false`, `fixId = false`) the known findings apply.
-/
namespace Sop.C18
open Sop.BTree
set_option maxRecDepth 100000

/-- the cursor designates the item at in-order position `i` -/
def CursorAt (t : BTree) (i : Nat) : Prop :=
  t.cur.node ≠ 0 ∧ t.abs[i]? = some t.curItem

/-- statement about `Find(k, true)`; the cursor hypothesis `CursorValid` (the cached item of a
    previous call can be read: always true after `First/Last/Next/Previous/Find/Remove`) is needed because
    `Find` first dereferences the current item. Proved below as `C18_find`. -/
def Statement_C18_find : Prop :=
  ∀ (t : BTree) (k : Int), WF t → t.panicked = false → CursorValid t →
    let r := t.find k true
    (r.2 = true ↔ hasKey t.abs k = true) ∧
    (r.2 = true → CursorAt r.1 (t.abs.findIdx (fun x => x.key == k))) ∧
    -- a miss parks the cursor NEXT TO where the key would be: on the first greater item or on the last smaller one
    (r.2 = false → t.abs ≠ [] →
      CursorAt r.1 (t.abs.findIdx (fun x => decide (x.key > k))) ∨ CursorAt r.1 (t.abs.findIdx (fun x => decide (x.key > k)) - 1))

/-- statement about the range iterators (the cursor hypothesis is explicit because `Find`
    dereferences the current item first). Proved below as `C18_range`. -/
def Statement_C18_range : Prop :=
  ∀ (t : BTree) (a b : Int), WF t → t.panicked = false → CursorValid t →
    (t.range a b true).2.map (·.key) = (t.abs.filter (inRange a b)).map (·.key) ∧
    (t.range a b false).2.map (·.key) = ((t.abs.filter (inRange b a)).map (·.key)).reverse

/-- what a cursor position means: the contents split as `L ++ x :: R'`, unchanged by the call, and the cursor reads `x` -/
theorem C18_cursorPos_meaning {t t' : BTree} (hwf : WF t) {L R : List Item} (h : CursorPos t t' L R) :
    WF t' ∧ t'.panicked = false ∧ t'.abs = t.abs ∧ t.abs = L ++ R ∧ t'.cur.node ≠ 0 ∧
      ∃ x R', R = x :: R' ∧ t'.curItem = x ∧ CursorAt t' L.length := by
  have hw := h.wfr hwf
  obtain ⟨h1, h2, x, R', hR, hx⟩ := cursorPos_abs hw h
  refine ⟨WF_heapEq h.1 hwf, h.2.1, abs_heapEq h.1, h1, cursorPos_node_ne hw h, x, R', hR, hx, cursorPos_node_ne hw h, ?_⟩
  rw [h2, hR, hx]
  simp

/-- `First` on a well-formed tree: nothing happens on an empty store; otherwise true, cursor on the first item of `abs` -/
theorem C18_first (t : BTree) (hwf : WF t) (hp : t.panicked = false) :
    (t.abs = [] → t.first = (t, false)) ∧
    (t.abs ≠ [] → t.first.2 = true ∧ CursorPos t t.first.1 [] t.abs) := by
  refine ⟨fun hne => ?_, fun hne => ⟨(first_spec hwf hp hne).1, (first_spec hwf hp hne).2.1⟩⟩
  exact first_empty hwf hne

/-- `Last` on a well-formed tree: nothing happens on an empty store; otherwise true, cursor on the last item of `abs` -/
theorem C18_last (t : BTree) (hwf : WF t) (hp : t.panicked = false) :
    (t.abs = [] → t.last = (t, false)) ∧
    (t.abs ≠ [] → t.last.2 = true ∧ ∃ L x, t.abs = L ++ [x] ∧ CursorPos t t.last.1 L [x]) := by
  refine ⟨fun hne => ?_, fun hne => ?_⟩
  · exact last_empty hwf hne
  · obtain ⟨h1, L, x, h2, h3, _⟩ := last_spec hwf hp hne
    exact ⟨h1, L, x, h2, h3⟩

/-- `Next` from the position `L | x :: R`: false at the end, otherwise true with the cursor on the head of `R` -/
theorem C18_next {t₀ t : BTree} (hwf : WF t₀) {L R : List Item} {x : Item} (h : CursorPos t₀ t L (x :: R)) :
    (R = [] → t.next.2 = false) ∧ (R ≠ [] → t.next.2 = true ∧ CursorPos t₀ t.next.1 (L ++ [x]) R) := by
  obtain ⟨_, _, h1, h2⟩ := next_spec hwf h
  exact ⟨fun hR => (h1 hR).1, fun hR => ⟨(h2 hR).1, (h2 hR).2.1⟩⟩

/-- `Previous` from the position `L | R`: false at the start, otherwise true with the cursor on the last item of `L` -/
theorem C18_prev {t₀ t : BTree} (hwf : WF t₀) {L R : List Item} (h : CursorPos t₀ t L R) :
    (L = [] → t.prev.2 = false) ∧
    (L ≠ [] → t.prev.2 = true ∧ ∃ L' x, L = L' ++ [x] ∧ CursorPos t₀ t.prev.1 L' (x :: R)) := by
  obtain ⟨_, _, h1, h2⟩ := prev_spec hwf h
  refine ⟨fun hL => (h1 hL).1, fun hL => ?_⟩
  obtain ⟨a, L', x, b, c, _⟩ := h2 hL
  exact ⟨a, L', x, b, c⟩

/-- `First`, then `Next` until it answers false, reads exactly the in-order contents -/
theorem C18_scan_forward (t : BTree) (hwf : WF t) (hp : t.panicked = false) : t.scanAll = t.abs :=
  scanAll_eq_abs hwf hp

/-- `Last`, then `Previous` until it answers false, reads exactly the in-order contents backwards -/
theorem C18_scan_backward (t : BTree) (hwf : WF t) (hp : t.panicked = false) : t.scanAllDesc = t.abs.reverse :=
  scanAllDesc_eq_abs_reverse hwf hp

/-- `Find(k, true)` in terms of positions: a hit ⇒ the cursor is on an item of key `k` and everything before it is
    smaller (first of the run of equal keys = lower bound); a miss ⇒ `abs = Lo ++ Hi` with `Lo < k < Hi` and the
    cursor is on the head of `Hi` or on the last item of `Lo` -/
theorem C18_find_lower_bound (t : BTree) (k : Int) (hwf : WF t) (hp : t.panicked = false) (hv : CursorValid t)
    (hne : t.abs ≠ []) :
    ((t.find k true).2 = true ∧ ∃ L y R, CursorPos t (t.find k true).1 L (y :: R) ∧ y.key = k ∧ ∀ x ∈ L, x.key < k) ∨
    ((t.find k true).2 = false ∧ ∃ Lo Hi, (∀ x ∈ Lo, x.key < k) ∧ (∀ x ∈ Hi, k < x.key) ∧
      (CursorPos t (t.find k true).1 Lo Hi ∨ ∃ Lo' x, Lo = Lo' ++ [x] ∧ CursorPos t (t.find k true).1 Lo' (x :: Hi))) :=
  (find_spec hwf hp hv hne k).2.2.2

theorem findIdx_skip {p : Item → Bool} (L R : List Item) (h : ∀ x ∈ L, p x = false) :
    (L ++ R).findIdx p = L.length + R.findIdx p := by
  rw [List.findIdx_append, List.findIdx_eq_length.mpr h, if_neg (Nat.lt_irrefl _), Nat.add_comm]

theorem C18_find : Statement_C18_find := by
  intro t k hwf hp hv
  by_cases hne : t.abs = []
  · have : t.find k true = (t, false) := find_empty hwf hne _ _
    simp only [this, hne]
    exact ⟨by simp [hasKey], by simp, fun _ h => absurd rfl h⟩
  · have hw := hwf.wfr (hwf.count_ne hne).2
    have hres := C18_find_lower_bound t k hwf hp hv hne
    refine ⟨SearchOutcome.iff_hasKey hw hres, ?_⟩
    rcases hres with ⟨hr, L, y, R, hpos, hy, hL⟩ | ⟨hr, Lo, Hi, hLo, hHi, hpos⟩
    · obtain ⟨_, _, _, habs, _, x, R', hR, hx, hat⟩ := C18_cursorPos_meaning hwf hpos
      have hidx : t.abs.findIdx (fun x => x.key == k) = L.length := by
        rw [habs, findIdx_skip L _ (fun x hx => beq_eq_false_iff_ne.mpr (Int.ne_of_lt (hL x hx)))]
        simp [List.findIdx_cons, hy]
      exact ⟨fun _ => by rw [hidx]; exact hat, fun h => by rw [hr] at h; cases h⟩
    · refine ⟨fun h => (by rw [hr] at h; cases h), fun _ _ => ?_⟩
      have habs' := (miss_no_key hw hLo hHi hpos).1
      have hidx : t.abs.findIdx (fun x => decide (x.key > k)) = Lo.length := by
        rw [habs', findIdx_skip Lo _ (fun x hx => decide_eq_false (Int.not_lt.mpr (Int.le_of_lt (hLo x hx))))]
        cases Hi with
        | nil => simp
        | cons y ys =>
          have := hHi y (by simp)
          simp [List.findIdx_cons, this]
      rw [hidx]
      rcases hpos with hpos | ⟨Lo', x', hLx, hpos⟩
      · obtain ⟨_, _, _, _, _, _, _, _, _, hat⟩ := C18_cursorPos_meaning hwf hpos
        exact Or.inl hat
      · obtain ⟨_, _, _, _, _, _, _, _, _, hat⟩ := C18_cursorPos_meaning hwf hpos
        right
        rw [hLx]
        simpa using hat

/-- ascending `Range(a, b)` on a well-formed tree returns exactly the items with `a ≤ key ≤ b`, in key order
    (the items themselves, not only their keys) -/
theorem C18_range_asc (t : BTree) (a b : Int) (hwf : WF t) (hp : t.panicked = false) (hv : CursorValid t) :
    (t.range a b true).2 = t.abs.filter (inRange a b) :=
  range_asc_spec hwf hp hv a b

/-- descending `RangeDesc(a, b)` on a well-formed tree returns exactly the items with `b ≤ key ≤ a`, in descending
    key order -/
theorem C18_range_desc (t : BTree) (a b : Int) (hwf : WF t) (hp : t.panicked = false) :
    (t.range a b false).2 = (t.abs.filter (inRange b a)).reverse :=
  range_desc_spec hwf hp a b

/-- the iterators leave the same tree (up to memoised indices and the cursor), not panicked -/
theorem C18_range_state (t : BTree) (a b : Int) (asc : Bool) (hwf : WF t) (hp : t.panicked = false) (hv : CursorValid t)
    (hix : t.cur.node = 0 ∨ 0 ≤ t.cur.idx) :
    WF (t.range a b asc).1 ∧ (t.range a b asc).1.panicked = false ∧ (t.range a b asc).1.abs = t.abs ∧
      CursorValid (t.range a b asc).1 := by
  obtain ⟨h1, h2, h3, _⟩ := range_state hwf hp ⟨hv, hix⟩ a b asc
  exact ⟨WF_heapEq h1 hwf, h2, abs_heapEq h1, h3⟩

/-- `FindWithID(k, id)` (with the proposed repair `fixId`) answers true iff an item with that key and id is stored -/
theorem C18_find_with_id (t : BTree) (k : Int) (id : Nat) (hwf : WF t) (hp : t.panicked = false) (hv : CursorValid t)
    (hix : t.cur.node = 0 ∨ 0 ≤ t.cur.idx) (hfix : t.fixId = true) :
    ((t.findWithID k id).2 = true ↔ ∃ x ∈ t.abs, x.key = k ∧ x.id = id) :=
  (findWithID_spec hwf hp ⟨hv, hix⟩ hfix k id).2

/-- `Find(k, false)` — the search used by `Update`/`Remove` — with the repaired fast path (`fixFast`): a hit leaves
    the cursor on SOME item of key `k`, a miss means `k` is not stored -/
theorem C18_find_any (t : BTree) (k : Int) (hwf : WF t) (hp : t.panicked = false) (hv : CursorValid t)
    (hfix : t.fixFast = true) (hne : t.abs ≠ []) :
    ((t.find k false).2 = true ∧ ∃ L y R, CursorPos t (t.find k false).1 L (y :: R) ∧ y.key = k) ∨
    ((t.find k false).2 = false ∧ (∀ x ∈ t.abs, x.key ≠ k) ∧ ∃ L R, CursorPos t (t.find k false).1 L R) :=
  (find_any_spec hwf hp hv hfix hne k).2.2

theorem C18_range : Statement_C18_range := by
  intro t a b hwf hp hv
  rw [C18_range_asc t a b hwf hp hv, C18_range_desc t a b hwf hp]
  exact ⟨rfl, by rw [List.map_reverse]⟩

/-- `FindInDescendingOrder(k)`: a hit ⇒ the cursor is on an item of key `k`, everything before is `≤ k` and
    everything after is `> k` (LAST of the run of equal keys); a miss ⇒ as for `Find` -/
theorem C18_find_desc (t : BTree) (k : Int) (hwf : WF t) (hp : t.panicked = false) (hne : t.abs ≠ []) :
    ((t.findDesc k).2 = true ∧ ∃ L y R, CursorPos t (t.findDesc k).1 L (y :: R) ∧ y.key = k ∧
        (∀ x ∈ L, x.key ≤ k) ∧ ∀ x ∈ R, k < x.key) ∨
    ((t.findDesc k).2 = false ∧ ∃ Lo Hi, (∀ x ∈ Lo, x.key < k) ∧ (∀ x ∈ Hi, k < x.key) ∧
      (CursorPos t (t.findDesc k).1 Lo Hi ∨ ∃ Lo' x, Lo = Lo' ++ [x] ∧ CursorPos t (t.findDesc k).1 Lo' (x :: Hi))) :=
  (findDesc_spec hwf hp hne k).2.2.2

/-- ascending: scan from the lower bound of `a` while `≤ b` = exactly the range -/
theorem C18_scan_exact (t : BTree) (h : WF t) (a b : Int) :
    (t.abs.dropWhile (fun i => decide (i.key < a))).takeWhile (fun i => decide (i.key ≤ b)) = t.abs.filter (inRange a b) :=
  scan_from_lower_bound_exact a b t.abs (abs_sorted_of_WF t h).1

/-- Go's `sort.Search`, as transcribed, returns the least index satisfying a monotone predicate -/
theorem C18_sort_search (f : Nat → Bool) (n : Nat) (hmono : ∀ a b, a ≤ b → b < n → f a = true → f b = true) :
    sortSearch n f ≤ n ∧ (∀ x, x < sortSearch n f → f x = false) ∧ (∀ x, sortSearch n f ≤ x → x < n → f x = true) :=
  sortSearch_spec f n hmono

/-- inside one node with key-sorted occupied slots, the search step of `find` / `getIndexToInsertTo`
    returns the lower bound of the probe key (first slot with key `≥ k`) -/
theorem C18_node_search_lower_bound (nd : Node) (k : Int) (hc : nd.count ≤ nd.slots.size)
    (hs : nd.items.Pairwise (fun a b => a.key ≤ b.key)) :
    let i := sortSearch nd.count (fun i => decide ((nd.slot i).key ≥ k))
    i ≤ nd.count ∧ (∀ x, x < i → (nd.slot x).key < k) ∧ (∀ x, i ≤ x → x < nd.count → k ≤ (nd.slot x).key) :=
  node_search_lower_bound nd k hc hs

/-- the range of a well-formed tree is itself key-sorted and live -/
theorem C18_range_sorted (t : BTree) (h : WF t) (a b : Int) :
    Sorted (t.abs.filter (inRange a b)) ∧ ∀ x ∈ t.abs.filter (inRange a b), x.id ≠ 0 ∧ a ≤ x.key ∧ x.key ≤ b := by
  have hs := abs_sorted_of_WF t h
  refine ⟨List.Pairwise.sublist List.filter_sublist hs.1, ?_⟩
  intro x hx
  have hm := List.mem_filter.mp hx
  have hr := hm.2
  simp only [inRange, Bool.and_eq_true, decide_eq_true_eq] at hr
  exact ⟨hs.2.1 x hm.1, hr.1, hr.2⟩

/-- non-vacuity of the hypotheses (`WF`, not panicked, `CursorValid`, non-empty): a small two-level tree (root
    split at slot length 2) is accepted by the checker; its cursor is still unset, so `CursorValid` holds by its first
    clause (selected cursors come from `C18_first`). Larger concrete trees are exercised by the
    correspondence corpus, not in the kernel. -/
def sample : BTree := (BTree.new 2 false false true).run [.add 10 1, .add 20 2, .add 30 3]

theorem sample_checked : checkWF sample = true := by decide +kernel

theorem C18_sample : WF sample ∧ sample.abs.map (·.key) = [10, 20, 30] ∧ sample.panicked = false ∧
    CursorValid sample ∧ sample.abs ≠ [] := by
  have h1 : sample.abs.map (·.key) = [10, 20, 30] := by decide +kernel
  refine ⟨checkWF_sound sample sample_checked, h1, by decide +kernel, Or.inl (by decide +kernel), ?_⟩
  intro h; rw [h] at h1; simp at h1

end Sop.C18
