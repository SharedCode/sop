import Sop.Model.SearchInst
import Sop.Lemmas.Search
/-!
# C32 — text search returns exactly the matching documents, in descending score order

Theorems over the model `Sop.Search` (`/repo/search/index.go`, `tokenizer.go`), for every tokenizer that
never puts `|` into a token (`TokLaw`; proved for the executable tokenizer the driver runs, with the
character table and stop words regenerated from the source on every run):

* `C32_index_invariant` — after indexing any list of documents with distinct ids, the four stores hold
  exactly the corpus statistics (`Inv`); `C32_any_batching` — a split into transactions does not matter;
* `C32_match` — a search returns each document that shares a token with the query exactly once and no
  other document (the prefix scan `t|` visits exactly the postings of `t`, also when ids contain `|`);
* `C32_order` — results are in descending score order, for ANY score function.

NOT a theorem: that a float64 score equals the BM25 expression.  The model never computes a float (the
scores are inputs); the harness recomputes BM25 from the integer statistics and compares (a test).
-/
namespace Sop.C32
open Sop.Search

theorem fieldsAux_no_bar (isTok : Nat → Bool) (lower : Nat → Nat) (h : ∀ c, isTok c = true → lower c ≠ bar)
    (text cur : Str) (hc : bar ∉ cur) : ∀ f ∈ fieldsAux isTok lower text cur, bar ∉ f := by
  induction text generalizing cur with
  | nil =>
    rw [fieldsAux]
    split
    · nofun
    · exact fun f hf => List.mem_singleton.1 hf ▸ mt List.mem_reverse.1 hc
  | cons c r ih =>
    rw [fieldsAux]
    split
    · rename_i ht
      exact ih _ fun hm => (List.mem_cons.1 hm).elim (fun e => h c ht e.symm) hc
    · split
      · exact ih [] List.not_mem_nil
      · exact fun f hf => (List.mem_cons.1 hf).elim (· ▸ mt List.mem_reverse.1 hc) (ih [] List.not_mem_nil f)

theorem tokLaw_tokenizeWith (isTok : Nat → Bool) (lower : Nat → Nat) (stop : List Str)
    (h : ∀ c, isTok c = true → lower c ≠ bar) : TokLaw (tokenizeWith isTok lower stop) :=
  fun text t ht => fieldsAux_no_bar isTok lower h text [] List.not_mem_nil t (List.mem_filter.1 ht).1

/-- the check of the regenerated character table: no token character lower-cases to `|` -/
def tableOk : List Nat → List Nat → List Nat → Bool
  | [], _, _ => true
  | _ :: _, [], _ => true
  | c :: cs, t :: ts, [] => (t == 0 || c != bar) && tableOk cs ts []
  | _ :: cs, t :: ts, l :: ls => (t == 0 || l != bar) && tableOk cs ts ls

theorem tableLookup_nil (cs : List Nat) (x : Nat) : tableLookup cs [] x = none := by
  cases cs <;> rfl

theorem tableOk_sound (x v : Nat) (hv : v ≠ 0) (cs ts ls : List Nat) (hok : tableOk cs ts ls = true)
    (h : tableLookup cs ts x = some v) : (match tableLookup cs ls x with | some l => l | none => x) ≠ bar := by
  induction cs generalizing ts ls with
  | nil => cases h
  | cons c cs ih =>
    cases ts with
    | nil => cases h
    | cons t ts =>
      rw [tableLookup] at h
      by_cases e : c = x
      · rw [if_pos e, Option.some.injEq] at h
        cases ls with
        | nil =>
          rw [tableOk, h, Bool.and_eq_true, Bool.or_eq_true, beq_iff_eq, bne_iff_ne] at hok
          rw [tableLookup_nil, ← e]
          exact hok.1.resolve_left hv
        | cons l ls =>
          rw [tableOk, h, Bool.and_eq_true, Bool.or_eq_true, beq_iff_eq, bne_iff_ne] at hok
          rw [tableLookup, if_pos e]
          exact hok.1.resolve_left hv
      · rw [if_neg e] at h
        cases ls with
        | nil =>
          rw [tableOk, Bool.and_eq_true] at hok
          rw [tableLookup_nil, ← tableLookup_nil cs x]
          exact ih ts [] hok.2 h
        | cons l ls =>
          rw [tableOk, Bool.and_eq_true] at hok
          rw [tableLookup, if_neg e]
          exact ih ts ls hok.2 h

theorem table_checked : tableOk FactsC32.alphabet FactsC32.alphabetTok FactsC32.alphabetLower = true := by decide +kernel

/-- the executable tokenizer of the driver (validated against `search.SimpleTokenizer` by the `tok` ops) obeys the law -/
theorem tokLaw_tokenizeX : TokLaw tokenizeX := by
  apply tokLaw_tokenizeWith
  intro c hc
  unfold isTokX at hc
  unfold lowerX
  cases hl : tableLookup FactsC32.alphabet FactsC32.alphabetTok c with
  | none => rw [hl] at hc; simp at hc
  | some v =>
    rw [hl] at hc
    exact tableOk_sound c v (by simpa using hc) _ _ _ table_checked hl

/-- Indexing documents with distinct ids, starting from the empty index, leaves the four stores equal to
the corpus statistics: postings `t|d ↦ tf`, term_stats `t ↦ df`, doc_stats `d ↦ len`, total_docs, total_len
(each store in ascending key order, with no other entry). -/
theorem C32_index_invariant (tok : Str → List Str) (hl : TokLaw tok) (docs : List (Str × Str))
    (hnd : (docs.map (·.1)).Nodup) : Inv tok docs (indexAll tok Index.empty docs) := by
  simpa using inv_indexAll tok hl docs (inv_empty tok) (by simpa using hnd)

/-- any split of the indexing into transactions (batches) gives the index of the concatenation -/
theorem C32_any_batching (tok : Str → List Str) (batches : List (List (Str × Str))) (ix : Index) :
    indexBatches tok ix batches = indexAll tok ix batches.flatten := by
  induction batches generalizing ix with
  | nil => rfl
  | cons b bs ih => exact (ih (indexAll tok ix b)).trans (List.foldl_append ..).symm

theorem termHits_iff (tok : Str → List Str) (c : List (Str × Str)) (ix : Index) (hi : Inv tok c ix)
    (t : Str) (hb : bar ∉ t) (d : Str) :
    d ∈ (termHits ix t).map (·.1) ↔ ∃ x, (d, x) ∈ c ∧ t ∈ tok x := by
  unfold termHits
  constructor
  · intro h
    split at h
    · cases h
    · rw [List.map_map, List.mem_map] at h
      obtain ⟨e, he, rfl⟩ := h
      rw [scanPrefix_eq_filter _ hi.postingsSorted, List.mem_filter] at he
      obtain ⟨t', d', h1, h2, h3⟩ := hi.postingsShape e he.1
      obtain ⟨x, hx, ht, -⟩ := (specTF_eq_some hi.ids).1 h3
      cases (pkey_prefix hb h2).1 (h1 ▸ he.2)
      exact ⟨x, by rw [Function.comp, h1, pkey_drop]; exact hx, ht⟩
  · rintro ⟨x, hx, ht⟩
    have hts := hi.termsFind t
    rw [if_neg (specDF_ne_zero hx ht)] at hts
    rw [hts, List.map_map, List.mem_map, scanPrefix_eq_filter _ hi.postingsSorted]
    have hp := (hi.postingsFind t d hb).trans ((specTF_eq_some hi.ids).2 ⟨x, hx, ht, rfl⟩)
    exact ⟨_, List.mem_filter.2 ⟨mem_of_find hp, (pkey_prefix hb hb).2 rfl⟩, pkey_drop t d⟩

theorem matched_iff (tok : Str → List Str) (hl : TokLaw tok) (c : List (Str × Str)) (ix : Index) (hi : Inv tok c ix)
    (q d : Str) :
    d ∈ matched tok ix q ↔ ∃ t ∈ tok q, ∃ x, (d, x) ∈ c ∧ t ∈ tok x := by
  unfold matched
  by_cases he : (tok q).isEmpty = true
  · rw [if_pos he, List.isEmpty_iff.1 he]
    exact ⟨nofun, nofun⟩
  · rw [if_neg he]
    by_cases h0 : (omFind ix.global kTotalDocs).getD 0 = 0
    · -- `total_docs` is absent or zero only for the empty corpus
      rw [if_pos h0]
      rw [hi.totalDocs] at h0
      have hc : c = [] := by
        split at h0
        · exact List.eq_nil_of_length_eq_zero ‹_›
        · exact List.eq_nil_of_length_eq_zero h0
      subst hc
      exact ⟨nofun, nofun⟩
    · rw [if_neg h0, mem_dedup, List.mem_flatMap]
      exact exists_congr fun t => and_congr_right fun ht => termHits_iff tok c ix hi t (hl q t ht) d

theorem nodup_matched (tok : Str → List Str) (ix : Index) (q : Str) : (matched tok ix q).Nodup := by
  unfold matched
  split
  · exact List.nodup_nil
  · split
    · exact List.nodup_nil
    · exact nodup_dedup _

/-- **C32 (result set).** For documents with distinct ids indexed from the empty index, a search returns
every document that contains at least one query token — each exactly once — and nothing else, whatever
the scores are. -/
theorem C32_match (tok : Str → List Str) (hl : TokLaw tok) (docs : List (Str × Str))
    (hnd : (docs.map (·.1)).Nodup) (q : Str) (score : Str → Int) :
    (search tok (indexAll tok Index.empty docs) q score).Nodup ∧
    ∀ d, d ∈ search tok (indexAll tok Index.empty docs) q score ↔
      ∃ t ∈ tok q, ∃ x, (d, x) ∈ docs ∧ t ∈ tok x := by
  have hi := C32_index_invariant tok hl docs hnd
  have hp := (sortBy_spec score (matched tok (indexAll tok Index.empty docs) q)).2
  refine ⟨(hp.nodup_iff).2 (nodup_matched _ _ _), ?_⟩
  intro d
  unfold search
  rw [hp.mem_iff]
  exact matched_iff tok hl docs _ hi q d

/-- the same for any split of the corpus into transactions -/
theorem C32_match_batches (tok : Str → List Str) (hl : TokLaw tok) (batches : List (List (Str × Str)))
    (hnd : (batches.flatten.map (·.1)).Nodup) (q : Str) (score : Str → Int) :
    (search tok (indexBatches tok Index.empty batches) q score).Nodup ∧
    ∀ d, d ∈ search tok (indexBatches tok Index.empty batches) q score ↔
      ∃ t ∈ tok q, ∃ x, (d, x) ∈ batches.flatten ∧ t ∈ tok x := by
  rw [C32_any_batching]
  exact C32_match tok hl batches.flatten hnd q score

/-- **C32 (order).** Results are in descending score order — for any index state, any query and ANY
score function (the float64 BM25 values of the real code enter the model only through `score`). -/
theorem C32_order (tok : Str → List Str) (ix : Index) (q : Str) (score : Str → Int) :
    (search tok ix q score).Pairwise (fun a b => score b ≤ score a) :=
  (sortBy_spec score _).1

/-- a toy tokenizer (split at spaces and `|`) for concrete evaluation -/
def toyTok : Str → List Str := tokenizeWith (fun c => c != 32 && c != bar) id []

theorem toyTok_law : TokLaw toyTok :=
  tokLaw_tokenizeWith _ _ _ fun c hc => (bne_iff_ne.1 (Bool.and_eq_true _ _ ▸ hc).2 : c ≠ bar)

/-- documents "a|1" = "x y x", "b" = "y", "c" = "z": a query "x y" finds a|1 and b, not c; the id containing `|` is intact -/
example : search toyTok (indexBatches toyTok Index.empty [[([97, 124, 49], [120, 32, 121, 32, 120])], [([98], [121]), ([99], [122])]])
    [120, 32, 121] (fun d => if d = [98] then 2 else 1) = [[98], [97, 124, 49]] := by decide +kernel

example : (([([97, 124, 49], [120, 32, 121, 32, 120]), ([98], [121]), ([99], [122])] : List (Str × Str)).map (·.1)).Nodup := by decide +kernel

/-- what happens outside the hypothesis (the same id indexed twice): the document counters are bumped although
nothing new is stored — the model reproduces the code here, and the theorems above exclude it by `Nodup` -/
example : (indexAll toyTok Index.empty [([100], [120]), ([100], [120])]).global = [(kTotalDocs, 2), (kTotalLen, 2)]
    ∧ (indexAll toyTok Index.empty [([100], [120]), ([100], [120])]).docStats = [([100], 1)] := by decide +kernel

end Sop.C32
