import Sop.Lemmas.Commit
import Sop.Lemmas.CommitWitness
import Sop.Lemmas.CommitClean6
import Sop.Lemmas.CommitPreSound
/-!
# C07 — a commit that fails on an I/O or lock error leaves no trace and no blockage

Stated on Model P. The full statement is false for the code as it is; four independent witnesses are proved
here and replayed on the implementation by the harness (findings C07-F1..F3, F5). What holds in general is the
per-handle algebra: an undone reservation is exactly the pre-reservation image with an empty inactive slot
(`undo_restores_handle`), i.e. the undo routine is right whenever `rollback` decides to run it.

Whole runs (`C07_failed_*`): for every write set and start state satisfying `Pre`/`Pre2`, every transaction id and
every fault OUTSIDE the finding positions, a commit that returns an error ends with every updated node's registry
handle restored and with no node-key lock of the transaction left. Covered: every fault position of phase 2 (`C07_failed_phase2_no_blockage`); phase-1
failures by the injected fault at committed state `commitRemovedNodes` … `beforeFinalize`
(`C07_failed_phase1_late_no_blockage`) and at committed state ≤ `commitNewRootNodes`, or `areFetchedItemsIntact`
with a `tlog.Add` / `reg.Get` / `reg.UpdateNoLocks:failBefore` fault (`C07_failed_phase1_early_untouched`).
Not covered (= C07-F1): `blob.Add` and `reg.UpdateNoLocks:failAfter` at committed state `areFetchedItemsIntact`,
anything at committed state `commitUpdatedNodes`; and errors the code detects by itself while the injected fault is
still pending (the fault may then hit the rollback's own calls). The theorems speak of the UPDATED nodes' handles and
the node-key locks only: removal marks (C07-F5), new roots (F4), counts (F3) and item lock records (F2) are not claimed.
-/
namespace Sop.Commit.Witness
open Sop.Commit

theorem s0_no_locks (tid : Tid) : ∀ k, s0.nodeLock k ≠ some tid := by
  intro k h
  cases h

end Sop.Commit.Witness

namespace Sop.C07
open Sop.Commit

/-- no trace and no blockage: after a failed commit the same changes, committed by a later transaction with no
faults and no waiting, go through, and meanwhile nothing a reader sees has changed -/
def Statement_C07 : Prop :=
  ∀ (s : State) (w : WS) (fresh fresh2 : List (UUID × UUID)) (f : Fault),
    let r := commit w 30 { s := s, tid := 1, fault := some f, fresh := fresh }
    r.1 = .err →
      (∀ lid, r.2.s.view lid = s.view lid) ∧ (∀ st, r.2.s.cnt st = s.cnt st) ∧
      (commit w 30 { s := r.2.s, tid := 2, fault := none, fresh := fresh2 }).1 = .ok

theorem undo_restores_handle (now hour : Int) (f : UUID) (h h' : Handle) (v : Int)
    (e : reserveOne now hour f h v = some h') :
    h'.clearInactive.lid = h.lid ∧ h'.clearInactive.active = h.active ∧ h'.clearInactive.version = h.version
      ∧ h'.clearInactive.inactive = 0 ∧ h'.clearInactive.wip = 0 := undo_reserve now hour f h h' v e

/-- a handle with an empty inactive slot that is not marked deleted can be reserved at once, at its own version -/
theorem C07_clean_handle_reservable (now hour : Int) (f : UUID) (g : Handle) (hi : g.inactive = 0) (hd : g.deleted = false) :
    ∃ h', reserveOne now hour f g g.version = some h' := by
  unfold reserveOne
  simp only [hd, Bool.false_and, Bool.false_or, bne_self_eq_false, Bool.false_eq_true, ↓reduceIte]
  have hall : ∃ h', g.allocate f now = some h' := by
    unfold Handle.allocate Handle.bothInUse
    unfold Handle.inactive at hi
    cases hb : g.activeB
    · simp [hb] at hi ⊢; simp [hi]
    · simp [hb] at hi ⊢; simp [hi]
  obtain ⟨h', hg⟩ := hall
  exact ⟨h', by simp [hg]⟩

/-- and such a handle can be reserved again at once (no expiry needed) by the next transaction -/
theorem cleared_handle_reservable (now hour : Int) (f : UUID) (h : Handle) (hd : h.deleted = false) :
    ∃ h', reserveOne now hour f h.clearInactive h.version = some h' := by
  obtain ⟨_, _, c3, c4, _, c6⟩ := Handle.clearInactive_spec h
  have := C07_clean_handle_reservable now hour f h.clearInactive c3 (c6.trans hd)
  rwa [c4] at this

abbrev rFail (w : WS) (f : Fault) (fresh : List (UUID × UUID)) : Outcome × Run :=
  commit w 30 { s := Witness.s0, tid := 1, fault := some f, fresh := fresh }

/-- a handle whose two physical ids are both in use and whose timestamp has not expired cannot be reserved:
this is what makes a leftover reservation block every later writer of that node for an hour -/
theorem leftover_reservation_blocks (now hour : Int) (f : UUID) (h : Handle) (v : Int)
    (hA : h.idA ≠ 0) (hB : h.idB ≠ 0) (hne : h.expiredInactive now hour = false) :
    reserveOne now hour f h v = none := by
  unfold reserveOne
  split
  · rfl
  · have hb : h.bothInUse = true := by unfold Handle.bothInUse; simp [hA, hB]
    by_cases hd : h.deleted = true
    · simp_all
    · have hd' : h.deleted = false := by simpa using hd
      simp [hd', Handle.allocate, hb, hne]

/-- **F1 (reservation stays)**: the staged-blob write inside `commitUpdatedNodes` fails; `committedState` is still
`areFetchedItemsIntact`, so `rollback` skips `rollbackUpdatedNodes`: handle 1 keeps both ids in use with a live
timestamp — by `leftover_reservation_blocks` no later transaction can reserve it before the one-hour expiry. -/
theorem C07_counterexample_reservation :
    (rFail Witness.wSplit ⟨.blobAdd, 1, .failBefore⟩ [(1, 9)]).1 = .err ∧
    ((rFail Witness.wSplit ⟨.blobAdd, 1, .failBefore⟩ [(1, 9)]).2.s.reg 1).map
        (fun h => (h.idA, h.idB, h.expiredInactive Witness.s0.now Witness.s0.hour)) = some (1, 9, false) := by
  decide +kernel

/-- **F2 (lock records stay)**: the lock-record write succeeds but reports an error; the records are there under
the failed transaction's id, its owner flag is not set, so `unlock` deletes nothing; `lockItems` of another
transaction that writes one of these items then reports a conflict (first branch of `lockItems`; a transaction that only
reads them is let through). -/
theorem C07_counterexample_item_locks :
    (rFail Witness.wUpd ⟨.l2SetStructs, 1, .failAfter⟩ [(1, 9)]).1 = .err ∧
    (rFail Witness.wUpd ⟨.l2SetStructs, 1, .failAfter⟩ [(1, 9)]).2.s.itemLock 0 = some 1 := by
  decide +kernel

/-- **F3 (count stays)**: see `Sop.C01.C01_counterexample`; here as the C07 statement's second conjunct -/
theorem C07_counterexample_count :
    (rFail Witness.wUpd ⟨.srUpdate, 1, .failAfter⟩ [(1, 9)]).1 = .err ∧
    (rFail Witness.wUpd ⟨.srUpdate, 1, .failAfter⟩ [(1, 9)]).2.s.cnt 0 ≠ Witness.s0.cnt 0 := by
  decide +kernel

/-- **F5 (removal marks stay)**: the registry write of `commitRemovedNodes` takes effect and reports an error;
`committedState` is `commitRemovedNodes`, so `rollback` (which runs `rollbackRemovedNodes` only when
`committedState > commitRemovedNodes`) leaves the node marked deleted with a live timestamp: the next transaction
that updates or removes that node is refused until the mark expires. -/
theorem C07_counterexample_removed_marks :
    (rFail Witness.wRem ⟨.regUpdateNoLocks, 1, .failAfter⟩ []).1 = .err ∧
    ((rFail Witness.wRem ⟨.regUpdateNoLocks, 1, .failAfter⟩ []).2.s.reg 1).map
        (fun h => (h.deleted, h.expiredInactive Witness.s0.now Witness.s0.hour)) = some (true, false) := by
  decide +kernel

theorem C07_counterexample : ¬ Statement_C07 := by
  intro h
  have c := C07_counterexample_count
  unfold rFail at c
  have h1 := h Witness.s0 Witness.wUpd [(1, 9)] [(1, 10)] ⟨.srUpdate, 1, .failAfter⟩
  simp only at h1
  have h2 := h1 c.1
  exact c.2 (h2.2.1 0)

/-- what does work: with no fault the witness transactions commit (the premises above are not vacuous) -/
example : (commit Witness.wSplit 30 { s := Witness.s0, tid := 1, fault := none, fresh := [(1, 9)] }).1 = .ok := by
  decide +kernel

/-- **Phase 2 fails, at ANY fault position** (its first log write, the flip write failing before or after its effect):
every updated node's handle is back with an empty inactive slot and timestamp 0, same active id and version as before
the commit. -/
theorem C07_failed_phase2_no_blockage (s0 : State) (w : WS) (fresh0 : List (UUID × UUID))
    (pre : Pre s0 w fresh0) (pre2 : Pre2 s0 w fresh0) (fault : Option Fault) {cs0 : Step} (tid : Tid) (n : Nat) (r1 r2 : Run)
    (hl : ∀ k, s0.nodeLock k ≠ some tid)
    (h1 : phase1 w n { s := s0, tid := tid, fault := fault, fresh := fresh0, cs := cs0 } = .ok ((), r1))
    (h2 : phase2 w r1 = .error r2) :
    HandlesCleared s0 w (commit w n { s := s0, tid := tid, fault := fault, fresh := fresh0, cs := cs0 }).2.s ∧
    NoNodeLocks tid (commit w n { s := s0, tid := tid, fault := fault, fresh := fresh0, cs := cs0 }).2.s :=
  commit_phase2_failure_cleared pre pre2 (.init pre (fault := fault) hl) h1 h2

/-- **Phase 1 fails by the injected fault after `commitUpdatedNodes` was logged as done** (committed state
`commitRemovedNodes`, `commitAddedNodes`, `commitStoreInfo` or `beforeFinalize`: any call of `commitRemovedNodes`,
`commitAddedNodes`, the store-count update, the priority log, the lock re-checks, and the log writes of those steps):
`rollback` runs `rollbackUpdatedNodes` and `unlockNodesKeys`, and with the fault spent neither can fail. -/
theorem C07_failed_phase1_late_no_blockage (s0 : State) (w : WS) (fresh0 : List (UUID × UUID))
    (pre : Pre s0 w fresh0) (fault : Option Fault) {cs0 : Step} (tid : Tid) (n : Nat) (r1 : Run)
    (hl : ∀ k, s0.nodeLock k ≠ some tid)
    (h1 : phase1 w n { s := s0, tid := tid, fault := fault, fresh := fresh0, cs := cs0 } = .error r1)
    (hc : r1.conflicted = false) (hsp : spentB r1 = true) (hcs : pastUpdated r1.cs = true) :
    HandlesCleared s0 w (commit w n { s := s0, tid := tid, fault := fault, fresh := fresh0, cs := cs0 }).2.s ∧
    NoNodeLocks tid (commit w n { s := s0, tid := tid, fault := fault, fresh := fresh0, cs := cs0 }).2.s :=
  commit_phase1_late_failure_cleared pre (.init pre (fault := fault) hl) h1 hc hsp hcs

/-- **Phase 1 fails by the injected fault before the reservation write took effect** (`earlyB`) -/
theorem C07_failed_phase1_early_untouched (s0 : State) (w : WS) (fresh0 : List (UUID × UUID))
    (pre : Pre s0 w fresh0) (pre2 : Pre2 s0 w fresh0) (fault : Option Fault) {cs0 : Step} (tid : Tid) (n : Nat) (r1 : Run)
    (hl : ∀ k, s0.nodeLock k ≠ some tid)
    (h1 : phase1 w n { s := s0, tid := tid, fault := fault, fresh := fresh0, cs := cs0 } = .error r1)
    (hc : r1.conflicted = false) (hsp : spentB r1 = true) (he : earlyB r1 = true) :
    HandlesUntouched s0 w (commit w n { s := s0, tid := tid, fault := fault, fresh := fresh0, cs := cs0 }).2.s ∧
    NoNodeLocks tid (commit w n { s := s0, tid := tid, fault := fault, fresh := fresh0, cs := cs0 }).2.s :=
  commit_phase1_early_failure_untouched pre pre2 (.init pre (fault := fault) hl) h1 hc hsp he

/-- **…the registry part of the early case needs no assumption on the fault**: phase 1 stops early by the injected
fault OR by an error the code detects itself (an item-lock conflict, a version conflict with the retry budget used up),
with the fault then free to hit any call of the live rollback. -/
theorem C07_failed_phase1_early_untouched_any_fault (s0 : State) (w : WS) (fresh0 : List (UUID × UUID))
    (pre : Pre s0 w fresh0) (pre2 : Pre2 s0 w fresh0) (fault : Option Fault) {cs0 : Step} (tid : Tid) (n : Nat) (r1 : Run)
    (h1 : phase1 w n { s := s0, tid := tid, fault := fault, fresh := fresh0, cs := cs0 } = .error r1)
    (hc : r1.conflicted = false) (he : earlyB r1 = true) :
    HandlesUntouched s0 w (commit w n { s := s0, tid := tid, fault := fault, fresh := fresh0, cs := cs0 }).2.s :=
  untouched_of_same (commit_phase1_failure_rinv pre (.init pre rfl rfl) h1)
    (commit_phase1_early_failure_same pre2 SameI.init h1 hc he)

/-- **C07, whole run, restricted to the non-finding fault positions** (`coveredFailure`, a Boolean computed on the
model from the write set, the start state and the fault): whenever `Commit` returns an error, every updated node's
handle is restored (`HandlesRestored`: the entry it had before, or that entry with the inactive slot and the timestamp
emptied) and no node-key lock of the transaction is left. Whether the next transaction can reserve a node at once
(`C07_clean_handle_reservable`) also depends on what the handle was before: its `deleted` flag is not spoken of, and
an entry left untouched keeps whatever inactive id it had. -/
theorem C07_failed_commit_no_blockage (s0 : State) (w : WS) (fresh0 : List (UUID × UUID))
    (pre : Pre s0 w fresh0) (pre2 : Pre2 s0 w fresh0) (fault : Option Fault) {cs0 : Step} (tid : Tid) (n : Nat)
    (hl : ∀ k, s0.nodeLock k ≠ some tid)
    (herr : (commit w n { s := s0, tid := tid, fault := fault, fresh := fresh0, cs := cs0 }).1 = .err)
    (hcov : coveredFailure w n { s := s0, tid := tid, fault := fault, fresh := fresh0, cs := cs0 } = true) :
    HandlesRestored s0 w (commit w n { s := s0, tid := tid, fault := fault, fresh := fresh0, cs := cs0 }).2.s ∧
    NoNodeLocks tid (commit w n { s := s0, tid := tid, fault := fault, fresh := fresh0, cs := cs0 }).2.s :=
  commit_covered_failure_restored pre pre2 (.init pre (fault := fault) hl) herr hcov

/-- the hypotheses are satisfiable by non-trivial runs, one per covered class: the flip write of the split transaction
fails after its effect (phase 2); the registration of the added node fails after its effect (phase 1, committed
state `commitAddedNodes`); the node-lock call fails (phase 1, early) -/
example : (rFail Witness.wSplit ⟨.regUpdateNoLocks, 2, .failAfter⟩ [(1, 9)]).1 = .err ∧
    coveredFailure Witness.wSplit 30 { s := Witness.s0, tid := 1, fault := some ⟨.regUpdateNoLocks, 2, .failAfter⟩, fresh := [(1, 9)] } = true := by
  decide +kernel
example : (rFail Witness.wSplit ⟨.regAdd, 1, .failAfter⟩ [(1, 9)]).1 = .err ∧
    coveredFailure Witness.wSplit 30 { s := Witness.s0, tid := 1, fault := some ⟨.regAdd, 1, .failAfter⟩, fresh := [(1, 9)] } = true := by
  decide +kernel
example : (rFail Witness.wSplit ⟨.l2Lock, 1, .failAfter⟩ [(1, 9)]).1 = .err ∧
    coveredFailure Witness.wSplit 30 { s := Witness.s0, tid := 1, fault := some ⟨.l2Lock, 1, .failAfter⟩, fresh := [(1, 9)] } = true := by
  decide +kernel

/-- …and the finding position is outside the class: the staged-blob write inside `commitUpdatedNodes` -/
example : coveredFailure Witness.wSplit 30 { s := Witness.s0, tid := 1, fault := some ⟨.blobAdd, 1, .failBefore⟩, fresh := [(1, 9)] } = false := by
  decide +kernel

/-- the theorem applied to the flip-failure witness -/
example :
    HandlesRestored Witness.s0 Witness.wSplit (commit Witness.wSplit 30 { s := Witness.s0, tid := 1, fault := some ⟨.regUpdateNoLocks, 2, .failAfter⟩, fresh := [(1, 9)], cs := .unknown }).2.s ∧
    NoNodeLocks 1 (commit Witness.wSplit 30 { s := Witness.s0, tid := 1, fault := some ⟨.regUpdateNoLocks, 2, .failAfter⟩, fresh := [(1, 9)], cs := .unknown }).2.s :=
  C07_failed_commit_no_blockage (cs0 := .unknown) Witness.s0 Witness.wSplit [(1, 9)] Witness.pre_wSplit Witness.pre2_wSplit
    (some ⟨.regUpdateNoLocks, 2, .failAfter⟩) 1 30 (Witness.s0_no_locks 1) (by decide +kernel) (by decide +kernel)

end Sop.C07
