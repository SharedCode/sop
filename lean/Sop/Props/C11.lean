import Sop.Lemmas.Commit
import Sop.Lemmas.CommitWitness
import Sop.Lemmas.CommitOrphansPhase2
import Sop.Lemmas.CommitOrphansLogs
import Sop.Lemmas.CommitPreSound
/-!
# C11 — finished transactions leave no orphaned blobs, registry entries or logs

On Model P: after a transaction has finished (committed + cleaned up, or failed + rolled back), every blob and
registry entry it created is either referenced by the committed state or gone, and its log files are gone. The
full statement is false for failed commits (findings C11-F1/F2: the step in which the fault hit is not undone);
it is refuted by two witnesses. For SUCCESSFUL FAULT-FREE commits the property is a theorem for every write set and
starting state (`C11_ok_leaves_nothing`): after the cleanup every blob in the store is some registered handle's
active blob (or a live value blob), the removed nodes are unregistered, the obsolete value blobs and both log files
are gone. The lemmas behind it (`commit_ok_cleanup_complete_settled`, `commit_ok_no_logs_settled`) ask less than
fault-freeness: phase 1 went through and no fault is left to hit phase 2 or the cleanup. A fault that does hit a
cleanup call leaves the old blob behind (`C11_cleanup_fault_leaves_orphan`): the cleanup's errors are swallowed and
nothing retries it.
-/
namespace Sop.C11
open Sop.Commit

/-- a new node's logical id is also its first blob id -/
def newIds (w : WS) : List UUID := w.rootIds ++ w.addedIds

theorem newIds_eq (w : WS) : newIds w = w.newIds := rfl

/-- after a FAILED commit nothing the transaction introduced is left: no handle and no blob for its new nodes, no log
(the staged blobs of updated nodes are not spoken of) -/
def Statement_C11_failed : Prop :=
  ∀ (s : State) (w : WS) (fresh : List (UUID × UUID)) (f : Fault),
    (∀ i ∈ newIds w, s.reg i = none ∧ s.blob i = false) →
    let r := commit w 30 { s := s, tid := 1, fault := some f, fresh := fresh }
    r.1 = .err → (∀ i ∈ newIds w, r.2.s.reg i = none ∧ r.2.s.blob i = false) ∧ r.2.s.tlog 1 = false ∧ r.2.s.plog 1 = false

/-- **F1**: `commitAddedNodes` registers the new nodes' handles and then writes their blobs; when the registry
write is applied but reported as failed, `committedState = commitAddedNodes` and `rollback` undoes added nodes
only when it is GREATER: the handle of the never-committed node 2 stays registered (an orphan registry entry). -/
theorem C11_counterexample_added :
    let r := commit Witness.wSplit 30 { s := Witness.s0, tid := 1, fault := some ⟨.regAdd, 1, .failAfter⟩, fresh := [(1, 9)] }
    r.1 = .err ∧ (r.2.s.reg 2).isSome = true ∧ r.2.s.tlog 1 = false := by
  decide +kernel

/-- **F2**: the same for the blob written next: a blob-store error after the file was written leaves handle AND blob -/
theorem C11_counterexample_added_blob :
    let r := commit Witness.wSplit 30 { s := Witness.s0, tid := 1, fault := some ⟨.blobAdd, 2, .failAfter⟩, fresh := [(1, 9)] }
    r.1 = .err ∧ (r.2.s.reg 2).isSome = true ∧ r.2.s.blob 2 = true := by
  decide +kernel

theorem C11_counterexample : ¬ Statement_C11_failed := by
  intro h
  have h1 := h Witness.s0 Witness.wSplit [(1, 9)] ⟨.regAdd, 1, .failAfter⟩ (by decide +kernel)
  have c := C11_counterexample_added
  simp only at h1 c
  have := ((h1 c.1).1 2 (by decide)).1
  rw [this] at c
  exact absurd c.2.1 (by decide)

/-- the fault-free commit of the witness leaves no staged blob, no old blob, no log behind -/
theorem commit_leaves_no_orphans :
    let r := commit Witness.wSplit 30 { s := Witness.s0, tid := 1, fault := none, fresh := [(1, 9)] }
    r.1 = .ok ∧ r.2.s.blob 1 = false ∧ r.2.s.blob 9 = true ∧ r.2.s.blob 2 = true ∧ r.2.s.tlog 1 = false ∧ r.2.s.plog 1 = false := by
  decide +kernel

/-- and a failure BEFORE the step took effect is undone completely -/
theorem failed_before_leaves_no_orphans :
    let r := commit Witness.wSplit 30 { s := Witness.s0, tid := 1, fault := some ⟨.regAdd, 1, .failBefore⟩, fresh := [(1, 9)] }
    r.1 = .err ∧ r.2.s.reg 2 = none ∧ r.2.s.blob 2 = false ∧ r.2.s.blob 9 = false ∧ r.2.s.tlog 1 = false := by
  decide +kernel

/-- **C11 (success), the general form**: relative to a list `X0` of excepted blobs, the exceptions only grow by the
value blobs written, every obsolete value blob is gone, and no node the write set removed is registered any more. -/
theorem C11_ok_cleanup_complete {s0 : State} {w : WS} {fresh0 : List (UUID × UUID)}
    (pre : Pre s0 w fresh0) (pre2 : Pre2 s0 w fresh0) (X0 : List UUID) (h0 : BI X0 s0)
    {cs0 : Step} (tid : Tid) (n : Nat) (r2 : Run)
    (hok : commit w n { s := s0, tid := tid, fault := none, fresh := fresh0, cs := cs0 } = (.ok, r2)) :
    BI (X0 ++ w.values) r2.s ∧ (∀ b ∈ w.obsoleteValues, r2.s.blob b = false) ∧
      (w.hasTracked = true → ∀ i ∈ w.removed.map (·.1), r2.s.reg i = none) :=
  commit_ok_cleanup_complete pre pre2 X0 (.init pre rfl rfl rfl rfl) h0 ⟨rfl, rfl, rfl⟩ hok

theorem C11_ok_no_orphans_gen {s0 : State} {w : WS} {fresh0 : List (UUID × UUID)}
    (pre : Pre s0 w fresh0) (pre2 : Pre2 s0 w fresh0) (X0 : List UUID) (h0 : BI X0 s0)
    {cs0 : Step} (tid : Tid) (n : Nat) (r2 : Run)
    (hok : commit w n { s := s0, tid := tid, fault := none, fresh := fresh0, cs := cs0 } = (.ok, r2)) :
    BI (X0 ++ w.values) r2.s ∧ ∀ b ∈ w.obsoleteValues, r2.s.blob b = false :=
  ⟨(C11_ok_cleanup_complete pre pre2 X0 h0 tid n r2 hok).1, (C11_ok_cleanup_complete pre pre2 X0 h0 tid n r2 hok).2.1⟩

/-- **… with separate-segment value blobs**: relative to a set `V` of live value blobs, the live set after the
commit is `V` plus the value blobs written, minus the ones the write set made obsolete (those are deleted). -/
theorem C11_ok_no_orphans_values {s0 : State} {w : WS} {fresh0 : List (UUID × UUID)}
    (pre : Pre s0 w fresh0) (pre2 : Pre2 s0 w fresh0) (V : List UUID) (h0 : NoOrphanV V s0)
    {cs0 : Step} (tid : Tid) (n : Nat) (r2 : Run)
    (hok : commit w n { s := s0, tid := tid, fault := none, fresh := fresh0, cs := cs0 } = (.ok, r2)) :
    NoOrphanV ((V ++ w.values).filter (fun b => !w.obsoleteValues.contains b)) r2.s := by
  obtain ⟨h1, h2⟩ := C11_ok_no_orphans_gen pre pre2 V (noOrphanV_iff.mp h0) tid n r2 hok
  refine noOrphanV_iff.mpr fun b hb => ?_
  rcases h1 b hb with a | a
  · exact .inl a
  · refine .inr (List.mem_filter.mpr ⟨a, ?_⟩)
    simp only [Bool.not_eq_true', List.contains_eq_mem, decide_eq_false_iff_not]
    intro hm
    rw [h2 b hm] at hb; cases hb

/-- **C11 (success, blobs).** Start: every blob is the active blob of a registered handle (`NoOrphan s0`). Write set
without separate-segment value blobs, `Pre` / `Pre2` (well-formed registry and write set, physical ids not shared, the
generated ids are new). If `Commit` returns ok in a run with no injected fault and no observer, then in the final
state — after the cleanup — every blob is again the active blob of a registered handle: the staged blobs became
active, the old blobs of updated nodes and the blobs of removed nodes were deleted, the removed nodes' handles
were unregistered only after their blobs were gone. -/
theorem C11_ok_no_orphans {s0 : State} {w : WS} {fresh0 : List (UUID × UUID)}
    (pre : Pre s0 w fresh0) (pre2 : Pre2 s0 w fresh0) (hv : w.values = []) (h0 : NoOrphan s0)
    {cs0 : Step} (tid : Tid) (n : Nat) (r2 : Run)
    (hok : commit w n { s := s0, tid := tid, fault := none, fresh := fresh0, cs := cs0 } = (.ok, r2)) :
    NoOrphan r2.s := by
  have := (C11_ok_no_orphans_gen pre pre2 [] (BI.nil.mpr h0) tid n r2 hok).1
  rw [hv] at this
  exact BI.nil.mp this

/-- **C11 (success, logs).** A commit that returns ok in a fault-free run leaves neither its transaction-log file
nor its priority-log file — for every write set and state in which the transaction had no priority log to begin with. -/
theorem C11_ok_no_logs {s0 : State} {w : WS} {fresh0 : List (UUID × UUID)} {cs0 : Step} (tid : Tid) (n : Nat) (r2 : Run)
    (hp0 : s0.plog tid = false)
    (hok : commit w n { s := s0, tid := tid, fault := none, fresh := fresh0, cs := cs0 } = (.ok, r2)) :
    r2.s.tlog tid = false ∧ r2.s.plog tid = false :=
  commit_ok_no_logs ⟨rfl, hp0⟩ ⟨rfl, rfl, rfl⟩ hok

/-- **C11 for successful fault-free commits, all parts together** (write sets without separate-segment values):
no orphaned blob, no registry entry of a removed node, no obsolete blob, no log file. -/
theorem C11_ok_leaves_nothing {s0 : State} {w : WS} {fresh0 : List (UUID × UUID)}
    (pre : Pre s0 w fresh0) (pre2 : Pre2 s0 w fresh0) (hv : w.values = []) (h0 : NoOrphan s0)
    {cs0 : Step} (tid : Tid) (n : Nat) (r2 : Run) (hp0 : s0.plog tid = false)
    (hok : commit w n { s := s0, tid := tid, fault := none, fresh := fresh0, cs := cs0 } = (.ok, r2)) :
    NoOrphan r2.s ∧ (w.hasTracked = true → ∀ i ∈ w.removed.map (·.1), r2.s.reg i = none) ∧
      (∀ b ∈ w.obsoleteValues, r2.s.blob b = false) ∧ r2.s.tlog tid = false ∧ r2.s.plog tid = false := by
  obtain ⟨_, b, c⟩ := C11_ok_cleanup_complete pre pre2 [] (BI.nil.mpr h0) tid n r2 hok
  exact ⟨C11_ok_no_orphans pre pre2 hv h0 tid n r2 hok, c, b, C11_ok_no_logs tid n r2 hp0 hok⟩

example : Witness.s0.plog 1 = false := rfl

/-! non-vacuity: the split witness (node 1 updated → staged id 9, node 2 added) -/

theorem noOrphan_witness : NoOrphan Witness.s0 := by
  intro b hb
  have hb1 : b = 1 := by
    simp only [Witness.s0, State.setReg, State.setBlob] at hb
    split at hb
    · assumption
    · cases hb
  subst hb1
  exact ⟨1, { lid := 1, idA := 1, version := 1 }, by simp [Witness.s0, State.setReg, State.setBlob], rfl⟩

theorem pre2_witness : Pre2 Witness.s0 Witness.wSplit [(1, 9)] := Witness.pre2_wSplit

theorem C11_ok_no_orphans_run {s0 : State} {w : WS} {fresh0 : List (UUID × UUID)}
    (pre : Pre s0 w fresh0) (pre2 : Pre2 s0 w fresh0) (hv : w.values = []) (h0 : NoOrphan s0) {cs0 : Step} (tid : Tid) (n : Nat)
    (hok : (commit w n { s := s0, tid := tid, fault := none, fresh := fresh0, cs := cs0 }).1 = .ok) :
    NoOrphan (commit w n { s := s0, tid := tid, fault := none, fresh := fresh0, cs := cs0 }).2.s :=
  C11_ok_no_orphans pre pre2 hv h0 tid n _ (Prod.ext hok rfl)

theorem witness_commit_ok :
    (commit Witness.wSplit 30 { s := Witness.s0, tid := 1, fault := none, fresh := [(1, 9)] }).1 = .ok := by
  decide +kernel

/-- all hypotheses of `C11_ok_no_orphans` hold of the split witness and its commit returns ok -/
theorem C11_ok_no_orphans_witness :
    NoOrphan (commit Witness.wSplit 30 { s := Witness.s0, tid := 1, fault := none, fresh := [(1, 9)] }).2.s :=
  C11_ok_no_orphans_run Witness.pre_wSplit pre2_witness (by decide) noOrphan_witness 1 30 witness_commit_ok

theorem C11_ok_no_orphans_witness_nontrivial :
    let r := commit Witness.wSplit 30 { s := Witness.s0, tid := 1, fault := none, fresh := [(1, 9)] }
    r.2.s.blob 9 = true ∧ r.2.s.blob 2 = true ∧ r.2.s.blob 1 = false ∧ (r.2.s.reg 1).map (·.active) = some 9 := by
  decide +kernel

/-- second witness: the transaction removes node 1 (`wRem`); its premises hold -/
theorem pre_wRem : Pre Witness.s0 Witness.wRem [] ∧ Pre2 Witness.s0 Witness.wRem [] :=
  have ⟨pre, pre2, _⟩ := hypCheck_sound [1] Witness.s0 Witness.wRem [] Witness.s0_reg_none (by decide +kernel)
  ⟨pre, pre2⟩

theorem C11_ok_cleanup_complete_run {s0 : State} {w : WS} {fresh0 : List (UUID × UUID)}
    (pre : Pre s0 w fresh0) (pre2 : Pre2 s0 w fresh0) (X0 : List UUID) (h0 : BI X0 s0) {cs0 : Step} (tid : Tid) (n : Nat)
    (hok : (commit w n { s := s0, tid := tid, fault := none, fresh := fresh0, cs := cs0 }).1 = .ok) :
    BI (X0 ++ w.values) (commit w n { s := s0, tid := tid, fault := none, fresh := fresh0, cs := cs0 }).2.s ∧
      (∀ b ∈ w.obsoleteValues, (commit w n { s := s0, tid := tid, fault := none, fresh := fresh0, cs := cs0 }).2.s.blob b = false) ∧
      (w.hasTracked = true → ∀ i ∈ w.removed.map (·.1),
        (commit w n { s := s0, tid := tid, fault := none, fresh := fresh0, cs := cs0 }).2.s.reg i = none) :=
  C11_ok_cleanup_complete pre pre2 X0 h0 tid n _ (Prod.ext hok rfl)

theorem witness_rem_commit_ok :
    (commit Witness.wRem 30 { s := Witness.s0, tid := 1, fault := none, fresh := [] }).1 = .ok := by
  decide +kernel

theorem C11_ok_removed_witness :
    NoOrphan (commit Witness.wRem 30 { s := Witness.s0, tid := 1, fault := none, fresh := [] }).2.s ∧
      (commit Witness.wRem 30 { s := Witness.s0, tid := 1, fault := none, fresh := [] }).2.s.reg 1 = none := by
  have h := C11_ok_cleanup_complete_run pre_wRem.1 pre_wRem.2 [] (BI.nil.mpr noOrphan_witness) 1 30 witness_rem_commit_ok
  exact ⟨BI.nil.mp (h.1.mono (fun b hb => by simp [WS.values, Witness.wRem] at hb)), h.2.2 (by decide) 1 (by decide)⟩

/-- **No fault may be left for the cleanup.** When the cleanup's `blob.Remove` fails (fail-before fault on its
first call) `Commit` still returns ok — `cleanup` only logs the error and nothing retries it — and the updated node's
OLD blob 1 stays in the store although node 1's handle now points at blob 9 and node 2's at blob 2: blob 1 is the
active blob of no handle (checked for every logical id below 16; the witness uses ids 1, 2 and 9 only). -/
theorem C11_cleanup_fault_leaves_orphan :
    let r := commit Witness.wSplit 30 { s := Witness.s0, tid := 1, fault := some ⟨.blobRemove, 1, .failBefore⟩, fresh := [(1, 9)] }
    r.1 = .ok ∧ r.2.s.blob 1 = true ∧ (r.2.s.reg 1).map (·.active) = some 9 ∧ (r.2.s.reg 2).map (·.active) = some 2 ∧
      (List.range 16).all (fun lid => (r.2.s.reg lid).map (·.active) != some 1) = true := by
  decide +kernel

end Sop.C11
