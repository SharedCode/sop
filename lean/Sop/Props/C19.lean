import Sop.Lemmas.ValuePlacement
import Sop.Model.ValuePlacementX
/-! # C19 — persisted stores hold exactly what was written, under every storage option

`run pl ops` is the model of a single-writer, crash-free history on one store with placement `pl`
(`Sop.Model.ValuePlacement`); `specRun ops` is the specification: a key/value map updated by the same
operations, transaction by transaction.  The full-strength statement `Statement_C19` — after every history a
cold reader sees exactly the specification's committed map — is FALSE for the code as it stands
(`C19_counterexample_*`, replayed on the implementation by the directed corpus of harness/cmd/c19).

Built into the model: the B-tree is the ordered-collection specification and tells the tracker which item it touched
(`St.apply`; that the code's B-tree is one is C17's business, `C17_refines_partial`); a commit that runs installs the
transaction's tree and count (`St.commit`; Model P, C01).  Proved here: every slot item reads back the value last written under its key, for every
legal history outside `findingHistory` — an actively persisted store with a committed removes-only transaction
(C19-F1/F2) — and the excluded set is exact (`C19_active_remove_only_commit_diverges`).  On the code before /repo
a8e6b837 (`legacyRemove`: a removal out of an interior node hands the successor to `tracker.Remove`, C19-F3) the other
placements fail too. -/
namespace Sop.C19
open Sop.ValuePlacement

def Statement_C19 : Prop :=
  ∀ (pl : Placement) (ops : List Op), Legal ops →
    view (run pl ops).blobs (run pl ops).slots = specView (specRun ops).committed

def active : Placement := ⟨false, true, false⟩
def inNode : Placement := ⟨true, false, false⟩
def v (t : Int) : Val := ⟨t, 8⟩

/-- C19-F1, actively persisted store: a transaction whose only operation is a remove commits and persists nothing -/
def witnessRemoveOnly : List Op :=
  [.begin, .add 1 (v 1), .add 2 (v 2), .add 3 (v 3), .commit, .begin, .remove 2 2, .commit]

theorem C19_counterexample_active_remove_only :
    Legal witnessRemoveOnly ∧
    view (run active witnessRemoveOnly).blobs (run active witnessRemoveOnly).slots
      = [(3, some (v 3)), (2, some (v 2)), (1, some (v 1))] ∧
    specView (specRun witnessRemoveOnly).committed = [(3, some (v 3)), (1, some (v 1))] := by decide +kernel

/-- C19-F2, actively persisted store: when the item removed by such a transaction has its value in its blob (an earlier
transaction updated it) phase 2 still deletes that blob: the item is still in the tree, its value is gone -/
def witnessRemoveOnlyBlob : List Op :=
  [.begin, .add 1 (v 1), .add 2 (v 2), .commit, .begin, .update 2 (v 3), .commit, .begin, .remove 2 2, .commit]

theorem C19_counterexample_active_value_destroyed :
    Legal witnessRemoveOnlyBlob ∧
    view (run active witnessRemoveOnlyBlob).blobs (run active witnessRemoveOnlyBlob).slots
      = [(2, none), (1, some (v 1))] ∧
    specView (specRun witnessRemoveOnlyBlob).committed = [(1, some (v 1))] := by decide +kernel

/-- C19-F3, the code before /repo a8e6b837 (`legacyRemove`), every placement that is not actively persisted: removing
a key from an interior node hands the SUCCESSOR item to the tracker; when the successor was added by the same
transaction its add is untracked, the tracker is empty, the commit is skipped -/
def witnessInterior : List Op :=
  [.begin, .add 10 (v 1), .add 20 (v 2), .add 30 (v 3), .commit, .begin, .add 25 (v 6), .remove 20 25, .commit]

def runLegacy (pl : Placement) (ops : List Op) : St := ops.foldl St.apply { place := pl, legacyRemove := true }

theorem C19_legacy_counterexample_interior_remove :
    Legal witnessInterior ∧
    view (runLegacy inNode witnessInterior).blobs (runLegacy inNode witnessInterior).slots
      = [(30, some (v 3)), (20, some (v 2)), (10, some (v 1))] ∧
    specView (specRun witnessInterior).committed = [(25, some (v 6)), (30, some (v 3)), (10, some (v 1))] := by decide +kernel

theorem C19_counterexample : ¬ Statement_C19 := by
  intro h
  have h1 := h active witnessRemoveOnly C19_counterexample_active_remove_only.1
  rw [C19_counterexample_active_remove_only.2.1, C19_counterexample_active_remove_only.2.2] at h1
  exact absurd h1 (by decide)

theorem manageTail_reads_back (t : Tracker) (u : Nat) (a : Action) (it : Item) (n : Nat) (b : Blobs) (x : Val)
    (h : it.val = some x) :
    readItem (putOpt b (manageTail t u a it n).blob) (manageTail t u a it n).item = some x := by
  simp [manageTail, h, putOpt, readItem, get_put_same]

/-- the item `UpdateCurrentItem` stores back into the slot reads back the new value -/
theorem update_reads_back (pl : Placement) (t : Tracker) (it : Item) (b : Blobs) (n : Nat) (x : Val) :
    let r := trackerUpdate pl t { it with val := some x } b n
    readItem r.blobs r.item = some x := by
  have key : ∀ (t1 : Tracker) (u : Nat),
      readItem (activelyPersist pl t1 u ⟨.update, { it with val := some x }⟩ b n).2.1
        (activelyPersist pl t1 u ⟨.update, { it with val := some x }⟩ b n).1.item = some x := by
    intro t1 u
    unfold activelyPersist
    split
    · simp only [manage]
      split
      · exact manageTail_reads_back _ _ _ _ _ _ x rfl
      · exact manageTail_reads_back _ _ _ _ _ _ x rfl
    · simp [readItem]
  intro r
  show readItem (trackerUpdate pl t { it with val := some x } b n).blobs (trackerUpdate pl t { it with val := some x } b n).item = some x
  unfold trackerUpdate
  split
  · split
    · simp [readItem]
    · exact key _ _
  · exact key _ _

/-- `Btree.Add` puts an inline copy into the slot, whatever the placement -/
theorem add_slot_inline (s : St) (w : Txn) (k : Int) (x : Val) :
    ∃ w', (s.add w k x).work = some w' ∧ ∃ it, w'.slots = it :: w.slots ∧ it.key = k ∧ it.val = some x ∧ it.vnf = false := by
  simp [St.add]

/-- **C19 for stores that are not actively persisted, under `commitsTracked`** (no commit is skipped: the tracker holds
an item at each commit; a condition on the model's run): a cold reader sees exactly what the committed transactions
wrote, whatever is or is not in the blob store.  (`run pl ops` is the tree as it is, `legacyRemove = false`: the item
handed to `tracker.Remove` is the item removed.  `run_rel` holds from any state, the legacy tree included.) -/
theorem C19_persisted_eq_model (pl : Placement) (hna : pl.active = false) (ops : List Op)
    (hct : commitsTracked { place := pl } ops = true) :
    view (run pl ops).blobs (run pl ops).slots = specView (specRun ops).committed :=
  view_eq_kv_of_spec (run_rel ops { place := pl } {} hna ⟨rfl, trivial⟩ hct).committed _

/-- the hypothesis is satisfiable by a non-trivial history -/
def sampleOps : List Op :=
  [.begin, .add 1 (v 1), .add 2 (v 2), .commit, .begin, .update 1 (v 3), .remove 2 2, .commit, .begin, .add 5 (v 5), .rollback]

example : commitsTracked { place := ⟨false, false, true⟩ } sampleOps = true ∧ Legal sampleOps ∧
    specView (specRun sampleOps).committed = [(1, some (v 3))] := by decide +kernel

/-- the cause of C19-F1/F2: in an actively persisted store a remove leaves an empty tracker empty, so a transaction of
removes only reaches its commit with nothing tracked (adds and updates always track) -/
theorem C19_active_commit_needs_a_write (pl : Placement) (h : pl.active = true) (s : St) (w : Txn) (k via : Int)
    (hp : s.place = pl) (hf : s.trackRemoves = false) (hw : w.tracker.items = []) :
    ∃ w', (s.remove w k via).work = some w' ∧ w'.tracker.items = [] := by
  refine ⟨_, rfl, ?_⟩
  simp only
  split
  · exact hw
  · rw [hp, hf, active_remove_untracked pl h]; exact hw

/-- with the candidate repair (`trackRemoves = true`) the two actively-persisted witnesses read back what was written -/
def runFixed (pl : Placement) (ops : List Op) : St := ops.foldl St.apply { place := pl, trackRemoves := true }

theorem C19_candidate_repair_on_witnesses :
    view (runFixed active witnessRemoveOnly).blobs (runFixed active witnessRemoveOnly).slots
      = specView (specRun witnessRemoveOnly).committed ∧
    view (runFixed active witnessRemoveOnlyBlob).blobs (runFixed active witnessRemoveOnlyBlob).slots
      = specView (specRun witnessRemoveOnlyBlob).committed := by decide +kernel

/-- **C19 for actively persisted stores.**  After every legal history in which no committed transaction consists of
removes only (the histories of C19-F1/F2; `NoRemoveOnlyCommit` is a predicate on the history alone), a cold reader
sees exactly what the committed transactions wrote.  (`run pl ops` is the tree as it is, `legacyRemove = false`.  Which
item is handed to `tracker.Remove` does not matter to the proof — an actively persisted store's removes never reach the
tracker, `remove_step` asks only that the tracker's items stay as they are —, and `run_ainv` holds from any state, the
legacy tree included; no theorem states that for `runLegacy`.)  C19-F4 is about where a value is stored, not what is
read. -/
theorem C19_active_persisted_eq_model (pl : Placement) (ha : pl.active = true) (ops : List Op) (hl : Legal ops)
    (hx : NoRemoveOnlyCommit ops) :
    view (run pl ops).blobs (run pl ops).slots = specView (specRun ops).committed :=
  (run_ainv ops { place := pl } {} (false, false) (ainv_init pl ha) hl hx).good.reads

/-- the hypotheses are satisfiable: an update of a key added by the same transaction, two updates of one key in one
transaction (inline → blob → new blob), a remove, an empty transaction, a rolled-back update of a value in its blob -/
def sampleActive : List Op :=
  [.begin, .add 1 (v 1), .update 1 (v 2), .add 2 (v 3), .commit,
   .begin, .update 1 (v 4), .update 1 (v 5), .remove 2 1, .commit,
   .begin, .commit,
   .begin, .update 1 (v 6), .rollback]

example : Legal sampleActive ∧ NoRemoveOnlyCommit sampleActive ∧
    specView (specRun sampleActive).committed = [(1, some (v 5))] ∧
    (run active sampleActive).slots = [⟨3, 1, none, true⟩] := by decide +kernel

/-- the histories of the open findings C19-F1, F2: an actively persisted store with a committed removes-only
transaction -/
def findingHistory (pl : Placement) (ops : List Op) : Bool :=
  pl.active && !noRemoveOnlyFrom (false, false) ops

theorem C19_excluded_set_witnesses :
    (findingHistory active witnessRemoveOnly = true ∧ Legal witnessRemoveOnly ∧
      view (run active witnessRemoveOnly).blobs (run active witnessRemoveOnly).slots
        ≠ specView (specRun witnessRemoveOnly).committed) ∧
    (findingHistory active witnessRemoveOnlyBlob = true ∧ Legal witnessRemoveOnlyBlob ∧
      view (run active witnessRemoveOnlyBlob).blobs (run active witnessRemoveOnlyBlob).slots
        ≠ specView (specRun witnessRemoveOnlyBlob).committed) := by decide +kernel

/-- the excluded set is exact: at the first commit of a removes-only transaction the cold reader does NOT see what was
written (the removed keys are still there) -/
theorem C19_active_remove_only_commit_diverges (pl : Placement) (ha : pl.active = true) (ops : List Op)
    (hl : Legal (ops ++ [.commit])) (hx : NoRemoveOnlyCommit ops) (hbad : ¬ NoRemoveOnlyCommit (ops ++ [.commit])) :
    view (run pl (ops ++ [.commit])).blobs (run pl (ops ++ [.commit])).slots
      ≠ specView (specRun (ops ++ [.commit])).committed := by
  have hl' : legalFrom {} ops = true ∧ opLegal (ops.foldl SpecSt.apply {}) .commit = true := by
    have := hl; unfold Legal at this; rw [legalFrom_append, Bool.and_eq_true] at this; exact this
  have hi := run_ainv ops { place := pl } {} (false, false) (ainv_init pl ha) hl'.1 hx
  -- the transaction being committed wrote nothing and removed something
  rw [flags_of_not_commitOK fun hc => hbad ((noRemoveOnlyFrom_append_commit ops _).2 ⟨hx, hc⟩)] at hi
  intro hEq
  have hlen := congrArg List.length hEq
  rw [view_length, specView_length] at hlen
  unfold run specRun at hlen
  rw [List.foldl_append, List.foldl_append] at hlen
  simp only [List.foldl_cons, List.foldl_nil] at hlen
  generalize ops.foldl St.apply { place := pl } = s at hi hlen
  generalize ops.foldl SpecSt.apply {} = sp at hi hlen hl'
  rcases hi.work.cases with ⟨_, hpw⟩ | ⟨w, sw, hsw, hpw, hW⟩
  · cases opLegal_idle hpw hl'.2
  · -- the commit is skipped; the working tree is strictly shorter than the committed one
    have hlt := hW.quiet.short rfl rfl
    have hwlen : w.slots.length = sw.length := by
      have := congrArg List.length hW.safe.good.reads
      rwa [view_length, specView_length] at this
    simp only [St.apply, hsw, SpecSt.apply, hpw, commit_skipped_eq s w hW.items_nil] at hlen
    omega

theorem C19_persisted_eq_model_every_placement (pl : Placement) (ops : List Op) (hl : Legal ops)
    (hct : commitsTracked { place := pl } ops = true) :
    view (run pl ops).blobs (run pl ops).slots = specView (specRun ops).committed := by
  cases ha : pl.active with
  | false => exact C19_persisted_eq_model pl ha ops hct
  | true =>
    exact C19_active_persisted_eq_model pl ha ops hl
      (commitsTracked_noRemoveOnly ops _ _ (false, false) (ainv_init pl ha) hl hct)

/-- **C19 for stores that are not actively persisted**, no condition on the run.  Since the item handed to
`tracker.Remove` is the item removed (/repo a8e6b837) a skipped commit is harmless: the tracker is empty only when the
transaction removed exactly what it added (`ninv_skip`: the working tree IS the committed tree). -/
theorem C19_nonactive_persisted_eq_model (pl : Placement) (hna : pl.active = false) (ops : List Op) (hl : Legal ops) :
    view (run pl ops).blobs (run pl ops).slots = specView (specRun ops).committed := by
  have h := run_nainv ops { place := pl } {} hna rfl
    ⟨⟨rfl, trivial⟩, ⟨(fun _ h => by cases h), (fun _ h => by cases h), (fun _ h => by cases h)⟩, trivial⟩ hl
  exact view_eq_kv_of_spec h.rel.committed _

/-- it covers histories `commitsTracked` excludes: the second and third commit are skipped -/
def sampleSkip : List Op :=
  [.begin, .add 1 (v 1), .commit, .begin, .add 7 (v 7), .update 7 (v 8), .remove 7 7, .commit, .begin, .commit,
   .begin, .update 1 (v 2), .commit]

example : Legal sampleSkip ∧ commitsTracked { place := inNode } sampleSkip = false ∧
    specView (specRun sampleSkip).committed = [(1, some (v 2))] := by decide +kernel

/-- the history of C19-F3 reads back right in every placement (with `legacyRemove`: in an actively persisted store
only) -/
theorem C19_interior_remove_harmless :
    (∀ pl : Placement, view (run pl witnessInterior).blobs (run pl witnessInterior).slots
      = specView (specRun witnessInterior).committed) ∧
    view (runLegacy active witnessInterior).blobs (runLegacy active witnessInterior).slots
      = specView (specRun witnessInterior).committed := by
  refine ⟨fun pl => ?_, by decide +kernel⟩
  cases ha : pl.active with
  | false => exact C19_nonactive_persisted_eq_model pl ha witnessInterior (by decide +kernel)
  | true => exact C19_active_persisted_eq_model pl ha witnessInterior (by decide +kernel) (by decide +kernel)

/-- **C19, every placement, hypothesis on the history alone**: outside the histories of the open findings a cold
reader of the persisted store sees exactly what the committed transactions wrote.  `C19_active_persisted_eq_model` and
`C19_nonactive_persisted_eq_model` are its two cases; `C19_persisted_eq_model_every_placement` is it under
`commitsTracked`, which excludes the finding histories (`commitsTracked_noRemoveOnly`). -/
theorem C19_persisted_eq_model_outside_findings (pl : Placement) (ops : List Op) (hl : Legal ops)
    (hx : findingHistory pl ops = false) :
    view (run pl ops).blobs (run pl ops).slots = specView (specRun ops).committed := by
  unfold findingHistory at hx
  cases ha : pl.active with
  | true =>
    rw [ha] at hx
    exact C19_active_persisted_eq_model pl ha ops hl (by simpa using hx)
  | false => exact C19_nonactive_persisted_eq_model pl ha ops hl

example : findingHistory active sampleActive = false ∧ findingHistory inNode witnessInterior = false ∧
    findingHistory active witnessInterior = false := by decide +kernel

/-! Key-only updates and genuine out-of-node references (`Sop.Model.ValuePlacementX`).  A store that is not actively
persisted holds a GENUINE reference (`Value = nil, ValueNeedsFetch = true`) only for items written by a transaction that
went through the conflict / refetch-and-merge round (`commitAfterConflict`).  `UpdateKey` / `UpdateCurrentKey` replace
no value. -/

theorem manage_update_without_value (t : Tracker) (u : Nat) (it : Item) (n : Nat) (h : it.val = none) :
    (manage t u ⟨.update, it⟩ n).t.forDel = t.forDel ∧ (manage t u ⟨.update, it⟩ n).blob = none ∧
    (manage t u ⟨.update, it⟩ n).item = it ∧ (manage t u ⟨.update, it⟩ n).nid = n := by
  simp [manage, manageTail, h, set_forDel]

theorem manageTail_forDel (t : Tracker) (u : Nat) (a : Action) (it : Item) (n : Nat) :
    (manageTail t u a it n).t.forDel = t.forDel := by
  unfold manageTail; split <;> simp [set_forDel]

theorem manage_forDel (t : Tracker) (u : Nat) (ci : CItem) (n : Nat) :
    (manage t u ci n).t.forDel =
      if (ci.action = .remove ∧ ci.item.vnf = true) ∨ (ci.action = .update ∧ ci.item.vnf = true ∧ ci.item.val.isSome = true)
      then t.forDel ++ [ci.item.id] else t.forDel := by
  have hset : ∀ (t1 : Tracker) (c : CItem), (if (t1.lookup u).isSome then t1.set u c else t1).forDel = t1.forDel := by
    intro t1 c; split
    · exact set_forDel _ _ _
    · rfl
  cases hact : ci.action with
  | remove =>
    simp only [manage, hact, hset]
    cases ci.item.vnf <;> simp
  | update =>
    simp only [manage, hact]
    cases ci.item.vnf <;> cases ci.item.val.isSome <;> simp [manageTail_forDel]
  | add => simp [manage, hact, manageTail_forDel]
  | get => simp [manage, hact]

/-- a value blob is queued for deletion (`forDeletionItems`) only when its item is removed or its value replaced -/
theorem manage_queues_only_removed_or_replaced (t : Tracker) (u : Nat) (ci : CItem) (n id : Nat)
    (h : id ∈ (manage t u ci n).t.forDel) :
    id ∈ t.forDel ∨ (id = ci.item.id ∧ ci.item.vnf = true ∧
      (ci.action = .remove ∨ (ci.action = .update ∧ ci.item.val.isSome = true))) := by
  rw [manage_forDel] at h
  split at h
  · rename_i hc
    rcases List.mem_append.1 h with h1 | h1
    · exact Or.inl h1
    · refine Or.inr ⟨List.mem_singleton.1 h1, ?_⟩
      rcases hc with ⟨ha, hv⟩ | ⟨ha, hv, hs⟩
      · exact ⟨hv, Or.inl ha⟩
      · exact ⟨hv, Or.inr ⟨ha, hs⟩⟩
  · exact Or.inl h

/-- the hoisted variant of `manage` (NOT the code) queues the blob of an update that carries no value -/
theorem manageHoisted_queues_live_blob :
    (manageHoisted {} 5 ⟨.update, ⟨5, 1, none, true⟩⟩ 9).t.forDel = [5] ∧
    (manage {} 5 ⟨.update, ⟨5, 1, none, true⟩⟩ 9).t.forDel = [] := by decide +kernel

/-- **A key-only update keeps the item's value blob alive.**  Store that is not actively persisted; the first
operation of a transaction is `UpdateKey(k)` on an item whose value is NOT in the node (a genuine reference), without
fetching it; the transaction commits.  The blob store is unchanged and the tree is the transaction's working tree. -/
theorem C19_key_update_keeps_blob (s : St) (w : Txn) (k : Int) (slot : Item)
    (hpl : s.place.active = false) (hw : s.work = some w) (ht : w.tracker.items = [])
    (hf : findKey w.slots k = some slot) (hu : ∀ y ∈ w.slots, y.key = k → y = slot) (hv : slot.val = none) :
    (((({ s := s } : XSt).apply (.updateKey k false)).apply (.base .commit)).s).blobs = s.blobs ∧
    (((({ s := s } : XSt).apply (.updateKey k false)).apply (.base .commit)).s).slots = w.slots ∧
    (((({ s := s } : XSt).apply (.updateKey k false)).apply (.base .commit)).s).work = none := by
  have hmap : w.slots.map (fun it => if it.key == k then slot else it) = w.slots := by
    conv => rhs; rw [← List.map_id w.slots]
    apply List.map_congr_left
    intro y hy
    by_cases hk : y.key = k
    · simp [hu y hy hk]
    · simp [hk]
  have hadd : hasAdd w.tracker slot.id = false := by simp [hasAdd, lookup_nil ht]
  have hupd : s.updateKey w k false =
      { s with work := some { w with tracker := { w.tracker with items := [(slot.id, ⟨.update, slot⟩)] },
                                     persisted := w.persisted || false } } := by
    simp only [St.updateKey, hf, Bool.false_eq_true, if_false, trackerUpdate_nonactive _ hpl, hadd, hmap, Tracker.set, ht,
      List.any_nil, List.nil_append]
  -- the commit runs `manage` over that one entry: no blob is written, nothing is queued
  have hm := manage_update_without_value { w.tracker with items := [(slot.id, ⟨.update, slot⟩)], forDel := [] }
    slot.id slot s.nid hv
  simp only [XSt.apply, hw, hupd, XSt.commit]
  cases hin : s.place.inNode with
  | true => simp
  | false => simp [hpl, commitValuesWith, Tracker.lookup, hm, putOpt, eraseAll_nil]

/-- the genuine reference is produced by the conflict round; the key-only update leaves it readable; the hoisted
variant (NOT the code) deletes its blob: the item is still in the tree, its value is gone (the harness replays this
history first: corpus `key-only-update-of-reference`) -/
def rivalRound : List XOp := [.park, .base .begin, .base (.add 9 (v 9)), .base .commit, .resume, .commitAfterConflict]

def witnessKeyOnly : List XOp :=
  [.base .begin, .base (.add 1 (v 1)), .base .commit, .base .begin, .base (.add 2 (v 2))] ++ rivalRound ++
  [.base .begin, .updateKey 2 false, .base .commit]

def viewX (x : XSt) : List (Int × Option Val) := view x.s.blobs x.s.slots

def sepPl : Placement := ⟨false, false, false⟩

theorem C19_hoisted_key_update_witness :
    -- the code: key 2 is a genuine reference (no value in the node) and reads back
    (runX sepPl false witnessKeyOnly).s.slots.map (fun it => (it.key, it.val, it.vnf))
      = [(2, none, true), (9, some (v 9), false), (1, some (v 1), false)] ∧
    viewX (runX sepPl false witnessKeyOnly) = [(2, some (v 2)), (9, some (v 9)), (1, some (v 1))] ∧
    -- the hoisted variant: same tree, the blob of key 2 is gone
    viewX (runX sepPl true witnessKeyOnly) = [(2, none), (9, some (v 9)), (1, some (v 1))] ∧
    -- with a `GetCurrentValue` before the key update both read back (the update then carries the value)
    viewX (runX sepPl true (witnessKeyOnly.map (fun o => if o = .updateKey 2 false then .updateKey 2 true else o)))
      = [(2, some (v 2)), (9, some (v 9)), (1, some (v 1))] := by decide +kernel

/-- C19-F7, every placement: a key ADDED and then updated by a transaction that goes through the conflict round
keeps the value of the add (the replay re-adds the tracker's item, not the node's slot) -/
def witnessUpdateAfterAdd : List XOp :=
  [.base .begin, .base (.add 1 (v 1)), .base .commit, .base .begin, .base (.add 2 (v 2)), .base (.update 2 (v 3))] ++ rivalRound

/-- C19-F8, actively persisted store: an update of an item whose value lives in its blob, in a transaction that goes
through the conflict round, is lost (`getForRollbackTrackedItemsValues` puts the item's OLD ID back before the replay) -/
def witnessActiveUpdateLost : List XOp :=
  [.base .begin, .base (.add 1 (v 1)), .base .commit, .base .begin, .base (.update 1 (v 2)), .base .commit,
   .base .begin, .base (.update 1 (v 3))] ++ rivalRound

/-- C19-F9, actively persisted store: `GetCurrentValue` + `UpdateCurrentKey` + `Rollback` deletes the COMMITTED value blob
(the update rewrote the blob under the item's own ID, the rollback deletes the blobs of all tracked updates) -/
def witnessActiveRollback : List XOp :=
  [.base .begin, .base (.add 1 (v 1)), .base .commit, .base .begin, .base (.update 1 (v 2)), .base .commit,
   .base .begin, .updateKey 1 true, .base .rollback]

theorem C19_conflict_round_findings :
    viewX (runX inNode false witnessUpdateAfterAdd) = [(2, some (v 2)), (9, some (v 9)), (1, some (v 1))] ∧
    viewX (runX sepPl false witnessUpdateAfterAdd) = [(2, some (v 2)), (9, some (v 9)), (1, some (v 1))] ∧
    viewX (runX active false witnessActiveUpdateLost) = [(9, some (v 9)), (1, some (v 2))] ∧
    viewX (runX active false (witnessActiveRollback.take 6)) = [(1, some (v 2))] ∧
    viewX (runX active false witnessActiveRollback) = [(1, none)] := by decide +kernel

end Sop.C19
