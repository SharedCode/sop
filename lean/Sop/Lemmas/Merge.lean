import Sop.Model.Merge
import Sop.Lemmas.Basics
/-! The commit-loop model `Sop.Merge`: what installing a set of valid actions on different keys does to lookups, length and
    key uniqueness, and the merge replay (`replay_net`, `replay_ok`). -/
namespace Sop.Merge

variable {db : DB} {k : Nat} {t : Tr}

theorem find_key {it : Item} (h : find db k = some it) : it.key = k := by
  induction db with
  | nil => cases h
  | cons a r ih =>
    rw [find] at h
    by_cases hk : a.key = k
    · rw [if_pos hk] at h; cases h; exact hk
    · rw [if_neg hk] at h; exact ih h

theorem find_eq_none : find db k = none ↔ k ∉ db.map (·.key) := by
  induction db with
  | nil => exact ⟨fun _ => List.not_mem_nil, fun _ => rfl⟩
  | cons a r ih =>
    rw [find, List.map_cons, List.mem_cons, not_or]
    by_cases hk : a.key = k
    · rw [if_pos hk]; exact ⟨nofun, fun h => absurd hk.symm h.1⟩
    · rw [if_neg hk, ih]; exact ⟨fun h => ⟨fun e => hk e.symm, h⟩, fun h => h.2⟩

theorem keys_setItem {n : Item} : (setItem db n).map (·.key) = db.map (·.key) := by
  induction db with
  | nil => rfl
  | cons a r ih =>
    rw [setItem]; split
    · rename_i hk; simp [hk]
    · simp [ih]

theorem keys_erase : (erase db k).map (·.key) = (db.map (·.key)).erase k := by
  induction db with
  | nil => rfl
  | cons a r ih =>
    rw [erase, List.map_cons, List.erase_cons]
    by_cases hk : a.key = k
    · rw [if_pos hk, if_pos (beq_iff_eq.mpr hk)]
    · rw [if_neg hk, if_neg (fun h => hk (beq_iff_eq.mp h)), List.map_cons, ih]

theorem find_erase_ne {k k' : Nat} (h : k' ≠ k) : find (erase db k) k' = find db k' := by
  induction db with
  | nil => rfl
  | cons a r ih =>
    rw [erase]
    by_cases hk : a.key = k
    · rw [if_pos hk, find, if_neg (fun e => h (e.symm.trans hk))]
    · rw [if_neg hk, find, find, ih]

theorem find_setItem_ne {n : Item} {k' : Nat} (h : k' ≠ n.key) :
    find (setItem db n) k' = find db k' := by
  induction db with
  | nil => rfl
  | cons a r ih =>
    rw [setItem]
    by_cases hk : a.key = n.key
    · rw [if_pos hk, find, find, if_neg (fun e => h e.symm), if_neg (fun e => h (e.symm.trans hk))]
    · rw [if_neg hk, find, find, ih]

theorem find_setItem_eq {n it : Item} (h : find db n.key = some it) :
    find (setItem db n) n.key = some n := by
  induction db with
  | nil => cases h
  | cons a r ih =>
    rw [find] at h; rw [setItem]
    by_cases hk : a.key = n.key
    · rw [if_pos hk, find, if_pos rfl]
    · rw [if_neg hk] at h ⊢; rw [find, if_neg hk, ih h]

def UniqueKeys (db : DB) : Prop := (db.map (·.key)).Nodup

theorem find_erase_eq (hu : UniqueKeys db) : find (erase db k) k = none :=
  find_eq_none.mpr (keys_erase ▸ hu.not_mem_erase)

theorem find_applyTr_ne (h : k ≠ t.key) : find (applyTr db t) k = find db k := by
  unfold applyTr
  cases t.act with
  | get => rfl
  | add => exact if_neg fun e => h e.symm
  | upd =>
    cases hf : find db t.key with
    | none => rfl
    -- the replaced item keeps the key it was found under
    | some it => exact find_setItem_ne (n := { it with val := t.val, ver := t.verInDB + 1 }) (find_key hf ▸ h)
  | rm => exact find_erase_ne h

theorem valid_congr {db1 db2 : DB} (h : find db1 t.key = find db2 t.key) : valid db1 t = valid db2 t := by
  unfold valid
  rw [h]

/-- Length and key uniqueness of the item list are facts about its key list; no validity is needed to say what an action does to it. -/
theorem keys_applyTr (db : DB) (t : Tr) :
    (applyTr db t).map (·.key) =
      match t.act with
      | .add => t.key :: db.map (·.key)
      | .rm => (db.map (·.key)).erase t.key
      | _ => db.map (·.key) := by
  unfold applyTr
  cases t.act with
  | get => rfl
  | add => rfl
  | upd => cases find db t.key with
    | none => rfl
    | some it => exact keys_setItem
  | rm => exact keys_erase

theorem valid_keys (hv : valid db t = true) : if t.act = .add then t.key ∉ db.map (·.key) else t.key ∈ db.map (·.key) := by
  unfold valid at hv
  by_cases ha : t.act = .add
  · rw [if_pos ha]; rw [ha] at hv; exact find_eq_none.mp (Option.isNone_iff_eq_none.mp hv)
  · rw [if_neg ha]
    refine Decidable.not_not.mp fun hn => ?_
    rw [find_eq_none.mpr hn] at hv
    cases hact : t.act <;> simp [hact] at hv ha

theorem applyTr_length (hv : valid db t = true) :
    ((applyTr db t).length : Int) = db.length + net1 t := by
  have hk := valid_keys hv
  rw [← List.length_map (f := (·.key)), keys_applyTr, ← List.length_map (f := (·.key)) (as := db)]
  unfold net1
  cases hact : t.act with
  | get => simp
  | add => simp
  | upd => simp
  | rm =>
    rw [hact, if_neg nofun] at hk
    have := List.length_pos_of_mem hk
    simp only [List.length_erase_of_mem hk]
    omega

theorem uniqueKeys_applyTr (hu : UniqueKeys db) (hv : valid db t = true) : UniqueKeys (applyTr db t) := by
  have hk := valid_keys hv
  unfold UniqueKeys; rw [keys_applyTr]
  cases hact : t.act with
  | get => exact hu
  | add => rw [hact, if_pos rfl] at hk; exact List.nodup_cons.mpr ⟨hk, hu⟩
  | upd => exact hu
  | rm => exact hu.erase _

def valAt (db : DB) (k : Nat) : Option Nat := (find db k).map (·.val)

/-- the value an action leaves under its key, given the value before -/
def eff (t : Tr) (old : Option Nat) : Option Nat :=
  match t.act with
  | .add => some t.val
  | .upd => some t.val
  | .rm => none
  | .get => old

theorem valAt_applyTr_own (hu : UniqueKeys db) (hv : valid db t = true) :
    valAt (applyTr db t) t.key = eff t (valAt db t.key) := by
  unfold valid at hv
  unfold applyTr eff valAt
  cases hact : t.act with
  | get => rfl
  | add => simp only; rw [find, if_pos rfl]; rfl
  | upd =>
    simp only [hact] at hv ⊢
    cases hf : find db t.key with
    | none => simp [hf] at hv
    | some it =>
      have := find_setItem_eq (n := { it with val := t.val, ver := t.verInDB + 1 }) (it := it) (by rw [find_key hf]; exact hf)
      simp only; rw [← find_key hf]
      exact congrArg (Option.map (·.val)) this
  | rm => simp only; rw [find_erase_eq hu]; rfl

/-- `t0` is the head action as it is applied: `t` itself, or `restamp t` in the replay -/
theorem valid_tail {t t0 : Tr} {r : List Tr} (hn : ((t :: r).map (·.key)).Nodup)
    (hv : ∀ t' ∈ t :: r, valid db t' = true) (hk : t0.key = t.key) : ∀ t' ∈ r, valid (applyTr db t0) t' = true := by
  intro t' ht'
  have hne : t'.key ≠ t0.key := fun he => (List.nodup_cons.mp hn).1 (List.mem_map.mpr ⟨t', ht', he.trans hk⟩)
  rw [valid_congr (find_applyTr_ne hne)]
  exact hv t' (List.mem_cons_of_mem _ ht')

theorem net_append (a b : List Tr) : net (a ++ b) = net a + net b := by
  induction a with
  | nil => simp [net]
  | cons t r ih => simp [net, ih]; omega

theorem applyAll_length {ts : List Tr} : ∀ {db : DB}, (ts.map (·.key)).Nodup → (∀ t ∈ ts, valid db t = true) →
    ((applyAll db ts).length : Int) = db.length + net ts := by
  induction ts with
  | nil => intro db _ _; simp [applyAll, net]
  | cons t r ih =>
    intro db hn hv
    have h2 := ih (List.nodup_cons.mp hn).2 (valid_tail hn hv rfl)
    rw [applyAll, List.foldl_cons, ← applyAll, h2, applyTr_length (hv t List.mem_cons_self), net]
    omega

theorem uniqueKeys_applyAll {ts : List Tr} (hu : UniqueKeys db) (hn : (ts.map (·.key)).Nodup)
    (hv : ∀ t ∈ ts, valid db t = true) : UniqueKeys (applyAll db ts) := by
  induction ts generalizing db with
  | nil => exact hu
  | cons t r ih =>
    exact ih (uniqueKeys_applyTr hu (hv t List.mem_cons_self)) (List.nodup_cons.mp hn).2 (valid_tail hn hv rfl)

theorem find_applyAll_ne {ts : List Tr} (hk : k ∉ ts.map (·.key)) : find (applyAll db ts) k = find db k := by
  induction ts generalizing db with
  | nil => rfl
  | cons t r ih =>
    rw [List.map_cons, List.mem_cons, not_or] at hk
    rw [applyAll, List.foldl_cons, ← applyAll, ih hk.2, find_applyTr_ne hk.1]

theorem valAt_applyAll_own {ts : List Tr} : ∀ {db : DB}, UniqueKeys db → (ts.map (·.key)).Nodup →
    (∀ t ∈ ts, valid db t = true) → ∀ t ∈ ts, valAt (applyAll db ts) t.key = eff t (valAt db t.key) := by
  induction ts with
  | nil => intro db _ _ _ t ht; cases ht
  | cons x r ih =>
    intro db hu hn hv t ht
    have hn' := List.nodup_cons.mp hn
    rw [applyAll, List.foldl_cons, ← applyAll]
    rcases List.mem_cons.mp ht with rfl | ht'
    · unfold valAt
      rw [find_applyAll_ne hn'.1]
      exact valAt_applyTr_own hu (hv t List.mem_cons_self)
    · rw [ih (uniqueKeys_applyTr hu (hv x List.mem_cons_self)) hn'.2 (valid_tail hn hv rfl) t ht']
      unfold valAt
      rw [find_applyTr_ne fun he => hn'.1 (List.mem_map.mpr ⟨t, ht', he⟩)]

theorem replayOne_pending {fixed : Bool} {r r' : Replay} (h : replayOne fixed r t = some r') :
    ∃ t', r'.pending = r.pending ++ [t'] ∧ t'.act = t.act := by
  unfold replayOne at h
  split at h
  · obtain ⟨_, h⟩ := Option.ite_none_left_eq_some.mp h
    cases h; exact ⟨_, rfl, rfl⟩
  · cases hf : find r.tree t.key with
    | none => simp only [hf] at h; cases h
    | some it =>
      simp only [hf] at h
      obtain ⟨_, h⟩ := Option.ite_none_left_eq_some.mp h
      obtain ⟨_, h⟩ := Option.ite_none_left_eq_some.mp h
      cases h
      exact ⟨_, rfl, by cases fixed <;> rfl⟩

theorem replayFrom_net {fixed : Bool} {ts : List Tr} : ∀ {r r' : Replay}, replayFrom fixed r ts = some r' →
    net r'.pending = net r.pending + net ts := by
  induction ts with
  | nil => intro r r' h; cases h; exact (Int.add_zero _).symm
  | cons t rest ih =>
    intro r r' h
    rw [replayFrom] at h
    cases h1 : replayOne fixed r t with
    | none => rw [h1] at h; cases h
    | some r1 =>
      rw [h1] at h
      obtain ⟨t', hp, ha⟩ := replayOne_pending h1
      rw [ih h, hp, net_append, net, net, net, Int.add_zero, net1, net1, ha, Int.add_assoc]

/-- after refetch-and-merge, Count − count-at-fetch = |adds| − |removes| of the tracked actions -/
theorem replay_net {fixed : Bool} {db : DB} {n : Nat} {ts : List Tr} {r : Replay}
    (h : replay fixed db n ts = some r) : net r.pending = net ts :=
  (replayFrom_net h).trans (Int.zero_add _)

/-- what the repaired replay leaves in the tracker for an action -/
def restamp (t : Tr) : Tr := if t.act = .add then { t with storeVer := 1 } else t

theorem restamp_key (t : Tr) : (restamp t).key = t.key := by unfold restamp; split <;> rfl
theorem restamp_act (t : Tr) : (restamp t).act = t.act := by unfold restamp; split <;> rfl
theorem restamp_lockId (t : Tr) : (restamp t).lockId = t.lockId := by unfold restamp; split <;> rfl
theorem restamp_owner (t : Tr) : (restamp t).owner = t.owner := by unfold restamp; split <;> rfl
theorem restamp_net1 (t : Tr) : net1 (restamp t) = net1 t := by unfold net1; rw [restamp_act]

theorem valid_restamp (db : DB) (t : Tr) : valid db (restamp t) = valid db t := by
  unfold restamp
  split
  · rename_i h; unfold valid; simp [h]
  · rfl

theorem replayOne_valid {r : Replay} (hv : valid r.tree t = true) :
    replayOne true r t = some { tree := applyTr r.tree (restamp t), pending := r.pending ++ [restamp t],
                                tracked := r.tracked ++ [restamp t], nextLock := r.nextLock } := by
  unfold valid at hv
  unfold replayOne restamp
  split
  · rename_i hadd
    simp only [hadd] at hv
    rw [if_pos hadd, if_neg (by rw [Option.isNone_iff_eq_none.mp hv]; nofun)]; rfl
  · rename_i hadd
    rw [if_neg fun h => hadd h]
    cases hf : find r.tree t.key with
    | none => simp [hf] at hv
    | some it =>
      simp [hf] at hv
      simp [hv.1, hv.2]

theorem replayFrom_ok {ts : List Tr} : ∀ {r : Replay}, (ts.map (·.key)).Nodup →
    (∀ t ∈ ts, valid r.tree t = true) →
    ∃ r', replayFrom true r ts = some r' ∧ r'.pending = r.pending ++ ts.map restamp ∧
      r'.tracked = r.tracked ++ ts.map restamp ∧ r'.nextLock = r.nextLock := by
  induction ts with
  | nil => intro r _ _; exact ⟨r, rfl, (List.append_nil _).symm, (List.append_nil _).symm, rfl⟩
  | cons t rest ih =>
    intro r hn hv
    obtain ⟨r', h2, hp2, ht2, hl2⟩ :=
      ih (r := ⟨applyTr r.tree (restamp t), r.pending ++ [restamp t], r.tracked ++ [restamp t], r.nextLock⟩)
        (List.nodup_cons.mp hn).2 (valid_tail hn hv (restamp_key t))
    refine ⟨r', ?_, ?_, ?_, hl2⟩
    · rw [replayFrom, replayOne_valid (hv t List.mem_cons_self)]; exact h2
    · rw [hp2, List.append_assoc]; rfl
    · rw [ht2, List.append_assoc]; rfl

theorem replay_ok {n : Nat} {ts : List Tr} (hn : (ts.map (·.key)).Nodup)
    (hv : ∀ t ∈ ts, valid db t = true) :
    ∃ r, replay true db n ts = some r ∧ r.pending = ts.map restamp ∧ r.tracked = ts.map restamp ∧ r.nextLock = n :=
  replayFrom_ok (r := { tree := db, pending := [], tracked := [], nextLock := n }) hn hv

theorem lockSet_cons_skip {ls : List LockRec} {ts : List Tr} (h : t.act = .add ∨ (lockFind ls t.key).isSome) :
    lockSet ls (t :: ts) = ((lockSet ls ts).1, t :: (lockSet ls ts).2) := by
  rw [lockSet]
  by_cases ha : t.act = .add
  · rw [if_pos ha]
  · rw [if_neg ha]
    cases hf : lockFind ls t.key with
    | none => rw [hf] at h; exact absurd h (by simp [ha])
    | some l => rfl

theorem lockSet_cons_new {ls : List LockRec} {ts : List Tr} (h : ¬ (t.act = .add ∨ (lockFind ls t.key).isSome)) :
    lockSet ls (t :: ts) = ((lockSet (⟨t.key, t.lockId, t.act⟩ :: ls) ts).1,
      { t with owner := true } :: (lockSet (⟨t.key, t.lockId, t.act⟩ :: ls) ts).2) := by
  rw [lockSet, if_neg fun ha => h (Or.inl ha)]
  cases hf : lockFind ls t.key with
  | none => rfl
  | some l => rw [hf] at h; exact absurd (Or.inr rfl) h

/-! Two facts about writers: `forall_setW` is used by all three invariants over `step` (`Prog`, `Disj`, C06's `Inv'`),
    `effectiveFault_eq` by `Disj` and `Inv'`. -/

theorem forall_setW {P : Nat → Writer → Prop} (ws : Nat → Writer) {i : Nat} (w : Writer) (hw : P i w)
    (h : ∀ j, j ≠ i → P j (ws j)) : ∀ j, P j (if j = i then w else ws j) :=
  forall_of_others (f := ws) (fun _ hk => if_neg hk) ((if_pos rfl).symm ▸ hw) h

theorem effectiveFault_eq (w : Writer) : effectiveFault w = .none ∨ effectiveFault w = w.fault := by
  unfold effectiveFault
  cases w.fault with
  | none => exact Or.inl rfl
  | clean => exact ite_ind (fun f : Fault => f = .none ∨ f = .clean) (fun _ => Or.inl rfl) fun _ => Or.inr rfl
  | count => exact ite_ind (fun f : Fault => f = .none ∨ f = .count) (fun _ => Or.inl rfl) fun _ => Or.inr rfl
  | late => exact ite_ind (fun f : Fault => f = .none ∨ f = .late) (fun _ => Or.inl rfl) fun _ => Or.inr rfl

end Sop.Merge
