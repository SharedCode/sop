import Sop.Lemmas.RecoveryNew
import Sop.Lemmas.CommitPreSound
import Sop.Lemmas.CommitWitness
/-!
For every start state, write set and crash point of a fault-free commit (`WF`), recovery (priority rollback, then
expired-log rollback) leaves either the old state (`OldOutcome`: every node that was loadable before reads as before,
old counts) or — only when the crash fell after cleanup's first log line, hence after the flip — the new state
(`NewOutcome`: it speaks of the nodes the commit reserved and marked, `reservedOf` / `markedOf`, of the nodes outside the
write set, of the new nodes and of the counts; an updated node that could not be reserved and a removed id that was not
registered are not spoken of), provided the crash point is in neither the flip window (C08-F1) nor the count window
(C08-F2); outside the root window (C08-F3) a registered new root can be loaded.
-/
namespace Sop.Recovery
open Sop.Commit

/-- C08-F1: the priority log has been removed after the flip, cleanup has not logged its first line -/
def inF1 (p : List DOp) : Bool := hasPlogRemove p && !hasLog .deleteObsoleteEntries p
/-- C08-F2: `StoreRepository.Update` has been called, the flip is not yet durable (the priority log has not been
removed after it) and cleanup has not logged its first line -/
def inF2 (p : List DOp) : Bool := hasCnt p && !hasPlogRemove p && !hasLog .deleteObsoleteEntries p
/-- C08-F3: a new root was registered and `areFetchedItemsIntact` logged, cleanup has not logged its first line -/
def inF3 (w : WS) (p : List DOp) : Bool :=
  !w.rootIds.isEmpty && hasLog .areFetchedItemsIntact p && !hasLog .deleteObsoleteEntries p

def inWindow (w : WS) (p : List DOp) : Bool := inF1 p || inF2 p || inF3 w p

structure OldOutcome (s0 : State) (a : State) : Prop where
  views : ∀ lid, (s0.view lid).isSome → a.view lid = s0.view lid
  cnt : a.cnt = s0.cnt

/-- An updated node that could not be reserved (not in `reservedOf`) and a removed id that was not registered (not in
`markedOf`) are not spoken of (`C08_new_covers_write_set` adds the hypotheses under which none is left out). -/
structure NewOutcome (s0 : State) (fresh : List (UUID × UUID)) (w : WS) (a : State) : Prop where
  upd : ∀ h ∈ reservedOf s0 fresh w, a.view h.lid = some (h.inactive, h.version + 1)
  rem : ∀ g ∈ markedOf s0 w, a.view g.lid = none
  other : ∀ lid, (s0.view lid).isSome → lid ∉ w.updated.map (·.1) → lid ∉ w.removed.map (·.1) → a.view lid = s0.view lid
  /-- a new root at version 0, an added node at version 1, blob id = logical id -/
  roots : ∀ i ∈ w.rootIds, a.view i = some (i, 0)
  added : ∀ i ∈ w.addedIds, a.view i = some (i, 1)
  cnt : a.cnt = (addCnts s0 (dsOf w)).cnt

def RootsOK (w : WS) (a : State) : Prop := ∀ i ∈ w.rootIds, a.reg i = none ∨ a.blob i = true

theorem walkState_reg (last : Nat) (l : List Entry) (k : UUID)
    (h : ∀ e ∈ l, e.undoAll.unreg = [] ∧ e.undoAll.undoLids = []) (s : State) : (walkState last l s).reg k = s.reg k :=
  walkState_inv (·.reg k = s.reg k) last l (fun e he s' hs => by
    have h0 : (e.undo last).unreg = [] ∧ (e.undo last).undoLids = [] := by
      rcases e.undo_cases last with c | c <;> rw [c]
      · exact h e he
      · exact ⟨rfl, rfl⟩
    unfold entryEff
    rw [h0.1, h0.2]
    exact (congrFun (State.delBlobs_reg ..) k).trans hs) s rfl

theorem walkState_blob_keep (last : Nat) (l : List Entry) (x : UUID) (h : ∀ e ∈ l, e.undone last = true → x ∉ e.undoAll.dels)
    (s : State) (hb : s.blob x = true) : (walkState last l s).blob x = true :=
  walkState_inv (·.blob x = true) last l (fun e he s' hs => by
    have h0 : x ∉ (e.undo last).dels := by
      unfold Entry.undo
      split
      · exact h e he ‹_›
      · exact List.not_mem_nil
    unfold entryEff
    rw [State.setRegs_blob, State.delRegs_blob, State.delBlobs_blob]
    simp [hs, h0]) s hb

section
variable {s0 : State} {w : WS} {fresh : List (UUID × UUID)}

theorem noLog12_segPre (wf : WF s0 w fresh) (m : Nat) : hasLog .deleteObsoleteEntries ((segPre s0 fresh w).take m) = false :=
  any_take_false (fun o ho => (safe_segPre wf o ho).not_log12) m

theorem noLog12_segFlip (m : Nat) : hasLog .deleteObsoleteEntries ((segFlip s0 fresh w).take m) = false :=
  any_take_false (fun o ho => by
    cases o with
    | log e => exact absurd rfl ((segFlip_ops _ ho).2 e)
    | _ => rfl) m

theorem noPlogRemove_segPre (wf : WF s0 w fresh) (m : Nat) : hasPlogRemove ((segPre s0 fresh w).take m) = false :=
  any_take_false (fun o ho => (safe_segPre wf o ho).not_plogRemove) m

/-- Where the crash fell — before the phase-2 registry write; right after it; after the priority-log removal that
follows it; or after cleanup's first log line — with what the windows ask of the calls made. -/
theorem crash_cases (wf : WF s0 w fresh) (m : Nat) {p : List DOp} (hp : p = (commitOps s0 fresh w).take m) :
    (p = (segPre s0 fresh w).take m ∧ hasLog .deleteObsoleteEntries p = false ∧ hasPlogRemove p = false)
    ∨ (finalOf s0 fresh w ≠ [] ∧ p = segPre s0 fresh w ++ [.regUpd (finalOf s0 fresh w) true]
      ∧ hasLog .deleteObsoleteEntries p = false ∧ hasPlogRemove p = false ∧ hasCnt p = hasCnt (segPre s0 fresh w))
    ∨ (hasLog .deleteObsoleteEntries p = false ∧ hasPlogRemove p = true)
    ∨ ∃ k, p = segUptoCleanupLog s0 fresh w ++ (segClean s0 fresh w ++ [DOp.tlogRemove]).take k
      ∧ hasLog .deleteObsoleteEntries p = true := by
  have h12 := noLog12_segPre wf (segPre s0 fresh w).length
  have hpr := noPlogRemove_segPre wf (segPre s0 fresh w).length
  rw [List.take_length] at h12 hpr
  rw [commitOps_eq'] at hp
  rcases take_append_cases (segPre s0 fresh w) (segFlip s0 fresh w ++ (segCleanupLog ++ (segClean s0 fresh w ++ [DOp.tlogRemove]))) m
    with e | ⟨k, e⟩
  · rw [e] at hp
    exact .inl ⟨hp, hp ▸ noLog12_segPre wf m, hp ▸ noPlogRemove_segPre wf m⟩
  · have after12 : ∀ k2, segPre s0 fresh w ++ (segFlip s0 fresh w ++ (segCleanupLog ++ (segClean s0 fresh w ++ [DOp.tlogRemove])).take (k2 + 1))
        = segUptoCleanupLog s0 fresh w ++ (segClean s0 fresh w ++ [DOp.tlogRemove]).take k2 := by
      intro k2
      simp only [segUptoCleanupLog, segCleanupLog, List.append_assoc, List.cons_append, List.nil_append, List.take_succ_cons]
    have log12 : hasLog .deleteObsoleteEntries (segUptoCleanupLog s0 fresh w) = true := by
      unfold segUptoCleanupLog segCleanupLog
      rw [hasLog_append, hasLog_append, show hasLog .deleteObsoleteEntries [DOp.log ⟨.deleteObsoleteEntries, .none⟩] = true from rfl,
        Bool.or_true, Bool.or_true]
    have fin : ∀ k2, p = segUptoCleanupLog s0 fresh w ++ (segClean s0 fresh w ++ [DOp.tlogRemove]).take k2 →
        ∃ k, p = segUptoCleanupLog s0 fresh w ++ (segClean s0 fresh w ++ [DOp.tlogRemove]).take k
          ∧ hasLog .deleteObsoleteEntries p = true :=
      fun k2 h => ⟨k2, h, by rw [h, hasLog_append, log12]; rfl⟩
    rw [e] at hp
    by_cases hne : finalOf s0 fresh w = []
    · -- nothing to flip: cleanup's log line comes next
      have h := after12 k
      rw [segFlip_nil hne, List.nil_append] at h hp
      exact .inr (.inr (.inr (fin k (hp.trans h))))
    · have h := after12
      rw [segFlip_cons hne] at h hp
      rcases k with _ | _ | k2
      · refine .inr (.inl ⟨hne, hp, ?_, ?_, ?_⟩) <;> rw [hp]
        · rw [hasLog_append, h12]; rfl
        · rw [hasPlogRemove_append, hpr]; rfl
        · rw [hasCnt_append]; exact Bool.or_false _
      · refine .inr (.inr (.inl ⟨?_, ?_⟩)) <;> rw [hp]
        · rw [hasLog_append, h12]; rfl
        · rw [hasPlogRemove_append, hpr]; rfl
      · exact .inr (.inr (.inr (fin k2 (hp.trans (h k2)))))

theorem RolledBack.old {d : DState} (h : RolledBack s0 w fresh d) : OldOutcome s0 d.s := ⟨h.sinv.stable, h.cnt⟩

theorem newOutcome_of (wf : WF s0 w fresh) {tid : Tid} {a : DState} (f : Finished s0 fresh w tid a) :
    NewOutcome s0 fresh w a.s := by
  obtain ⟨j, dead⟩ := f
  have rl := wf.twoLists
  refine ⟨fun h hh => j.fl.view_new hh (rl.resNZ h hh), ?_, ?_, ?_, ?_, j.cnt⟩
  rotate_left 2
  · intro i hi
    obtain ⟨a1, a2⟩ := j.news.root hi
    exact (State.view_of_reg a1).trans (if_pos a2)
  · intro i hi
    obtain ⟨a1, a2⟩ := j.news.added hi
    exact (State.view_of_reg a1).trans (if_pos a2)
  · exact fun g hg => State.view_of_unreg (dead g hg)
  · intro lid hl hu hr
    exact j.fl.old lid hl (fun h hh e => hu (e ▸ rl.resUpd h hh)) (fun g hg e => hr (e ▸ rl.remRem g hg))

/-- **C08, outside the flip window and the count window**: after priority rollback and expired-log rollback all old
(every node loadable before reads as before, old counts) or — only after cleanup's first log line, hence after the
flip — all new; both log files of the dead transaction are gone. -/
theorem atomic_outside_F1_F2 (wf : WF s0 w fresh) (tid : Tid) (m : Nat)
    (h1 : inF1 ((commitOps s0 fresh w).take m) = false) (h2 : inF2 ((commitOps s0 fresh w).take m) = false) :
    (OldOutcome s0 (recover (crashAt s0 tid fresh w m)).1.s ∨
      (hasLog .deleteObsoleteEntries ((commitOps s0 fresh w).take m) = true ∧
        NewOutcome s0 fresh w (recover (crashAt s0 tid fresh w m)).1.s))
    ∧ (recover (crashAt s0 tid fresh w m)).1.plg = none
    ∧ (recover (crashAt s0 tid fresh w m)).1.s.tlog tid = false := by
  have ht : (crashAt s0 tid fresh w m).tid = tid := by unfold crashAt; rw [run_tid, start_eq wf]
  have htl := recover_removes_log (crashAt s0 tid fresh w m)
  rw [ht] at htl
  refine and_assoc.mp ⟨?_, htl⟩
  unfold crashAt
  rcases crash_cases wf m rfl with ⟨e, h12, hpr⟩ | ⟨hne, e, h12, hpr, hcnt⟩ | ⟨h12, hpr⟩ | ⟨k, e, h12⟩
  · -- before the phase-2 registry write
    have hc : hasCnt ((commitOps s0 fresh w).take m) = false := by simpa [inF2, h12, hpr] using h2
    rw [e] at hc ⊢
    have r := old_before_flip wf tid m hc
    exact ⟨.inl r.old, r.plg⟩
  · -- right after it
    have hc : hasCnt ((commitOps s0 fresh w).take m) = false := by simpa [inF2, h12, hpr] using h2
    rw [e]
    have r := old_at_flip wf tid hne (hcnt ▸ hc)
    exact ⟨.inl r.old, r.plg⟩
  · -- the flip window
    simp [inF1, h12, hpr] at h1
  · -- cleanup's first log line has been written
    rw [e] at h12 ⊢
    have f := new_after_log12 wf tid k
    exact ⟨.inr ⟨h12, newOutcome_of wf f⟩, f.inv.plg⟩

/-- a log line written before `areFetchedItemsIntact`, when no later line follows: `last` at most the line of
`commitNewRootNodes` (from the next line on the undo of that line deletes the root blobs: that is C08-F3) -/
structure EarlyLine (w : WS) (e : Entry) : Prop where
  notCreate : e.step ≠ .createStore
  early : e.step.ord ≤ Step.commitNewRootNodes.ord
  noReg : e.undoAll.unreg = [] ∧ e.undoAll.undoLids = []
  dels : ∀ last, last ≤ Step.commitNewRootNodes.ord → e.undone last = true → ∀ x ∈ e.undoAll.dels, x ∈ w.values

theorem early_valuesLine : EarlyLine w ⟨.commitTrackedItemsValues, .ids w.values⟩ :=
  ⟨nofun, Nat.le_of_ble_eq_true rfl, ⟨rfl, rfl⟩, fun _ _ _ _ hx => hx⟩

/-- while this line is the last one, the walk leaves the root blobs alone -/
theorem early_rootLine : EarlyLine w ⟨.commitNewRootNodes, .idsBlobs w.rootIds w.rootIds⟩ :=
  ⟨nofun, Nat.le_of_ble_eq_true rfl, ⟨rfl, rfl⟩, fun _ hl hu =>
    absurd hl (Nat.not_le_of_lt (of_decide_eq_true (Bool.and_eq_true_iff.mp hu).1))⟩

theorem early_lines {e : Entry} (h : DOp.log e ∈ segValues w ++ segRoot w) : EarlyLine w e := by
  simp only [segValues, List.mem_append, List.mem_cons, List.mem_map, List.not_mem_nil, or_false] at h
  rcases h with (((h | h) | ⟨st, _, h⟩) | h) | h
  · cases h
    exact ⟨nofun, by decide, ⟨rfl, rfl⟩, fun _ _ _ x hx => nomatch hx⟩
  · cases h
    exact early_valuesLine
  · cases h
  · cases h
    exact early_rootLine
  · rcases List.mem_cons.mp (mem_when h) with h | h
    · cases h
    · cases List.mem_singleton.mp h

theorem roots_early (wf : WF s0 w fresh) (tid : Tid) (m : Nat) :
    RootsOK w (recover (run (start s0 tid w) ((segValues w ++ segRoot w).take m))).1.s := by
  have hP1 : ∀ o ∈ (segValues w ++ segRoot w).take m, o ∈ segPhase1 s0 fresh w := fun o ho =>
    (List.mem_append.mp (List.mem_of_mem_take ho)).elim (List.mem_append_left _)
      (fun h => List.mem_append_right _ (List.mem_append_left _ h))
  -- the crashed state: a root is registered only after its blob has been stored
  have hD : ∀ i ∈ w.rootIds, (run (start s0 tid w) ((segValues w ++ segRoot w).take m)).s.reg i = none ∨
      (run (start s0 tid w) ((segValues w ++ segRoot w).take m)).s.blob i = true := by
    intro i hi
    have hA : ∀ o ∈ segValues w, i ∉ o.lids := by
      intro o ho
      simp only [segValues, List.mem_append, List.mem_cons, List.mem_map, List.not_mem_nil, or_false] at ho
      rcases ho with ((rfl | rfl) | ⟨st, _, rfl⟩) | rfl <;> exact List.not_mem_nil
    have h0 : (start s0 tid w).s.reg i = none := by
      rw [start_eq wf]; exact wf.pre.newAbsent i (List.mem_append_left _ hi)
    rcases take_append_cases (segValues w) (segRoot w) m with e | ⟨k, e⟩
    · exact .inl (e ▸ (run_reg _ _ (fun o ho => hA o (List.mem_of_mem_take ho)) _).trans h0)
    · have hreg := (run_reg _ _ hA (start s0 tid w)).trans h0
      rw [e, run_append]
      rcases k with _ | k
      · rw [segRoot, when_of_nonempty hi]
        exact .inl ((congrFun (State.addBlobs_reg ..) i).trans hreg)
      · rw [show (segRoot w).take (k + 1 + 1) = segRoot w by
          rw [segRoot, when_of_nonempty hi, List.take_succ_cons, List.take_succ_cons, List.take_nil]]
        exact .inr (segRoot_written hi _).2
  have hplg : (run (start s0 tid w) ((segValues w ++ segRoot w).take m)).plg = none := by
    rw [run_plg _ (fun o ho => segPhase1_noPlog o (hP1 o ho)), start_eq wf]
  have hE : ∀ e ∈ (run (start s0 tid w) ((segValues w ++ segRoot w).take m)).log, EarlyLine w e :=
    run_take_log _ _ (fun _ he => early_lines he) m _ (by rw [start_eq wf]; exact fun _ h => nomatch h)
  generalize run (start s0 tid w) ((segValues w ++ segRoot w).take m) = d at hD hplg hE
  have hlast : lastOrd d.log ≤ Step.commitNewRootNodes.ord := by
    unfold lastOrd
    cases hg : d.log.getLast? with
    | none => simp
    | some l => exact (hE l (List.mem_of_getLast? hg)).early
  rw [recover_fst, priorityRollback_none _ hplg]
  rcases expiredRollback_nf (d, []) (Nat.lt_of_le_of_lt hlast (by decide)) (fun e he => (hE e he).notCreate) with h | ⟨_, h⟩
  · obtain ⟨h1, h2, _⟩ := h
    intro i hi
    rw [h1, h2]
    rcases hD i hi with hr | hb
    · left
      rw [walkState_reg _ _ _ (fun e he => (hE e (by simpa using he)).noReg)]
      exact hr
    · right
      apply walkState_blob_keep _ _ _ _ _ hb
      intro e he hu hm
      have := (hE e (by simpa using he)).dels _ hlast hu i hm
      exact wf.newVals i (List.mem_append_left _ hi) this
  · rw [h]; exact hD

/-- **C08, outside the root window (C08-F3)**: after recovery every new root that is registered still has its blob. -/
theorem roots_outside_F3 (wf : WF s0 w fresh) (tid : Tid) (m : Nat)
    (h3 : inF3 w ((commitOps s0 fresh w).take m) = false) :
    RootsOK w (recover (crashAt s0 tid fresh w m)).1.s := by
  by_cases hr : w.rootIds = []
  · intro i hi; rw [hr] at hi; cases hi
  unfold crashAt
  -- before cleanup's first log line: outside the window only while `areFetchedItemsIntact` is not logged
  have early : hasLog .deleteObsoleteEntries ((commitOps s0 fresh w).take m) = false →
      RootsOK w (recover (run (start s0 tid w) ((commitOps s0 fresh w).take m))).1.s := by
    intro h12
    have h5 : hasLog .areFetchedItemsIntact ((commitOps s0 fresh w).take m) = false := by
      simpa [inF3, hr, h12] using h3
    obtain ⟨rest, hsplit⟩ : ∃ rest, commitOps s0 fresh w =
        (segValues w ++ segRoot w) ++ (DOp.log ⟨.areFetchedItemsIntact, .none⟩ :: rest) :=
      ⟨_, by rw [commitOps_eq', segPre_append, ← List.append_assoc]; rfl⟩
    rw [hsplit] at h5 ⊢
    rcases take_append_cases (segValues w ++ segRoot w) (DOp.log ⟨.areFetchedItemsIntact, .none⟩ :: rest) m with e | ⟨k, e⟩
    · rw [e]; exact roots_early wf tid m
    · rw [e] at h5
      simp [hasLog, List.take_succ_cons, DOp.isLog] at h5
  rcases crash_cases wf m rfl with ⟨_, h, _⟩ | ⟨_, _, h, _⟩ | ⟨h, _⟩ | ⟨k, e, _⟩
  · exact early h
  · exact early h
  · exact early h
  · rw [e]
    exact fun i hi => .inr ((new_after_log12 wf tid k).inv.news.root hi).2

/-- **C08, outside all three windows**: all old or all new for every node loadable before and for the counts, a
registered new root is loadable, both log files are gone. -/
theorem atomic_outside_windows (wf : WF s0 w fresh) (tid : Tid) (m : Nat)
    (hw : inWindow w ((commitOps s0 fresh w).take m) = false) :
    (OldOutcome s0 (recover (crashAt s0 tid fresh w m)).1.s ∨
      (hasLog .deleteObsoleteEntries ((commitOps s0 fresh w).take m) = true ∧
        NewOutcome s0 fresh w (recover (crashAt s0 tid fresh w m)).1.s))
    ∧ RootsOK w (recover (crashAt s0 tid fresh w m)).1.s
    ∧ (recover (crashAt s0 tid fresh w m)).1.plg = none
    ∧ (recover (crashAt s0 tid fresh w m)).1.s.tlog tid = false := by
  simp only [inWindow, Bool.or_eq_false_iff] at hw
  obtain ⟨⟨h1, h2⟩, h3⟩ := hw
  obtain ⟨a, b, c⟩ := atomic_outside_F1_F2 wf tid m h1 h2
  exact ⟨a, roots_outside_F3 wf tid m h3, b, c⟩

/-! `WF` can be met: it holds of the tiny states of `Witness` with an update write set (count delta `d`) and with a
first-root write set -/

def wU (d : Int) : WS := { stores := [{ store := 0, updated := [(1, 1)], items := 1, delta := d }] }

/-- `WF` of a concrete state and write set: `Pre`, `Pre2` and the two fields that restate `Pre3` from the commit side's premise checker
(`hypCheck_sound`), the other three fields by evaluation -/
theorem WF.of_check {s : State} (lids : List UUID) (hcl : ∀ i, i ∉ lids → s.reg i = none)
    (hv : hypViolations lids s w fresh = [])
    (hx : (w.stores.all (!·.created) && (reservedOf s fresh w).all (·.inactive != 0) && w.newIds.all (!w.values.contains ·)) = true) :
    WF s w fresh := by
  obtain ⟨pre, pre2, p3⟩ := hypCheck_sound lids s w fresh hcl hv
  simp only [Bool.and_eq_true, List.all_eq_true, Bool.not_eq_true', bne_iff_ne, ne_eq, List.contains_eq_mem, decide_eq_false_iff_not] at hx
  exact ⟨pre, pre2, hx.1.1, hx.1.2, p3.newObs, hx.2, fun i hi ha => (List.nodup_append.mp p3.newNodup).2.2 i hi i ha rfl⟩

theorem wf_upd (d : Int) : WF Witness.s0 (wU d) [(1, 9)] := by
  -- the count delta is read by none of the checks
  refine WF.of_check [1] (fun i hi => ?_) (show hypViolations [1] Witness.s0 (wU 0) [(1, 9)] = [] by decide +kernel)
    (show ((wU 0).stores.all (!·.created) && (reservedOf Witness.s0 [(1, 9)] (wU 0)).all (·.inactive != 0)
      && (wU 0).newIds.all (!(wU 0).values.contains ·)) = true by decide +kernel)
  simp only [Witness.s0, State.setReg, State.setBlob]
  split
  · rename_i h; exact absurd (List.mem_singleton.mpr h) hi
  · rfl

theorem wf_root : WF Witness.sEmpty Witness.wRoot [] :=
  WF.of_check [] (fun _ _ => rfl) (by decide +kernel) (by decide +kernel)

end
end Sop.Recovery
