import Sop.Lemmas.RecoveryOld
/-! After the flip, on the notions of `CommitFlipState` (`FlippedS`, `Cleanable`, `FixedS`) at the commit's own lists `reservedOf` / `markedOf`:
the new nodes (`NewsOK`), the blobs that may still be deleted (`CleanableW`), and the invariant `FlippedInv` that cleanup and the recovery of a
committed transaction keep; `Finished`: what that recovery leaves. -/
namespace Sop.Recovery
open Sop.Commit

section
variable {s0 : State} {w : WS} {fresh : List (UUID × UUID)} {resv remv : List Handle}

theorem flippedS_establish (L : Lists s0 fresh resv remv) {s : State} (inv : SInv s0 w fresh s)
    (hb : ∀ h ∈ resv, s.blob h.inactive = true) :
    FlippedS s0 resv remv (s.setRegs (finalImgs resv remv)) :=
  FlippedS.establish L inv.stable hb

/-! `Sop.Recovery.FlippedS.delBlobs` and `.delRegs_dead` are the forms of `Sop.Commit.FlippedS.delBlobs` / `.delRegs_dead` with the
hypotheses spelt out (and the unregistration as a second conjunct); dot notation on a `FlippedS` reaches the `Commit` ones. The first has no
user in the development. -/

theorem FlippedS.delBlobs {s : State} (h : FlippedS s0 resv remv s) (ids : List UUID)
    (hA : ∀ x ∈ resv, x.inactive ∉ ids)
    (hB : ∀ lid h0, s0.reg lid = some h0 → (∀ x ∈ resv, x.lid ≠ lid) → (∀ g ∈ remv, g.lid ≠ lid) → h0.active ∉ ids) :
    FlippedS s0 resv remv (s.delBlobs ids) :=
  Commit.FlippedS.delBlobs (news := []) h ⟨fun x hx _ => hA x hx, hB, nofun⟩

theorem FlippedS.delRegs_dead (L : Lists s0 fresh resv remv) {s : State} (h : FlippedS s0 resv remv s) :
    FlippedS s0 resv remv (s.delRegs (remv.map (·.lid))) ∧ ∀ g ∈ remv, (s.delRegs (remv.map (·.lid))).reg g.lid = none :=
  ⟨Commit.FlippedS.delRegs_dead L h, fun _ hg => State.delRegs_reg_mem s _ _ (List.mem_map_of_mem hg)⟩

/-! In the flipped state a removed node's handle is its touched image or already unregistered: where this is established, and what keeps it.
No user in the development (recovery unregisters the removed nodes whatever their handles are). -/

theorem flipped_removed_touched (L : Lists s0 fresh resv remv) (remSame : ∀ g ∈ remv, ∀ g' ∈ remv, g.lid = g'.lid → g = g')
    (s : State) : ∀ g ∈ remv, (s.setRegs (finalImgs resv remv)).reg g.lid = some (touch g)
      ∨ (s.setRegs (finalImgs resv remv)).reg g.lid = none :=
  fun g hg => .inl ((reg_after_flip_write L remSame s).2 g hg)

/-- `hr`: what a blob deletion, an unregistration (`State.delRegs_reg_mono`) or a write to other fields does to the registry -/
theorem removed_touched_keep {s s' : State} (h : ∀ g ∈ remv, s.reg g.lid = some (touch g) ∨ s.reg g.lid = none)
    (hr : ∀ k, s'.reg k = s.reg k ∨ s'.reg k = none) : ∀ g ∈ remv, s'.reg g.lid = some (touch g) ∨ s'.reg g.lid = none :=
  fun g hg => (hr g.lid).elim (fun e => e ▸ h g hg) .inr

def NewsOK (w : WS) (s : State) : Prop := NewNodesS w s

theorem NewsOK.root {w : WS} {s : State} (h : NewsOK w s) {i : UUID} (hi : i ∈ w.rootIds) :
    s.reg i = some (Handle.new i) ∧ s.blob i = true := h.1 i hi

theorem NewsOK.added {w : WS} {s : State} (h : NewsOK w s) {i : UUID} (hi : i ∈ w.addedIds) :
    s.reg i = some (addedImage i) ∧ s.blob i = true := h.2 i hi

theorem NewsOK.of_same {w : WS} {s s' : State} (h : NewsOK w s) (hr : s'.reg = s.reg) (hb : s'.blob = s.blob) : NewsOK w s' :=
  ⟨h.1.of_same hr hb, h.2.of_same hr hb⟩

theorem NewsOK.delBlobs {w : WS} {s : State} (h : NewsOK w s) (ids : List UUID) (hn : ∀ i ∈ w.newIds, i ∉ ids) :
    NewsOK w (s.delBlobs ids) :=
  ⟨h.1.delBlobs ids fun i hi => hn i (List.mem_append_left _ hi), h.2.delBlobs ids fun i hi => hn i (List.mem_append_right _ hi)⟩

theorem NewsOK.delRegs {w : WS} {s : State} (h : NewsOK w s) (ids : List UUID) (hn : ∀ i ∈ w.newIds, i ∉ ids) :
    NewsOK w (s.delRegs ids) :=
  ⟨h.1.delRegs ids fun i hi => hn i (List.mem_append_left _ hi), h.2.delRegs ids fun i hi => hn i (List.mem_append_right _ hi)⟩

abbrev CleanableW (s0 : State) (fresh : List (UUID × UUID)) (w : WS) (ids : List UUID) : Prop :=
  Cleanable s0 (reservedOf s0 fresh w) (markedOf s0 w) w.newIds ids

theorem unused_old (wf : WF s0 w fresh) : ∀ u ∈ unusedOf s0 fresh w,
    ∃ y ∈ reservedOf s0 fresh w ++ markedOf s0 w, ∃ y0, s0.reg y.lid = some y0 ∧ u = y0.active := by
  intro u hu
  obtain ⟨g, hg, y0, e0, e⟩ := wf.twoLists.lists.unused_old hu
  exact ⟨g, List.mem_append.mpr hg, y0, e0, e⟩

theorem cleanableW_unused (wf : WF s0 w fresh) : CleanableW s0 fresh w (unusedOf s0 fresh w) :=
  cleanable_unused wf.pre wf.pre2 wf.twoLists.lists fun _ h => h

theorem cleanableW_obsolete (wf : WF s0 w fresh) (ids : List UUID) (hsub : ∀ x ∈ ids, x ∈ w.obsoleteValues) :
    CleanableW s0 fresh w ids :=
  cleanable_obsolete wf.pre2 wf.twoLists.lists wf.newObs hsub

/-! `unused_ok` … `root_not_obsolete`: fields of `cleanableW_unused` / `cleanableW_obsolete` / `WF`; no user in the development. -/

theorem unused_ok (wf : WF s0 w fresh) :
    (∀ x ∈ reservedOf s0 fresh w, x.inactive ∉ unusedOf s0 fresh w) ∧
    (∀ lid h0, s0.reg lid = some h0 → (∀ x ∈ reservedOf s0 fresh w, x.lid ≠ lid) → (∀ g ∈ markedOf s0 w, g.lid ≠ lid) →
      h0.active ∉ unusedOf s0 fresh w) :=
  ⟨fun x hx => (cleanableW_unused wf).staged x hx (wf.twoLists.resNZ x hx), (cleanableW_unused wf).old⟩

theorem obsolete_ok (wf : WF s0 w fresh) (ids : List UUID) (hsub : ∀ x ∈ ids, x ∈ w.obsoleteValues) :
    (∀ x ∈ reservedOf s0 fresh w, x.inactive ∉ ids) ∧
    (∀ lid h0, s0.reg lid = some h0 → (∀ x ∈ reservedOf s0 fresh w, x.lid ≠ lid) → (∀ g ∈ markedOf s0 w, g.lid ≠ lid) →
      h0.active ∉ ids) :=
  ⟨fun x hx => (cleanableW_obsolete wf ids hsub).staged x hx (wf.twoLists.resNZ x hx), (cleanableW_obsolete wf ids hsub).old⟩

theorem new_not_unused (wf : WF s0 w fresh) {i : UUID} (hi : i ∈ w.newIds) : i ∉ unusedOf s0 fresh w :=
  (cleanableW_unused wf).created i hi

theorem root_not_unused (wf : WF s0 w fresh) {i : UUID} (hi : i ∈ w.rootIds) : i ∉ unusedOf s0 fresh w :=
  new_not_unused wf (List.mem_append_left _ hi)

theorem root_not_obsolete (wf : WF s0 w fresh) {i : UUID} (hi : i ∈ w.rootIds) : i ∉ w.obsoleteValues :=
  wf.newObs i (List.mem_append_left _ hi)

theorem new_not_resv (wf : WF s0 w fresh) {i : UUID} (hi : i ∈ w.newIds) : i ∉ (reservedOf s0 fresh w).map (·.lid) :=
  fun hm => by
    obtain ⟨h, hh, e⟩ := List.mem_map.mp hm
    exact lists_old wf h (List.mem_append_left _ hh) (e ▸ hi)

theorem new_not_dead (wf : WF s0 w fresh) {i : UUID} (hi : i ∈ w.newIds) : i ∉ (markedOf s0 w).map (·.lid) :=
  fun hm => by
    obtain ⟨g, hg, e⟩ := List.mem_map.mp hm
    exact lists_old wf g (List.mem_append_right _ hg) (e ▸ hi)

theorem new_not_final (wf : WF s0 w fresh) {i : UUID} (hi : i ∈ w.newIds) : i ∉ (finalOf s0 fresh w).map (·.lid) := by
  intro hm
  obtain ⟨y, hy, e⟩ := List.mem_map.mp hm
  rcases List.mem_append.mp hy with hy | hy
  · obtain ⟨z, hz, rfl⟩ := List.mem_map.mp hy
    exact lists_old wf z (List.mem_append_left _ hz) ((activate_spec z).1 ▸ e ▸ hi)
  · obtain ⟨g, hg, rfl⟩ := List.mem_map.mp hy
    exact lists_old wf g (List.mem_append_right _ hg) (e ▸ hi)

/-- what holds from the flip write on, through cleanup and through the recovery of a commit that had flipped -/
structure FlippedInv (s0 : State) (fresh : List (UUID × UUID)) (w : WS) (tid : Tid) (d : DState) : Prop where
  fl : FlippedS s0 (reservedOf s0 fresh w) (markedOf s0 w) d.s
  news : NewsOK w d.s
  cnt : d.s.cnt = (addCnts s0 (dsOf w)).cnt
  plg : d.plg = none
  tid : d.tid = tid

variable {tid : Tid} {d : DState}

theorem FlippedInv.setTlog (j : FlippedInv s0 fresh w tid d) (b : Bool) (l : List Entry) :
    FlippedInv s0 fresh w tid { d with s := setTlog d.s d.tid b, log := l } :=
  ⟨j.fl.of_same rfl rfl, j.news.of_same rfl rfl, j.cnt, j.plg, j.tid⟩

theorem FlippedInv.delBlobs (j : FlippedInv s0 fresh w tid d) {ids : List UUID} (h : CleanableW s0 fresh w ids) :
    FlippedInv s0 fresh w tid { d with s := d.s.delBlobs ids } :=
  ⟨j.fl.delBlobs h, j.news.delBlobs ids h.created, (State.delBlobs_cnt ..).trans j.cnt, j.plg, j.tid⟩

theorem FlippedInv.delRegs_dead (wf : WF s0 w fresh) (j : FlippedInv s0 fresh w tid d) :
    FlippedInv s0 fresh w tid { d with s := d.s.delRegs (deadOf s0 w) }
    ∧ ∀ g ∈ markedOf s0 w, (d.s.delRegs (deadOf s0 w)).reg g.lid = none := by
  obtain ⟨f, dead⟩ := FlippedS.delRegs_dead wf.twoLists.lists j.fl
  exact ⟨⟨f, j.news.delRegs _ (fun i hi => new_not_dead wf hi), (State.delRegs_cnt ..).trans j.cnt, j.plg, j.tid⟩, dead⟩

/-- what recovery leaves of a commit that had flipped -/
structure Finished (s0 : State) (fresh : List (UUID × UUID)) (w : WS) (tid : Tid) (d : DState) : Prop where
  inv : FlippedInv s0 fresh w tid d
  unregistered : ∀ g ∈ markedOf s0 w, d.s.reg g.lid = none

end
end Sop.Recovery
