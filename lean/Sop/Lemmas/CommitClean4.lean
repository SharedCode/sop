import Sop.Lemmas.CommitClean3
/-!
C07 "no blockage", the error handling once the fault is spent. The live rollback cannot fail any more:
`rollbackUpdatedNodes` clears every reservation, `unlockNodesKeys` releases every node lock, and nothing after them
brings either back (`rollback_spent`). However phase 2 raises, the fault is spent (`phase2_raises_failed`), so
`Phase2Commit`'s error handling ends clean (`handler_spent_cleans`).
-/
namespace Sop.Commit

def WS.updIds (w : WS) : List UUID := w.updated.map (·.1)

/-- no updated node's handle carries a reservation (said of entries filed under their own id only, `g.lid = lid`, so
that it can be shown without the registry's well-formedness) -/
def CleanAt (w : WS) (s : State) : Prop :=
  ∀ lid ∈ w.updIds, ∀ g, s.reg lid = some g → g.lid = lid → g.inactive = 0 ∧ g.wip = 0

def CleanI (w : WS) (r : Run) : Prop := NS r ∧ CleanAt w r.s

/-- the end state of the live rollback with the fault spent: no node lock of the transaction is left, and no reservation
if `p` (it was entered past `commitUpdatedNodes`) -/
def DoneIf (p : Prop) (w : WS) (tid : Tid) (r : Run) : Prop := NoLockI tid r ∧ (p → CleanAt w r.s)

abbrev Done (w : WS) (tid : Tid) : Run → Prop := DoneIf True w tid

theorem DoneIf.done {p : Prop} {w : WS} {tid : Tid} {r : Run} (h : DoneIf p w tid r) (hp : p) : Done w tid r := ⟨h.1, fun _ => h.2 hp⟩
theorem Done.clean {w : WS} {tid : Tid} {r : Run} (h : Done w tid r) : CleanAt w r.s := h.2 trivial

theorem CleanAt.mono {w : WS} {s s' : State} (h : CleanAt w s)
    (hm : ∀ k ∈ w.updIds, s'.reg k = s.reg k ∨ s'.reg k = none) : CleanAt w s' := by
  intro lid hl g hg e
  rcases hm lid hl with a | a
  · rw [a] at hg; exact h lid hl g hg e
  · rw [a] at hg; cases hg

instance (w : WS) : XFrame w.updIds (CleanI w) where
  ns _ h := h.1
  frame _ _ h a b _ _ _ f := ⟨h.1.congr a b, h.2.mono f⟩

instance (p : Prop) (w : WS) (tid : Tid) : XFrame w.updIds (DoneIf p w tid) where
  ns _ h := h.1.1
  frame r r' h a b c d e f :=
    ⟨XFrame.frame (K := []) r r' h.1 a b c d e (fun _ hk => by cases hk), fun hp => (h.2 hp).mono f⟩

/-- what `rollbackUpdatedNodes` writes for a handle -/
def cleared (h : Handle) : Handle := if h.inactive = 0 then { h with wip := 0 } else h.clearInactive

theorem cleared_spec (h : Handle) : (cleared h).lid = h.lid ∧ (cleared h).inactive = 0 ∧ (cleared h).wip = 0 := by
  unfold cleared
  split
  · rename_i hz
    refine ⟨rfl, ?_, rfl⟩
    unfold Handle.inactive at hz ⊢
    exact hz
  · obtain ⟨c1, _, c3, _, c5, _⟩ := Handle.clearInactive_spec h
    exact ⟨c1, c3, c5⟩

theorem cleanAt_setRegs (w : WS) (s : State) :
    CleanAt w (s.setRegs ((w.updIds.filterMap s.reg).map cleared)) := by
  intro lid hl g hg e
  by_cases hx : ∃ x ∈ (w.updIds.filterMap s.reg).map cleared, x.lid = lid
  · obtain ⟨x, hxm, _, e2⟩ := State.setRegs_reg_mem s _ lid hx
    rw [e2] at hg; cases hg
    obtain ⟨h, _, rfl⟩ := List.mem_map.mp hxm
    exact ⟨(cleared_spec h).2.1, (cleared_spec h).2.2⟩
  · rw [State.setRegs_reg_of_not_mem s _ lid (fun x hxm e' => hx ⟨x, hxm, e'⟩)] at hg
    refine absurd ⟨cleared g, List.mem_map_of_mem (List.mem_filterMap.mpr ⟨lid, hl, hg⟩), ?_⟩ hx
    rw [(cleared_spec g).1]; exact e

theorem rollbackUpdated_cleans (w : WS) :
    Triple SP0 (rollbackUpdated w) (fun _ => CleanI w) (fun _ => False) := by
  refine Triple.ite (fun hemp => Triple.pure _ (fun r h => ⟨h.ns, fun lid hl => ?_⟩)) (fun _ => ?_)
  · rw [WS.updIds, List.isEmpty_iff.mp hemp] at hl
    cases hl
  · refine Triple.bind (regGet_settled _) (fun hs => ?_)
    refine Triple.bind (Q1 := fun _ r => SP0 r ∧ hs = w.updIds.filterMap r.s.reg) ?_ (fun _ => ?_)
    · exact S.tryEff fun r _ _ h => by
        show hs = w.updIds.filterMap (r.s.delBlobs _).reg
        rw [State.delBlobs_reg]; exact h
    refine Triple.bind (Q1 := fun _ r => SP0 r ∧ hs = w.updIds.filterMap r.s.reg) (Triple.get (fun _ h => h)) (fun r0 => ?_)
    -- whichever registry call writes the cleared handles, it takes effect
    have fin : ∀ (cls : Cls) (args res : Args),
        Triple (fun r => SP0 r ∧ hs = w.updIds.filterMap r.s.reg)
          (attempt (Sop.Commit.call cls args (fun s => s.setRegs (hs.map cleared)) res)) (fun _ => CleanI w) (fun _ => False) := by
      intro cls args res
      refine Triple.conseq (S.tryEff (I' := fun r => CleanAt w r.s) fun r _ _ h => ?_) (fun _ h => h) (fun _ _ h => ⟨h.1.ns, h.2⟩) (fun _ h => h)
      show CleanAt w (r.s.setRegs _)
      rw [h]
      exact cleanAt_setRegs w r.s
    exact Triple.ite (fun _ => Triple.bind (fin _ _ _) (fun _ => x_dropNodeCache _))
      (fun _ => Triple.bind (fin _ _ _) (fun _ => x_dropNodeCache _))

structure SettledAt (tid : Tid) (c : Step) (r : Run) : Prop where
  sp0 : SP0 r
  locks : LockI tid r
  cs : r.cs = c

/-- **The live rollback with the fault spent** cannot fail. It releases every node lock of the transaction and, entered
at a committed state past `commitUpdatedNodes`, clears the reservation of every updated node. -/
theorem rollback_spent (w : WS) (tid : Tid) (v : Bool) (c : Step) (hhi : c.ord ≤ Step.finalizeCommit.ord) :
    Triple (SettledAt tid c) (rollback w v) (fun _ => DoneIf (Step.commitUpdatedNodes.ord < c.ord) w tid) (fun _ => False) :=
  Triple.start fun r0 h0 => by
    obtain rfl := h0.cs
    exact rollback_rule (A := fun r => SP0 r ∧ LockI tid r)
      (U := fun r => (SP0 r ∧ LockI tid r) ∧ (Step.commitUpdatedNodes.ord < r0.cs.ord → CleanAt w r.s))
      (K := DoneIf (Step.commitUpdatedNodes.ord < r0.cs.ord) w tid) w v r0 ⟨h0.sp0, h0.locks⟩
      (hfail := fun h => absurd h (Nat.not_lt.mpr hhi))
      (hplog := fun _ => NoRaise.keeps (ch := [.plog]) S.tryCall (.attempt (.call fun r => .set .plog)) Reads.xframe0)
      (hstores := fun _ => (nr_rollbackStores w).keeps (foot_rollbackStores w) Reads.xframe0)
      (hadded := fun _ => (nr_rollbackAdded w).keeps (foot_rollbackAdded w) Reads.xframe0)
      (hremoved := fun _ => (nr_rollbackRemoved w).keeps (foot_rollbackRemoved w) Reads.xframe0)
      (hupdated := fun _ => Triple.conseq (Triple.and ((nr_rollbackUpdated w).keeps (I := LockI tid) (foot_rollbackUpdated w) Reads.xframe0)
        (rollbackUpdated_cleans w)) (fun _ h => ⟨h, h.1⟩) (fun _ _ h => ⟨h.1, fun _ => h.2.2⟩) (fun _ h => h.1))
      (hskip := fun hc _ h => ⟨h, fun h' => absurd h' hc⟩)
      (hkeys := Triple.conseq (Triple.and (unlockNodesKeys_releases tid) (foot_unlockNodesKeys.preserves
          (I := fun r => Step.commitUpdatedNodes.ord < r0.cs.ord → CleanAt w r.s)
          (fun _ _ a h hp => (h hp).mono (fun k _ => .inl (congrFun (a.same .reg (by decide)) k)))))
        (fun _ h => h) (fun _ _ h => ⟨h.1.2, h.2⟩) (fun _ h => h.1))
      (hroots := fun _ => x_rollbackNewRoots w) (hvalues := fun _ _ => x_rollbackValues w)
      (hitems := fun _ => X.attempt ((foot_unlockItems w).keeps Reads.xframe)) (hcreated := fun _ => x_removeCreatedStores w)
      (htlog := X.trySame (ch := [.tlog]) (fun r => .set .tlog) (by decide)) (hend := X.modify _ fun r => ⟨rfl, rfl, rfl, rfl, rfl⟩)

/-! ### with no observer, a call raises only by the run's fault, which is then spent -/

theorem call_raises_spent (cls : Cls) (args : Args) (eff : State → State) (res : Args) :
    Triple NS (Sop.Commit.call cls args eff res) (fun _ => NS) Spent :=
  Triple.callFull _ _ _ _ _ (fun _ _ h => h) (fun r _ h hs => by rw [h.1] at hs; cases hs) (fun _ _ _ hn => by cases hn)
    (fun _ _ _ _ hfa h1 _ h3 => spent_of_hit hfa h1 h3 rfl rfl) (fun _ _ _ _ hfa h1 _ h3 => spent_of_hit hfa h1 h3 rfl rfl)

theorem logStep_raises_spent (st : Step) : Triple NS (logStep st) (fun _ => NS) Spent :=
  Triple.bind (Triple.modify _ (fun _ h => h)) (fun _ => Triple.bind (Triple.get (fun _ h => h)) (fun _ => call_raises_spent _ _ _ _))

section
variable {tid : Tid}

/-- what the error handling starts from after a failed phase 2 -/
abbrev Phase2Failed (tid : Tid) : Run → Prop := SettledAt tid .finalizeCommit

theorem phase2Failed_unlockNodesKeys : Triple (Phase2Failed tid) unlockNodesKeys (fun _ => Phase2Failed tid) (fun _ => False) :=
  Triple.conseq (Triple.and (unlockNodesKeys_releases tid) (foot_unlockNodesKeys.keeps (I := fun r => r.cs = Step.finalizeCommit) Reads.cframe))
    (fun _ h => ⟨⟨h.sp0, h.locks⟩, h.cs⟩) (fun _ _ ⟨⟨hs, hn⟩, hc⟩ => ⟨hs, hn.toLockI, hc⟩) (fun _ h => h.1)

theorem phase2Failed_keep {m : M α} {ch : List Part} (h1 : NoRaise m) (h2 : Foot ch m)
    (h3 : ∀ p ∈ [Part.nodeLock, .nodesKeys], p ∉ ch := by decide) (h4 : ∀ p ∈ [Part.cs], p ∉ ch := by decide) :
    Triple (Phase2Failed tid) m (fun _ => Phase2Failed tid) (fun _ => False) :=
  Triple.conseq (Triple.and (h1.keeps (I := LockI tid) h2 Reads.xframe0 h3) (h2.keeps (I := fun r => r.cs = Step.finalizeCommit) Reads.cframe h4))
    (fun _ h => ⟨⟨h.sp0, h.locks⟩, h.cs⟩) (fun _ _ ⟨⟨hs, hl⟩, hc⟩ => ⟨hs, hl, hc⟩) (fun _ h => h.1)

/-- **however phase 2 raises, the run's one fault is spent** (it raises only at its first log write or at the
flip write), the lock bookkeeping is right and the committed state is `finalizeCommit` -/
theorem phase2_raises_failed (w : WS) : Triple (LockI tid) (phase2 w) (fun _ _ => True) (Phase2Failed tid) :=
  Triple.start fun r0 h0 => by
    refine phase2_rule (A1 := fun r => LockI tid r ∧ r.cs = .finalizeCommit)
      (Aout := fun r => (LockI tid r ∧ r.cs = .finalizeCommit) ∧ Spent r) (B1 := NS) (B2 := NS) (B3 := NS) (B4 := NS) w r0
      (hlog := Triple.attempt' (Q := fun ok r => if ok then LockI tid r ∧ r.cs = .finalizeCommit else (LockI tid r ∧ r.cs = .finalizeCommit) ∧ Spent r)
        ?logLine fun r ⟨⟨hl, _⟩, _⟩ hh => by rw [hl.ns.notHalted] at hh; cases hh)
      (hout := Triple.conseq phase2Failed_unlockNodesKeys (fun _ ⟨⟨hl, hc⟩, hs⟩ => ⟨.of_ns hs hl.ns, hl, hc⟩) (fun _ _ h => h) (fun _ h => h.elim))
      (hflip := fun _ => ?flip)
      (hplog := fun _ => X.trySame (ch := [.plog]) (fun r => .set .plog) (by decide))
      (hnone := fun _ _ h => h.1.ns)
      (hkeys := ns_unlockNodesKeys)
      (hitems := X.attempt ((foot_unlockItems w).keeps Reads.xframe))
      (hclean := Triple.conseq (Keeps.of_onlyHalt (E := fun _ => False) (fun _ h => h) ((foot_cleanup w).keeps Reads.ns) (oh_cleanup w))
        (fun _ h => h) (fun _ _ _ => trivial) (fun _ h => h.elim))
    case logLine =>
      exact Triple.conseq (Triple.and (Triple.and ((foot_logStep _).keeps (I := LockI tid) Reads.xframe0 (by decide)) (cs_logStep_set (P := fun _ => True) _))
          (logStep_raises_spent _))
        (fun r e => by subst e; exact ⟨⟨h0, trivial⟩, h0.1⟩) (fun _ _ h => h.1) (fun _ h => ⟨h.1, h.2⟩)
    case flip =>
      have fc := Foot.call (ch := [.reg]) (cls := .regUpdateNoLocks) (args := .aon (finalImgs r0.reserved r0.removedH))
        (eff := fun s => s.setRegs (finalImgs r0.reserved r0.removedH)) (res := .none) (nat := fun _ => false) (fun r => .setRegs)
      exact Triple.conseq (Triple.and (Triple.and (fc.keeps (I := LockI tid) Reads.xframe0 (by decide)) (fc.keeps (I := fun r => r.cs = Step.finalizeCommit) Reads.cframe))
          (call_raises_spent _ _ _ _))
        (fun r ⟨hl, hc⟩ => ⟨⟨hl, hc⟩, hl.ns⟩) (fun _ _ h => h.2) (fun _ ⟨⟨hl, hc⟩, hs⟩ => ⟨.of_ns hs hl.ns, hl, hc⟩)

/-- **`Phase2Commit`'s error handling after any failure of phase 2 cannot fail and leaves nothing behind** on the
updated nodes' handles and in the node-lock table -/
theorem handler_spent_cleans (w : WS) :
    Triple (Phase2Failed tid) (phase2Handler w) (fun _ => Done w tid) (fun _ => False) := by
  unfold phase2Handler
  refine Triple.bind (Q1 := fun _ => Phase2Failed tid) (Triple.get (fun _ h => h)) (fun r0 => ?_)
  have rb : Triple (Phase2Failed tid) (rollback w true) (fun _ => Done w tid) (fun _ => False) :=
    Triple.conseq (rollback_spent w tid true .finalizeCommit (Nat.le_refl _)) (fun _ h => h) (fun _ _ h => h.done (by decide)) (fun _ h => h)
  refine Triple.ite (fun _ => ?_) (fun _ => ?_)
  · exact Triple.bind (phase2Failed_keep nr_priorityRollbackSelf foot_priorityRollbackSelf)
      (fun _ => Triple.bind phase2Failed_unlockNodesKeys (fun _ => rb))
  · exact Triple.bind (phase2Failed_keep S.tryCall
      (.attempt (.call (ch := [.plog]) fun r => .set .plog))) (fun _ => rb)

end

end Sop.Commit
