import Sop.Lemmas.Occ
/-! The invariant `Inv` behind `C02_partial`, its hypotheses (`Good` = `Covered`, `Shape`, `BeginSound` here and `ChecksAll` of `Lemmas/Occ.lean`, along a run), and its
preservation by every step of Model L, transaction by transaction (`TxnInv`); `TxnInv.commit_reads_current` is the
commit-order argument. -/
namespace Sop.C02
open Sop.Occ

/-- serial execution of committed transactions: each must find what it read, then its writes are applied -/
def replay (db : Nat → Option Entry) (hs : List HEntry) : (Nat → Option Entry) × Bool :=
  hs.foldl (fun acc h => (applyW acc.1 h.writes, acc.2 && h.reads.all fun r => acc.1 r.1 = some r.2)) (db, true)

theorem replay_commit {db0 db : Nat → Option Entry} {hs : List HEntry} (h : replay db0 hs = (db, true)) (e : HEntry)
    (he : ∀ r ∈ e.reads, db r.1 = some r.2) : replay db0 (hs ++ [e]) = (applyW db e.writes, true) := by
  have : (e.reads.all fun r => db r.1 = some r.2) = true := List.all_eq_true.mpr fun r hr => decide_eq_true (he r hr)
  unfold replay at h ⊢
  rw [List.foldl_append, h, List.foldl_cons, List.foldl_nil, this]; rfl

/-- not begun yet / finished / on its way out through `unlock()` are excluded -/
def Live (t : Txn) : Prop := t.pc ≠ .begin ∧ t.pc ≠ .done ∧ ∀ k, t.pc = .ldel k → 2 ≤ k

/-- the entry read is still there, or a strictly newer one, or none: the versions of an item only grow -/
def KP (g : G) (r : Nat × Entry) : Prop :=
  g.db r.1 = some r.2 ∨ (∃ e, g.db r.1 = some e ∧ r.2.ver < e.ver) ∨ g.db r.1 = none

/-- the page of a read item was seen at a version that is still current only if the item is unchanged (`pv ≤`: an
    install moves the page version past the version seen, never back) -/
def JP (g : G) (t : Txn) (r : Nat × Entry) : Prop :=
  ∃ pv, (g.pageOf r.1, pv) ∈ t.seen ∧ pv ≤ g.pver (g.pageOf r.1) ∧ (pv = g.pver (g.pageOf r.1) → g.db r.1 = some r.2)

/-- HYPOTHESIS (what a compare-and-set lock record would guarantee): while a transaction is between its successful
    validation and its install, every item it tracked with get/update/remove carries its OWN lock record, or —
    for a get — some get record. -/
def Covered (g : G) : Prop :=
  ∀ i tr, InWindow (g.txns i) → tr ∈ (g.txns i).tracked → tr.act ≠ .add →
    g.recs tr.item = some (ownRec i tr) ∨ (tr.act = .get ∧ (g.recs tr.item).map (·.act) = some .get)

/-- HYPOTHESIS on the tracker contents (true of every program except the legacy aliasing defect: remove of an
    inner-node item): no successor alias; an update carries version read + 1; added items have fresh ids. -/
def Shape (g : G) : Prop :=
  ∀ i tr, tr ∈ (g.txns i).tracked →
    tr.phys = 0 ∧ (tr.act = .update → tr.nver = tr.ent.ver + 1) ∧
    (tr.act = .add → ∀ j tr', tr' ∈ (g.txns j).tracked → tr'.act ≠ .add → tr'.item ≠ tr.item)

/-- HYPOTHESIS: the work phase recorded (key, value, versionInDB) as the committed state held them (false for a remove
    after an update of the same item: `Remove` stores the item's LOCAL version as `versionInDB`, see `wRm`) -/
def BeginSound (g : G) (i : Nat) (hint : List Nat) : Prop :=
  (g.txns i).pc = .begin → ∀ tr ∈ ((step g i hint).txns i).tracked, tr.act ≠ .add → g.db tr.item = some tr.ent

/-- the serial replay of the history gives the committed data (`rep`); reads of a live transaction are unchanged, newer
    or gone (`k`) and guarded by the seen page versions (`j`); reads of a transaction in its window still hold (`c`) -/
structure Inv (db0 : Nat → Option Entry) (g : G) : Prop where
  rep : replay db0 g.hist = (g.db, true)
  k : ∀ i r, Live (g.txns i) → r ∈ (g.txns i).reads → KP g r
  j : ∀ i r, Live (g.txns i) → r ∈ (g.txns i).reads → JP g (g.txns i) r
  c : ∀ i r, InWindow (g.txns i) → r ∈ (g.txns i).reads → g.db r.1 = some r.2

section
variable {db0 : Nat → Option Entry} {g g' : G} {i : Nat} {t : Txn}

theorem kp_congr (h : g'.db = g.db) {r : Nat × Entry} (k : KP g r) : KP g' r := by
  unfold KP at *; rw [h]; exact k

theorem jp_congr (h1 : g'.db = g.db) (h2 : g'.pver = g.pver) (h3 : g'.pageOf = g.pageOf) {r : Nat × Entry}
    (k : JP g t r) : JP g' t r := by
  unfold JP at *; rw [h1, h2, h3]; exact k

theorem seenCurrent_mem (h : seenCurrent g t = true) {p pv : Nat} (hm : (p, pv) ∈ t.seen) : pv = g.pver p := by
  unfold seenCurrent at h
  have := List.all_eq_true.mp h _ hm
  exact (by simpa using this : g.pver p = pv).symm

theorem fresh_of_kp {r : Nat × Entry} (k : KP g r) {e : Entry} (h1 : g.db r.1 = some e) (h2 : e.ver = r.2.ver) :
    g.db r.1 = some r.2 := by
  rcases k with k | ⟨e', k, hlt⟩ | k
  · exact k
  · rw [h1] at k; cases k; omega
  · rw [h1] at k; cases k

theorem live_of_validate (h : t.pc = .validate) : Live t :=
  ⟨by rw [h]; nofun, by rw [h]; nofun, fun k hk => by rw [h] at hk; cases hk⟩

theorem live_iff : Live t ↔ t.pc ≠ .begin ∧ ¬ Dead t :=
  and_congr_right fun _ =>
    ⟨fun ⟨hd, hk⟩ h => h.elim hd fun ⟨k, e, hlt⟩ => Nat.not_le_of_lt hlt (hk k e),
     fun h => ⟨fun e => h (Or.inl e), fun k e => Nat.le_of_not_lt fun hlt => h (Or.inr ⟨k, e, hlt⟩)⟩⟩

theorem ldel_done (g : G) (i : Nat) (hint : List Nat) {k : Nat} (h : (g.txns i).pc = .ldel k) (hk : k < 2) :
    ((step g i hint).txns i).pc = .done := by
  unfold step; simp only [h]; unfold stepLdel
  by_cases h0 : k = 0
  · rw [if_pos h0, setTxn_self]; rfl
  · rw [if_neg h0, if_pos (by omega : k = 1), setTxn_self]; rfl

/-- a transaction on its way out (`ldel 0`, `ldel 1`) is done after its next step, so one that has begun and is not done
    after a step was live before it -/
theorem live_of_not_done_after {hint : List Nat} (hb : (g.txns i).pc ≠ .begin) (hd : (g.txns i).pc ≠ .done)
    (h : ((step g i hint).txns i).pc ≠ .done) : Live (g.txns i) :=
  live_iff.mpr ⟨hb, fun hdead => hdead.elim hd fun ⟨_, hk, hlt⟩ => h (ldel_done g i hint hk hlt)⟩

/-- `Inv` as far as it speaks of one transaction -/
structure TxnInv (g : G) (t : Txn) : Prop where
  k : ∀ r, Live t → r ∈ t.reads → KP g r
  j : ∀ r, Live t → r ∈ t.reads → JP g t r
  c : ∀ r, InWindow t → r ∈ t.reads → g.db r.1 = some r.2

theorem Inv.txn (inv : Inv db0 g) (i : Nat) : TxnInv g (g.txns i) := ⟨inv.k i, inv.j i, inv.c i⟩

theorem Inv.of_txns (rep : replay db0 g.hist = (g.db, true))
    (h : ∀ i, TxnInv g (g.txns i)) : Inv db0 g :=
  ⟨rep, fun i => (h i).k, fun i => (h i).j, fun i => (h i).c⟩

theorem TxnInv.frame (h : TxnInv g t) (hdb : g'.db = g.db) (hpv : g'.pver = g.pver)
    (hpo : g'.pageOf = g.pageOf) : TxnInv g' t :=
  ⟨fun r hl hr => kp_congr hdb (h.k r hl hr), fun r hl hr => jp_congr hdb hpv hpo (h.j r hl hr),
   fun r hw hr => by rw [hdb]; exact h.c r hw hr⟩

theorem TxnInv.of_not_live (hl : ¬ Live t) (hw : ¬ InWindow t) : TxnInv g t :=
  ⟨fun _ h => absurd h hl, fun _ h => absurd h hl, fun _ h => absurd h hw⟩

theorem TxnInv.of_dead (h : Dead t) : TxnInv g t :=
  .of_not_live (fun hl => (live_iff.mp hl).2 h) h.not_inWindow

theorem TxnInv.of_begin (h : t.pc = .begin) : TxnInv g t :=
  .of_not_live (fun hl => hl.1 h) fun hw => by rw [InWindow, h] at hw; exact hw.elim nofun nofun

section one
variable (h0 : TxnInv g t)
include h0

theorem TxnInv.validate_current (hpc : t.pc = .validate) (hsc : seenCurrent g t = true) :
    ∀ r ∈ t.reads, g.db r.1 = some r.2 := fun r hr =>
  let ⟨_, hm, _, himp⟩ := h0.j r (live_of_validate hpc) hr
  himp (seenCurrent_mem hsc hm)

/-- At T's commit point every item T read still holds what T read: whatever entitles a step to a commit point
    (`CommitWhy`), the reads of the entry it appends are current. -/
theorem TxnInv.commit_reads_current {h : HEntry} (why : CommitWhy g t h) : ∀ r ∈ h.reads, g.db r.1 = some r.2 := by
  intro r hr
  rcases why with why | ⟨hsub, hpc | hpc | ⟨hpc, hsc⟩⟩ | ⟨hpc, hsub⟩
  · rw [why] at hr; cases hr
  · exact h0.c r (Or.inl hpc) (hsub r hr)
  · exact h0.c r (Or.inr hpc) (hsub r hr)
  · exact h0.validate_current hpc hsc r (hsub r hr)
  · obtain ⟨hr', e, he, _, hv⟩ := hsub r hr
    exact fresh_of_kp (h0.k r (live_of_validate hpc) hr') he hv

end one

/-- what the work phase and a merge replay both leave: the reads are current, their pages are seen at the current
    version, and the transaction is not in its window -/
theorem TxnInv.of_fresh (cur : ∀ r ∈ t.reads, g.db r.1 = some r.2)
    (seen : ∀ r ∈ t.reads, (g.pageOf r.1, g.pver (g.pageOf r.1)) ∈ t.seen) (out : ¬ InWindow t) : TxnInv g t :=
  ⟨fun r _ hr => Or.inl (cur r hr), fun r _ hr => ⟨_, seen r hr, Nat.le_refl _, fun _ => cur r hr⟩,
   fun _ hw => absurd hw out⟩

/-- `hlive`: whoever is not done after the step was live before it (`live_of_not_done_after`); the conclusion is judged in
    the state before the step -/
theorem TxnInv.of_selfOk (h0 : TxnInv g t) {t' : Txn} (hlive : t'.pc ≠ .done → Live t) (h : SelfOk g t t') :
    TxnInv g t' := by
  rcases h with h | h | ⟨hrd, hsn, hwin⟩ | ⟨hsub, hsn, hnw⟩
  · exact .of_dead (Or.inl h)
  · exact .of_dead (Or.inr h)
  · -- same reads, same seen pages: `k` and `j` as before; `c` on entering the window from a validation that found every page current
    refine ⟨fun r hl hr => h0.k r (hlive hl.2.1) (hrd ▸ hr), fun r hl hr => ?_, fun r hw hr => ?_⟩
    · have := h0.j r (hlive hl.2.1) (hrd ▸ hr)
      unfold JP at this ⊢; rw [hsn]; exact this
    · rcases hwin hw with hpc | ⟨hpc, _, hsc⟩
      · exact h0.c r (Or.inl hpc) (hrd ▸ hr)
      · exact h0.validate_current hpc hsc r (hrd ▸ hr)
  · -- refetched: the replay met the version read, so (`KP`) the entry read
    by_cases hd : t'.pc = .done
    · exact .of_dead (Or.inl hd)
    · exact .of_fresh (fun r hr => let ⟨hr', e, he, _, hv⟩ := hsub r hr; fresh_of_kp (h0.k r (hlive hd) hr') he hv) hsn hnw

/-- a step of `i` that installs nothing; `hself` is judged in the state before the step -/
theorem Inv.of_quiet (inv : Inv db0 g) (hdb : g'.db = g.db) (hpv : g'.pver = g.pver) (hpo : g'.pageOf = g.pageOf)
    (hoth : ∀ k, k ≠ i → g'.txns k = g.txns k)
    (hhist : g'.hist = g.hist ∨ ∃ h, g'.hist = g.hist ++ [h] ∧ h.writes = [] ∧ ∀ r ∈ h.reads, g.db r.1 = some r.2)
    (hself : TxnInv g (g'.txns i)) : Inv db0 g' := by
  refine Inv.of_txns ?_ (forall_of_others hoth (hself.frame hdb hpv hpo) fun k _ => (inv.txn k).frame hdb hpv hpo)
  rcases hhist with hh | ⟨h, hh, hw, hr⟩
  · rw [hh, hdb]; exact inv.rep
  · have := replay_commit inv.rep h hr
    rwa [hw, ← hdb, ← hh] at this

theorem inv_protocol_step (inv : Inv db0 g)
    (hlive : (g'.txns i).pc ≠ .done → Live (g.txns i)) (ok : StepOk g g' i (g.txns i)) : Inv db0 g' :=
  inv.of_quiet ok.db ok.pver ok.pageOf ok.others
    (ok.hist.imp id fun ⟨h, hh, hw, why⟩ => ⟨h, hh, hw, (inv.txn i).commit_reads_current why⟩)
    ((inv.txn i).of_selfOk hlive ok.selfOk)

theorem inv_begin (inv : Inv db0 g)
    (ok : BeginOk g g' i) (hs : ∀ tr ∈ (g'.txns i).tracked, tr.act ≠ .add → g.db tr.item = some tr.ent) : Inv db0 g' := by
  refine inv.of_quiet ok.db ok.pver ok.pageOf ok.others (ok.hist.imp id fun ⟨h, hh, hw, hr⟩ => ⟨h, hh, hw, by rw [hr]; nofun⟩) ?_
  rcases ok.self with h | ⟨hseen, hpc⟩
  · exact .of_dead (Or.inl h)
  · refine .of_fresh (fun r hr => ?_) (fun r hr => ?_) ?_
    · obtain ⟨tr, htr, hne, rfl⟩ := mem_reads.mp hr; exact hs tr htr hne
    · obtain ⟨tr, htr, _, rfl⟩ := mem_reads.mp hr; rw [hseen]; exact mem_seenNow (mem_pagesOf htr)
    · rintro (hw | hw) <;> rw [hw] at hpc <;> exact nomatch hpc

/-- an item written by the installing transaction `i` that transaction `k` (in its window) tracks: impossible under
    `Covered` — both would need their own lock record on it -/
theorem no_conflict {k : Nat} (hcov : Covered g) (hshape : Shape g) (hki : k ≠ i)
    (hwi : InWindow (g.txns i)) (hwk : InWindow (g.txns k))
    {w : Tr} (hw : w ∈ (g.txns i).tracked) (hwr : w.act ≠ .get)
    {tr : Tr} (htr : tr ∈ (g.txns k).tracked) (hne : tr.act ≠ .add) (heq : w.item = tr.item) : False := by
  by_cases hadd : w.act = .add
  · exact (hshape i w hw).2.2 hadd k tr htr hne heq.symm
  · rcases hcov i w hwi hw hadd with h1 | ⟨h1, _⟩
    · rcases hcov k tr hwk htr hne with h2 | ⟨h2, h3⟩
      · rw [heq] at h1; rw [h1] at h2
        simp only [ownRec, Option.some.injEq, Rec.mk.injEq] at h2
        exact hki h2.1.symm
      · rw [heq] at h1; rw [h1] at h3
        simp only [ownRec, Option.map_some, Option.some.injEq] at h3
        exact hwr h3
    · exact hwr h1

/-- what `i`'s install does to an item that `k` tracks: nothing, or `i` wrote it having read its current entry `e`, and it
    is now gone or at version `e.ver + 1` -/
theorem install_read {k : Nat} (hcur : ∀ r ∈ (g.txns i).reads, g.db r.1 = some r.2) (hshape : Shape g)
    (hdb : g'.db = applyW g.db ((g.txns i).tracked.filter (·.writes)))
    {tr : Tr} (htr : tr ∈ (g.txns k).tracked) (hne : tr.act ≠ .add) :
    g'.db tr.item = g.db tr.item ∨
    ∃ w ∈ (g.txns i).tracked, w.act ≠ .get ∧ w.item = tr.item ∧ ∃ e, g.db tr.item = some e ∧
      (g'.db tr.item = none ∨ ∃ e', g'.db tr.item = some e' ∧ e'.ver = e.ver + 1) := by
  rw [hdb]
  rcases applyW_cases ((g.txns i).tracked.filter (·.writes)) g.db tr.item with ⟨h, _⟩ | ⟨w, hw, _, htgt, hres⟩
  · exact Or.inl h
  · obtain ⟨hwt, hwg⟩ := mem_writes.mp hw
    obtain ⟨hphys, hupd, hfreshadd⟩ := hshape i w hwt
    have hitem : w.item = tr.item := target_of_phys hphys ▸ htgt
    have hnadd : w.act ≠ .add := fun hadd => hfreshadd hadd k tr htr hne hitem.symm
    have hc : g.db tr.item = some w.ent := hitem ▸ hcur (w.item, w.ent) (mem_reads.mpr ⟨w, hwt, hnadd, rfl⟩)
    refine Or.inr ⟨w, hwt, hwg, hitem, w.ent, hc, ?_⟩
    rw [hres]; unfold eff
    cases hact : w.act with
    | get => exact absurd hact hwg
    | add => exact absurd hact hnadd
    | update => exact Or.inr ⟨_, rfl, hupd hact⟩
    | remove => exact Or.inl rfl

theorem TxnInv.install {k : Nat} (hi : TxnInv g (g.txns i)) (hk : TxnInv g (g.txns k)) (hcov : Covered g) (hshape : Shape g)
    (hpc : (g.txns i).pc = .install) (ok : InstallOk g g' i (g.txns i)) (hki : k ≠ i) : TxnInv g' (g.txns k) := by
  obtain ⟨hdb, hpv, hpo, -, -, -⟩ := ok
  have hwi : InWindow (g.txns i) := Or.inr hpc
  have hcur := fun r => hi.c r hwi
  refine ⟨fun r hl hr => ?_, fun r hl hr => ?_, fun r hw hr => ?_⟩ <;> obtain ⟨tr, htr, hne, rfl⟩ := mem_reads.mp hr
  · -- `k`: an entry that met what `i` read and is replaced is strictly newer than anything read before
    have kp := hk.k _ hl hr
    unfold KP at kp ⊢
    rcases install_read hcur hshape hdb htr hne with h | ⟨_, _, _, _, e, he, h⟩
    · rw [h]; exact kp
    · rcases h with h | ⟨e', h, hv⟩
      · exact Or.inr (Or.inr h)
      · refine Or.inr (Or.inl ⟨e', h, ?_⟩)
        rw [he] at kp
        rcases kp with kp | ⟨e0, kp, hlt⟩ | kp
        · rw [hv, Option.some.inj kp]; exact Nat.lt_succ_self _
        · rw [hv, Option.some.inj kp]; exact Nat.lt_succ_of_lt hlt
        · cases kp
  · -- `j`: a replaced entry lies on a page whose version the install moves past the version seen
    obtain ⟨pv, hm, hle, himp⟩ := hk.j _ hl hr
    have hle : pv ≤ g.pver (g.pageOf tr.item) := hle
    by_cases hc : ((g.txns i).upages g).contains (g.pageOf tr.item) = true
    · have hp : g'.pver (g'.pageOf tr.item) = g.pver (g.pageOf tr.item) + 1 := by rw [hpv, hpo]; exact if_pos hc
      exact ⟨pv, by rw [hpo]; exact hm, by rw [hp]; exact Nat.le_succ_of_le hle, fun h => by rw [hp] at h; omega⟩
    · have hp : g'.pver (g'.pageOf tr.item) = g.pver (g.pageOf tr.item) := by rw [hpv, hpo]; exact if_neg hc
      refine ⟨pv, by rw [hpo]; exact hm, by rw [hp]; exact hle, fun h => ?_⟩
      rw [hp] at h
      rcases install_read hcur hshape hdb htr hne with h' | ⟨w, hwt, hwg, hitem, _⟩
      · rw [h']; exact himp h
      · have : g.pageOf w.item ∈ (g.txns i).upages g := mem_upagesOf hwt hwg
        rw [hitem] at this
        exact absurd (by simpa using this) hc
  · -- `c`: nobody in its window tracks an item the install writes
    rcases install_read hcur hshape hdb htr hne with h | ⟨w, hwt, hwg, hitem, _⟩
    · rw [h]; exact hk.c _ hw hr
    · exact (no_conflict hcov hshape hki hwi hw hwt hwg htr hne hitem).elim

theorem inv_install (inv : Inv db0 g) (hcov : Covered g) (hshape : Shape g)
    (hpc : (g.txns i).pc = .install) (ok : InstallOk g g' i (g.txns i)) : Inv db0 g' :=
  Inv.of_txns (by rw [ok.hist, ok.db]; exact replay_commit inv.rep _ fun r hr => inv.c i r (Or.inr hpc) hr)
    (forall_of_others ok.others (.of_dead ok.dead) fun k hk => .install (inv.txn i) (inv.txn k) hcov hshape hpc ok hk)

theorem inv_step (i : Nat) (hint : List Nat) (inv : Inv db0 g)
    (hcov : Covered g) (hshape : Shape g) (hck : ChecksAll g) (hb : BeginSound g i hint) : Inv db0 (step g i hint) := by
  rcases step_spec g hck i hint with ⟨_, h⟩ | ⟨hpc, h⟩ | ⟨hpc, h⟩ | ⟨h1, h2, _, h⟩
  · rw [h]; exact inv
  · exact inv_begin inv h (hb hpc)
  · exact inv_install inv hcov hshape hpc h
  · exact inv_protocol_step inv (live_of_not_done_after h2 h1) h

end

/-- the hypotheses along a run -/
def Good : G → List (Nat × List Nat) → Prop
  | g, [] => Covered g ∧ Shape g ∧ ChecksAll g
  | g, s :: rest => Covered g ∧ Shape g ∧ ChecksAll g ∧ BeginSound g s.1 s.2 ∧ Good (step g s.1 s.2) rest

section
variable {g : G} {s : Nat × List Nat} {rest : List (Nat × List Nat)}

theorem Good.covered : ∀ {sched : List (Nat × List Nat)}, Good g sched → Covered g
  | [], h | _ :: _, h => h.1
theorem Good.shape : ∀ {sched : List (Nat × List Nat)}, Good g sched → Shape g
  | [], h | _ :: _, h => h.2.1
theorem Good.checks : ∀ {sched : List (Nat × List Nat)}, Good g sched → ChecksAll g
  | [], h => h.2.2
  | _ :: _, h => h.2.2.1
theorem Good.beginSound (h : Good g (s :: rest)) : BeginSound g s.1 s.2 := h.2.2.2.1
theorem Good.tail (h : Good g (s :: rest)) : Good (step g s.1 s.2) rest := h.2.2.2.2

end

theorem inv_run {db0 : Nat → Option Entry} : ∀ (sched : List (Nat × List Nat)) (g : G), Inv db0 g → Good g sched → Inv db0 (run g sched) := by
  intro sched
  induction sched with
  | nil => intro g inv _; exact inv
  | cons s rest ih =>
    intro g inv hg
    exact ih _ (inv_step s.1 s.2 inv hg.covered hg.shape hg.checks hg.beginSound) hg.tail

/-- `.done` stands for an absent transaction -/
def Init (g : G) : Prop := g.hist = [] ∧ ∀ i, (g.txns i).pc = .begin ∨ (g.txns i).pc = .done

theorem inv_init {g : G} (h : Init g) : Inv g.db g :=
  Inv.of_txns (by rw [h.1]; rfl) fun i => (h.2 i).elim .of_begin fun hd => .of_dead (Or.inl hd)

end Sop.C02
