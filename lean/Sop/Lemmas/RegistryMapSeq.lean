import Sop.Model.RegistryMap
/-!
# The sequential registry (`Sop.RegistryMap`) as a representation of a finite map

`Repr c st m`: representation invariant `Inv` (every id at most once, on its own probe sequence) and abstraction relation
`Rel`; a cell write (`write_spec`) and the repaired write probe (`findWrite_spec`) keep it. A writing operation is
`findWrite`, then `settle` (`step_eq`); one operation and a whole run answer like the map (`step_sim`, `run_sim`), and `full` is
not reported before `maxSeg` operations (`no_full`).
-/
namespace Sop.C21
open Sop.RegistryMap

variable {V : Type}

theorem hpb_eq : hpb = 66 := by decide

theorem cell_write (st : St V) (a a' : Nat) (v : Option (Rec V)) :
    cell (write st a v) a' = if a = a' ∧ a < st.cells.size then v else cell st a' := by
  unfold cell write
  simp only [Array.getElem?_setIfInBounds]
  by_cases h : a = a'
  · subst h
    by_cases h2 : a < st.cells.size
    · simp [h2]
    · simp [h2]
  · simp [h]

theorem cell_ge (st : St V) (a : Nat) (h : st.cells.size ≤ a) : cell st a = none := by
  unfold cell; simp [Array.getElem?_eq_none h]

theorem cell_addSeg (c : Cfg) (st : St V) (a : Nat) : cell (addSeg c st) a = cell st a := by
  unfold cell addSeg
  simp only [Array.getElem?_append]
  by_cases h : a < st.cells.size
  · simp [h]
  · simp only [h, ↓reduceIte, Array.getElem?_replicate, Array.getElem?_eq_none (Nat.not_lt.mp h)]
    split <;> rfl

theorem slotOf_lt (id : Id) : slotOf id < hpb := Nat.mod_lt _ (by decide)

theorem mem_slotOrder_lt {s x : Nat} (hs : s < hpb) (hx : x ∈ slotOrder s) : x < hpb := by
  simp only [slotOrder, List.mem_cons, List.mem_filter, List.mem_range] at hx
  rcases hx with rfl | ⟨h, _⟩
  · exact hs
  · exact h

theorem mem_probe {c : Cfg} {id : Id} {n a : Nat} (h : a ∈ probe c id n) :
    ∃ seg, seg < n ∧ ∃ slot, slot < hpb ∧ a = blockBase c seg (blockOf c id) + slot := by
  simp only [probe, List.mem_flatMap, List.mem_range, segProbe, List.mem_map] at h
  obtain ⟨seg, hseg, slot, hslot, rfl⟩ := h
  exact ⟨seg, hseg, slot, mem_slotOrder_lt (slotOf_lt id) hslot, rfl⟩

theorem probe_mono {c : Cfg} {id : Id} {n a : Nat} (h : a ∈ probe c id n) : a ∈ probe c id (n + 1) := by
  unfold probe at *
  rw [List.range_succ, List.flatMap_append]
  exact List.mem_append_left _ h

theorem freshSeg_mem_probe (c : Cfg) (id : Id) (n : Nat) :
    blockBase c n (blockOf c id) + slotOf id ∈ probe c id (n + 1) := by
  unfold probe
  rw [List.range_succ, List.flatMap_append]
  apply List.mem_append_right
  simp [segProbe, slotOrder]

theorem probe_lt {c : Cfg} (hmd : 0 < c.md) {id : Id} {n a : Nat} (h : a ∈ probe c id n) :
    a < n * (c.md * hpb) := by
  obtain ⟨seg, hseg, slot, hslot, rfl⟩ := mem_probe h
  have hb : blockOf c id < c.md := Nat.mod_lt _ hmd
  have h1 : (seg + 1) * c.md ≤ n * c.md := Nat.mul_le_mul_right _ hseg
  rw [Nat.succ_mul] at h1
  rw [← Nat.mul_assoc]
  unfold blockBase
  rw [hpb_eq] at *
  generalize seg * c.md = x at *
  generalize n * c.md = y at *
  omega

theorem freshSeg_ge (c : Cfg) (id : Id) (n : Nat) : n * (c.md * hpb) ≤ blockBase c n (blockOf c id) + slotOf id := by
  unfold blockBase
  rw [← Nat.mul_assoc, hpb_eq]
  generalize n * c.md = y
  omega

/-- the outcome `res` of a pass of `scan` over `l`, started with the remembered hole `h` -/
structure ScanOk (st : St V) (id : Id) (fw : Bool) (l : List Nat) (h : Option Nat) (res : Found V) : Prop where
  found : ∀ a r, res = .at a r → a ∈ l ∧ cell st a = some r ∧ r.id = id
  absent : (∀ a r, res ≠ .at a r) → ∀ a' ∈ l, ∀ r, cell st a' = some r → r.id ≠ id
  hole : ∀ a, res = .hole a → h = some a ∨ (fw = true ∧ a ∈ l ∧ cell st a = none)

theorem ScanOk.cons {st : St V} {id : Id} {fw : Bool} {a0 : Nat} {as : List Nat} {h h' : Option Nat} {res : Found V}
    (ok : ScanOk st id fw as h' res) (hn : ∀ r, cell st a0 = some r → r.id ≠ id)
    (hh : ∀ a, h' = some a → h = some a ∨ (fw = true ∧ a = a0 ∧ cell st a0 = none)) :
    ScanOk st id fw (a0 :: as) h res := by
  refine ⟨fun a r e => ?_, fun hne a' ha' r hr => ?_, fun a e => ?_⟩
  · obtain ⟨m, c⟩ := ok.found a r e; exact ⟨List.mem_cons_of_mem _ m, c⟩
  · rcases List.mem_cons.mp ha' with rfl | m
    · exact hn r hr
    · exact ok.absent hne a' m r hr
  · rcases ok.hole a e with e' | ⟨f, m, c⟩
    · rcases hh a e' with e'' | ⟨f, rfl, c⟩
      · exact .inl e''
      · exact .inr ⟨f, List.mem_cons_self, c⟩
    · exact .inr ⟨f, List.mem_cons_of_mem _ m, c⟩

/-- `legacy` is read only by a writing scan: a reading one (`fw = false`) is the same for both write probes -/
theorem scan_spec (st : St V) (id : Id) (fw lg : Bool) (hlg : fw = true → lg = false) :
    ∀ (l : List Nat) (h : Option Nat), ScanOk st id fw l h (scan st id fw lg l h) := by
  intro l
  induction l with
  | nil =>
    intro h
    refine ⟨fun a r e => ?_, fun _ _ ha' => absurd ha' List.not_mem_nil, fun a e => ?_⟩
    · cases h <;> cases e
    · cases h <;> cases e; exact .inl rfl
  | cons a0 as ih =>
    intro h
    unfold scan
    cases hc : cell st a0 with
    | none =>
      have hn : ∀ r, cell st a0 = some r → r.id ≠ id := fun r hr => by rw [hc] at hr; cases hr
      cases fw with
      | false => exact (ih h).cons hn fun a e => .inl e
      | true =>
        obtain rfl := hlg rfl
        refine (ih _).cons hn fun a e => ?_
        cases h with
        | none => cases e; exact .inr ⟨rfl, rfl, hc⟩
        | some x => exact .inl e
    | some r0 =>
      by_cases hid : r0.id = id
      · simp only [hid, if_true]
        exact ⟨fun a r e => by cases e; exact ⟨List.mem_cons_self, hc, hid⟩, fun hne => absurd rfl (hne a0 r0),
          fun a e => nomatch e⟩
      · simp only [hid, if_false]
        exact (ih h).cons (fun r hr => by rw [hc] at hr; cases hr; exact hid) fun a e => .inl e

structure Inv (c : Cfg) (st : St V) : Prop where
  wf : st.cells.size = st.nseg * (c.md * hpb)
  placed : ∀ a r, cell st a = some r → a ∈ probe c r.id st.nseg
  uniq : ∀ a a' r r', cell st a = some r → cell st a' = some r' → r.id = r'.id → a = a'

/-- the map a registry state stands for -/
def Rel (st : St V) (m : Map V) : Prop :=
  ∀ id r, m id = some r ↔ ∃ a, cell st a = some r ∧ r.id = id

structure Repr (c : Cfg) (st : St V) (m : Map V) : Prop where
  inv : Inv c st
  rel : Rel st m

variable {c : Cfg} {st : St V} {m : Map V}

theorem inv_init (c : Cfg) : Inv c (St.init : St V) :=
  ⟨by simp [St.init], by intro a r h; simp [cell, St.init] at h, by intro a a' r r' h; simp [cell, St.init] at h⟩

theorem rel_init : Rel (St.init : St V) (fun _ => none) := by
  intro id r; simp [cell, St.init]

theorem Repr.init (c : Cfg) : Repr c (St.init : St V) (fun _ => none) := ⟨inv_init c, rel_init⟩

theorem Repr.absent (h : Repr c st m) (id : Id)
    (hn : ∀ a' ∈ probe c id st.nseg, ∀ r, cell st a' = some r → r.id ≠ id) : m id = none := by
  cases hm : m id with
  | none => rfl
  | some r =>
    obtain ⟨a, ha, hid⟩ := (h.rel id r).mp hm
    have := h.inv.placed a r ha
    rw [hid] at this
    exact absurd hid (hn a this r ha)

theorem get_eq {c : Cfg} {st : St V} {m : Map V} (h : Repr c st m) (id : Id) :
    get c st id = m id := by
  unfold RegistryMap.get
  have ok := scan_spec st id false c.legacy nofun (probe c id st.nseg) none
  generalize scan st id false c.legacy (probe c id st.nseg) none = res at ok ⊢
  cases res with
  | «at» a r => exact ((h.rel id r).mpr ⟨a, (ok.found a r rfl).2⟩).symm
  | hole a =>
    rcases ok.hole a rfl with e | ⟨e, _⟩
    · cases e
    · cases e
  | none => exact (h.absent id (ok.absent fun _ _ e => nomatch e)).symm

theorem Repr.addSeg (h : Repr c st m) : Repr c (addSeg c st) m := by
  obtain ⟨hi, hr⟩ := h
  refine ⟨⟨?_, ?_, ?_⟩, ?_⟩
  · simp only [RegistryMap.addSeg, Array.size_append, Array.size_replicate, hi.wf, Nat.succ_mul]
  · intro a r hc
    rw [cell_addSeg] at hc
    exact probe_mono (hi.placed a r hc)
  · intro a a' r r' hc hc'
    rw [cell_addSeg] at hc hc'
    exact hi.uniq a a' r r' hc hc'
  · intro id r; simp only [cell_addSeg]; exact hr id r

/-- writing `v` (a record of `id`, or nothing) into cell `a` updates the map at `id`, when `a` is the only cell that may
hold `id` (`hocc`) and holds nothing else (`hfree`) -/
theorem write_spec (h : Repr c st m) (a : Nat) (id : Id)
    (v : Option (Rec V)) (ha : a < st.cells.size) (hv : ∀ r, v = some r → r.id = id ∧ a ∈ probe c id st.nseg)
    (hocc : ∀ a' r', cell st a' = some r' → r'.id = id → a' = a) (hfree : ∀ r0, cell st a = some r0 → r0.id = id) :
    Repr c (write st a v) (m.upd id v) := by
  obtain ⟨hi, hr⟩ := h
  have cw : ∀ a', cell (write st a v) a' = if a = a' then v else cell st a' := by
    intro a'; rw [cell_write]; simp [ha]
  refine ⟨⟨hi.wf.symm ▸ Array.size_setIfInBounds .., ?_, ?_⟩, ?_⟩
  · intro a' r' h
    rw [cw] at h
    show a' ∈ probe c r'.id st.nseg
    split at h
    · rename_i e; obtain ⟨e1, e2⟩ := hv r' h; rw [← e, e1]; exact e2
    · exact hi.placed a' r' h
  · intro a1 a2 r1 r2 h1 h2 hid
    rw [cw] at h1 h2
    split at h1 <;> split at h2
    · rename_i e1 e2; rw [← e1, ← e2]
    · rename_i e1 _; rw [← e1]; exact (hocc a2 r2 h2 (hid.symm.trans (hv r1 h1).1)).symm
    · rename_i _ e2; rw [← e2]; exact hocc a1 r1 h1 (hid.trans (hv r2 h2).1)
    · exact hi.uniq a1 a2 r1 r2 h1 h2 hid
  · intro id' r'
    simp only [Map.upd, cw]
    by_cases hid : id' = id
    · subst hid
      rw [if_pos rfl]
      constructor
      · intro e; exact ⟨a, by rw [if_pos rfl]; exact e, (hv r' e).1⟩
      · rintro ⟨a', h1, h2⟩
        split at h1
        · exact h1
        · rename_i ne; exact absurd (hocc a' r' h1 h2).symm ne
    · rw [if_neg hid, hr id' r']
      constructor
      · rintro ⟨a', h1, h2⟩
        refine ⟨a', ?_, h2⟩
        split
        · rename_i e; subst e; exact absurd (h2.symm.trans (hfree r' h1)) hid
        · exact h1
      · rintro ⟨a', h1, h2⟩
        split at h1
        · exact absurd (h2.symm.trans (hv r' h1).1) hid
        · exact ⟨a', h1, h2⟩

theorem write_some {c : Cfg} (hmd : 0 < c.md) {st : St V} {m : Map V} (h : Repr c st m)
    (a : Nat) (r : Rec V) (hp : a ∈ probe c r.id st.nseg)
    (hocc : ∀ a' r', cell st a' = some r' → r'.id = r.id → a' = a)
    (hfree : ∀ r0, cell st a = some r0 → r0.id = r.id) :
    Repr c (write st a (some r)) (m.upd r.id (some r)) :=
  write_spec h a r.id (some r) (h.inv.wf ▸ probe_lt hmd hp) (fun r' e => by cases e; exact ⟨rfl, hp⟩) hocc hfree

theorem write_none (h : Repr c st m) (a : Nat) (r0 : Rec V) (hc : cell st a = some r0) :
    Repr c (write st a none) (m.upd r0.id none) :=
  write_spec h a r0.id none (Nat.lt_of_not_le fun hge => by rw [cell_ge st a hge] at hc; cases hc) (fun r e => nomatch e)
    (fun a' r' h' hid => h.inv.uniq a' a r' r0 h' hc hid) (fun r1 h' => by rw [hc] at h'; cases h'; rfl)

def LocOk (c : Cfg) (st : St V) (m : Map V) (id : Id) : Loc V → Prop
  | .found a r => cell st a = some r ∧ r.id = id
  | .hole a => cell st a = none ∧ a ∈ probe c id st.nseg ∧ m id = none
  | .full => True

theorem findWrite_spec {c : Cfg} (hl : c.legacy = false) {st : St V} {m : Map V} (h : Repr c st m) (id : Id) :
    Repr c (findWrite c st id).1 m ∧ LocOk c (findWrite c st id).1 m id (findWrite c st id).2 := by
  unfold findWrite
  rw [hl]
  have ok := scan_spec st id true false (fun _ => rfl) (probe c id st.nseg) none
  generalize scan st id true false (probe c id st.nseg) none = res at ok ⊢
  cases res with
  | «at» a r => exact ⟨h, (ok.found a r rfl).2⟩
  | hole a =>
    rcases ok.hole a rfl with e | ⟨_, hm, hc⟩
    · cases e
    · exact ⟨h, hc, hm, h.absent id (ok.absent fun _ _ e => nomatch e)⟩
  | none =>
    have hn := ok.absent fun _ _ e => nomatch e
    simp only
    split
    · refine ⟨h.addSeg, ?_, ?_, h.absent id hn⟩
      · rw [cell_addSeg]; apply cell_ge; rw [h.inv.wf]; exact freshSeg_ge c id st.nseg
      · exact freshSeg_mem_probe c id st.nseg
    · exact ⟨h, trivial⟩

theorem findAll_single (c : Cfg) (st : St V) (id : Id) :
    findAll c st [id] = match findWrite c st id with
      | (st', .full) => (st', none)
      | (st', l) => (st', some [l]) := by
  unfold findAll findAll
  rcases findWrite c st id with ⟨st', loc⟩
  cases loc <;> rfl

/-- the shape `List.any` over one element leaves in `setMany`/`removeMany` of a single handle -/
theorem ite_decide_not_or_false {α : Type} (p : Prop) [Decidable p] (x y : α) :
    (if (decide (¬ p) || false) = true then x else y) = if p then y else x := by
  by_cases h : p <;> simp [h]

theorem setMany_single (c : Cfg) (st : St V) (r : Rec V) :
    setMany c st [r] = match findWrite c st r.id with
      | (st', .full) => (st', .full)
      | (st', .found a r0) => if r0.id = r.id then (write st' a (some r), .ok) else (st', .err)
      | (st', .hole a) => (write st' a (some r), .ok) := by
  unfold setMany
  rw [List.map_cons, List.map_nil, findAll_single]
  rcases findWrite c st r.id with ⟨st', loc⟩
  cases loc with
  | found a r0 => exact ite_decide_not_or_false (r0.id = r.id) _ _
  | hole a | full => rfl

theorem removeMany_single (c : Cfg) (st : St V) (id : Id) :
    removeMany c st [id] = match findWrite c st id with
      | (st', .full) => (st', .full)
      | (st', .found a r0) => if r0.id = id then (write st' a none, .ok) else (st', .err)
      | (st', .hole _) => (st', .err) := by
  unfold removeMany
  rw [findAll_single]
  rcases findWrite c st id with ⟨st', loc⟩
  cases loc with
  | found a r0 => exact ite_decide_not_or_false (r0.id = id) _ _
  | hole a | full => rfl

def opId : Op V → Id
  | .add r => r.id
  | .set r => r.id
  | .remove id => id
  | .get id => id

/-- what `add`, `set` and `remove` of one handle do once `findWrite` has located the id -/
def settle : Op V → St V × Loc V → St V × Out V
  | _, (st', .full) => (st', .full)
  | .add r, (st', .hole a) => (write st' a (some r), .ok)
  | .add _, (st', .found _ _) => (st', .err)
  | .set r, (st', .hole a) => (write st' a (some r), .ok)
  | .set r, (st', .found a r0) => if r0.id = r.id then (write st' a (some r), .ok) else (st', .err)
  | .remove _, (st', .hole _) => (st', .err)
  | .remove id, (st', .found a r0) => if r0.id = id then (write st' a none, .ok) else (st', .err)
  | .get _, (st', _) => (st', .got none)

theorem step_eq (c : Cfg) (st : St V) (op : Op V) (h : ∀ id, op ≠ .get id) :
    step c st op = settle op (findWrite c st (opId op)) := by
  cases op with
  | add r =>
    simp only [step, add, opId]
    rcases findWrite c st r.id with ⟨st', loc⟩
    cases loc <;> rfl
  | set r =>
    simp only [step, setMany_single, opId]
    rcases findWrite c st r.id with ⟨st', loc⟩
    cases loc <;> rfl
  | remove id =>
    simp only [step, removeMany_single, opId]
    rcases findWrite c st id with ⟨st', loc⟩
    cases loc <;> rfl
  | get id => exact absurd rfl (h id)

theorem settle_nseg (op : Op V) (st' : St V) (loc : Loc V) :
    (settle op (st', loc)).1.nseg = st'.nseg ∧ ((settle op (st', loc)).2 = .full → loc = .full) := by
  cases loc with
  | full => cases op <;> exact ⟨rfl, fun _ => rfl⟩
  | hole a => cases op <;> exact ⟨rfl, fun h => nomatch h⟩
  | found a r0 =>
    cases op with
    | add r | get id => exact ⟨rfl, fun h => nomatch h⟩
    | set r | remove id => dsimp only [settle]; split <;> exact ⟨rfl, fun h => nomatch h⟩

theorem findWrite_nseg (c : Cfg) (st : St V) (id : Id) :
    (findWrite c st id).1.nseg ≤ st.nseg + 1 ∧
    (∀ (st' : St V), findWrite c st id = (st', Loc.full) → c.maxSeg ≤ st.nseg) := by
  unfold findWrite
  cases scan st id true c.legacy (probe c id st.nseg) none with
  | «at» a r | hole a => simp
  | none =>
    simp only
    split
    · simp [addSeg]
    · rename_i h; simp; omega

theorem step_nseg (c : Cfg) (st : St V) (op : Op V) :
    (step c st op).1.nseg ≤ st.nseg + 1 ∧ ((step c st op).2 = .full → c.maxSeg ≤ st.nseg) := by
  by_cases hg : ∃ id, op = .get id
  · obtain ⟨id, rfl⟩ := hg
    exact ⟨Nat.le_succ _, fun h => nomatch h⟩
  rw [step_eq c st op fun id e => hg ⟨id, e⟩]
  obtain ⟨h1, h2⟩ := settle_nseg op (findWrite c st (opId op)).1 (findWrite c st (opId op)).2
  have hn := findWrite_nseg c st (opId op)
  exact ⟨h1 ▸ hn.1, fun e => hn.2 _ (Prod.ext rfl (h2 e))⟩

theorem no_full (c : Cfg) : ∀ (ops : List (Op V)) (st : St V), st.nseg + ops.length ≤ c.maxSeg →
    Out.full ∉ run c st ops := by
  intro ops
  induction ops with
  | nil => intro st _; simp [run]
  | cons op ops ih =>
    intro st h
    obtain ⟨h1, h2⟩ := step_nseg c st op
    simp only [run, List.mem_cons, not_or, List.length_cons] at h ⊢
    refine ⟨fun e => ?_, ih _ (by omega)⟩
    have := h2 e.symm
    omega

theorem step_sim {c : Cfg} (hmd : 0 < c.md) (hl : c.legacy = false) {st : St V} {m : Map V}
    (h : Repr c st m) (op : Op V) (hf : (step c st op).2 ≠ .full) :
    Repr c (step c st op).1 (specStep m op).1 ∧ (step c st op).2 = (specStep m op).2 := by
  by_cases hg : ∃ id, op = .get id
  · obtain ⟨id, rfl⟩ := hg
    exact ⟨h, congrArg Out.got (get_eq h id)⟩
  rw [step_eq c st op fun id e => hg ⟨id, e⟩] at hf ⊢
  obtain ⟨h', hloc⟩ := findWrite_spec hl h (opId op)
  generalize findWrite c st (opId op) = fw at h' hloc hf ⊢
  obtain ⟨st', loc⟩ := fw
  -- writing `r` where the probe found a hole: the id is absent from the map, so nowhere in the cells
  have atHole : ∀ {a : Nat} (r : Rec V), LocOk c st' m r.id (.hole a) → Repr c (write st' a (some r)) (m.upd r.id (some r)) :=
    fun r ⟨h1, h2, h3⟩ => write_some hmd h' _ r h2
      (fun a' r' hc hid => by rw [(h'.rel r.id r').mpr ⟨a', hc, hid⟩] at h3; cases h3)
      (fun r0 hc => by rw [h1] at hc; cases hc)
  cases loc with
  | full => exact absurd (show (settle op (st', .full)).2 = .full by cases op <;> rfl) hf
  | hole a =>
    cases op with
    | add r => simp only [settle, specStep, opId] at hloc ⊢; rw [hloc.2.2]; exact ⟨atHole r hloc, rfl⟩
    | set r => exact ⟨atHole r hloc, rfl⟩
    | remove id => simp only [settle, specStep, opId] at hloc ⊢; rw [hloc.2.2]; exact ⟨h', rfl⟩
    | get id => exact absurd ⟨id, rfl⟩ hg
  | found a r0 =>
    obtain ⟨h1, h2⟩ := hloc
    cases op with
    | add r =>
      simp only [settle, specStep, opId] at h2 ⊢
      rw [(h'.rel r.id r0).mpr ⟨a, h1, h2⟩]
      exact ⟨h', rfl⟩
    | set r =>
      simp only [settle, specStep, opId] at h2 ⊢
      rw [if_pos h2]
      exact ⟨write_some hmd h' a r (by rw [← h2]; exact h'.inv.placed a r0 h1)
        (fun a' r' hc hid => h'.inv.uniq a' a r' r0 hc h1 (hid.trans h2.symm))
        (fun r1 hc => by rw [h1] at hc; cases hc; exact h2), rfl⟩
    | remove id =>
      simp only [settle, specStep, opId] at h2 ⊢
      rw [if_pos h2, (h'.rel id r0).mpr ⟨a, h1, h2⟩]
      exact ⟨h2 ▸ write_none h' a r0 h1, rfl⟩
    | get id => exact absurd ⟨id, rfl⟩ hg

theorem run_sim {c : Cfg} (hmd : 0 < c.md) (hl : c.legacy = false) :
    ∀ (ops : List (Op V)) (st : St V) (m : Map V), Repr c st m →
      Out.full ∉ run c st ops → run c st ops = specRun m ops := by
  intro ops
  induction ops with
  | nil => intros; rfl
  | cons op ops ih =>
    intro st m h hf
    simp only [run, List.mem_cons, not_or] at hf
    obtain ⟨h1, h3⟩ := step_sim hmd hl h op (fun e => hf.1 e.symm)
    simp only [run, specRun]
    rw [h3, ih _ _ h1 hf.2]

end Sop.C21
