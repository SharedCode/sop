import Sop.Lemmas.BTreeInsertSteps
/-! # C17 update side, `Btree.Add`: the descent ends in a leaf and the action stays there.
A leaf is a node whose kids are all nil, and the item arriving at it is a split pending from a nil kid (`virt_leaf`), so
the steps of the promote cascade (BTreeInsertSteps) serve. Stage 1a, a leaf with room (`insertSlotItem`): the node takes the
item as a separator (`room_step`); 1c, the first `Add`, is that on the root `getRootNode` creates. Stage 3, a full ROOT leaf
(`addOnLeaf`, `isRoot` branch): the over-full leaf is cut under itself (`root_split_step`), the root keeps the middle item
and gets two fresh leaf children. -/
namespace Sop.BTree.Ins
open Sop.BTree

/-- `insertSlotItem` on the node -/
def insSlot (item : Item) (index : Nat) (x : Node) : Node :=
  { x with slots := (goCopy x.slots (index + 1) x.slots index x.slots.size).setIfInBounds index item,
           count := x.count + 1 }

theorem addOnLeaf_room {t : BTree} {n : NodeId} {item : Item} {i : Nat} (h : (t.get n).count < t.sl) :
    t.addOnLeaf n item i = t.upd n (insSlot item i) := by
  unfold BTree.addOnLeaf
  simp only [h, if_true]
  rfl

theorem insSlot_facts {t : BTree} {nd : Node} (hs : NodeShape t nd) (hleaf : nd.children = none) {item : Item} {i : Nat}
    (hi : i ≤ nd.count) (hc : nd.count < t.sl) :
    NodeShape t (insSlot item i nd) ∧ (insSlot item i nd).items = nd.items.take i ++ item :: nd.items.drop i := by
  have hil : nd.items.length = nd.count := Node.items_length hs
  have hlen : (nd.items.take i ++ item :: nd.items.drop i).length = nd.count + 1 := by
    rw [List.length_append, List.length_cons, List.length_take_of_le (hil ▸ hi), List.length_drop, hil, ← Nat.add_assoc,
      Nat.add_sub_cancel' hi]
  refine leafShape_of_toList ?_ (by rw [hlen]; exact hc) hlen.symm hs.2.2.1 hleaf
  show ((goCopy nd.slots (i + 1) nd.slots i nd.slots.size).setIfInBounds i item).toList = _
  have e1 : nd.slots.toList.take i = nd.items.take i := by
    rw [slots_toList hs, List.take_append_of_le_length (hil ▸ hi)]
  have e2 : nd.slots.toList.drop i = nd.items.drop i ++ List.replicate (t.sl - nd.count) ({} : Item) := by
    rw [slots_toList hs, List.drop_append_of_le_length (hil ▸ hi)]
  rw [insertShift_toList _ _ _ (hs.1 ▸ Nat.lt_of_le_of_lt hi hc), e1, e2, ← List.cons_append, ← List.append_assoc, List.take_append,
    List.take_of_length_le (by rw [hlen, hs.1]; exact hc), hlen, hs.1, List.take_replicate,
    Nat.min_eq_left (Nat.sub_le_sub_left (Nat.le_succ _) _)]

/-- a leaf with room takes the item as an inner node with room takes a separator -/
theorem localOk_leaf {t : BTree} {n : NodeId} {item : Item} {i : Nat}
    (hleaf : (t.get n).hasChildren = false) (hi : i = (getIndexToInsertTo t (t.get n) item.key).1)
    (hroom : (t.get n).count < t.sl) (hid : item.id ≠ 0) :
    LocalOk t (t.upd n (insSlot item i)) n item 0 0 := by
  have hfid : ∀ x, (insSlot item i x).id = x.id := fun _ => rfl
  refine LocalOk.of_node rfl (fun x hx _ => get?_upd_ne t _ hfid hx) hid ?_
  intro f p hW _
  obtain ⟨f, rfl⟩ := hW.fuel_pos
  obtain ⟨nd, hg, hch, hv⟩ := virt_leaf hW hleaf hi
  rw [get_of_get? hg] at hroom
  obtain ⟨hshape, hitems⟩ := insSlot_facts hv.shape hch (item := item) hv.idxLe hroom
  exact room_step hv rfl (fun x hx => get?_upd_ne t _ hfid hx) (by rw [get?_upd_eq _ _ _ hfid, hg]; rfl)
    (leafRec_of hshape hch hv.parent (Nat.succ_pos _) hitems (kidsIns_leaf hch i) (kidsIns_length hv.shape hv.idxLe 0))

attribute [local irreducible] addStart in
/-- stage 1a: `Add` whose descent ends in a leaf with room (`insertSlotItem`, no split) -/
theorem addU_leaf_room (t : BTree) (uniq : Bool) (key : Int) (val : Nat) (n : NodeId) (i : Nat)
    (hwf : WF t) (hok : t.panicked = false) (hidle : Idle t) (hfresh : Fresh t)
    (htgt : addTargetOf t uniq key = .leaf n i) (hroom : ((addStart t uniq).1.get n).count < t.sl) :
    AddOk t key val (t.addU uniq key val) := by
  have so := addStart_ok t uniq hwf
  rw [← so.sl] at hroom
  obtain ⟨hleaf, hi⟩ := target_leaf key _ _ _ htgt
  exact addOk_of_localOk hwf hok hidle hfresh htgt rfl (congrArg (·, true) (addOnLeaf_room hroom))
    (localOk_leaf hleaf hi hroom (Nat.ne_of_gt hfresh.1)) rfl ((Alloc.refl _).upd n _ fun _ => rfl)

theorem addTargetOf_first (t : BTree) (uniq : Bool) (key : Int) (hwf : WF t) (hr : t.root = 0) :
    addTargetOf t uniq key = .leaf (t.nextId + 1) 0 ∧ ((addStart t uniq).1.get (t.nextId + 1)).count < t.sl := by
  obtain ⟨hsl, hnil, hcnt⟩ := hwf.root_eq hr
  have es := addStart_first t uniq hr hnil
  have hget : (addStart t uniq).1.get (t.nextId + 1) = firstRoot (t.nextId + 1) t.sl := by
    rw [es]; simp [BTree.get, BTree.get?, firstRoot]
  refine ⟨?_, ?_⟩
  · unfold addTargetOf
    have h2 : (addStart t uniq).2 = t.nextId + 1 := by rw [es]
    have h3 : (addStart t uniq).1.fuel = 3 + 1 := by rw [es]; rfl
    rw [h2, h3]
    unfold addTarget
    simp only [hget]
    simp [getIndexToInsertTo, firstRoot, Node.hasChildren, leafDup]
  · rw [hget]; simp [firstRoot]; omega

/-- stage 1c: the first `Add` into an empty tree (`getRootNode` creates the root) -/
theorem addU_first (t : BTree) (uniq : Bool) (key : Int) (val : Nat)
    (hwf : WF t) (hr : t.root = 0) (hok : t.panicked = false) (hidle : Idle t) (hfresh : Fresh t) :
    AddOk t key val (t.addU uniq key val) :=
  addU_leaf_room t uniq key val _ _ hwf hok hidle hfresh (addTargetOf_first t uniq key hwf hr).1
    (addTargetOf_first t uniq key hwf hr).2

def exTree : BTree := ((BTree.new 4 false false true).add 5 1).1

/-- non-vacuity of `addU_leaf_room`: the second `Add` into a slot-length-4 store meets every hypothesis -/
theorem exTree_hyps : WF exTree ∧ exTree.panicked = false ∧ Idle exTree ∧ Fresh exTree ∧
    addTargetOf exTree false 3 = .leaf 2 0 ∧ ((addStart exTree false).1.get 2).count < exTree.sl := by
  refine ⟨checkWF_sound _ (by decide +kernel), ?_⟩
  unfold Idle Fresh
  decide +kernel

/-- non-vacuity of `addU_first`, but for `panicked = false` (true of `BTree.new` by definition) -/
theorem exEmpty_hyps : WF (BTree.new 4 false false true) ∧ (BTree.new 4 false false true).root = 0 ∧
    Idle (BTree.new 4 false false true) ∧ Fresh (BTree.new 4 false false true) := by
  refine ⟨checkWF_sound _ (by decide), by decide, ⟨by decide, by decide⟩, ⟨by decide, by decide⟩⟩

/-- `rootRec t.sl (t.nextId + 1) t.nextId` in the two steps `addOnLeaf` takes: slots and count before the children are
    saved, the children array after -/
def splitF1 (mid : Item) (x : Node) : Node :=
  { x with slots := (zeros x.slots.size).setIfInBounds 0 mid, count := 1 }

def splitF2 (t : BTree) (x : Node) : Node :=
  { x with children := some (((zeroIds (t.sl + 1)).setIfInBounds 0 (t.nextId + 1)).setIfInBounds 1 t.nextId) }

def rootSplit (t : BTree) (n : NodeId) (item : Item) (idx : Nat) : BTree :=
  (((({ t with nextId := t.nextId + 1 + 1 } : BTree).upd n
      (splitF1 ((splitTemp (t.get n).slots t.sl idx item).getD (t.sl / 2) {}))).put
      (leftHalf t n (splitTemp (t.get n).slots t.sl idx item))).put
      (rightHalf t n (splitTemp (t.get n).slots t.sl idx item))).upd n (splitF2 t)

theorem addOnLeaf_rootSplit {t : BTree} {n : NodeId} {item : Item} {idx : Nat}
    (h1 : ¬ (t.get n).count < t.sl) (h2 : (t.get n).isRoot = true) :
    t.addOnLeaf n item idx = rootSplit t n item idx := by
  unfold BTree.addOnLeaf
  simp only [h1, if_false, h2, Bool.not_true, Bool.false_eq_true]
  rfl

theorem rootSplit_get? (T : BTree) (n : NodeId) (item : Item) (idx : Nat) (x : NodeId)
    (h0 : n ≠ T.nextId) (h1 : n ≠ T.nextId + 1) :
    (rootSplit T n item idx).get? x =
      if x = n then (T.get? n).map (rootRec T.sl (T.nextId + 1) T.nextId ((splitTemp (T.get n).slots T.sl idx item).getD (T.sl / 2) {}))
      else if x = T.nextId then some (rightHalf T n (splitTemp (T.get n).slots T.sl idx item))
      else if x = T.nextId + 1 then some (leftHalf T n (splitTemp (T.get n).slots T.sl idx item))
      else T.get? x := by
  unfold rootSplit
  rw [get?_upd _ n x (splitF2 T) (fun _ => rfl), get?_put, get?_put,
    get?_upd _ n x (splitF1 ((splitTemp (T.get n).slots T.sl idx item).getD (T.sl / 2) {})) (fun _ => rfl)]
  have hT : ∀ y, ({ T with nextId := T.nextId + 1 + 1 } : BTree).get? y = T.get? y := fun _ => rfl
  rw [hT]
  by_cases hxn : x = n
  · subst hxn
    have e0 : ¬ (rightHalf T x (splitTemp (T.get x).slots T.sl idx item)).id = x := fun e => h0 e.symm
    have e1 : ¬ (leftHalf T x (splitTemp (T.get x).slots T.sl idx item)).id = x := fun e => h1 e.symm
    rw [if_neg e0, if_neg e1, if_pos rfl]
    cases T.get? x with
    | none => rfl
    | some nd => simp [rootRec, splitF1, splitF2]
  · rw [if_neg hxn]
    by_cases hx0 : x = T.nextId
    · have e0 : (rightHalf T n (splitTemp (T.get n).slots T.sl idx item)).id = x := hx0.symm
      rw [if_pos e0, if_pos hx0]; simp [hxn]
    · have e0 : ¬ (rightHalf T n (splitTemp (T.get n).slots T.sl idx item)).id = x := fun e => hx0 e.symm
      rw [if_neg e0, if_neg hx0]
      by_cases hx1 : x = T.nextId + 1
      · have e1 : (leftHalf T n (splitTemp (T.get n).slots T.sl idx item)).id = x := hx1.symm
        rw [if_pos e1, if_pos hx1]; simp [hxn]
      · have e1 : ¬ (leftHalf T n (splitTemp (T.get n).slots T.sl idx item)).id = x := fun e => hx1 e.symm
        rw [if_neg e1, if_neg hx1]
        cases T.get? x with
        | none => rfl
        | some nd => simp [hxn]

/-- a full leaf `n` (all `sl` slots occupied, `sl` even) is split in place: `n` keeps the middle item and gets two
    fresh leaf children with the lower and upper halves. The over-full leaf is cut as an over-full root is in `promote`. -/
theorem localOk_splitInPlace {T : BTree} {n : NodeId} {item : Item} {i : Nat}
    (hleaf : (T.get n).hasChildren = false) (hi : i = (getIndexToInsertTo T (T.get n) item.key).1)
    (hfull : ¬ (T.get n).count < T.sl) (hfresh : Fresh T) (hsl : 2 ≤ T.sl ∧ T.sl % 2 = 0) (hid : item.id ≠ 0) :
    LocalOk T (rootSplit T n item i) n item 1 2 := by
  have hh : 1 ≤ T.sl / 2 ∧ min (T.sl / 2 + 1) (T.sl + 2) = T.sl / 2 + 1 ∧ T.sl + 2 - (T.sl / 2 + 1) = T.sl / 2 + 1 := by omega
  have hc0none : T.get? T.nextId = none := fresh_get? hfresh (Nat.le_refl _)
  have hc1none : T.get? (T.nextId + 1) = none := fresh_get? hfresh (Nat.le_succ _)
  have hc0 : T.nextId ≠ 0 := Nat.ne_of_gt hfresh.1
  have hne : ∀ x, (T.get? x).isSome → x ≠ T.nextId ∧ x ≠ T.nextId + 1 := fun x hs =>
    ⟨fun e => (by rw [e, hc0none] at hs; cases hs), fun e => (by rw [e, hc1none] at hs; cases hs)⟩
  obtain ⟨hn0, hn1⟩ : n ≠ T.nextId ∧ n ≠ T.nextId + 1 := by
    cases h : T.get? n with
    | some nd => exact hne n (by rw [h]; rfl)
    | none =>
      have : (T.get n).count = 0 := by simp [BTree.get, h]
      rw [this] at hfull
      exact absurd (by omega) hfull
  refine LocalOk.of_node rfl (fun x hxn hsome => ?_) hid ?_
  · rw [rootSplit_get? T n item i x hn0 hn1, if_neg hxn, if_neg (hne x hsome).1, if_neg (hne x hsome).2]
  intro f p hW _
  obtain ⟨f, rfl⟩ := hW.fuel_pos
  obtain ⟨nd, hg, hch, hv⟩ := virt_leaf hW hleaf hi
  have hs := hv.shape
  have hget := get_of_get? hg
  rw [hget] at hfull
  have hcnt : nd.count = T.sl := Nat.le_antisymm hs.2.1 (Nat.le_of_not_lt hfull)
  -- the scratch array holds the over-full leaf's items; the halves and the middle item are cut from it
  have hX : (splitTemp nd.slots T.sl i item).toList = itemsIns nd i item := by
    have hitemsS : nd.items = nd.slots.toList :=
      List.take_of_length_le (by rw [Array.length_toList, hs.1, hcnt]; exact Nat.le_refl _)
    rw [splitTemp_toList nd.slots T.sl i item hs.1 (hcnt ▸ hv.idxLe : i ≤ T.sl), ← hitemsS]; rfl
  have hXlen : (itemsIns nd i item).length = T.sl + 1 := hcnt ▸ itemsIns_length hs hv.idxLe item
  have hKlen : (kidsIns nd i 0).length = T.sl + 2 := hcnt ▸ kidsIns_length hs hv.idxLe 0
  have hz := kidsIns_leaf hch i
  have hmid : (splitTemp nd.slots T.sl i item).getD (T.sl / 2) {} = (itemsIns nd i item).getD (T.sl / 2) {} := by
    rw [← hX]; simp [Array.getD_eq_getD_getElem?, List.getD_eq_getElem?_getD]
  have hgetn : (rootSplit T n item i).get? n =
      some (rootRec T.sl (T.nextId + 1) T.nextId ((itemsIns nd i item).getD (T.sl / 2) {}) nd) := by
    rw [rootSplit_get? T n item i n hn0 hn1, if_pos rfl, hg, hget, hmid]; rfl
  have hget0 : (rootSplit T n item i).get? T.nextId = some (rightHalf T n (splitTemp nd.slots T.sl i item)) := by
    rw [rootSplit_get? T n item i _ hn0 hn1, if_neg (Ne.symm hn0), if_pos rfl, hget]
  have hget1 : (rootSplit T n item i).get? (T.nextId + 1) = some (leftHalf T n (splitTemp nd.slots T.sl i item)) := by
    rw [rootSplit_get? T n item i _ hn0 hn1, if_neg (Ne.symm hn1), if_neg (Nat.succ_ne_self _), if_pos rfl, hget]
  obtain ⟨hLs, hLi⟩ := leftHalf_facts (T := T) (T' := rootSplit T n item i) n hX hXlen rfl
  obtain ⟨hRs, hRi⟩ := rightHalf_facts (T := T) (T' := rootSplit T n item i) n hX hXlen hsl rfl
  have hN := rootRec_rec (t' := rootSplit T n item i) hs (T.nextId + 1) T.nextId ((itemsIns nd i item).getD (T.sl / 2) {})
    hsl.1 rfl
  refine (root_split_step hv hcnt (Nat.succ_ne_zero _) hc0 hgetn (hv.parent ▸ hN)
    ⟨rfl, ⟨_, hget1, leafRec_of hLs rfl rfl hh.1 hLi (fun c hc => hz c (List.mem_of_mem_take hc))
        (by rw [List.length_take, hKlen]; exact hh.2.1)⟩,
      ⟨_, hget0, leafRec_of hRs rfl rfl hh.1 hRi (fun c hc => hz c (List.mem_of_mem_drop hc))
        (by rw [List.length_drop, hKlen]; exact hh.2.2)⟩,
      fun y hsy hyn => ?_⟩).perm_news (List.Perm.swap _ _ _)
  rw [reparent2_nil (fun c hc => hz c (List.mem_of_mem_take hc)) (fun c hc => hz c (List.mem_of_mem_drop hc)),
    rootSplit_get? T n item i y hn0 hn1, if_neg hyn, if_neg (hne y hsy).1, if_neg (hne y hsy).2]

theorem rootSplit_alloc {T : BTree} (hfresh : Fresh T) (n : NodeId) (item : Item) (i : Nat) :
    Alloc T (rootSplit T n item i) 2 := by
  unfold rootSplit
  have hF1 : ∀ x, (splitF1 ((splitTemp (T.get n).slots T.sl i item).getD (T.sl / 2) {}) x).id = x.id := fun _ => rfl
  have hL : (leftHalf T n (splitTemp (T.get n).slots T.sl i item)).id = T.nextId + 1 := rfl
  have hR : (rightHalf T n (splitTemp (T.get n).slots T.sl i item)).id = T.nextId := rfl
  generalize splitF1 ((splitTemp (T.get n).slots T.sl i item).getD (T.sl / 2) {}) = F1 at hF1
  generalize leftHalf T n (splitTemp (T.get n).slots T.sl i item) = L at hL
  generalize rightHalf T n (splitTemp (T.get n).slots T.sl i item) = R at hR
  have h1 : ids (({ T with nextId := T.nextId + 1 + 1 } : BTree).upd n F1) = ids T := ids_upd _ n F1 hF1
  have h2 : ids ((({ T with nextId := T.nextId + 1 + 1 } : BTree).upd n F1).put L) = ids T ++ [T.nextId + 1] := by
    rw [ids_put _ _ (by rw [h1, hL]; exact fresh_not_mem hfresh (Nat.le_succ _)), h1, hL]
  refine Alloc.of_ids ?_ rfl
  rw [ids_upd _ n (splitF2 T) (fun _ => rfl), ids_put _ _ (by
    rw [h2, hR, List.mem_append, List.mem_singleton]
    exact fun h => h.elim (fresh_not_mem hfresh (Nat.le_refl _)) (Nat.ne_of_lt (Nat.lt_succ_self _))), h2, hR, List.append_assoc]
  exact List.Perm.append_left _ (List.Perm.swap _ _ _)

attribute [local irreducible] addStart in
/-- stage 3: `Add` whose descent ends in a full ROOT leaf (`addOnLeaf`'s `isRoot` branch) -/
theorem addU_root_split (t : BTree) (uniq : Bool) (key : Int) (val : Nat) (n : NodeId) (i : Nat)
    (hwf : WF t) (hok : t.panicked = false) (hidle : Idle t) (hfresh : Fresh t)
    (htgt : addTargetOf t uniq key = .leaf n i) (hfull : ¬ ((addStart t uniq).1.get n).count < t.sl)
    (hisroot : ((addStart t uniq).1.get n).isRoot = true) :
    AddOk t key val (t.addU uniq key val) := by
  have so := addStart_ok t uniq hwf
  have hf := so.fresh hfresh
  rw [← so.sl] at hfull
  obtain ⟨hleaf, hi⟩ := target_leaf key _ _ _ htgt
  exact addOk_of_localOk hwf hok hidle hfresh htgt rfl (congrArg (·, true) (addOnLeaf_rootSplit hfull hisroot))
    (localOk_splitInPlace hleaf hi hfull hf so.wf.1 (Nat.ne_of_gt hfresh.1)) rfl
    (rootSplit_alloc hf n _ i)

def exFull : BTree := (BTree.new 2 false false true).run [.add 1 1, .add 2 2]

/-- non-vacuity of `addU_root_split`: slot length 2, the root leaf holds 2 items; `Add 0` splits it -/
theorem exFull_hyps : WF exFull ∧ exFull.panicked = false ∧ Idle exFull ∧ Fresh exFull ∧
    addTargetOf exFull false 0 = .leaf 2 0 ∧ ¬ ((addStart exFull false).1.get 2).count < exFull.sl ∧
    ((addStart exFull false).1.get 2).isRoot = true := by
  refine ⟨checkWF_sound _ (by decide +kernel), ?_⟩
  unfold Idle Fresh
  decide +kernel

end Sop.BTree.Ins
