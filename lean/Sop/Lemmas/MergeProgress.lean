import Sop.Lemmas.Merge
/-!
Progress of the phase-1 commit loop (`Sop.Merge`): every conflict round of a writer is paid for by an
install of ANOTHER writer since its last fetch, so a writer among `n` goes through at most `n - 1`
conflict rounds and never exhausts `phase1CommitMaxRetryCount` when `n ≤` that budget.  Holds for the
pinned and the repaired merge and needs no disjointness.
-/
namespace Sop.Merge

def cnt (f : Nat → Bool) : Nat → Nat
  | 0 => 0
  | n + 1 => cnt f n + (if f n then 1 else 0)

theorem cnt_le (f : Nat → Bool) (n : Nat) : cnt f n ≤ n := by
  induction n with
  | zero => exact Nat.le_refl _
  | succ n ih => rw [cnt]; exact Nat.add_le_add ih (by split <;> decide)

theorem cnt_congr {f g : Nat → Bool} {n : Nat} (h : ∀ i, i < n → f i = g i) : cnt f n = cnt g n := by
  induction n with
  | zero => rfl
  | succ n ih => rw [cnt, cnt, ih (fun i hi => h i (by omega)), h n (by omega)]

theorem cnt_set_true {f : Nat → Bool} {n j : Nat} (hj : j < n) (hf : f j = false) :
    cnt (fun i => if i = j then true else f i) n = cnt f n + 1 := by
  induction n with
  | zero => omega
  | succ n ih =>
    rw [cnt, cnt]
    by_cases h : j = n
    · subst h
      rw [cnt_congr (g := f) fun i hi => if_neg (by omega), if_pos rfl, hf]; rfl
    · rw [ih (Nat.lt_of_le_of_ne (Nat.le_of_lt_succ hj) h), if_neg (c := n = j) fun e => h e.symm]; exact Nat.add_right_comm _ _ _

theorem cnt_lt_of_false {f : Nat → Bool} {n j : Nat} (hj : j < n) (hf : f j = false) : cnt f n < n :=
  Nat.lt_of_lt_of_le (Nat.lt_of_lt_of_eq (Nat.lt_succ_self _) (cnt_set_true hj hf).symm) (cnt_le _ n)

theorem cnt_false (n : Nat) : cnt (fun _ => false) n = 0 := by
  induction n with
  | zero => rfl
  | succ n ih => rw [cnt, ih]; rfl

theorem validate_snapshot (s : State) (adv : List (Nat × PAct)) : validate s (snapshot s adv) = true := by
  unfold validate snapshot
  simp

theorem validate_congr {s s' : State} (h : s'.pageVer = s.pageVer) (ps : List Page) : validate s' ps = validate s ps := by
  unfold validate; rw [h]

def active (w : Writer) : Prop := ∀ r, w.pc ≠ .done r

/-- `retry ≤ fetchEpoch ≤ epoch` = number of installs so far, which stays below `n` while a writer is active; a
    snapshot taken at the current epoch still validates -/
structure Prog (n : Nat) (s : State) : Prop where
  dual : ∀ i, (s.ws i).pc = .atDual → (s.ws i).needsRefetch = false
  fetch_le : ∀ i, (s.ws i).fetchEpoch ≤ s.epoch
  fresh : ∀ i, (∀ r, (s.ws i).pc ≠ .done r) → (s.ws i).needsRefetch = false → (s.ws i).fetchEpoch = s.epoch →
    validate s (s.ws i).pages = true
  retry_le : ∀ i, (s.ws i).retry ≤ (s.ws i).fetchEpoch
  epoch_eq : s.epoch = cnt (fun i => (s.ws i).installed) n
  inst_done : ∀ i, (s.ws i).installed = true → ∃ r, (s.ws i).pc = .done r
  budget : n ≤ s.maxRetry
  no_retries : ∀ i, (s.ws i).pc ≠ .done .errRetries

/-- of the state it only looks at the epoch and the page versions -/
structure ProgW (s : State) (w : Writer) : Prop where
  dual : w.pc = .atDual → w.needsRefetch = false
  fetch_le : w.fetchEpoch ≤ s.epoch
  fresh : active w → w.needsRefetch = false → w.fetchEpoch = s.epoch → validate s w.pages = true
  retry_le : w.retry ≤ w.fetchEpoch
  inst_done : w.installed = true → ∃ r, w.pc = .done r
  no_retries : w.pc ≠ .done .errRetries

section
variable {n : Nat} {s s' : State} {i : Nat} {w : Writer}

theorem Prog.writer (h : Prog n s) (i : Nat) : ProgW s (s.ws i) :=
  ⟨h.dual i, h.fetch_le i, h.fresh i, h.retry_le i, h.inst_done i, h.no_retries i⟩

theorem Prog.of_writers (h : ∀ i, ProgW s (s.ws i))
    (he : s.epoch = cnt (fun i => (s.ws i).installed) n) (hb : n ≤ s.maxRetry) : Prog n s :=
  ⟨fun i => (h i).dual, fun i => (h i).fetch_le, fun i => (h i).fresh, fun i => (h i).retry_le, he,
   fun i => (h i).inst_done, hb, fun i => (h i).no_retries⟩

theorem ProgW.frame (h : ProgW s w) (he : s'.epoch = s.epoch) (hpv : s'.pageVer = s.pageVer) :
    ProgW s' w :=
  ⟨h.dual, he ▸ h.fetch_le, by rw [he, validate_congr hpv]; exact h.fresh, h.retry_le, h.inst_done, h.no_retries⟩

theorem Prog.replace {n : Nat} {s s' : State} (h : Prog n s) {i : Nat} {w : Writer}
    (he : s'.epoch = s.epoch) (hpv : s'.pageVer = s.pageVer) (hm : s'.maxRetry = s.maxRetry)
    (hws : s'.ws = fun j => if j = i then w else s.ws j) (hw : ProgW s w) (hinst : w.installed = (s.ws i).installed) :
    Prog n s' := by
  refine Prog.of_writers (fun j => ?_) ?_ (hm ▸ h.budget) <;> rw [hws]
  · exact (forall_setW s.ws w hw (fun j _ => h.writer j) j).frame he hpv
  · rw [he, h.epoch_eq]
    exact cnt_congr fun j _ => ite_ind (fun x : Writer => (s.ws j).installed = x.installed) (fun hj => hj ▸ hinst.symm) fun _ => rfl

/-- `Prog.replace` with `ProgW` written out; no user in the development -/
theorem Prog.update {n : Nat} {s s' : State} (h : Prog n s) (i : Nat) (w : Writer)
    (he : s'.epoch = s.epoch) (hpv : s'.pageVer = s.pageVer) (hm : s'.maxRetry = s.maxRetry)
    (hws : s'.ws = fun j => if j = i then w else s.ws j)
    (hdual : w.pc = .atDual → w.needsRefetch = false)
    (hfe : w.fetchEpoch ≤ s.epoch)
    (hfresh : (∀ r, w.pc ≠ .done r) → w.needsRefetch = false → w.fetchEpoch = s.epoch → validate s w.pages = true)
    (hre : w.retry ≤ w.fetchEpoch)
    (hinst : w.installed = (s.ws i).installed)
    (hdone : w.installed = true → ∃ r, w.pc = .done r)
    (hnr : w.pc ≠ .done .errRetries) :
    Prog n s' :=
  h.replace he hpv hm hws ⟨hdual, hfe, hfresh, hre, hdone, hnr⟩ hinst

/-- the install: epoch moves on, so every other writer's snapshot stops being "fresh" -/
theorem Prog.install {n : Nat} {s s' : State} (h : Prog n s) (i : Nat) (hi : i < n) (w : Writer)
    (hnot : (s.ws i).installed = false)
    (he : s'.epoch = s.epoch + 1) (hm : s'.maxRetry = s.maxRetry)
    (hws : s'.ws = fun j => if j = i then w else s.ws j)
    (hpc : w.pc = .done .ok) (hins : w.installed = true)
    (hfe : w.fetchEpoch ≤ s.epoch) (hre : w.retry ≤ w.fetchEpoch) :
    Prog n s' := by
  have stale {x : Writer} (hx : x.fetchEpoch ≤ s.epoch) : x.fetchEpoch ≤ s'.epoch ∧ x.fetchEpoch ≠ s'.epoch := by
    rw [he]; exact ⟨Nat.le_succ_of_le hx, fun e => Nat.not_succ_le_self _ (e ▸ hx)⟩
  refine Prog.of_writers (fun j => ?_) ?_ (hm ▸ h.budget) <;> rw [hws]
  · refine forall_setW (P := fun _ => ProgW s') s.ws w ?_ (fun j _ => ?_) j
    · exact ⟨by rw [hpc]; nofun, (stale hfe).1, fun ha => absurd hpc (ha _), hre, fun _ => ⟨_, hpc⟩, by rw [hpc]; nofun⟩
    · have hj := h.writer j
      exact ⟨hj.dual, (stale hj.fetch_le).1, fun _ _ e => absurd e (stale hj.fetch_le).2, hj.retry_le, hj.inst_done, hj.no_retries⟩
  · rw [he, h.epoch_eq, ← cnt_set_true hi hnot]
    exact cnt_congr fun j _ => ite_ind (fun x : Writer => (if j = i then true else (s.ws j).installed) = x.installed)
      (fun hj => by rw [if_pos hj, hins]) fun hj => by rw [if_neg hj]

theorem not_installed_of_active (h : Prog n s) (hw : active (s.ws i)) :
    (s.ws i).installed = false := by
  cases hin : (s.ws i).installed with
  | false => rfl
  | true => obtain ⟨r, hr⟩ := h.inst_done i hin; exact absurd hr (hw r)

theorem Prog.inst_done_of_active (h : Prog n s) (hact : active (s.ws i)) (hinst : w.installed = (s.ws i).installed) :
    w.installed = true → ∃ r, w.pc = .done r :=
  fun hi => absurd ((not_installed_of_active h hact).symm.trans (hinst.symm.trans hi)) nofun

/-- `Prog.replace` in the shape the step functions produce: besides writer `i` only locks, lock ids and the stored count change -/
theorem Prog.keeps_setW (h : Prog n s) {pl : List (Nat × Nat)} {il : List LockRec} {nl : Nat} {c : Int}
    (hw : ProgW s w) (hinst : w.installed = (s.ws i).installed) :
    Prog n ({ s with pageLocks := pl, itemLocks := il, nextLock := nl, count := c }.setW i w) :=
  h.replace rfl rfl rfl rfl hw hinst

theorem Prog.keeps_finish (h : Prog n s)
    {pl : List (Nat × Nat)} {nl : Nat} {c : Int} {r : Res} (hfe : w.fetchEpoch ≤ s.epoch) (hre : w.retry ≤ w.fetchEpoch)
    (hinst : w.installed = (s.ws i).installed) (hr : r ≠ .errRetries) :
    Prog n (finish { s with pageLocks := pl, nextLock := nl, count := c } i w r) :=
  h.keeps_setW (hinst := hinst)
    { dual := nofun, fetch_le := hfe, fresh := fun ha => absurd rfl (ha r), retry_le := hre,
      inst_done := fun _ => ⟨r, rfl⟩, no_retries := fun e => hr (Pc.done.inj e) }

theorem Prog.relock (h : Prog n s) (hact : active (s.ws i)) {pl : List (Nat × Nat)} (pc : Pc) (nr : Bool)
    (hpc : ∀ r, pc ≠ .done r) (hd : pc ≠ .atDual) (hnr : nr = true ∨ nr = (s.ws i).needsRefetch) :
    Prog n ({ s with pageLocks := pl }.setW i { s.ws i with pc := pc, needsRefetch := nr }) :=
  h.keeps_setW (hinst := rfl)
    { dual := fun e => absurd e hd, fetch_le := h.fetch_le i, retry_le := h.retry_le i,
      fresh := fun _ hn => hnr.elim (fun e => by rw [e] at hn; cases hn) fun e => h.fresh i hact (by rw [← e]; exact hn)
      inst_done := h.inst_done_of_active hact rfl, no_retries := hpc _ }

theorem commitPhase_prog (h : Prog n s) (hi : i < n)
    (hact : active (s.ws i)) (hnr : (s.ws i).needsRefetch = false) (locks : List (Nat × Nat)) :
    Prog n (commitPhase { s with pageLocks := locks } i (s.ws i)) := by
  have hni := not_installed_of_active h hact
  have hfe := h.fetch_le i
  have hre := h.retry_le i
  unfold commitPhase; simp only
  refine ite_ind (Prog n) (fun _ => ?_) fun hv => ?_
  · split
    · exact h.keeps_finish hfe hre rfl nofun
    · exact h.keeps_finish hfe hre rfl nofun
    · exact h.keeps_finish hfe hre rfl nofun
    · exact h.install i hi _ (hnot := hni) (he := rfl) (hm := rfl) (hws := rfl) (hpc := rfl) (hins := rfl) (hfe := hfe) (hre := hre)
  · -- conflict: an install happened since the last fetch
    have hlt : (s.ws i).retry + 1 ≤ s.epoch :=
      Nat.lt_of_le_of_lt hre (Nat.lt_of_le_of_ne hfe fun he => hv (h.fresh i hact hnr he))
    have hcnt : s.epoch < s.maxRetry :=
      Nat.lt_of_lt_of_le (by rw [h.epoch_eq]; exact cnt_lt_of_false hi hni) h.budget
    refine ite_ind (Prog n) (fun hge => absurd (Nat.le_trans hge hlt) (Nat.not_le_of_lt hcnt)) fun _ => ?_
    exact h.keeps_setW (hinst := rfl)
      { dual := nofun, fetch_le := Nat.le_refl _, fresh := fun _ => nofun, retry_le := hlt,
        inst_done := h.inst_done_of_active hact rfl, no_retries := nofun }

theorem refetch_prog {fixed : Bool} (h : Prog n s)
    (hact : active (s.ws i)) (locks : List (Nat × Nat)) (adv : List (Nat × PAct)) :
    Prog n (refetch fixed { s with pageLocks := locks } i (s.ws i) adv) := by
  have hre := h.retry_le i
  unfold refetch; simp only
  split
  · exact h.keeps_finish (h.fetch_le i) hre rfl nofun
  · split
    · exact h.keeps_finish (Nat.le_refl _) (Nat.le_trans hre (h.fetch_le i)) rfl nofun
    · exact h.keeps_setW (hinst := rfl)
        { dual := fun _ => rfl, fetch_le := Nat.le_refl _, retry_le := Nat.le_trans hre (h.fetch_le i),
          fresh := fun _ _ _ => (validate_congr rfl _).trans (validate_snapshot { s with pageLocks := locks } adv)
          inst_done := h.inst_done_of_active hact rfl, no_retries := nofun }

theorem step_prog {fixed : Bool} (h : Prog n s) (hi : i < n) (adv : List (Nat × PAct)) :
    Prog n (step fixed s i adv) := by
  unfold step; simp only
  cases hpc : (s.ws i).pc with
  | done r => exact h
  | atLock =>
    have hact : active (s.ws i) := fun r => by rw [hpc]; nofun
    refine ite_ind (Prog n) (fun _ => ?_) fun _ => ?_
    · exact h.relock hact _ _ nofun nofun (Or.inr rfl)
    · exact h.relock hact _ _ nofun nofun (Or.inl rfl)
  | atHold =>
    have hact : active (s.ws i) := fun r => by rw [hpc]; nofun
    refine ite_ind (Prog n) (fun _ => refetch_prog h hact s.pageLocks adv) fun hn => ?_
    exact commitPhase_prog h hi hact (Bool.eq_false_iff.mpr hn) s.pageLocks
  | atDual =>
    have hact : active (s.ws i) := fun r => by rw [hpc]; nofun
    refine ite_ind (Prog n) (fun _ => commitPhase_prog h hi hact (h.dual i hpc) _) fun _ => ?_
    exact h.relock hact _ _ nofun nofun (Or.inl rfl)

end

/-- only writers below `n` move. A writer that never called `begin` is the default `Writer`: active at `.atLock` with nothing
    tracked (not `done`, as an absent transaction of Model L is); stepped twice it would commit nothing and count as an install. -/
def schedBelow (n : Nat) (sched : List (Nat × List (Nat × PAct))) : Prop := ∀ e ∈ sched, e.1 < n

theorem run_prog {fixed : Bool} {n : Nat} : ∀ (sched : List (Nat × List (Nat × PAct))) {s : State},
    Prog n s → schedBelow n sched → Prog n (run fixed s sched) := by
  intro sched
  induction sched with
  | nil => intro s h _; exact h
  | cons e rest ih =>
    intro s h hb
    exact ih (step_prog h (hb e List.mem_cons_self) e.2) fun e he => hb e (List.mem_cons_of_mem _ he)

theorem prog_of_fresh {n : Nat} {s : State} (he : s.epoch = 0) (hb : n ≤ s.maxRetry)
    (h : ∀ i, (s.ws i).pc = .atLock ∧ (s.ws i).installed = false ∧ (s.ws i).fetchEpoch = 0 ∧ (s.ws i).retry = 0 ∧
      validate s (s.ws i).pages = true) : Prog n s := by
  refine Prog.of_writers (fun i => ?_) ?_ hb
  · obtain ⟨hpc, hin, hfe, hre, hv⟩ := h i
    exact ⟨by rw [hpc]; nofun, by rw [hfe]; exact Nat.zero_le _, fun _ _ _ => hv, by rw [hre]; exact Nat.zero_le _,
      fun hi => absurd (hin ▸ hi) nofun, by rw [hpc]; nofun⟩
  · rw [he, cnt_congr (g := fun _ => false) fun i _ => (h i).2.1, cnt_false]

end Sop.Merge
