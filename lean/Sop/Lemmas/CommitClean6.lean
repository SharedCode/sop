import Sop.Lemmas.CommitClean5
/-!
C07 "no blockage", whole runs: the end state of a failed commit in terms of its start state, from any start run
(`Start`), one lemma per kind of failure (phase 2; phase 1 late; phase 1 early), and one decidable description of all of
them (`coveredFailure`) with the theorem for it.
-/
namespace Sop.Commit

/-- every updated node that was loadable at the start has its handle back: same logical id, same active blob id,
same version, and the inactive slot and the work-in-progress timestamp are EMPTY: the failed commit has left no
reservation on it (the `deleted` flag is not spoken of; with it false, `Sop.C07.C07_clean_handle_reservable` applies) -/
def HandlesCleared (s0 : State) (w : WS) (s' : State) : Prop :=
  ∀ lid ∈ w.updated.map (·.1), ∀ h0, s0.reg lid = some h0 → (s0.view lid).isSome →
    ∃ g, s'.reg lid = some g ∧ g.lid = lid ∧ g.active = h0.active ∧ g.version = h0.version ∧ g.inactive = 0 ∧ g.wip = 0

def NoNodeLocks (tid : Tid) (s' : State) : Prop := ∀ k, s'.nodeLock k ≠ some tid

def HandlesUntouched (s0 : State) (w : WS) (s' : State) : Prop :=
  ∀ lid ∈ w.updated.map (·.1), (s0.view lid).isSome → s'.reg lid = s0.reg lid

/-- every updated node that was loadable at the start has its handle back — same logical id, same active blob id,
same version — and it is either exactly the registry entry it was, or its inactive slot and work-in-progress
timestamp are empty -/
def HandlesRestored (s0 : State) (w : WS) (s' : State) : Prop :=
  ∀ lid ∈ w.updated.map (·.1), ∀ h0, s0.reg lid = some h0 → (s0.view lid).isSome →
    ∃ g, s'.reg lid = some g ∧ g.lid = lid ∧ g.active = h0.active ∧ g.version = h0.version ∧
      (g = h0 ∨ (g.inactive = 0 ∧ g.wip = 0))

theorem HandlesCleared.restored {s0 : State} {w : WS} {s' : State} (h : HandlesCleared s0 w s') : HandlesRestored s0 w s' := by
  intro lid hl h0 e0 hv
  obtain ⟨g, a, b, c, d, e, f⟩ := h lid hl h0 e0 hv
  exact ⟨g, a, b, c, d, .inr ⟨e, f⟩⟩

theorem HandlesUntouched.restored {s0 : State} {w : WS} {s' : State} (hwf : ∀ i h, s0.reg i = some h → h.lid = i)
    (h : HandlesUntouched s0 w s') : HandlesRestored s0 w s' := by
  intro lid hl h0 e0 hv
  exact ⟨h0, by rw [h lid hl hv]; exact e0, hwf lid h0 e0, rfl, rfl, .inl rfl⟩

section
variable {s0 : State} {w : WS} {fresh0 : List (UUID × UUID)}

theorem cleared_of_done {tid : Tid} {r : Run} (hd : Done w tid r) (hi : RInv s0 w fresh0 r) :
    HandlesCleared s0 w r.s ∧ NoNodeLocks tid r.s := by
  refine ⟨?_, hd.1.free⟩
  intro lid hl h0 e0 hv
  obtain ⟨g, g0, a, b, c, d, _⟩ := hi.sinv.loadable_active hv
  rw [e0] at b; cases b
  have hlid := hi.sinv.regwf lid g a
  obtain ⟨i1, i2⟩ := hd.clean lid hl g a hlid
  exact ⟨g, a, hlid, c, d, i1, i2⟩

theorem untouched_of_same {rf : Run} (hi : RInv s0 w fresh0 rf) (hsm : SameI s0 w rf) : HandlesUntouched s0 w rf.s := by
  intro lid hlid hv
  obtain ⟨g, g0, a, b, _⟩ := hi.sinv.loadable_active hv
  rcases hsm.same lid hlid with e | e
  · exact e
  · rw [a] at e; cases e

/-- what a commit starts from: the transaction holds no node lock, the updated nodes' registry entries are those of
`s0`, nothing is reserved or marked yet, and the run is not observed -/
structure Start (s0 : State) (w : WS) (fresh0 : List (UUID × UUID)) (tid : Tid) (fault : Option Fault) (r0 : Run) : Prop where
  noLocks : NoLockI tid r0
  same : SameI s0 w r0
  j0 : Unstaged s0 w fresh0 r0
  hf : HF fault r0

theorem Start.init (pre : Pre s0 w fresh0) {tid : Tid} {fault : Option Fault} {cs0 : Step} (hl : ∀ k, s0.nodeLock k ≠ some tid) :
    Start s0 w fresh0 tid fault { s := s0, tid := tid, fault := fault, fresh := fresh0, cs := cs0 } :=
  ⟨NoLockI.init hl, SameI.init, .init pre rfl rfl rfl rfl, ⟨rfl, rfl, rfl⟩⟩

section
variable {tid : Tid} {fault : Option Fault} {n : Nat} {r0 r1 r2 : Run}

/-- **A commit that fails in phase 2 — at any fault position — leaves no reservation and no node lock.** -/
theorem commit_phase2_failure_cleared (pre : Pre s0 w fresh0) (pre2 : Pre2 s0 w fresh0) (h0 : Start s0 w fresh0 tid fault r0)
    (h1 : phase1 w n r0 = .ok ((), r1)) (h2 : phase2 w r1 = .error r2) :
    HandlesCleared s0 w (commit w n r0).2.s ∧ NoNodeLocks tid (commit w n r0).2.s :=
  cleared_of_done
    (commit_of_phase2_error h1 h2 (handler_spent_cleans w) (fun _ h => h.elim)
      ((phase2_raises_failed w).of_error ((lockI_phase1 w n).of_ok h0.noLocks h1) h2))
    (commit_phase2_failure_rinv pre pre2 h0.j0 h0.hf h1 h2)

theorem commit_phase1_failure_unlocks (h0 : NoLockI tid r0)
    (h1 : phase1 w n r0 = .error r1) (hc : r1.conflicted = false) (hsp : spentB r1 = true)
    (hhi : r1.cs.ord ≤ Step.finalizeCommit.ord) :
    DoneIf (Step.commitUpdatedNodes.ord < r1.cs.ord) w tid (commit w n r0).2 :=
  have hli : LockI tid r1 := ((lockI_phase1 w n).of_error h0 h1).resolve_left (by rw [hc]; exact Bool.false_ne_true)
  commit_of_phase1_error h1 hc (rollback_spent w tid true r1.cs hhi) (fun _ h => h.elim)
    ⟨.of_ns (spent_of_spentB hsp) hli.ns, hli, rfl⟩

/-- **A commit that fails in phase 1 after `commitUpdatedNodes` was logged as done, by its injected fault**, leaves
no reservation and no node lock. -/
theorem commit_phase1_late_failure_cleared (pre : Pre s0 w fresh0) (h0 : Start s0 w fresh0 tid fault r0)
    (h1 : phase1 w n r0 = .error r1) (hc : r1.conflicted = false) (hsp : spentB r1 = true) (hcs : pastUpdated r1.cs = true) :
    HandlesCleared s0 w (commit w n r0).2.s ∧ NoNodeLocks tid (commit w n r0).2.s :=
  have hb := pastUpdated_iff.mp hcs
  cleared_of_done ((commit_phase1_failure_unlocks h0.noLocks h1 hc hsp hb.2).done hb.1) (commit_phase1_failure_rinv pre h0.j0.rinv h1)

/-- a commit whose phase 1 stopped early writes no registry entry of an updated node, whatever its fault hits next -/
theorem commit_phase1_early_failure_same (pre2 : Pre2 s0 w fresh0) (h0 : SameI s0 w r0)
    (h1 : phase1 w n r0 = .error r1) (hc : r1.conflicted = false) (he : earlyB r1 = true) : SameI s0 w (commit w n r0).2 :=
  commit_of_phase1_error h1 hc (same_rollback_early true) (fun _ h => h.1)
    ⟨((untouchedIfEarly_phase1 pre2 n).of_error h0 h1).resolve_left (by rw [hc]; exact Bool.false_ne_true) he, earlyB_le he⟩

/-- **A commit that fails in phase 1 by its injected fault before the reservation write took effect** has written no
registry entry of an updated node, and leaves no node lock -/
theorem commit_phase1_early_failure_untouched (pre : Pre s0 w fresh0) (pre2 : Pre2 s0 w fresh0) (h0 : Start s0 w fresh0 tid fault r0)
    (h1 : phase1 w n r0 = .error r1) (hc : r1.conflicted = false) (hsp : spentB r1 = true) (he : earlyB r1 = true) :
    HandlesUntouched s0 w (commit w n r0).2.s ∧ NoNodeLocks tid (commit w n r0).2.s :=
  ⟨untouched_of_same (commit_phase1_failure_rinv pre h0.j0.rinv h1) (commit_phase1_early_failure_same pre2 h0.same h1 hc he),
    (commit_phase1_failure_unlocks h0.noLocks h1 hc hsp (Nat.le_trans (earlyB_le he) (by decide))).1.free⟩

end

end

/-- where phase 1 stopped, as a decidable predicate on the run at the failing call: not a conflict round, the injected
fault has fired (the error is the fault's, not one the code detected by itself with the fault still pending), and the
committed state — which is what drives `rollback` — is either past `commitUpdatedNodes` or early (see `earlyB`).
Among the stops by the injected fault it excludes committed state `areFetchedItemsIntact` with a fault of any class
other than the three of `safe5` (in particular `blob.Add` and a `failAfter` fault on `registry.UpdateNoLocks` inside
`commitUpdatedNodes`, finding C07-F1), and committed state `commitUpdatedNodes` (the log entry written after
`commitUpdatedNodes` returned fails, C07-F1). -/
def coveredStop (r1 : Run) : Bool := !r1.conflicted && spentB r1 && (pastUpdated r1.cs || earlyB r1)

/-- with `(commit …).1 = .err`: the covered failures of a whole commit, computed on the model — every failure of phase 2,
and the failures of phase 1 that stop at a `coveredStop`. (By itself it is also `true` for a commit that succeeds.) -/
def coveredFailure (w : WS) (n : Nat) (r0 : Run) : Bool :=
  match phase1 w n r0 with
  | .ok _ => true
  | .error r1 => coveredStop r1

theorem coveredFailure_cases {w : WS} {n : Nat} {r0 : Run} (herr : (commit w n r0).1 = .err) (hcov : coveredFailure w n r0 = true) :
    (∃ r1 r2, phase1 w n r0 = .ok ((), r1) ∧ phase2 w r1 = .error r2) ∨
    ∃ r1, phase1 w n r0 = .error r1 ∧ r1.conflicted = false ∧ spentB r1 = true ∧ (pastUpdated r1.cs = true ∨ earlyB r1 = true) := by
  unfold coveredFailure at hcov
  cases h1 : phase1 w n r0 with
  | error r1 =>
    rw [h1] at hcov
    simp only [coveredStop, Bool.and_eq_true, Bool.not_eq_true', Bool.or_eq_true] at hcov
    exact .inr ⟨r1, rfl, hcov.1.1, hcov.1.2, hcov.2⟩
  | ok p =>
    cases h2 : phase2 w p.2 with
    | error r2 => exact .inl ⟨p.2, r2, rfl, h2⟩
    | ok q => rw [commit_of_ok (r1 := p.2) (r2 := q.2) h1 h2] at herr; cases herr

section
variable {s0 : State} {w : WS} {fresh0 : List (UUID × UUID)}

/-- **C07, whole run, restricted to the covered failures, from any start run**: every updated node's handle is restored
and no node-key lock of the transaction is left. -/
theorem commit_covered_failure_restored (pre : Pre s0 w fresh0) (pre2 : Pre2 s0 w fresh0) {fault : Option Fault} {tid : Tid} {n : Nat}
    {r0 : Run} (h0 : Start s0 w fresh0 tid fault r0) (herr : (commit w n r0).1 = .err) (hcov : coveredFailure w n r0 = true) :
    HandlesRestored s0 w (commit w n r0).2.s ∧ NoNodeLocks tid (commit w n r0).2.s := by
  rcases coveredFailure_cases herr hcov with ⟨r1, r2, h1, h2⟩ | ⟨r1, h1, hc, hsp, hp | he⟩
  · exact (commit_phase2_failure_cleared pre pre2 h0 h1 h2).imp_left HandlesCleared.restored
  · exact (commit_phase1_late_failure_cleared pre h0 h1 hc hsp hp).imp_left HandlesCleared.restored
  · exact (commit_phase1_early_failure_untouched pre pre2 h0 h1 hc hsp he).imp_left (HandlesUntouched.restored pre.regwf)

end

end Sop.Commit
