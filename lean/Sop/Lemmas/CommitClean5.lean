import Sop.Lemmas.CommitClean4
/-!
C07 "no blockage", failures BEFORE the reservation write of `commitUpdatedNodes` takes effect: the registry entries
of the updated nodes are never written, the live rollback (which skips `rollbackUpdatedNodes` at that committed
state) has nothing to undo on them, and — the fault being spent — it releases the node locks.
-/
namespace Sop.Commit

/-- nobody observes the run, and every updated node's registry entry is the one of `s0` (or gone): no reservation has been written -/
structure SameI (s0 : State) (w : WS) (r : Run) : Prop where
  ns : NS r
  same : ∀ lid ∈ w.updIds, r.s.reg lid = s0.reg lid ∨ r.s.reg lid = none

theorem SameI.frame {s0 : State} {w : WS} {r r' : Run} (h : SameI s0 w r) (a : r'.stopAt = r.stopAt) (b : r'.halted = r.halted)
    (f : ∀ k ∈ w.updIds, r'.s.reg k = r.s.reg k ∨ r'.s.reg k = none) : SameI s0 w r' :=
  ⟨h.ns.congr a b, fun lid hl => (f lid hl).elim (fun e => e ▸ h.same lid hl) .inr⟩

instance (s0 : State) (w : WS) : XFrame w.updIds (SameI s0 w) where
  ns _ h := h.ns
  frame _ _ h a b _ _ _ f := h.frame a b f

theorem Reads.sameI {s0 : State} {w : WS} : Reads [.reg] (SameI s0 w) := fun _ _ _ d a h =>
  h.frame a.stopAt (a.halted h.ns.1) fun k _ => .inl (congrFun (a.same .reg (d _ (by decide))) k)

theorem SameI.init {s0 : State} {w : WS} {fresh0 : List (UUID × UUID)} {tid : Tid} {fault : Option Fault} {cs0 : Step} :
    SameI s0 w { s := s0, tid := tid, fault := fault, fresh := fresh0, cs := cs0 } := ⟨⟨rfl, rfl⟩, fun _ _ => .inl rfl⟩

section
variable {s0 : State} {w : WS}

/-- what phase 1 promises where it raises (`conflicted` is set just before the raise of a conflict round); a late stop
(`earlyB` false) promises nothing -/
def UntouchedIfEarly (s0 : State) (w : WS) (r : Run) : Prop := r.conflicted = true ∨ (earlyB r = true → SameI s0 w r)

theorem UntouchedIfEarly.of_same {r : Run} (h : SameI s0 w r) : UntouchedIfEarly s0 w r := .inr (fun _ => h)

theorem UntouchedIfEarly.of_updatedLogged {r : Run} (h : UpdatedLogged r) : UntouchedIfEarly s0 w r :=
  .inr (fun he => absurd (Nat.le_trans h (earlyB_le he)) (by decide))

/-- the new roots are registered under new ids, not under an updated node's -/
theorem same_commitNewRoots (pre2 : Pre2 s0 w fresh0) : Preserves (SameI s0 w) (commitNewRoots w) := by
  refine Triple.ite (fun _ => Keeps.pure _) (fun _ => Keeps.bind ((foot_regGet _).keeps Reads.sameI) (fun hs =>
    Triple.ite (fun _ => Keeps.pure _) (fun _ => ?_)))
  refine Keeps.bind ((Foot.call (ch := [.blob]) fun r => .addBlobs).keeps Reads.sameI) (fun _ => ?_)
  refine Keeps.bind (Reads.sameI.call (fun r h => ⟨h.ns, fun k hk => ?_⟩)) (fun _ => Keeps.pure _)
  show (r.s.setRegs _).reg k = _ ∨ (r.s.setRegs _).reg k = none
  rw [State.setRegs_reg_of_not_mem]
  · exact h.same k hk
  · intro h hm e
    obtain ⟨i, hi, rfl⟩ := List.mem_map.mp hm
    exact pre2.updOld k hk (by rw [← e]; exact rootIds_new hi)

/-- `SameI` while `commitUpdatedNodes` has not been logged: the live rollback will not run `rollbackUpdatedNodes` -/
def EarlySame (s0 : State) (w : WS) (r : Run) : Prop := SameI s0 w r ∧ UpdatedNotLogged r

/-- while the registry is untouched, raising is harmless; `C` is what is known of the committed state -/
theorem same_step {C : Run → Prop} {α : Type} {m : M α} (h1 : Preserves (SameI s0 w) m) (h2 : Preserves C m) :
    Triple (fun r => SameI s0 w r ∧ C r) m (fun _ r => SameI s0 w r ∧ C r) (UntouchedIfEarly s0 w) :=
  Triple.mapE (Triple.and h1 h2) (fun _ h => UntouchedIfEarly.of_same h.1)

theorem same_foot {C : Run → Prop} [CFrame C] {α : Type} {m : M α} {ch : List Part} (hm : Foot ch m)
    (h : ∀ p ∈ [Part.reg, .cs], p ∉ ch := by decide) :
    Triple (fun r => SameI s0 w r ∧ C r) m (fun _ r => SameI s0 w r ∧ C r) (UntouchedIfEarly s0 w) :=
  Triple.mapE (hm.keeps (Reads.sameI.and Reads.cframe) h) fun _ h => UntouchedIfEarly.of_same h.1

theorem same_logStep {P : Run → Prop} (hP : ∀ r, P r → SameI s0 w r) (st : Step) :
    Triple P (logStep st) (fun _ r => SameI s0 w r ∧ r.cs = st) (UntouchedIfEarly s0 w) :=
  Triple.conseq (Triple.and ((foot_logStep st).keeps Reads.sameI) (cs_logStep_set (P := fun _ => True) st))
    (fun r hr => ⟨hP r hr, trivial⟩) (fun _ _ h => h) (fun _ h => UntouchedIfEarly.of_same h.1)

theorem updatedLogged_step {α : Type} {m : M α} (h : Preserves UpdatedLogged m) :
    Triple (UpdatedLogged) m (fun _ => UpdatedLogged) (UntouchedIfEarly s0 w) :=
  Triple.mapE h (fun _ h => UntouchedIfEarly.of_updatedLogged h)

/-- `commitUpdatedNodes` entered at committed state `areFetchedItemsIntact`: where it raises with a fault of a safe
class, the reservation has not been written. The other exits (`dead`: `blob.Add`, or `registry.UpdateNoLocks` failing after
its effect) make `earlyB` false at this committed state, so `UntouchedIfEarly` holds there for no reason -/
theorem untouchedIfEarly_commitUpdated :
    Triple (fun r => SameI s0 w r ∧ r.cs = .areFetchedItemsIntact) (commitUpdated w) (fun _ _ => True) (UntouchedIfEarly s0 w) := by
  have dead : ∀ (r : Run) (f : Fault), r.cs = .areFetchedItemsIntact → r.fault = some f →
      (f.cls = .blobAdd ∨ (f.cls = .regUpdateNoLocks ∧ f.kind = .failAfter)) → UntouchedIfEarly s0 w r := by
    intro r f hcs hfa hcl
    refine .inr (fun he => ?_)
    unfold earlyB at he
    rw [hcs, hfa] at he
    rcases hcl with e | ⟨e1, e2⟩
    · simp [Step.ord, safe5, e] at he
    · simp [Step.ord, safe5, e1, e2] at he
  have done : ∀ {α : Type} (a : α) {P : Run → Prop}, Triple P (pure a : M α) (fun _ _ => True) (UntouchedIfEarly s0 w) :=
    fun a => Triple.pure a (fun _ _ => trivial)
  refine Triple.ite (fun _ => done _) (fun _ =>
    Triple.bind (same_foot (C := fun r => r.cs = Step.areFetchedItemsIntact) (foot_regGet _)) (fun hs =>
    Triple.ite (fun _ => done _) (fun _ =>
    Triple.bind (same_foot (C := fun r => r.cs = Step.areFetchedItemsIntact) (ch := []) .get) (fun r0 => ?_))))
  dsimp only
  split
  · exact done _
  · refine Triple.bind (same_foot (C := fun r => r.cs = Step.areFetchedItemsIntact)
      (Foot.modify (ch := [.fresh]) fun r => .set .fresh)) (fun _ => ?_)
    refine Triple.bind (Q1 := fun _ r => NS r ∧ r.cs = .areFetchedItemsIntact) ?_ (fun _ => ?_)
    · exact Triple.callFull _ _ _ _ _ (fun r _ h => ⟨h.1.1, h.2⟩)
        (fun r _ h hs => by rw [h.1.ns.noStop] at hs; cases hs)
        (fun r _ _ hn => by cases hn)
        (fun r _ f h _ _ _ _ => UntouchedIfEarly.of_same (h.1.frame rfl rfl fun _ _ => .inl rfl))
        (fun r _ f h hfa h1 h2 _ => dead _ f h.2 hfa (.inr ⟨h1, h2⟩))
    refine Triple.bind (Q1 := fun _ _ => True) ?_ (fun _ => ?_)
    · exact Triple.callFull _ _ _ _ _ (fun _ _ _ => trivial)
        (fun r _ h hs => by rw [h.1.noStop] at hs; cases hs)
        (fun r _ _ hn => by cases hn)
        (fun r _ f h hfa h1 _ _ => dead _ f h.2 hfa (.inl h1))
        (fun r _ f h hfa h1 _ _ => dead _ f h.2 hfa (.inl h1))
    exact Triple.bind (Q1 := fun _ _ => True) (Triple.modify _ (fun _ _ => trivial)) (fun _ => done _)

theorem untouchedIfEarly_phase1Body (pre2 : Pre2 s0 w fresh0) :
    Triple (EarlySame s0 w) (phase1Body w) (fun _ r => EarlySame s0 w r ∨ UpdatedLogged r) (UntouchedIfEarly s0 w) := by
  have toEI : ∀ (st : Step), st.ord ≤ Step.areFetchedItemsIntact.ord → ∀ r, (SameI s0 w r ∧ r.cs = st) → EarlySame s0 w r :=
    fun st h r hr => ⟨hr.1, by show r.cs.ord ≤ _; rw [hr.2]; exact h⟩
  have logEarly : ∀ (st : Step), st.ord ≤ Step.areFetchedItemsIntact.ord → Triple (EarlySame s0 w) (logStep st) (fun _ => EarlySame s0 w) (UntouchedIfEarly s0 w) := fun st h =>
    Triple.conseq (same_logStep (P := EarlySame s0 w) (fun _ h => h.1) st) (fun _ h => h) (fun _ r hr => toEI st h r hr) (fun _ h => h)
  have logLate : ∀ {P : Run → Prop} (st : Step), Step.commitUpdatedNodes.ord ≤ st.ord → Triple P (logStep st) (fun _ => UpdatedLogged) (UntouchedIfEarly s0 w) := fun st h =>
    Triple.mapE (csge_logStep _ st h) (fun _ h => UntouchedIfEarly.of_updatedLogged h)
  unfold phase1Body
  refine Triple.bind (logEarly .commitTrackedItemsValues (by decide)) (fun _ => ?_)
  refine Triple.bind (same_foot (foot_addValues w)) (fun _ => ?_)
  refine Triple.bind (logEarly .commitNewRootNodes (by decide)) (fun _ => ?_)
  refine Triple.bind (same_step (same_commitNewRoots pre2) ((foot_commitNewRoots w).keeps Reads.cframe)) (fun ok => ?_)
  refine Triple.ite (fun _ => Triple.pure _ (fun _ h => .inl h)) (fun _ => ?_)
  refine Triple.bind (same_logStep (P := EarlySame s0 w) (fun _ h => h.1) .areFetchedItemsIntact) (fun _ => ?_)
  refine Triple.bind (same_foot (C := fun r => r.cs = Step.areFetchedItemsIntact) (foot_fetchedIntact w)) (fun ok => ?_)
  refine Triple.ite (fun _ => Triple.pure _ (fun r h => .inl (toEI _ (by decide) r h))) (fun _ => ?_)
  refine Triple.bind untouchedIfEarly_commitUpdated (fun ok => ?_)
  refine Triple.bind (logLate .commitUpdatedNodes (by decide)) (fun _ => ?_)
  refine Triple.ite (fun _ => Triple.pure _ (fun _ h => .inr h)) (fun _ => ?_)
  refine Triple.bind (logLate .commitRemovedNodes (by decide)) (fun _ => ?_)
  refine Triple.bind (updatedLogged_step ((foot_commitRemoved w).keeps Reads.cframe)) (fun ok => ?_)
  refine Triple.ite (fun _ => Triple.pure _ (fun _ h => .inr h)) (fun _ => ?_)
  refine Triple.bind (logLate .commitAddedNodes (by decide)) (fun _ => ?_)
  exact Triple.bind (updatedLogged_step ((foot_commitAdded w).keeps Reads.cframe)) (fun _ => Triple.pure _ (fun _ h => .inr h))

theorem same_rollback_early (v : Bool) : Triple (EarlySame s0 w) (rollback w v) (fun _ => SameI s0 w) (EarlySame s0 w) :=
  Triple.start fun r0 h0 =>
  have gt : ∀ {p : Prop} k, Step.areFetchedItemsIntact.ord ≤ k → r0.cs.ord > k → p :=
    fun k hk h => absurd h (Nat.not_lt.mpr (Nat.le_trans h0.2 hk))
  rollback_rule (A := EarlySame s0 w) (U := EarlySame s0 w) (K := SameI s0 w) w v r0 h0 (hfail := gt _ (by decide))
    (hplog := fun h => absurd h (Nat.not_le.mpr (Nat.lt_of_le_of_lt h0.2 (by decide))))
    (hstores := gt _ (by decide)) (hadded := gt _ (by decide)) (hremoved := gt _ (by decide)) (hupdated := gt _ (by decide))
    (hskip := fun _ _ h => h)
    (hkeys := Triple.conseq (Keeps.of_onlyHalt (E := EarlySame s0 w) (fun _ h => h.1) (foot_unlockNodesKeys.keeps Reads.sameI) oh_unlockNodesKeys)
      (fun _ h => h.1) (fun _ _ h => h) (fun _ h => h))
    (hroots := fun _ => x_rollbackNewRoots w) (hvalues := fun _ _ => x_rollbackValues w)
    (hitems := fun _ => X.attempt ((foot_unlockItems w).keeps Reads.xframe)) (hcreated := fun _ => x_removeCreatedStores w)
    (htlog := X.trySame (ch := [.tlog]) (fun r => .set .tlog) (by decide)) (hend := X.modify _ fun r => ⟨rfl, rfl, rfl, rfl, rfl⟩)

/-- **phase 1, wherever it raises without a conflict: if it stopped early (`earlyB`), no registry entry of an updated
node has been written** -/
theorem untouchedIfEarly_phase1 (pre2 : Pre2 s0 w fresh0) (n : Nat) :
    Triple (SameI s0 w) (phase1 w n) (fun _ _ => True) (UntouchedIfEarly s0 w) :=
  Triple.conseq (phase1_rule (A0 := EarlySame s0 w) (A' := EarlySame s0 w) (B := fun r => EarlySame s0 w r ∨ UpdatedLogged r)
      (G := fun _ => True) (Bc := fun r => EarlySame s0 w r ∨ UpdatedLogged r) (C := fun _ => True) (Q1 := fun _ _ => True) w n
    (hlog := Triple.conseq (same_logStep (P := SameI s0 w) (fun _ h => h) .lockTrackedItems)
      (fun _ h => h) (fun _ r h => ⟨h.1, by show r.cs.ord ≤ _; rw [h.2]; decide⟩) (fun _ h => h))
    (hlock := same_foot (foot_lockItems w))
    (hmerge := same_foot (foot_mergeNodesKeys w))
    (hnodes := same_foot foot_lockNodes)
    (hgive := fun _ => Triple.conseq (same_foot (Foot.attempt (foot_unlockKeys _))) (fun _ h => h) (fun _ _ _ => trivial) (fun _ h => h))
    (hgiven := fun _ _ => .inl rfl)
    (hbody := (untouchedIfEarly_phase1Body pre2).bothArms)
    (hBc := fun _ h => h.elim (fun h => UntouchedIfEarly.of_same h.1) UntouchedIfEarly.of_updatedLogged)
    (hrb := Triple.or (Triple.conseq (same_rollback_early false) (fun _ h => h) (fun _ _ _ => trivial) (fun _ h => UntouchedIfEarly.of_same h.1))
      (Triple.mapE (cf_rollback (I := UpdatedLogged) w false) (fun _ h => UntouchedIfEarly.of_updatedLogged h)))
    (hrolled := fun _ _ => .inl rfl)
    (hfin := Triple.conseq (csge_finishPhase1 (P := fun r => EarlySame s0 w r ∨ UpdatedLogged r) w _ (by decide)) (fun _ h => h)
      (fun _ _ _ => trivial) (fun _ h => UntouchedIfEarly.of_updatedLogged h)))
    (fun _ h => h) (fun _ _ _ => trivial) (fun _ h => h)

end

end Sop.Commit
