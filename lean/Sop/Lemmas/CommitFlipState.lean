import Sop.Lemmas.CommitReserve
/-!
The flipped state, the nodes a transaction created, and what cleanup may delete — on the durable `State` alone (no `M`, no `Run`).
`CommitFlip` / `CommitNew` (monadic commit, predicates on `Run`) and `Recovery*` (list of durable calls, predicates on `DState`) both rest on these.
-/
namespace Sop.Commit

/-- static facts about the two lists, read off `Staged` at the end of phase 1 -/
structure Lists (s0 : State) (fresh0 : List (UUID × UUID)) (resv remv : List Handle) : Prop where
  resAct : ∀ h ∈ resv, OldAct s0 h
  resFresh : ∀ h ∈ resv, h.inactive = 0 ∨ ∃ p ∈ fresh0, p.2 = h.inactive
  resNodup : (resv.map (·.lid)).Nodup
  remAct : ∀ g ∈ remv, OldAct s0 g
  disj : ∀ h ∈ resv, ∀ g ∈ remv, h.lid ≠ g.lid

/-- the flipped state, relative to the lists the transaction reserved (`resv`) and marked removed (`remv`) -/
structure FlippedS (s0 : State) (resv remv : List Handle) (s : State) : Prop where
  new : ∀ h ∈ resv, h.inactive ≠ 0 → s.reg h.lid = some (activate h) ∧ s.blob h.inactive = true
  old : ∀ lid, (s0.view lid).isSome → (∀ h ∈ resv, h.lid ≠ lid) → (∀ g ∈ remv, g.lid ≠ lid) → s.view lid = s0.view lid

/-- blob ids that may be deleted in the flipped state without a reader noticing; `news`: ids of nodes the transaction created -/
structure Cleanable (s0 : State) (resv remv : List Handle) (news ids : List UUID) : Prop where
  staged : ∀ x ∈ resv, x.inactive ≠ 0 → x.inactive ∉ ids
  old : ∀ lid h0, s0.reg lid = some h0 → (∀ x ∈ resv, x.lid ≠ lid) → (∀ g ∈ remv, g.lid ≠ lid) → h0.active ∉ ids
  created : ∀ i ∈ news, i ∉ ids

section
variable {s0 : State} {w : WS} {fresh0 : List (UUID × UUID)} {resv remv : List Handle} {news ids : List UUID} {s s' : State}

/-- writing `b` over `a` when every id written by `a` is also written by `b`: as if only `b` had been written -/
theorem State.setRegs_cover (s : State) (a b : List Handle) (hc : ∀ x ∈ a, ∃ y ∈ b, y.lid = x.lid) :
    ((s.setRegs a).setRegs b).reg = (s.setRegs b).reg := by
  funext k
  rw [State.setRegs_reg_eq, State.setRegs_reg_eq s b]
  cases hf : b.reverse.find? (·.lid == k) with
  | some x => rfl
  | none =>
    simp only
    apply State.setRegs_reg_of_not_mem
    intro x hx e
    obtain ⟨y, hy, ey⟩ := hc x hx
    have := List.find?_eq_none.mp hf y (List.mem_reverse.mpr hy)
    simp [ey, e] at this

/-- **the priority log's undo step**: writing logged images `imgs` back over a write `X` that went only to their logical ids keeps the state
invariant (live: `Phase2Commit`'s handler after a flip that failed after its effect; recovery: `doPriorityRollbacks`) -/
theorem SInv.setRegs_restore {X imgs : List Handle} (inv : SInv s0 w fresh0 s) (hk : ∀ h ∈ imgs, Known s0 w fresh0 h)
    (hX : ∀ x ∈ X, ∃ y ∈ imgs, y.lid = x.lid) : SInv s0 w fresh0 ((s.setRegs X).setRegs imgs) :=
  (inv.setRegs_known _ hk).of_same (State.setRegs_cover s _ _ hX) (by rw [State.setRegs_blob, State.setRegs_blob, State.setRegs_blob])

theorem FlippedS.of_same (h : FlippedS s0 resv remv s) (hr : s'.reg = s.reg) (hb : s'.blob = s.blob) : FlippedS s0 resv remv s' :=
  ⟨fun x hx hz => by rw [hr, hb]; exact h.new x hx hz, fun lid hl a b => (view_congr hr hb lid).trans (h.old lid hl a b)⟩

theorem setRegs_final_resv (hnd : (resv.map (·.lid)).Nodup) (hdisj : ∀ h ∈ resv, ∀ g ∈ remv, h.lid ≠ g.lid) (s : State)
    {x : Handle} (hx : x ∈ resv) : (s.setRegs (finalImgs resv remv)).reg x.lid = some (activate x) := by
  obtain ⟨y, hy, e3, e4⟩ := State.setRegs_reg_mem s (finalImgs resv remv) x.lid
    ⟨activate x, List.mem_append_left _ (List.mem_map_of_mem hx), (activate_spec x).1⟩
  rw [e4]
  rcases List.mem_append.mp hy with hy | hy
  · obtain ⟨z, hz, rfl⟩ := List.mem_map.mp hy
    rw [(activate_spec z).1] at e3
    rw [inj_of_nodup_map (f := (·.lid)) hnd hz hx e3]
  · obtain ⟨g, hg, rfl⟩ := List.mem_map.mp hy
    exact absurd e3.symm (hdisj x hx g hg)

/-- an id may be marked twice: the image is that of SOME marked handle with the id -/
theorem setRegs_final_remv (hdisj : ∀ h ∈ resv, ∀ g ∈ remv, h.lid ≠ g.lid) (s : State) {x : Handle} (hx : x ∈ remv) :
    ∃ g ∈ remv, g.lid = x.lid ∧ (s.setRegs (finalImgs resv remv)).reg x.lid = some (touch g) := by
  obtain ⟨y, hy, e3, e4⟩ := State.setRegs_reg_mem s (finalImgs resv remv) x.lid
    ⟨touch x, List.mem_append_right _ (List.mem_map_of_mem hx), rfl⟩
  rcases List.mem_append.mp hy with hy | hy
  · obtain ⟨z, hz, rfl⟩ := List.mem_map.mp hy
    rw [(activate_spec z).1] at e3
    exact absurd e3 (hdisj z hz x hx)
  · obtain ⟨g, hg, rfl⟩ := List.mem_map.mp hy
    exact ⟨g, hg, e3, e4⟩

theorem setRegs_final_other (s : State) {lid : UUID} (a : ∀ h ∈ resv, h.lid ≠ lid) (b : ∀ g ∈ remv, g.lid ≠ lid) :
    (s.setRegs (finalImgs resv remv)).reg lid = s.reg lid :=
  State.setRegs_reg_of_not_mem _ _ _ fun y hy => by
    obtain ⟨g, hg, e⟩ := mem_final hy
    exact e ▸ hg.elim (a g) (b g)

theorem Lists.remSameActive (L : Lists s0 fresh0 resv remv) :
    ∀ g ∈ remv, ∀ g' ∈ remv, g.lid = g'.lid → g.active = g'.active := by
  intro g hg g' hg' e
  obtain ⟨h0, e0, ea⟩ := L.remAct g hg
  obtain ⟨h1, e1, eb⟩ := L.remAct g' hg'
  rw [e, e1] at e0; cases e0
  rw [ea, eb]

theorem FlippedS.establish (L : Lists s0 fresh0 resv remv) (stable : ∀ lid, (s0.view lid).isSome → s.view lid = s0.view lid)
    (hb : ∀ h ∈ resv, s.blob h.inactive = true) : FlippedS s0 resv remv (s.setRegs (finalImgs resv remv)) :=
  ⟨fun x hx _ => ⟨setRegs_final_resv L.resNodup L.disj s hx, by rw [State.setRegs_blob]; exact hb x hx⟩, fun lid hl a b =>
    (view_congr_at (setRegs_final_other s a b) (State.setRegs_blob s _)).trans (stable lid hl)⟩

theorem view_eq_active {lid : UUID} (e : s.view lid = s0.view lid) (hl : (s0.view lid).isSome)
    {g : Handle} (hg : s.reg lid = some g) : ∃ h0, s0.reg lid = some h0 ∧ g.active = h0.active := by
  unfold State.view at e hl
  rw [hg] at e
  cases h0r : s0.reg lid with
  | none => simp [h0r] at hl
  | some h0 =>
    rw [h0r] at e hl
    refine ⟨h0, rfl, ?_⟩
    by_cases hb0 : s0.blob h0.active = true
    · simp only [hb0, ↓reduceIte] at e
      by_cases hb : s.blob g.active = true
      · simp only [hb, ↓reduceIte, Option.some.injEq, Prod.mk.injEq] at e; exact e.1
      · simp [hb] at e
    · simp [hb0] at hl

theorem FlippedS.delBlobs (h : FlippedS s0 resv remv s) (c : Cleanable s0 resv remv news ids) : FlippedS s0 resv remv (s.delBlobs ids) := by
  refine ⟨fun x hx hz => ?_, fun lid hl a b => ?_⟩
  · rw [State.delBlobs_reg, State.delBlobs_blob, (h.new x hx hz).2]
    exact ⟨(h.new x hx hz).1, by simp [c.staged x hx hz]⟩
  · rw [view_delBlobs_of_inactive s ids lid (fun g hg => by
      obtain ⟨h0, e0, e1⟩ := view_eq_active (h.old lid hl a b) hl hg
      rw [e1]; exact c.old lid h0 e0 a b)]
    exact h.old lid hl a b

theorem FlippedS.delRegs (h : FlippedS s0 resv remv s) (ids : List UUID)
    (hA : ∀ x ∈ resv, x.lid ∉ ids) (hB : ∀ lid, (∀ g ∈ remv, g.lid ≠ lid) → lid ∉ ids) : FlippedS s0 resv remv (s.delRegs ids) := by
  refine ⟨fun x hx hz => ?_, fun lid hl a b => ?_⟩
  · rw [State.delRegs_reg_of_not_mem s ids x.lid (hA x hx), State.delRegs_blob]
    exact h.new x hx hz
  · exact (view_congr_at (State.delRegs_reg_of_not_mem s ids lid (hB lid b)) (State.delRegs_blob s ids)).trans (h.old lid hl a b)

theorem FlippedS.delRegs_dead (L : Lists s0 fresh0 resv remv) (h : FlippedS s0 resv remv s) :
    FlippedS s0 resv remv (s.delRegs (remv.map (·.lid))) :=
  h.delRegs _ (fun x hx hm => by obtain ⟨g, hg, e⟩ := List.mem_map.mp hm; exact L.disj x hx g hg e.symm)
    (fun lid b hm => by obtain ⟨g, hg, e⟩ := List.mem_map.mp hm; exact b g hg e)

theorem FlippedS.view_new (h : FlippedS s0 resv remv s) {x : Handle} (hx : x ∈ resv) (hz : x.inactive ≠ 0) :
    s.view x.lid = some (x.inactive, x.version + 1) := by
  obtain ⟨a, b⟩ := h.new x hx hz
  obtain ⟨_, a2, _, a4, _⟩ := activate_spec x
  rw [State.view_of_reg a, a2, a4, b]
  rfl

theorem fresh_ne_act (pre : Pre s0 w fresh0) {x : Handle} (hf : x.inactive = 0 ∨ ∃ p ∈ fresh0, p.2 = x.inactive) (hz : x.inactive ≠ 0)
    {i : UUID} {h0 : Handle} (e : s0.reg i = some h0) : x.inactive ≠ h0.active := by
  rcases hf with z | ⟨p, hp, ep⟩
  · exact absurd z hz
  · rw [← ep]; exact pre.actFresh i h0 e p hp

theorem obsolete_sub {st : StoreWS} (hst : st ∈ w.stores) {x : UUID} (hx : x ∈ st.obsoleteValues) : x ∈ w.obsoleteValues := by
  unfold WS.obsoleteValues
  exact List.mem_flatMap.mpr ⟨st, hst, hx⟩

theorem Lists.unused_old (L : Lists s0 fresh0 resv remv) {x : UUID} (hm : x ∈ unusedIds resv remv) :
    ∃ g, (g ∈ resv ∨ g ∈ remv) ∧ ∃ h0, s0.reg g.lid = some h0 ∧ x = h0.active := by
  obtain ⟨g, hg, e⟩ := mem_unused hm
  obtain ⟨h0, e0, ea⟩ := hg.elim (L.resAct g) (L.remAct g)
  exact ⟨g, hg, h0, e0, e ▸ ea⟩

theorem cleanable_unused (pre : Pre s0 w fresh0) (pre2 : Pre2 s0 w fresh0) (L : Lists s0 fresh0 resv remv)
    (hn : ∀ i ∈ news, i ∈ w.newIds) : Cleanable s0 resv remv news (unusedIds resv remv) := by
  have old := @L.unused_old
  refine ⟨fun x hx hz hm => ?_, fun lid h0 e0 a b hm => ?_, fun i hi hm => ?_⟩
  · obtain ⟨g, _, h1, e1, ea⟩ := old hm
    exact fresh_ne_act pre (L.resFresh x hx) hz e1 ea
  · obtain ⟨g, hg, h1, e1, ea⟩ := old hm
    exact pre2.actInj g.lid lid h1 h0 e1 e0 (hg.elim (a g) (b g)) ea.symm
  · obtain ⟨g, _, h1, e1, ea⟩ := old hm
    exact pre.actNew _ h1 e1 (ea ▸ hn i hi)

theorem cleanable_obsolete (pre2 : Pre2 s0 w fresh0) (L : Lists s0 fresh0 resv remv) (hn : ∀ i ∈ news, i ∉ w.obsoleteValues)
    (hsub : ∀ x ∈ ids, x ∈ w.obsoleteValues) : Cleanable s0 resv remv news ids := by
  refine ⟨fun x hx hz hm => ?_, fun lid h0 e0 _ _ hm => pre2.actObs lid h0 e0 (hsub _ hm), fun i hi hm => hn i hi (hsub i hm)⟩
  rcases L.resFresh x hx with z | ⟨p, hp, e⟩
  · exact hz z
  · exact pre2.freshObs p hp (e ▸ hsub _ hm)

end
/-- the nodes `ids` are registered with the images `m` and their blobs (blob id = logical id) are stored -/
def FixedS (m : UUID → Handle) (ids : List UUID) (s : State) : Prop := ∀ i ∈ ids, s.reg i = some (m i) ∧ s.blob i = true

/-- an added node is registered at version 1 (a new root at version 0: `Handle.new`) -/
def addedImage (i : UUID) : Handle := { Handle.new i with version := 1 }

section
variable {m : UUID → Handle} {ids : List UUID} {s s' : State}

/-- no `Nodup` needed: whichever of several entries for an id comes last, it is that id's image -/
theorem State.setRegs_map_reg (s : State) (ids : List UUID) (f : UUID → Handle) (hf : ∀ j, (f j).lid = j) {i : UUID} (hi : i ∈ ids) :
    (s.setRegs (ids.map f)).reg i = some (f i) := by
  obtain ⟨y, hy, e1, e2⟩ := State.setRegs_reg_mem s (ids.map f) i ⟨f i, List.mem_map_of_mem hi, hf i⟩
  obtain ⟨j, _, rfl⟩ := List.mem_map.mp hy
  rw [e2, (hf j).symm.trans e1]

/-- the blobs stored, then the handles registered (`commitNewRootNodes`) -/
theorem FixedS.establish (hm : ∀ j, (m j).lid = j) (s : State) : FixedS m ids ((s.addBlobs ids).setRegs (ids.map m)) := fun i hi =>
  ⟨State.setRegs_map_reg _ ids m hm hi, by rw [State.setRegs_blob, State.addBlobs_blob]; simp [hi]⟩

/-- the handles registered, then the blobs stored (`commitAddedNodes`) -/
theorem FixedS.establish' (hm : ∀ j, (m j).lid = j) (s : State) : FixedS m ids ((s.setRegs (ids.map m)).addBlobs ids) := fun i hi =>
  ⟨by rw [State.addBlobs_reg]; exact State.setRegs_map_reg _ ids m hm hi, by rw [State.addBlobs_blob]; simp [hi]⟩

theorem FixedS.of_same (h : FixedS m ids s) (hr : s'.reg = s.reg) (hb : s'.blob = s.blob) : FixedS m ids s' :=
  fun i hi => by rw [hr, hb]; exact h i hi

theorem FixedS.setRegs (h : FixedS m ids s) (hs : List Handle) (hd : ∀ x ∈ hs, x.lid ∉ ids) : FixedS m ids (s.setRegs hs) := fun i hi => by
  rw [State.setRegs_blob, State.setRegs_reg_of_not_mem s hs i (fun x hx e => hd x hx (e ▸ hi))]
  exact h i hi

theorem FixedS.addBlobs (h : FixedS m ids s) (xs : List UUID) : FixedS m ids (s.addBlobs xs) := fun i hi => by
  rw [State.addBlobs_reg, State.addBlobs_blob, (h i hi).2]
  exact ⟨(h i hi).1, rfl⟩

theorem FixedS.delBlobs (h : FixedS m ids s) (xs : List UUID) (hd : ∀ i ∈ ids, i ∉ xs) : FixedS m ids (s.delBlobs xs) := fun i hi => by
  rw [State.delBlobs_reg, State.delBlobs_blob, (h i hi).2]
  exact ⟨(h i hi).1, by simp [hd i hi]⟩

theorem FixedS.delRegs (h : FixedS m ids s) (xs : List UUID) (hd : ∀ i ∈ ids, i ∉ xs) : FixedS m ids (s.delRegs xs) := fun i hi => by
  rw [State.delRegs_reg_of_not_mem s xs i (hd i hi), State.delRegs_blob]
  exact h i hi

end

/-- the transaction's new nodes — the new roots at version 0, the added nodes at version 1 — are registered as written and their blobs stored -/
def NewNodesS (w : WS) (s : State) : Prop := FixedS Handle.new w.rootIds s ∧ FixedS addedImage w.addedIds s

end Sop.Commit
