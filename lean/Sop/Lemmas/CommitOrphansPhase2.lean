import Sop.Lemmas.CommitOrphansPhase1
import Sop.Lemmas.CommitSettled
import Sop.Lemmas.CommitFlip
/-!
Phase 2 and the cleanup of a SETTLED run (`SP0`: no fault or a spent one, no observer — in particular a fault-free
commit): the flip turns the staged blobs into active blobs and the old active blobs into the only exceptions; the
cleanup's `blob.Remove` deletes exactly those (and the removed nodes' blobs), its `registry.Remove` then drops the
removed nodes' handles, whose blobs are gone. Every one of these calls takes effect and none can raise.
-/
namespace Sop.Commit

/-- after the flip: the only exceptions (besides `X`) are the old active ids of the updated nodes -/
structure BIFlipped (X : List UUID) (resv remv : List Handle) (r : Run) : Prop where
  eqR : r.reserved = resv
  eqM : r.removedH = remv
  bi : BI (X ++ resv.map (·.active)) r.s
  rem : ∀ g ∈ remv, ∀ x, r.s.reg g.lid = some x → x.active = g.active

/-- after the unused blobs are deleted: the removed nodes' handles point at no blob -/
def Dl (X : List UUID) (remv : List Handle) (r : Run) : Prop :=
  BI X r.s ∧ ∀ g ∈ remv, ∀ x, r.s.reg g.lid = some x → r.s.blob x.active = false

instance {X : List UUID} {resv remv : List Handle} : Frame (BIFlipped X resv remv) where
  frame r r' h hr hb _ h1 h2 :=
    ⟨by rw [h1]; exact h.eqR, by rw [h2]; exact h.eqM, BI.of_same h.bi hr hb, by rw [hr]; exact h.rem⟩

instance {X : List UUID} {remv : List Handle} : Frame (Dl X remv) where
  frame r r' h hr hb _ _ _ := ⟨BI.of_same h.1 hr hb, by rw [hr, hb]; exact h.2⟩

-- two rules for a run with no fault at all (`HF none`); no user in the development

theorem Triple.callNF {P : Run → Prop} {Q : Unit → Run → Prop} {E : Run → Prop}
    (cls : Cls) (args : Args) (eff : State → State) (res : Args)
    (hP : ∀ r, P r → HF none r)
    (hok : ∀ r occs tr, P r → Q () { r with occs := occs, trace := tr, s := eff r.s }) :
    Triple P (Sop.Commit.call cls args eff res) Q E :=
  Triple.callAfterSpent cls args eff res (fun r h => ⟨(hP r h).sp0.spent, (hP r h).1⟩) fun r o t h _ => hok r o t h

theorem nf_pres {I : Run → Prop} {m : M α} (h1 : Preserves I m) (h2 : Preserves (HF none) m) :
    Preserves (AndI I (HF none)) m :=
  Triple.and h1 h2

def Gone (Z : List UUID) (r : Run) : Prop := ∀ b ∈ Z, r.s.blob b = false

def Unreg (ids : List UUID) (r : Run) : Prop := ∀ i ∈ ids, r.s.reg i = none

instance {ids : List UUID} : Frame (Unreg ids) where
  frame r r' h hr _ _ _ _ := by unfold Unreg at *; rw [hr]; exact h

abbrev BIUnreg (X : List UUID) (dead : List UUID) : Run → Prop := AndI (BIRun X) (Unreg dead)

section
variable {s0 : State} {w : WS} {fresh0 : List (UUID × UUID)} {X : List UUID} {resv remv : List Handle}

def GoneOf (sts : List StoreWS) (r : Run) : Prop := ∀ st ∈ sts, ∀ b ∈ st.obsoleteValues, r.s.blob b = false

instance {sts : List StoreWS} : Frame (GoneOf sts) where
  frame r r' h _ hb _ _ _ := by unfold GoneOf at *; rw [hb]; exact h

theorem bi_cleanup :
    Triple (fun r => SP0 r ∧ BIFlipped X resv remv r) (cleanup w)
      (fun _ r => SP0 r ∧ AndI (BIUnreg X (remv.map (·.lid))) (Gone w.obsoleteValues) r) (fun _ => False) :=
  Triple.start fun r0 h0 => by
    obtain ⟨rfl, rfl⟩ : r0.reserved = resv ∧ r0.removedH = remv := ⟨h0.2.eqR, h0.2.eqM⟩
    refine cleanup_rule (A1 := fun r => SP0 r ∧ BIFlipped X r0.reserved r0.removedH r) (A2 := fun r => SP0 r ∧ Dl X r0.removedH r)
      (A3 := fun r => SP0 r ∧ BIUnreg X (r0.removedH.map (·.lid)) r)
      (L := fun done r => SP0 r ∧ AndI (BIUnreg X (r0.removedH.map (·.lid))) (GoneOf done) r) w r0
      (hlog1 := S.logStep_if _ (gen_logStep _) fun _ e => e ▸ h0)
      (hunused := fun _ => S.tryEff fun r o t h => ⟨?unusedBI, ?unusedGone⟩)
      (hnone := fun he r h => ⟨h.1, ?noneBI, ?noneGone⟩)
      (hdead := S.tryEff fun r o t h => ⟨BI.delRegs h.1 _ ?deadGone, fun i hi => State.delRegs_reg_mem r.s _ i hi⟩)
      (hlog2 := S.logStep_if _ (gen_logStep _) fun _ h => ⟨h.1, h.2, fun _ hs => nomatch hs⟩)
      (hobs := fun done st _ _ => S.tryEff fun r o t ⟨⟨hbi, hunreg⟩, hgone⟩ =>
        ⟨⟨BI.delBlobs' hbi _, fun i hi => (congrFun (State.delBlobs_reg ..) i).trans (hunreg i hi)⟩, fun st' hs b hb => ?loopGone⟩)
      (hskip := fun done st _ he r h => ⟨h.1, h.2.1, fun st' hs b hb => ?skipGone⟩)
      (htlog := Triple.conseq (NoRaise.keeps (ch := [.tlog]) S.tryCall (.attempt (.call fun r => .set .tlog)) Reads.frame)
        (fun _ h => h) (fun _ r h => ⟨h.1, h.2.1, fun b hb => ?allGone⟩) (fun _ h => h))
    case unusedBI =>
      refine BI.delBlobs h.bi _ fun a ha => ?_
      obtain ⟨z, hz, rfl⟩ := List.mem_map.mp ha
      exact List.mem_append_left _ (List.mem_map.mpr ⟨activate z, List.mem_map_of_mem hz, (activate_spec z).2.2.1⟩)
    case unusedGone =>
      intro g hg x e
      show (r.s.delBlobs _).blob x.active = false
      rw [State.delBlobs_reg] at e
      rw [State.delBlobs_blob, h.rem g hg x e]
      have : g.active ∈ unusedIds r0.reserved r0.removedH := List.mem_append_right _ (List.mem_map_of_mem (f := (·.active)) hg)
      simp only [decide_eq_true this, Bool.not_true, Bool.and_false]
    -- nothing unused: nothing was reserved or marked
    case noneBI =>
      have := h.2.bi
      rw [(List.append_eq_nil_iff.mp he).1 |> List.map_eq_nil_iff.mp |> List.map_eq_nil_iff.mp] at this
      exact this.mono fun b hb => by simpa using hb
    case noneGone =>
      intro g hg
      rw [List.map_eq_nil_iff.mp (List.append_eq_nil_iff.mp he).2] at hg
      cases hg
    -- the removed nodes' handles go: their blobs are gone
    case deadGone =>
      intro k hk g e
      obtain ⟨y, hy, rfl⟩ := List.mem_map.mp hk
      exact h.2 y hy g e
    case loopGone =>
      show (r.s.delBlobs _).blob b = false
      rw [State.delBlobs_blob]
      rcases List.mem_append.mp hs with h1 | h1
      · rw [hgone st' h1 b hb]; rfl
      · obtain rfl := List.mem_singleton.mp h1
        simp only [decide_eq_true hb, Bool.not_true, Bool.and_false]
    case skipGone =>
      rcases List.mem_append.mp hs with h1 | h1
      · exact h.2.2 st' h1 b hb
      · obtain rfl := List.mem_singleton.mp h1
        rw [he] at hb; cases hb
    case allGone =>
      obtain ⟨st, hst, hb'⟩ := List.mem_flatMap.mp hb
      exact h.2.2 st hst b hb'

/-- at the end of phase 1 a removed node's registered handle still has the active id of the marked image -/
theorem Staged.remCur (pre2 : Pre2 s0 w fresh0) {r : Run} (h : Staged s0 w fresh0 r) :
    ∀ g ∈ r.removedH, ∀ x, r.s.reg g.lid = some x → x.active = g.active := by
  intro g hg x e
  obtain ⟨h0, e0, ea⟩ := h.remAct g hg
  rcases (h.rinv.sinv.prov _ x e).1 with ⟨hn, _⟩ | ⟨h1, e1, eb⟩
  · exact absurd hn (pre2.remOld _ (h.remSub g hg))
  · rw [e0] at e1; cases e1; rw [eb, ea]

/-- **phase 2 of a settled run**: from "no orphans except the staged blobs" to "no orphans" -/
theorem bi_phase2 (pre2 : Pre2 s0 w fresh0) (L : Lists s0 fresh0 resv remv) :
    Triple (fun r => SP0 r ∧ AndI (P2 s0 w fresh0 resv remv) (BIRun (X ++ resv.map (·.inactive))) r) (phase2 w)
      (fun _ r => SP0 r ∧ AndI (BIUnreg X (remv.map (·.lid))) (Gone w.obsoleteValues) r) (fun _ => False) :=
  Triple.start fun r0 h0 => by
    obtain ⟨rfl, rfl⟩ : r0.reserved = resv ∧ r0.removedH = remv := ⟨h0.2.1.eqR, h0.2.1.eqM⟩
    refine phase2_rule (A1 := fun r => SP0 r ∧ AndI (P2 s0 w fresh0 r0.reserved r0.removedH) (BIRun (X ++ r0.reserved.map (·.inactive))) r)
      (Aout := fun _ => False) (B1 := fun r => SP0 r ∧ BIFlipped X r0.reserved r0.removedH r) (B2 := fun r => SP0 r ∧ BIFlipped X r0.reserved r0.removedH r)
      (B3 := fun r => SP0 r ∧ BIFlipped X r0.reserved r0.removedH r) (B4 := fun r => SP0 r ∧ BIFlipped X r0.reserved r0.removedH r) w r0
      (hlog := S.logStep_if _ (gen_logStep _) fun _ e => e ▸ h0)
      (hout := fun _ h => h.elim)
      (hflip := fun _ => S.callEff fun r o t ⟨⟨hS, q1, q2⟩, hb⟩ => ?flip)
      (hplog := fun _ => NoRaise.keeps (ch := [.plog]) S.tryCall (.attempt (.call fun r => .set .plog)) Reads.frame)
      (hnone := fun he r ⟨hs, ⟨_, q1, q2⟩, hbi⟩ => ⟨hs, q1, q2, ?noneBI, ?noneRem⟩)
      (hkeys := nr_unlockNodesKeys.keeps foot_unlockNodesKeys Reads.frame)
      (hitems := NoRaise.keeps (Triple.attempt_nr (nr_unlockItems w)) (.attempt (foot_unlockItems w)) Reads.frame)
      (hclean := bi_cleanup)
    case flip =>
      have hf := BI.flip (X := X) (s := r.s) (resv := r0.reserved) (remv := r0.removedH) hb
        (fun g hg => (hS.res g (q1 ▸ hg)).1) L.resNodup L.disj (q2 ▸ hS.remCur pre2) L.remSameActive
      exact ⟨q1, q2, hf.1, hf.2⟩
    -- nothing to flip: nothing was reserved or marked
    case noneBI =>
      have := hbi
      unfold BIRun at this
      rw [List.map_eq_nil_iff.mp (List.append_eq_nil_iff.mp he).1] at this ⊢
      exact this
    case noneRem =>
      intro g hg
      rw [List.map_eq_nil_iff.mp (List.append_eq_nil_iff.mp he).2] at hg
      cases hg

/-- **No orphans after a commit whose phase 1 went through and left a settled run** — no fault, or a fault that an
attempted call of phase 1 swallowed. Phase 2 then cannot fail: `Commit` returns ok, and if before the commit every
blob is a registered handle's active blob or one of the exceptions `X0` (e.g. the live separate-segment value blobs),
then afterwards every blob is a registered handle's active blob, one of `X0`, or a value blob this transaction wrote;
no blob the write set declared obsolete is left; and (for a write set with tracked items) no removed node is
registered any more. -/
theorem commit_ok_cleanup_complete_settled (pre : Pre s0 w fresh0) (pre2 : Pre2 s0 w fresh0) (X0 : List UUID) {n : Nat} {r0 r1 : Run}
    (hj : Unstaged s0 w fresh0 r0) (h0 : BI X0 r0.s) (hp : phase1 w n r0 = .ok ((), r1)) (hs : SP0 r1) :
    ∃ r2, commit w n r0 = (.ok, r2) ∧ BI (X0 ++ w.values) r2.s ∧ (∀ b ∈ w.obsoleteValues, r2.s.blob b = false) ∧
      (w.hasTracked = true → ∀ i ∈ w.removed.map (·.1), r2.s.reg i = none) := by
  obtain ⟨⟨hst, hbi⟩, hrc⟩ :=
    (bi_phase1 pre pre2 (Y := X0 ++ w.values) (fun b hb => List.mem_append_right _ hb) n).of_ok
      ⟨hj, h0.mono (fun b hb => List.mem_append_left _ (List.mem_append_left _ hb))⟩ hp
  obtain ⟨r2, e, _, h2⟩ := commit_of_phase2_noraise (bi_phase2 (X := X0 ++ w.values) pre2 (hst.lists pre2)) hp
    ⟨hs, ⟨hst, rfl, rfl⟩, hbi⟩
  refine ⟨r2, e, h2.1.1, h2.2, fun ht i hi => ?_⟩
  obtain ⟨g, hg, e⟩ := hrc ht i hi
  exact e ▸ h2.1.2 g.lid (List.mem_map_of_mem (f := (·.lid)) hg)

/-- the case of a run with no injected fault and no observer, which is settled from its start -/
theorem commit_ok_cleanup_complete (pre : Pre s0 w fresh0) (pre2 : Pre2 s0 w fresh0) (X0 : List UUID) {n : Nat} {r0 r2 : Run}
    (hj : Unstaged s0 w fresh0 r0) (h0 : BI X0 r0.s) (hf : HF none r0) (hok : commit w n r0 = (.ok, r2)) :
    BI (X0 ++ w.values) r2.s ∧ (∀ b ∈ w.obsoleteValues, r2.s.blob b = false) ∧
      (w.hasTracked = true → ∀ i ∈ w.removed.map (·.1), r2.s.reg i = none) := by
  obtain ⟨r1, hp, _⟩ := commit_ok_inv hok
  obtain ⟨r2', e, h⟩ := commit_ok_cleanup_complete_settled pre pre2 X0 hj h0 hp ((h_phase1 w n).of_ok hf hp).sp0
  rw [hok] at e
  cases e
  exact h

/-- no orphans relative to a set `V` of live separate-segment value blobs -/
def NoOrphanV (V : List UUID) (s : State) : Prop :=
  ∀ b, s.blob b = true → (∃ lid h, s.reg lid = some h ∧ h.active = b) ∨ b ∈ V

theorem noOrphanV_iff {V : List UUID} {s : State} : NoOrphanV V s ↔ BI V s := Iff.rfl

end
end Sop.Commit
