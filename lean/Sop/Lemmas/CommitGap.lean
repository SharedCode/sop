import Sop.Lemmas.CommitFrame
/-!
The gap between phase 1 and phase 2, for the facts that need no premise about the state or the write set: when phase 1
ends successfully the store counts have moved by exactly the write set's deltas (nothing but `commitStores`, one
`StoreRepository.Update`, touches a count), the node keys merged at the start of the commit loop are still the
transaction's, and a transaction that reserved or marked any node has its priority-log file (the pre-flip images).
One instance of the rules for `phase1` / `finishPhase1` (`gap_phase1`): only the three steps that write a count, the keys
or the priority log are looked at, every other step keeps the three invariants by its footprint.
-/
namespace Sop.Commit

def CNT (c : Nat → Int) (r : Run) : Prop := r.s.cnt = c

section
variable {c : Nat → Int}
local notation "I" => CNT c

theorem CNT.congr {r r' : Run} (h : I r) (e : r'.s.cnt = r.s.cnt) : I r' := e.trans h

theorem Reads.cnt : Reads [.cnt] I := fun _ _ _ d a h => h.congr (a.same .cnt (d _ (by decide)))

-- `Keeps.getS`, `Triple.modify`, `Preserves.attempt` for this invariant; no user in the development
theorem C.getS : Preserves I getS := Triple.getS (fun _ h => h)
theorem C.modify (f : Run → Run) (h : ∀ r, (f r).s = r.s) : Preserves I (modify f) :=
  Triple.modify f fun r hr => hr.congr (congrArg (·.cnt) (h r))
theorem C.attempt {m : M Unit} (h : Preserves I m) : Preserves I (attempt m) := Triple.attempt h (fun _ h => h)

end

theorem cnt_commitStores (s0 : State) (w : WS) :
    Triple (CNT s0.cnt) (commitStores w) (fun _ => CNT (w.countsAfter s0)) (fun _ => True) := by
  refine Triple.ite (fun he => Triple.pure _ fun r h => ?_) fun _ => Triple.call_dropE fun r _ _ h => ?_
  · unfold CNT WS.countsAfter
    rw [List.isEmpty_iff.mp he]
    exact h
  · unfold CNT WS.countsAfter
    exact foldl_addCnt_cnt_congr _ _ _ h

/-- the node keys the transaction locked are the write set's (when it has any) -/
def NKp (w : WS) (r : Run) : Prop := w.nodeKeys ≠ [] → r.nodesKeys = some w.nodeKeys

section
variable {w0 : WS}
local notation "I" => NKp w0

theorem NKp.congr {r r' : Run} (h : I r) (e : r'.nodesKeys = r.nodesKeys) : I r' := fun hne => e.trans (h hne)

theorem Reads.nk : Reads [.nodesKeys] I := fun _ _ _ d a h => h.congr (a.same .nodesKeys (d _ (by decide)))

-- `Keeps.getS`, `Triple.modify`, `Preserves.attempt` for this invariant, and two functions that keep it; no user in the development
theorem N.getS : Preserves I getS := Triple.getS (fun _ h => h)
theorem N.modify (f : Run → Run) (h : ∀ r, (f r).nodesKeys = r.nodesKeys) :
    Preserves I (modify f) :=
  Triple.modify f fun r hr => hr.congr (h r)
theorem N.attempt {m : M Unit} (h : Preserves I m) : Preserves I (attempt m) := Triple.attempt h (fun _ h => h)
theorem n_lockItems (w : WS) : Preserves I (lockItems w) := (foot_lockItems w).keeps Reads.nk
theorem n_unlockItems (w : WS) : Preserves I (unlockItems w) := (foot_unlockItems w).keeps Reads.nk

end

def PLp (r : Run) : Prop := (!r.reserved.isEmpty || !r.removedH.isEmpty) = true → r.s.plog r.tid = true

section
local notation "I" => PLp

theorem PLp.congr {r r' : Run} (h : I r) (e1 : r'.s.plog = r.s.plog) (e2 : r'.tid = r.tid) (e3 : r'.reserved = r.reserved)
    (e4 : r'.removedH = r.removedH) : I r' := by
  unfold PLp at *
  rw [e1, e2, e3, e4]; exact h

theorem Reads.pl : Reads [.plog, .reserved, .removedH] I := fun _ _ _ d a h =>
  h.congr (a.same .plog (d _ (by decide))) a.tid (a.same .reserved (d _ (by decide))) (a.same .removedH (d _ (by decide)))

-- `Triple.modify`, `Preserves.attempt` for this invariant; no user in the development
theorem L.modify (f : Run → Run)
    (h : ∀ r, (f r).s = r.s ∧ (f r).tid = r.tid ∧ (f r).reserved = r.reserved ∧ (f r).removedH = r.removedH) :
    Preserves I (modify f) :=
  Triple.modify f fun r hr => hr.congr (congrArg (·.plog) (h r).1) (h r).2.1 (h r).2.2.1 (h r).2.2.2
theorem L.attempt {m : M Unit} (h : Preserves I m) : Preserves I (attempt m) := Triple.attempt h (fun _ h => h)

end

/-- whoever has something to flip has tracked items (a commit without tracked items does nothing) -/
def ListedIsTracked (w : WS) (r : Run) : Prop := (!r.reserved.isEmpty || !r.removedH.isEmpty) = true → w.hasTracked = true

theorem Reads.listedIsTracked {w : WS} : Reads [.reserved, .removedH] (ListedIsTracked w) := fun _ r r' d a h => by
  have e1 : r'.reserved = r.reserved := a.same .reserved (d _ (by decide))
  have e2 : r'.removedH = r.removedH := a.same .removedH (d _ (by decide))
  unfold ListedIsTracked
  rw [e1, e2]; exact h

/-- what a successful phase 1 leaves behind, whatever the write set -/
structure Gap (s0 : State) (w : WS) (r : Run) : Prop where
  /-- `countsAfter` skips the stores whose delta is 0, as `commitStores` does -/
  cnt : r.s.cnt = if w.hasTracked then w.countsAfter s0 else s0.cnt
  keys : w.hasTracked = true → NKp w r
  plog : PLp r
  tracked : ListedIsTracked w r

theorem nk_mergeNodesKeys (w : WS) : Triple (fun _ => True) (mergeNodesKeys w) (fun _ => NKp w) (fun _ => True) :=
  Triple.ite
    (fun he => Triple.bind (Q1 := fun _ _ => True) Triple.triv fun _ =>
      Triple.modify _ fun _ _ hne => absurd (List.isEmpty_iff.mp he) hne)
    fun _ => Triple.modify _ fun _ _ _ => rfl

/-- **phase 1 applies exactly the write set's count deltas, keeps the node keys it merged, and writes the priority
log whenever there is something to flip** (when the write set has tracked items; otherwise it does nothing) -/
theorem gap_phase1 (s0 : State) (w : WS) (n : Nat) :
    Triple (fun r => NoLists r ∧ CNT s0.cnt r) (phase1 w n) (fun _ => Gap s0 w) (fun _ => True) := by
  have R0 := Reads.noLists.and (Reads.cnt (c := s0.cnt))
  have R1 := R0.and (Reads.nk (w0 := w))
  -- `@fun`: `Reads` unfolds to a `∀` with strict-implicit binders, which an implicit lambda for `c` would run into
  have RB : ∀ {c}, Reads _ fun r => CNT c r ∧ NKp w r := @fun _ => Reads.cnt.and Reads.nk
  have RC := (RB (c := w.countsAfter s0)).and Reads.pl
  refine Triple.conseq (phase1_ok (A' := fun r => (NoLists r ∧ CNT s0.cnt r) ∧ NKp w r) (B := fun r => CNT s0.cnt r ∧ NKp w r)
    (C := fun r => (CNT (w.countsAfter s0) r ∧ NKp w r) ∧ PLp r) w n
    ((foot_logStep _).keeps R0).dropE ((foot_lockItems w).keeps R0).dropE
    (Triple.conseq (Triple.and ((foot_mergeNodesKeys w).keeps R0).dropE (nk_mergeNodesKeys w)) (fun _ h => ⟨h, trivial⟩) (fun _ _ h => h)
      fun _ _ => trivial)
    (foot_lockNodes.keeps R1).dropE
    (Triple.conseq ((foot_phase1Body w).keeps RB).dropE (fun _ h => ⟨h.1.2, h.2⟩) (fun _ _ h _ => h) fun _ h => h)
    (finishPhase1_ok (B' := fun r => CNT (w.countsAfter s0) r ∧ NKp w r) w (fun _ => ((foot_logStep _).keeps RB).dropE)
      (Triple.conseq (Triple.and (cnt_commitStores s0 w) ((foot_commitStores w).keeps Reads.nk).dropE) (fun _ h => h) (fun _ _ h => h)
        fun _ _ => trivial)
      (fun _ => ((foot_logStep _).keeps RB).dropE) (fun r0 => ?_) fun hm => (hm.keeps RC).dropE))
    (fun _ h => h) (fun _ r h => ?_) fun _ h => h
  · refine Triple.ite (fun hc => Triple.call_dropE fun r _ _ ⟨h, e⟩ => ⟨h, fun _ => ?_⟩) fun hc => Triple.pure _ fun r ⟨h, e⟩ => ⟨h, fun hl => ?_⟩
    · subst e
      show (if r0.tid = r0.tid then true else r0.s.plog r0.tid) = true
      rw [if_pos rfl]
    · subst e
      exact absurd hl hc
  · by_cases ht : w.hasTracked = true
    · rw [if_pos ht] at h
      exact ⟨by rw [if_pos ht]; exact h.1.1, fun _ => h.1.2, h.2, fun _ => ht⟩
    · rw [if_neg ht] at h
      have none : ¬ (!r.reserved.isEmpty || !r.removedH.isEmpty) = true := by rw [h.1.1, h.1.2]; decide
      exact ⟨by rw [if_neg ht]; exact h.2, fun e => absurd e ht, fun hl => absurd hl none, fun hl => absurd hl none⟩

end Sop.Commit
