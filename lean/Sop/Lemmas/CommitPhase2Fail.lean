import Sop.Lemmas.CommitFlip
import Sop.Lemmas.CommitSpent
/-!
A commit that fails in phase 2. Unless an observer stops it, phase 2 raises in three ways: its first log write fails (nothing
changed yet), the flip write fails WITHOUT effect (nothing changed), or the flip write fails AFTER its effect (`phase2_exits`). In the
first two the state still satisfies `Staged`; `Phase2Commit`'s error handling (priority rollback of the logged
pre-flip images, then the live rollback) keeps the state invariant whatever happens inside it (`handler_keeps`), so
every node is as it was. The third case (a `failAfter` fault on `registry.UpdateNoLocks`) needs "the one fault has
been spent" and is the business of `CommitPhase2After`.
-/
namespace Sop.Commit

/-- raises only when the run was stopped by an observer -/
abbrev OnlyHalt (m : M α) : Prop := Triple (fun _ => True) m (fun _ _ => True) (fun r => r.halted = true)

theorem OH.modify (f : Run → Run) : OnlyHalt (modify f) := Triple.modify f (fun _ _ => trivial)
theorem OH.attempt (m : M Unit) : OnlyHalt (attempt m) :=
  Triple.attempt' (Q := fun _ _ => True) (Triple.triv) (fun _ _ h => h)

theorem oh_unlockNodesKeys : OnlyHalt unlockNodesKeys := by
  unfold unlockNodesKeys
  refine Keeps.bind Keeps.get fun r => ?_
  split
  · exact Keeps.pure _
  · exact Keeps.bind (OH.attempt _) fun _ => OH.modify _

theorem oh_cleanup (w : WS) : OnlyHalt (cleanup w) :=
  Triple.start fun r0 _ => cleanup_rule (A1 := fun _ => True) (A2 := fun _ => True) (A3 := fun _ => True) (L := fun _ _ => True) w r0
    (Triple.conseq (OH.attempt _).bothArms (fun _ _ => trivial) (fun _ _ h => h) fun _ h => h) (fun _ => OH.attempt _)
    (fun _ _ _ => trivial) (OH.attempt _) (OH.attempt _).bothArms (fun _ _ _ _ => OH.attempt _) (fun _ _ _ _ _ _ => trivial) (OH.attempt _)

/-- the fault is a `failAfter` on a `registry.UpdateNoLocks` call -/
def FlipAfter (r : Run) : Prop := ∃ f, r.fault = some f ∧ f.cls = .regUpdateNoLocks ∧ f.kind = .failAfter

/-- How phase 2 can raise, for an invariant `A` that holds up to the flip write: before the flip has taken effect,
in a run that still has (the `Frame` part `A0` of) `A`; stopped by an observer; or at the flip write failing AFTER
its effect, the run's single fault being spent by it, where `hF` says what then holds. Nothing after the flip raises
(every later call is only attempted). -/
theorem phase2_exits {A A0 F : Run → Prop} [Frame A0] {resv remv : List Handle} (w : WS)
    (hA0 : ∀ r, A r → A0 r) (hlog : Preserves A (logStep .finalizeCommit))
    (hl : ∀ r, A r → r.reserved = resv ∧ r.removedH = remv)
    (hF : ∀ r o t, A r → finalImgs resv remv ≠ [] → FlipAfter r →
      Spent { r with occs := o, trace := t, s := r.s.setRegs (finalImgs resv remv) } →
      F { r with occs := o, trace := t, s := r.s.setRegs (finalImgs resv remv) }) :
    Triple A (phase2 w) (fun _ _ => True) (fun r' => A0 r' ∨ r'.halted = true ∨ F r') :=
  have toE : ∀ {α : Type} {m : M α}, OnlyHalt m →
      Triple (fun _ => True) m (fun _ _ => True) (fun r' => A0 r' ∨ r'.halted = true ∨ F r') :=
    fun h => Triple.mapE h fun _ h => .inr (.inl h)
  Triple.start fun r0 h0 => by
    obtain ⟨rfl, rfl⟩ := hl r0 h0
    exact phase2_rule (A1 := A) (Aout := A) w r0
      (Triple.conseq (Triple.attempt' (Q := fun _ => A) hlog fun _ _ h => .inr (.inl h)).bothArms (fun _ e => e ▸ h0) (fun _ _ h => h)
        fun _ h => h)
      (Triple.conseq (gen_unlockNodesKeys (I := A0)) hA0 (fun _ _ h => .inl h) fun _ h => .inl h)
      (fun hne => Triple.callSpent _ _ _ _ _ (fun _ _ _ _ => trivial) (fun _ _ _ _ => .inr (.inl rfl))
        (fun r _ _ h => .inl (Frame.frame r _ (hA0 r h) rfl rfl rfl rfl rfl))
        fun r o t h hf hsp => .inr (.inr (hF r o t h hne hf hsp)))
      (fun _ => toE (OH.attempt _)) (fun _ _ _ => trivial) (toE oh_unlockNodesKeys) (toE (OH.attempt _)) (toE (oh_cleanup w))

section
variable {s0 : State} {w : WS} {fresh0 : List (UUID × UUID)} {resv remv : List Handle}

/-- `Phase2Commit`'s error handling keeps the state invariant, from a state that still satisfies `Staged` -/
theorem handler_keeps (pre : Pre s0 w fresh0) :
    Triple (Staged s0 w fresh0) (phase2Handler w) (fun _ => RInv s0 w fresh0) (RInv s0 w fresh0) := by
  have prs : Triple (Staged s0 w fresh0) priorityRollbackSelf (fun _ => RInv s0 w fresh0) (RInv s0 w fresh0) := by
    refine Triple.bind (Q1 := fun r0 r => P2 s0 w fresh0 r0.reserved r0.removedH r)
      (Triple.get (fun _ h => ⟨h, rfl, rfl⟩)) fun r0 => Triple.ite (fun _ => ?_) fun _ => Triple.pure _ fun _ h => h.staged.rinv
    refine Triple.bind (Q1 := fun _ => RInv s0 w fresh0) (Triple.attempt (Q := fun _ => RInv s0 w fresh0) ?_ fun _ h => h)
      fun _ => Keeps.void (Preserves.attempt (G.callSame fun _ => ⟨rfl, rfl⟩))
    -- writing back images that are all `Known` keeps the state invariant, applied or not
    have wr : ∀ r o t, P2 s0 w fresh0 r0.reserved r0.removedH r →
        RInv s0 w fresh0 { r with occs := o, trace := t, s := r.s.setRegs (r0.reserved ++ r0.removedH) } :=
      fun r _ _ hr => ⟨hr.staged.rinv.sinv.setRegs_known _ fun h hm => hr.staged.known h (by rw [hr.eqR, hr.eqM]; exact hm), hr.staged.rinv.fresh⟩
    exact Triple.call _ _ _ _ _ wr (fun _ _ _ _ hr => hr.staged.rinv) wr
  refine Triple.bind (Q1 := fun _ => Staged s0 w fresh0) (Triple.get fun _ h => h) fun r0 => Triple.ite
    (fun _ => Triple.bind prs fun _ => Triple.bind gen_unlockNodesKeys fun _ => pres_rollback pre true)
    fun _ => Triple.bind (Q1 := fun _ => RInv s0 w fresh0) ?_ fun _ => pres_rollback pre true
  exact Triple.conseq (Preserves.attempt (G.callSame fun _ => ⟨rfl, rfl⟩)) (fun _ h => h.rinv) (fun _ _ h => h) fun _ h => h

end
end Sop.Commit
