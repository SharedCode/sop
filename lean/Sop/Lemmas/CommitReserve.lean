import Sop.Lemmas.CommitInv
/-!
What `reserveAll` (the reservation step of `commitUpdatedNodes`) does to handles whose provenance is `Known`, and the shape of its
result: facts about `State` and lists only (no `M`, no `Run`), shared by the walks of phase 1 and by crash recovery. With them
`Pre2`, the premises of the success direction, which the flipped state (CommitFlipState) and recovery are stated under.
-/
namespace Sop.Commit

/-- assumptions of the success direction, on top of `Pre`: a well-formed write set (a node is updated at most
once, not both updated and removed, existing nodes are not "new") and distinct physical ids, none of which — active or still to
be generated — is an obsolete value blob's -/
structure Pre2 (s0 : State) (w : WS) (fresh0 : List (UUID × UUID)) : Prop where
  updNodup : (w.updated.map (·.1)).Nodup
  updRem : ∀ i ∈ w.updated.map (·.1), i ∉ w.removed.map (·.1)
  updOld : ∀ i ∈ w.updated.map (·.1), i ∉ w.newIds
  remOld : ∀ i ∈ w.removed.map (·.1), i ∉ w.newIds
  actInj : ∀ i j h h', s0.reg i = some h → s0.reg j = some h' → i ≠ j → h.active ≠ h'.active
  actObs : ∀ i h, s0.reg i = some h → h.active ∉ w.obsoleteValues
  freshObs : ∀ p ∈ fresh0, p.2 ∉ w.obsoleteValues

/-- the handle's active id is the one its node had at the start -/
def OldAct (s0 : State) (h : Handle) : Prop := ∃ h0, s0.reg h.lid = some h0 ∧ h.active = h0.active

section known
variable {s0 : State} {w : WS} {fresh0 : List (UUID × UUID)}

theorem known_clear {h : Handle} (hk : Known s0 w fresh0 h) : Known s0 w fresh0 h.clearInactive := by
  obtain ⟨c1, c2, c3, c4, _, _⟩ := Handle.clearInactive_spec h
  exact known_congr hk c1 c2 c4 (.inl c3)

theorem known_reserve {now hour : Int} {f : UUID} {h h' : Handle} {v : Int}
    (e : reserveOne now hour f h v = some h') (hk : Known s0 w fresh0 h)
    (hf : f = 0 ∨ ∃ q ∈ fresh0, q.2 = f) : Known s0 w fresh0 h' := by
  obtain ⟨r1, r2, r3, r4, _, _, _⟩ := reserveOne_spec now hour f h h' v e
  refine known_congr hk r1 r2 r3 ?_
  rw [r4]
  rcases hf with h0 | ⟨q, hq, e⟩
  · exact .inl h0
  · exact .inr (.inr ⟨q, hq, e⟩)

theorem takeFresh_spec (fr : List (UUID × UUID)) (lid : UUID) :
    ((takeFresh fr lid).1 = 0 ∨ ∃ q ∈ fr, q.2 = (takeFresh fr lid).1) ∧ ∀ q ∈ (takeFresh fr lid).2, q ∈ fr := by
  unfold takeFresh
  split
  · exact ⟨.inl rfl, fun q hq => hq⟩
  · rename_i p hp
    exact ⟨.inr ⟨p, List.mem_of_find?_eq_some hp, rfl⟩, fun q hq => List.mem_of_mem_erase hq⟩

theorem reserveAll_known {now hour : Int} :
    ∀ (pairs : List (Handle × Int)) (fr fr' : List (UUID × UUID)) (res : List Handle),
      reserveAll now hour fr pairs = some (res, fr') → (∀ q ∈ fr, q ∈ fresh0) → (∀ p ∈ pairs, Known s0 w fresh0 p.1) →
      (∀ h' ∈ res, Known s0 w fresh0 h') ∧ ∀ q ∈ fr', q ∈ fresh0 := by
  intro pairs fr fr' res e
  refine reserveAll_induct (motive := fun fr pairs res fr' => (∀ q ∈ fr, q ∈ fresh0) → (∀ p ∈ pairs, Known s0 w fresh0 p.1) →
    (∀ h' ∈ res, Known s0 w fresh0 h') ∧ ∀ q ∈ fr', q ∈ fresh0) (fun _ hfr _ => ⟨nofun, hfr⟩) ?_ pairs fr res fr' e
  intro fr h v rest h' hs fr' e1 _ ih hfr hp
  obtain ⟨tf1, tf2⟩ := takeFresh_spec fr h.lid
  obtain ⟨ih1, ih2⟩ := ih (fun q hq => hfr q (tf2 q hq)) (fun p hpm => hp p (List.mem_cons_of_mem _ hpm))
  refine ⟨fun x hm => ?_, ih2⟩
  rcases List.mem_cons.mp hm with rfl | hm'
  · exact known_reserve e1 (hp (h, v) (List.mem_cons_self ..)) (tf1.imp id fun ⟨q, hq, eq⟩ => ⟨q, hfr q hq, eq⟩)
  · exact ih1 x hm'

end known

section
variable {s0 : State} {w : WS} {fresh0 : List (UUID × UUID)}

theorem pairs_known (u : List (UUID × Int)) (hs : List Handle) (hk : ∀ h ∈ hs, Known s0 w fresh0 h) :
    ∀ p ∈ u.filterMap (fun (x : UUID × Int) => (hs.find? (·.lid == x.1)).map (fun h => (h, x.2))), Known s0 w fresh0 p.1 := by
  intro p hp
  obtain ⟨x, _, e⟩ := List.mem_filterMap.mp hp
  cases hf : hs.find? (·.lid == x.1) with
  | none => simp [hf] at e
  | some h =>
    simp only [hf, Option.map_some, Option.some.injEq] at e
    subst e
    exact hk h (List.mem_of_find?_eq_some hf)

theorem State.setRegs_reg_nodup (s : State) (hs : List Handle) (hn : (hs.map (·.lid)).Nodup) {h : Handle} (hm : h ∈ hs) :
    (s.setRegs hs).reg h.lid = some h := by
  obtain ⟨x, hx, e1, e2⟩ := State.setRegs_reg_mem s hs h.lid ⟨h, hm, rfl⟩
  have : x = h := inj_of_nodup_map (f := (·.lid)) hn hx hm e1
  rw [e2, this]

theorem pairs_lids_sublist (u : List (UUID × Int)) (hs : List Handle) :
    ((u.filterMap (fun (x : UUID × Int) => (hs.find? (·.lid == x.1)).map (fun h => (h, x.2)))).map (·.1.lid)).Sublist
      (u.map (·.1)) := by
  induction u with
  | nil => exact List.Sublist.slnil
  | cons x t ih =>
    rw [List.filterMap_cons]
    cases hf : hs.find? (·.lid == x.1) with
    | none => simp only [Option.map_none, List.map_cons]; exact List.Sublist.cons _ ih
    | some h =>
      simp only [Option.map_some, List.map_cons]
      have : h.lid = x.1 := by
        have := List.find?_some hf
        simpa using this
      rw [this]
      exact List.Sublist.cons₂ _ ih

theorem reserveAll_shape {now hour : Int} :
    ∀ (pairs : List (Handle × Int)) (fr fr' : List (UUID × UUID)) (res : List Handle),
      reserveAll now hour fr pairs = some (res, fr') →
      res.map (·.lid) = pairs.map (·.1.lid) ∧
      ∀ h' ∈ res, (h'.inactive = 0 ∨ ∃ q ∈ fr, q.2 = h'.inactive) ∧
        ∃ p ∈ pairs, h'.lid = p.1.lid ∧ h'.active = p.1.active ∧ h'.version = p.1.version := by
  intro pairs fr fr' res e
  refine reserveAll_induct (motive := fun fr pairs res _ => res.map (·.lid) = pairs.map (·.1.lid) ∧
    ∀ h' ∈ res, (h'.inactive = 0 ∨ ∃ q ∈ fr, q.2 = h'.inactive) ∧
      ∃ p ∈ pairs, h'.lid = p.1.lid ∧ h'.active = p.1.active ∧ h'.version = p.1.version)
    (fun _ => ⟨rfl, nofun⟩) ?_ pairs fr res fr' e
  intro fr h v rest h' hs fr' e1 _ ⟨ih1, ih2⟩
  obtain ⟨tf1, tf2⟩ := takeFresh_spec fr h.lid
  obtain ⟨r1, r2, r3, r4, _⟩ := reserveOne_spec now hour _ h h' v e1
  refine ⟨by simp only [List.map_cons, ih1, r1], fun x hm => ?_⟩
  rcases List.mem_cons.mp hm with rfl | hm'
  · exact ⟨r4 ▸ tf1, (h, v), List.mem_cons_self .., r1, r2, r3⟩
  · obtain ⟨a, p, hp, b⟩ := ih2 x hm'
    exact ⟨a.imp id fun ⟨q, hq, eq⟩ => ⟨q, tf2 q hq, eq⟩, p, List.mem_cons_of_mem _ hp, b⟩

theorem reserveAll_lidver {now hour : Int} :
    ∀ (pairs : List (Handle × Int)) (fr fr' : List (UUID × UUID)) (res : List Handle),
      reserveAll now hour fr pairs = some (res, fr') →
      res.map (fun h => (h.lid, h.version)) = pairs.map (fun p => (p.1.lid, p.2)) := by
  intro pairs fr fr' res e
  refine reserveAll_induct (motive := fun _ pairs res _ => res.map (fun h => (h.lid, h.version)) = pairs.map (fun p => (p.1.lid, p.2)))
    (fun _ => rfl) ?_ pairs fr res fr' e
  intro fr h v rest h' hs fr' e1 _ ih
  obtain ⟨r1, _, r3, _, r5, _⟩ := reserveOne_spec now hour _ h h' v e1
  simp only [List.map_cons, ih, r1, r3, r5]

theorem pairs_cover (u : List (UUID × Int)) (hs : List Handle) (hall : ∀ x ∈ u, ∃ h ∈ hs, h.lid = x.1) :
    (u.filterMap (fun (x : UUID × Int) => (hs.find? (·.lid == x.1)).map (fun h => (h, x.2)))).map (fun p => (p.1.lid, p.2)) = u := by
  induction u with
  | nil => rfl
  | cons x t ih =>
    rw [List.filterMap_cons]
    cases hf : hs.find? (·.lid == x.1) with
    | none =>
      obtain ⟨h, hm, e⟩ := hall x (List.mem_cons_self ..)
      have := List.find?_eq_none.mp hf h hm
      simp [e] at this
    | some h =>
      simp only [Option.map_some, List.map_cons]
      have : h.lid = x.1 := by
        have := List.find?_some hf
        simpa using this
      rw [this, ih (fun y hy => hall y (List.mem_cons_of_mem _ hy))]

theorem oldAct_of_known {h : Handle} (hk : Known s0 w fresh0 h) (hn : h.lid ∉ w.newIds) : OldAct s0 h := by
  rcases hk.1 with ⟨a, _⟩ | ⟨h0, e0, e1⟩
  · exact absurd a hn
  · exact ⟨h0, e0, e1⟩

end

end Sop.Commit
