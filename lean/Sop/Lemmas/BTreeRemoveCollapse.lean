import Sop.Lemmas.BTreeRemoveSuccessor
import Sop.Lemmas.BTreeRemoveUnlink
/-! Remove side of Model B (C17): a one-item node with a single live child goes away. `promote_drops`:
`promoteSingleChildAsParentChild` puts the child in its place; `rnc_collapse_drops`: at the root, the root takes over
the child's content. -/
namespace Sop.BTree.Rem
open Sop.BTree

theorem reparent_local (t T : BTree) (c p' : NodeId) (cn : Node) (hsl : T.sl = t.sl)
    (hgc : t.get? c = some cn) (hgc' : T.get? c = some { cn with parent := p' }) :
    ∀ (f : Nat) (q : NodeId) (l h : Option Int), q ≠ 0 → WFNode t f c q l h → (reach t f c).Nodup →
      (∀ k ∈ reach t f c, k ≠ c → T.get? k = t.get? k) →
      WFNode T f c p' l h ∧ absNode T f c = absNode t f c ∧ reach T f c = reach t f c :=
  fun _ _ _ _ hq hw hnd ho => Ins.reparent hsl hw hq (by rw [hgc', hgc]; rfl) ho hnd

theorem promote_sub (t T : BTree) (p n c : NodeId) (nd cn : Node)
    (hother : ∀ k, k ≠ p → k ≠ c → k ≠ n → T.get? k = t.get? k) (hsl : T.sl = t.sl) (hn0 : n ≠ 0)
    (hgn : t.get? n = some nd) (hone : nd.count = 1) (hnk : nd.kids = [c, 0] ∨ nd.kids = [0, c]) (hc0 : c ≠ 0)
    (hgc : t.get? c = some cn) (hgc' : T.get? c = some { cn with parent := p }) :
    ∀ f, WFNode t f n p none none → (reach t f n).Nodup → p ∉ reach t f n →
      c ∈ reach t f n ∧ SNode T f c p ∧ Splice [nd.slot 0] [] (absNode t f n) (absNode T f c) ∧
        Splice [n] [] (reach t f n) (reach T f c)
  | 0, hw, _, _ => absurd hw (by simp [WFNode])
  | f1 + 1, hwn, hndn, hpn => by
    obtain ⟨hwc, hsp, hrn⟩ := subtree_of_single_kid hwn hgn hone hnk hc0
    rw [hrn] at hndn hpn ⊢
    obtain ⟨w1, w2, w3⟩ := reparent_local t T c p cn hsl hgc hgc' f1 n none none hn0 hwc (List.nodup_cons.mp hndn).2
      (fun k hk' hkc => hother k (fun hkp => hpn (hkp ▸ List.mem_cons_of_mem _ hk')) hkc
        (fun hkn => (List.nodup_cons.mp hndn).1 (hkn ▸ hk')))
    rw [absNode_succ T _ _ _ _ _ w1, w2, reach_fuel_le T w1 (Nat.le_succ _), w3]
    exact ⟨List.mem_cons_of_mem _ (self_mem_reach hwc), (WFNode.succ T _ _ _ _ _ w1).snode, hsp,
      [], reach t f1 c, by simp, by simp⟩

theorem promoteSingleChild_eq (t : BTree) (p n c : NodeId) (pn nd : Node) (cs : Array NodeId)
    (hgp : t.get? p = some pn) (hgn : t.get? n = some nd) (hpar : nd.parent = p) (hp0 : p ≠ 0) (hpn : p ≠ n)
    (hcs : pn.children = some cs) (i : Nat) (g : Node → Node) (hg : ∀ x, (g x).id = x.id)
    (hgv : ∀ x, ∃ v, g x = { x with ion := v })
    (hioc : t.getIndexOfChild p n = (t.upd n g, (i : Int))) (hi : i < cs.size)
    (hc : nd.child 0 = c) (hc0 : c ≠ 0) (hgc : (t.get? c).isSome = true) :
    t.promoteSingleChild n =
      some ((((t.upd n g).upd p (fun x => x.setChild i c)).upd c (fun x => { x with parent := p })).del n) := by
  have hgp1 : (t.upd n g).get? p = some pn := by rw [get?_upd_ne t g hg hpn]; exact hgp
  have hgn1 : (t.upd n g).get? n = some (g nd) := get?_upd_some hg hgn
  have hgc0 : (g nd).child 0 = c := by
    obtain ⟨v, hv⟩ := hgv nd
    rw [hv]; exact hc
  have hgn2 : ((t.upd n g).upd p (fun x => x.setChild i c)).get? n = some (g nd) := by
    rw [get?_upd_ne _ _ (by intro x; rfl) hpn.symm]; exact hgn1
  have hgc2 : (((t.upd n g).upd p (fun x => x.setChild i c)).get? c).isSome = true := by
    rw [get?_upd _ _ _ _ (by intro x; rfl), get?_upd _ _ _ _ hg]
    cases h : t.get? c with
    | none => rw [h] at hgc; simp at hgc
    | some x => simp
  unfold BTree.promoteSingleChild
  simp only [parentOf_eq hgn hpar hp0 hgp, hp0, if_false, hioc, get_of_get? hgp1, hcs, Option.getD_some, get_of_get? hgn1, hgc0]
  rw [if_neg (by omega), Int.toNat_natCast]
  rw [(childOf_of_get hgn2 (by rw [hgc0]; exact hc0) (by rw [hgc0]; exact hgc2)).trans hgc0]
  simp only [hc0, if_false]


/-- the tree `promoteSingleChildAsParentChild` aims at, before the promoted-over node is deleted -/
def promoteTree (t : BTree) (p c : NodeId) (i : Nat) : BTree :=
  (t.upd p (fun x => x.setChild i c)).upd c (fun x => { x with parent := p })

theorem promoteTree_get?_parent (t : BTree) {p c : NodeId} (i : Nat) {pn : Node} (hpc : p ≠ c) (hgp : t.get? p = some pn) :
    (promoteTree t p c i).get? p = some (pn.setChild i c) := by
  rw [promoteTree, get?_upd_ne _ (fun x => { x with parent := p }) (fun _ => rfl) hpc,
    get?_upd_eq t p (fun x => x.setChild i c) (fun _ => rfl), hgp]; rfl

theorem promoteTree_get?_child (t : BTree) {p c : NodeId} (i : Nat) {cn : Node} (hpc : p ≠ c) (hgc : t.get? c = some cn) :
    (promoteTree t p c i).get? c = some { cn with parent := p } := by
  rw [promoteTree, get?_upd_eq _ c (fun x => { x with parent := p }) (fun _ => rfl),
    get?_upd_ne t (fun x => x.setChild i c) (fun _ => rfl) hpc.symm, hgc]; rfl

theorem promoteTree_get?_other (t : BTree) (p c : NodeId) (i : Nat) {k : NodeId} (h1 : k ≠ p) (h2 : k ≠ c) :
    (promoteTree t p c i).get? k = t.get? k := by
  rw [promoteTree, get?_upd_ne _ (fun x => { x with parent := p }) (fun _ => rfl) h2,
    get?_upd_ne t (fun x => x.setChild i c) (fun _ => rfl) h1]

theorem promote_drops (t : BTree) (hwf : WFs t) (n c : NodeId) (nd : Node) (G : Node → Node)
    (hG : ∀ y, (G y).id = y.id) (hGp : (G nd).parent = nd.parent) (hGi : (G nd).ion = nd.ion) (hGc : (G nd).child 0 = c)
    (hin : n ∈ reach t (t.nodes.length + 1) t.root) (hgn : t.get? n = some nd) (hnroot : n ≠ t.root)
    (hone : nd.count = 1) (hnk : nd.kids = [c, 0] ∨ nd.kids = [0, c]) (hc0 : c ≠ 0) :
    ∃ U, (t.upd n G).promoteSingleChild n = some U ∧ Drops t (nd.slot 0) U := by
  have hn0 := reach_ne_zero _ _ _ _ hin
  obtain ⟨p, pn, cs, i, g, hp⟩ := parent_index t hwf n nd G hG hGi hin hgn hnroot
  -- the kid `c` of `n` is stored, and it is neither `n` nor `p`: the subtree of `p` lists every node once
  obtain ⟨fp, qp, lop, hip, hfp, hwp, hndp, _⟩ := reach_facts hwf.toWFR hp.mem
  obtain ⟨f0, rfl⟩ := hwp.fuel_pos
  rw [reach_kids f0 hp.ne_zero hp.get] at hndp
  have hmem : n ∈ pn.kids := List.mem_of_getElem? hp.kid
  have hwn0 := hwp.kid_mem hp.get hmem hn0
  obtain ⟨f1, rfl⟩ := hwn0.fuel_pos
  obtain ⟨hwc, _, hrn⟩ := subtree_of_single_kid hwn0 hgn hone hnk hc0
  obtain ⟨_, cn, hgc, _⟩ := WFNode.node hwc
  have hndn := nodup_flatMap_mem _ _ (List.nodup_cons.mp hndp).2 n hmem
  rw [hrn] at hndn
  have hcn : c ≠ n := fun h => (List.nodup_cons.mp hndn).1 (h ▸ self_mem_reach hwc)
  have hpc : p ≠ c := fun h => (List.nodup_cons.mp hndp).1 (h ▸ List.mem_flatMap.mpr
    ⟨n, hmem, by rw [hrn]; exact List.mem_cons_of_mem _ (self_mem_reach hwc)⟩)
  refine ⟨_, promoteSingleChild_eq (t.upd n G) p n c pn (G nd) cs hp.getG hp.getGn (by rw [hGp]; exact hp.parent) hp.ne_zero
    hp.ne hp.children i g hp.g_id hp.g_ion hp.index hp.lt hGc hc0 (by rw [get?_upd_ne t G hG hcn, hgc]; rfl), ?_⟩
  -- the result is `promoteTree t p c i` without `n`
  have hsc : ∀ x : Node, (x.setChild i c).id = x.id := fun _ => rfl
  have hrp' : ∀ x : Node, ({ x with parent := p } : Node).id = x.id := fun _ => rfl
  have hget : ∀ k, k ≠ n → (((((t.upd n G).upd n g).upd p (fun x => x.setChild i c)).upd c
      (fun x => { x with parent := p })).del n).get? k = (promoteTree t p c i).get? k := by
    intro k hk
    rw [get?_del _ hn0, if_neg hk, promoteTree, get?_upd _ _ _ _ hrp', get?_upd _ _ _ _ hsc, get?_upd_ne _ g hp.g_id hk,
      get?_upd_ne t G hG hk, get?_upd _ _ _ _ hrp', get?_upd _ _ _ _ hsc]
  refine kid_drops t _ hwf p n c pn (pn.setChild i c) (nd.slot 0) i hp.mem hp.get
    (by rw [hget p hp.ne]; exact promoteTree_get?_parent t i hpc hp.get) (SetKid.setChild hp.shape hp.children hp.le c)
    hp.kid hn0
    (Fewer.del hn0 (nd := g (G nd))
      (by rw [get?_upd_ne _ _ hrp' hcn.symm, get?_upd_ne _ _ hsc hp.ne.symm, get?_upd_eq _ _ _ hp.g_id, hp.getGn]; rfl)
      rfl (by simp [BTree.upd]))
    (fun f hw hnd' hpn => ?_)
  have hUo : ∀ k, k ≠ p → k ≠ c → k ≠ n → (((((t.upd n G).upd n g).upd p (fun x => x.setChild i c)).upd c
      (fun x => { x with parent := p })).del n).get? k = t.get? k :=
    fun k h1 h2 h3 => (hget k h3).trans (promoteTree_get?_other t p c i h1 h2)
  obtain ⟨h1, h2, h3, h4⟩ := promote_sub t _ p n c nd cn hUo (by rw [del_sl]; rfl) hn0 hgn hone hnk hc0 hgc
    (by rw [hget c hcn]; exact promoteTree_get?_child t i hpc hgc) f hw hnd' hpn
  exact ⟨Or.inr h2, h3, h4, fun k hkp hk => hUo k hkp (fun hkc => hk (hkc ▸ h1))
    (fun hkn => hk (by rw [hkn]; exact self_mem_reach hw))⟩

theorem goCopy_full {α : Type} (dst src : Array α) (h : dst.size = src.size) : goCopy dst 0 src 0 src.size = src := by
  apply Array.toList_inj.mp
  unfold goCopy
  have hl : ((src.toList.drop 0).take (src.size - 0)).length = src.size := by simp
  rw [writeAt_toList _ _ _ (by rw [hl]; omega), hl]
  have h1 : src.toList.take src.size = src.toList := List.take_of_length_le (by simp)
  have h2 : dst.toList.drop src.size = [] := List.drop_of_length_le (by simp; omega)
  simp [h1, h2]

theorem mem_kids_of_mem_children {t : BTree} {cn : Node} {arr : Array NodeId} (hs : NodeShape t cn)
    (hc : cn.children = some arr) {k : NodeId} (hk0 : k ≠ 0) : k ∈ arr.toList ↔ k ∈ cn.kids := by
  rw [Node.kids_some hc]
  constructor
  · intro h
    rw [← List.take_append_drop (cn.count + 1) arr.toList] at h
    exact (List.mem_append.mp h).resolve_right fun h => hk0 (hs.children_tail hc k h)
  · exact List.mem_of_mem_take

/-- the tree `T` the root collapse builds from `b` before it deletes `c`: `n` holds `c`'s lists, `c`'s kids point to `n` -/
structure Collapsed (b T : BTree) (n : NodeId) (x1 cn : Node) : Prop where
  sl : T.sl = b.sl
  root : T.root = b.root
  panicked : T.panicked = b.panicked
  count : T.count = b.count
  len : T.nodes.length = b.nodes.length
  atRoot : T.get? n = some { x1 with slots := cn.slots, count := cn.count, children := cn.children }
  others : ∀ k, k ≠ n → T.get? k = (b.get? k).map (fun x => if k ≠ 0 ∧ k ∈ cn.kids then { x with parent := n } else x)

theorem collapse_drops (t T : BTree) (hws : WFs t) (n c : NodeId) (nd cn : Node)
    (hroot : t.root = n) (hg : t.get? n = some nd) (hone : nd.count = 1)
    (hnk : nd.kids = [c, 0] ∨ nd.kids = [0, c]) (hc0 : c ≠ 0) (hgc : t.get? c = some cn)
    (hT : Collapsed (t.upd n (rncUpd nd 0)) T n (rncNode nd 0) cn) :
    Drops t (nd.slot 0) (T.del c) := by
  have hwt := hws.wf
  have hnd := hws.nodup
  have hl := hws.all
  rw [hroot] at hwt hnd hl
  have hn0 := hroot ▸ hws.rootNZ
  obtain ⟨hwc, hsp, hrn⟩ := subtree_of_single_kid hwt hg hone hnk hc0
  obtain ⟨f1, hN⟩ := hwc.fuel_pos
  rw [hN] at hwc hsp hrn hnd hl
  have hsc := hwc.shape hgc
  have hs := hwt.shape hg
  -- the record the root ends with has `c`'s lists
  have hrs : NodeShape t ({ rncNode nd 0 with slots := cn.slots, count := cn.count, children := cn.children } : Node) :=
    ⟨hsc.slots_size, hsc.count_le, hs.ion_bounds, hsc.slots_tail, hsc.2.2.2.2⟩
  rw [hrn, hwc.reach_kids hgc] at hnd hl
  obtain ⟨hnn, hnd1⟩ := List.nodup_cons.mp hnd
  obtain ⟨hcc, hndK⟩ := List.nodup_cons.mp hnd1
  have hcn : c ≠ n := fun h => hnn (h ▸ List.mem_cons_self)
  have hslU : (T.del c).sl = t.sl := by rw [del_sl]; exact hT.sl
  -- what `T.del c` stores below `c`: the kids of `c` point to `n`
  have hUo : ∀ k ∈ cn.kids.flatMap (reach t f1), (T.del c).get? k =
      (t.get? k).map (fun x => if k ∈ cn.kids then { x with parent := n } else x) := by
    intro k hk
    have hkn : k ≠ n := fun h => hnn (by rw [← h]; exact List.mem_cons_of_mem _ hk)
    have hk0 : k ≠ 0 := by
      obtain ⟨x, _, hx⟩ := List.mem_flatMap.mp hk; exact reach_ne_zero t f1 x k hx
    rw [get?_del _ hc0, if_neg (fun h => hcc (by rw [← h]; exact hk)), hT.others k hkn, get?_upd_ne t _ (rncUpd_id nd 0) hkn]
    simp only [hk0, ne_eq, not_false_eq_true, true_and]
  obtain ⟨hkU, hfr⟩ := Kids.reparent hslU hc0 (hwc.kids hgc) hndK (fun _ => n)
    (fun j hj hj0 => by
      have hm := getD_mem cn.kids j 0 hj
      rw [hUo _ (List.mem_flatMap.mpr ⟨_, hm, (hwc.kids hgc).self_mem hm hj0⟩)]; simp only [hm, if_true])
    (fun y hy hyK => by rw [hUo y hy]; simp only [hyK, if_false]; exact Option.map_id')
  have hUn : (T.del c).get? n = some { rncNode nd 0 with slots := cn.slots, count := cn.count, children := cn.children } :=
    (get?_del T hc0 n).trans ((if_neg hcn.symm).trans hT.atRoot)
  obtain ⟨hS, hA, hR⟩ := SNode.of_kids (f := f1) hn0 hUn (hwt.parent_eq hg : nd.parent = 0) (nodeShape_congr hslU hrs) (Or.inl rfl)
    (fun x hx => by
      obtain ⟨j, hj, rfl⟩ := List.mem_iff_getElem.mp hx
      rw [← getD_of_lt _ _ 0 hj]; exact hkU j hj)
  have hA' : absNode (T.del c) (f1 + 1) n = absNode t (f1 + 1) c :=
    hA.trans ((weave_congr _ _ fun x hx => (hfr x hx).1).trans (hwc.abs_kids hgc).symm)
  have hR' : reach (T.del c) (f1 + 1) n = n :: cn.kids.flatMap (reach t f1) :=
    hR.trans (congrArg _ (flatMap_congr' _ fun x hx => (hfr x hx).2))
  have hrU : (T.del c).root = n := by rw [del_root, hT.root]; exact hroot
  have hlenU : (T.del c).nodes.length < t.nodes.length := by
    have := del_length_lt T hc0 (by rw [hT.others c hcn, get?_upd_ne t _ (rncUpd_id nd 0) hcn, hgc]; rfl)
    have := hT.len
    simp only [BTree.upd, List.length_map] at this
    omega
  obtain ⟨hwsU, habs, _⟩ := wfs_close (T.del c) (f1 + 1) (hslU ▸ hws.sl) (hrU ▸ hn0)
    (hrU ▸ hS.wfNode (hA' ▸ wfNode_good t _ _ _ _ _ hwc))
    (by rw [hrU, hR']; exact List.nodup_cons.mpr ⟨fun h => hnn (List.mem_cons_of_mem _ h), hndK⟩)
    (by rw [hrU, hR']; simp only [List.length_cons] at hl ⊢; omega)
  refine ⟨hwsU, by rw [del_panicked]; exact hT.panicked, by rw [del_count]; exact hT.count, ?_⟩
  have htabs : t.abs = absNode t (f1 + 1 + 1) n := by unfold BTree.abs; rw [hroot, hN]
  rw [htabs, habs, hrU, hA']
  exact splice_del hsp


theorem rncTail_root (t1 : BTree) (n c : NodeId) (nd x1 cn : Node) (hroot : nd.isRoot = true) (hone : nd.count = 1)
    (hK : (rncKids nd 0).getD 0 0 = c) (hc0 : c ≠ 0)
    (hg1 : t1.get? n = some x1) (hx1 : x1.children = some (rncKids nd 0)) (hgc : t1.get? c = some cn)
    (hs1 : NodeShape t1 x1) (hsc : NodeShape t1 cn)
    (hnil : ((rncKids nd 0).setIfInBounds 0 0).all (· == 0) = true) (hnot : n ∉ cn.kids) :
    ∃ T : BTree, rncTail t1 n nd 0 = some (T.del c, .ok true) ∧ Collapsed t1 T n x1 cn := by
  have hx : x1.child 0 = c := by simp only [Node.child, hx1, Option.getD_some]; exact hK
  have hco : t1.childOf n 0 = c := (childOf_of_get hg1 (by rw [hx]; exact hc0) (by rw [hx, hgc]; rfl)).trans hx
  have hf2 : ∀ x : Node,
      ({ x with slots := goCopy x.slots 0 cn.slots 0 cn.slots.size, count := cn.count } : Node).id = x.id := fun _ => rfl
  have hg2 : (t1.upd n (fun x => { x with slots := goCopy x.slots 0 cn.slots 0 cn.slots.size, count := cn.count })).get? n
      = some { x1 with slots := cn.slots, count := cn.count } := by
    rw [get?_upd_eq _ _ _ hf2, hg1]
    simp only [Option.map_some, goCopy_full _ _ (hs1.slots_size.trans hsc.slots_size.symm)]
  unfold rncTail
  simp only
  rw [if_pos ⟨by omega, by rw [hK]; exact hc0⟩, if_pos hroot, hco]
  simp only [hc0, if_false, get_of_get? hgc]
  cases hcc : cn.children with
  | none =>
    have hf3 : ∀ x : Node, (x.setChild 0 0).id = x.id := fun _ => rfl
    have hf4 : ∀ x : Node, (if x.isNilChildren then { x with children := none } else x : Node).id = x.id := by
      intro x; split <;> rfl
    simp only [Node.hasChildren, hcc, Option.isSome_none, Bool.false_eq_true, if_false]
    refine ⟨_, rfl, rfl, rfl, rfl, rfl, by simp, ?_, ?_⟩
    · rw [get?_upd_eq _ _ _ hf4, get?_upd_eq _ _ _ hf3, hg2]
      simp only [Option.map_some, Node.setChild, hx1, Node.isNilChildren, Option.getD_some, hnil, if_true, hcc]
    · intro k hk
      rw [get?_upd_ne _ _ hf4 hk, get?_upd_ne _ _ hf3 hk, get?_upd_ne _ _ hf2 hk]
      cases t1.get? k with
      | none => rfl
      | some y => rw [Option.map_some, if_neg fun h => h.1 (List.eq_of_mem_replicate (Node.kids_none hcc ▸ h.2))]
  | some arr =>
    have hf3 : ∀ x : Node, ({ x with children := some (goCopy (rncKids nd 0) 0 arr 0 arr.size) } : Node).id = x.id :=
      fun _ => rfl
    have hg3 : ((t1.upd n (fun x => { x with slots := goCopy x.slots 0 cn.slots 0 cn.slots.size, count := cn.count })).upd n
        (fun x => { x with children := some (goCopy (rncKids nd 0) 0 arr 0 arr.size) })).get? n
        = some { x1 with slots := cn.slots, count := cn.count, children := some arr } := by
      rw [get?_upd_eq _ _ _ hf3, hg2]
      simp only [Option.map_some, goCopy_full _ _ ((hs1.children_size hx1).trans (hsc.children_size hcc).symm)]
    simp only [Node.hasChildren, hcc, Option.isSome_some, if_true, Option.getD_some]
    rw [get_of_get? hg3]
    simp only [Option.getD_some]
    obtain ⟨h1, h2, h3, h4⟩ := updateChildrenParent_fields
      ((t1.upd n (fun x => { x with slots := goCopy x.slots 0 cn.slots 0 cn.slots.size, count := cn.count })).upd n
        (fun x => { x with children := some (goCopy (rncKids nd 0) 0 arr 0 arr.size) })) n arr
    -- `updateChildrenParent` speaks of the children array; behind `count + 1` it holds nil only
    have hkids : ∀ k, (k ≠ 0 ∧ k ∈ arr.toList) ↔ (k ≠ 0 ∧ k ∈ cn.kids) :=
      fun k => and_congr_right fun h0 => mem_kids_of_mem_children hsc hcc h0
    refine ⟨_, rfl, h1, h2, h4, h3, by rw [updateChildrenParent_length]; simp, ?_, ?_⟩
    · rw [updateChildrenParent_get?, hg3, Option.map_some, if_neg fun h => hnot ((hkids n).mp h).2, hcc]
    · intro k hk
      rw [updateChildrenParent_get?, get?_upd_ne _ _ hf3 hk, get?_upd_ne _ _ hf2 hk]
      simp only [hkids k]


/-- the inner root with one item whose only live child is `c` takes over the child's content (the tree loses a level) -/
theorem rnc_collapse_drops (t : BTree) (hws : WFs t) (n c : NodeId) (nd : Node) (hroot : t.root = n)
    (hg : t.get? n = some nd) (hch : nd.children.isSome = true) (hone : nd.count = 1)
    (hK : (rncKids nd 0).getD 0 0 = c) (hnk : nd.kids = [c, 0] ∨ nd.kids = [0, c]) (hc0 : c ≠ 0) :
    ∃ U, rncTail (t.upd n (rncUpd nd 0)) n nd 0 = some (U, .ok true) ∧ Drops t (nd.slot 0) U := by
  have hwt := hws.wf
  have hnd := hws.nodup
  rw [hroot] at hwt hnd
  obtain ⟨hn0, hpar0, hs, _, hkn⟩ := wfNode_kids hwt hg
  obtain ⟨cs, hcs⟩ := Option.isSome_iff_exists.mp hch
  have hi : 0 < nd.count := by omega
  have hcm : c ∈ nd.kids := by rcases hnk with e | e <;> rw [e] <;> simp
  obtain ⟨lc, hc', hwc⟩ := (KidsOk.mem _ _ _ _ hkn c hcm).resolve_left hc0
  cases hN : t.nodes.length with
  | zero => rw [hN] at hwc; exact absurd hwc (by simp [WFNode])
  | succ f1 =>
    rw [hN] at hwc hnd
    obtain ⟨_, cn, hgc, _⟩ := WFNode.node hwc
    obtain ⟨_, _, hsc, _, hkcn⟩ := wfNode_kids hwc hgc
    rw [reach_kids _ hn0 hg] at hnd
    have hnn := (List.nodup_cons.mp hnd).1
    have hbelow : ∀ k ∈ reach t (f1 + 1) c, k ≠ n :=
      fun k hk h => hnn (List.mem_flatMap.mpr ⟨c, hcm, h ▸ hk⟩)
    have hcn : c ≠ n := hbelow c (self_mem_reach hwc)
    have hnotkid : n ∉ cn.kids := by
      intro hm
      rcases KidsOk.mem _ _ _ _ hkcn n hm with h | ⟨_, _, hw⟩
      · exact hn0 h
      · refine hbelow n ?_ rfl
        rw [reach_kids f1 hc0 hgc]
        exact List.mem_cons_of_mem _ (List.mem_flatMap.mpr ⟨n, hm, self_mem_reach hw⟩)
    have hidp := rncUpd_id nd 0
    have hshape := rncNode_shape hs hcs hi
    obtain ⟨T, hT, hC⟩ :=
      rncTail_root (t.upd n (rncUpd nd 0)) n c nd (rncNode nd 0) cn (by simp [Node.isRoot, hpar0]) hone hK hc0
        (get?_upd_some hidp hg) rfl (by rw [get?_upd_ne t _ hidp hcn]; exact hgc)
        hshape hsc (rncKids_rest_nil hs hcs hone) hnotkid
    exact ⟨_, hT, collapse_drops t T hws n c nd cn hroot hg hone hnk hc0 hgc hC⟩

end Sop.BTree.Rem
