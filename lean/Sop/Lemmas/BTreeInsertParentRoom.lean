import Sop.Lemmas.BTreeInsertCascade
/-! # C17 update side, `Btree.Add`, stage 4 — split of a full NON-ROOT leaf whose parent has room (leaf load
balancing off): the cascade of `addU_leaf_split_cascade` with no full ancestor between the leaf and the node with room. -/
namespace Sop.BTree.Ins
open Sop.BTree

theorem addU_leaf_split_room (t : BTree) (uniq : Bool) (key : Int) (val : Nat) (n : NodeId) (i : Nat)
    (hwf : WF t) (hok : t.panicked = false) (hidle : Idle t) (hfresh : Fresh t) (hlb : t.lb = false)
    (htgt : addTargetOf t uniq key = .leaf n i)
    (hfull : ¬ ((addStart t uniq).1.get n).count < t.sl)
    (hnotroot : ((addStart t uniq).1.get n).isRoot = false)
    (hroom : ((addStart t uniq).1.get ((addStart t uniq).1.get n).parent).count < t.sl) :
    AddOk t key val (t.addU uniq key val) := by
  have so := addStart_ok t uniq hwf
  obtain ⟨g, hpath, hchildOf, hpar⟩ := (splitCtx t uniq key n i hwf htgt hnotroot).above
  rw [hpar] at hroom
  have hn0 := (splitCtx t uniq key n i hwf htgt hnotroot).n0
  refine addU_leaf_split_cascade t uniq key val n i g hwf hok hidle hfresh hlb htgt hfull hnotroot hpath hroom
    (by rw [hchildOf]; exact hn0) ?_
  rw [hchildOf]
  show fullPath key ((addStart t uniq).1.nodes.length + 2 + 1) _ n n
  unfold fullPath
  exact ⟨by rw [so.sl]; exact hfull, Or.inl rfl⟩

def exSplit : BTree := (BTree.new 2 false false true).run [.add 1 1, .add 2 2, .add 3 3, .add 4 4]

/-- non-vacuity of `addU_leaf_split_room`: slot length 2, root `[2]` over leaves `[1]` and `[3,4]`; `Add 5`
    splits the full right leaf and promotes `4` into the root, which has room -/
theorem exSplit_hyps : WF exSplit ∧ exSplit.panicked = false ∧ Idle exSplit ∧ Fresh exSplit ∧ exSplit.lb = false ∧
    addTargetOf exSplit false 5 = .leaf 5 2 ∧ ¬ ((addStart exSplit false).1.get 5).count < exSplit.sl ∧
    ((addStart exSplit false).1.get 5).isRoot = false ∧
    ((addStart exSplit false).1.get ((addStart exSplit false).1.get 5).parent).count < exSplit.sl := by
  refine ⟨checkWF_sound _ (by decide +kernel), ?_⟩
  unfold Idle Fresh
  decide +kernel

end Sop.BTree.Ins
