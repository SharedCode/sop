import Sop.Lemmas.CommitWitness
import Sop.Model.CommitPre
import Sop.Lemmas.CommitNew
/-!
The executable premise checker is sound: when it reports no violation for a state whose registered logical ids are
all in `lids`, the premises `Pre`, `Pre2` and `Pre3` of the Model P theorems hold.
-/
namespace Sop.Commit

theorem newIds'_eq (w : WS) : w.newIds' = w.newIds := rfl

theorem mem_hs {lids : List UUID} {s : State} (hcl : ∀ i, i ∉ lids → s.reg i = none) {i : UUID} {h : Handle}
    (e : s.reg i = some h) : h ∈ lids.filterMap s.reg := by
  have hi : i ∈ lids := by
    by_cases hm : i ∈ lids
    · exact hm
    · rw [hcl i hm] at e; cases e
  exact List.mem_filterMap.mpr ⟨i, hi, e⟩

theorem chk_nil {name : String} {b : Bool} (h : (if b then ([] : List String) else [name]) = []) : b = true := by
  cases b
  · simp at h
  · rfl

theorem hypCheck_sound (lids : List UUID) (s : State) (w : WS) (fresh : List (UUID × UUID))
    (hcl : ∀ i, i ∉ lids → s.reg i = none) (hv : hypViolations lids s w fresh = []) :
    Pre s w fresh ∧ Pre2 s w fresh ∧ Pre3 w := by
  unfold hypViolations at hv
  simp only [List.append_eq_nil_iff, and_assoc] at hv
  obtain ⟨c1, c2, c3, c4, c5, c6, c7, c8, c9, c10, c11, c12, c13, c14, c15, c16, c17⟩ := hv
  have c1 := chk_nil c1; have c2 := chk_nil c2; have c3 := chk_nil c3; have c4 := chk_nil c4
  have c5 := chk_nil c5; have c6 := chk_nil c6; have c7 := chk_nil c7; have c8 := chk_nil c8
  have c9 := chk_nil c9; have c10 := chk_nil c10; have c11 := chk_nil c11; have c12 := chk_nil c12
  have c13 := chk_nil c13; have c14 := chk_nil c14; have c15 := chk_nil c15; have c16 := chk_nil c16
  have c17 := chk_nil c17
  simp only [List.all_eq_true, Bool.not_eq_true', List.contains_eq_mem, decide_eq_false_iff_not, bne_iff_ne, ne_eq,
    Bool.or_eq_true, beq_iff_eq, decide_eq_true_eq, Option.isNone_iff_eq_none, newIds'_eq] at c1 c2 c3 c4 c5 c6 c7 c8 c9 c10 c11 c12 c13 c14 c15 c16 c17
  have regwf : ∀ i h, s.reg i = some h → h.lid = i := by
    intro i h e
    have hi : i ∈ lids := by
      by_cases hm : i ∈ lids
      · exact hm
      · rw [hcl i hm] at e; cases e
    have := c1 i hi
    rw [e] at this
    simpa using this
  refine ⟨⟨regwf, c2, ?_, ?_, ?_, ?_, ?_, ?_⟩, ⟨c9, ?_, ?_, ?_, ?_, ?_, ?_⟩, ⟨of_decide_eq_true c16, c17⟩⟩
  · intro i h e; exact c3 h (mem_hs hcl e)
  · intro i h e p hp; exact c4 h (mem_hs hcl e) p hp
  · intro i j h h' e e' hne
    rcases c5 h (mem_hs hcl e) with z | z
    · exact absurd z hne
    · exact z h' (mem_hs hcl e')
  · intro i h e hne
    rcases c6 h (mem_hs hcl e) with z | z
    · exact absurd z hne
    · exact z
  · exact c7
  · intro i h e; exact c8 h (mem_hs hcl e)
  · exact c10
  · exact c11
  · exact c12
  · intro i j h h' e e' hne
    rcases c13 h (mem_hs hcl e) h' (mem_hs hcl e') with z | z
    · rw [regwf i h e, regwf j h' e'] at z; exact absurd z hne
    · exact z
  · intro i h e; exact c14 h (mem_hs hcl e)
  · exact c15

end Sop.Commit

namespace Sop.Commit.Witness
open Sop.Commit

theorem s0_reg_none (i : UUID) (hi : i ∉ [1]) : s0.reg i = none := by
  simp only [s0, State.setReg, State.setBlob]
  split
  · rename_i h; exact absurd (List.mem_singleton.mpr h) hi
  · rfl

/-- the hypotheses of the commit theorems are satisfiable: the split witness (node 1 updated, node 2 added, staged id 9) passes
the premise checker -/
theorem premises_wSplit : Pre s0 wSplit [(1, 9)] ∧ Pre2 s0 wSplit [(1, 9)] ∧ Pre3 wSplit :=
  hypCheck_sound [1] s0 wSplit [(1, 9)] s0_reg_none (by decide +kernel)

theorem pre_wSplit : Pre s0 wSplit [(1, 9)] := premises_wSplit.1
theorem pre2_wSplit : Pre2 s0 wSplit [(1, 9)] := premises_wSplit.2.1

end Sop.Commit.Witness
