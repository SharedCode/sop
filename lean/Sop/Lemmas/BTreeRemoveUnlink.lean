import Sop.Lemmas.BTreeRemoveDrops
import Sop.Lemmas.BTreeRemoveWrites
/-! Remove side of Model B (C17): a node leaves the tree (`kid_drops`): its entry in the parent's children array becomes
nil (`unlink_drops`) or what is left of its subtree; `RemoveCurrentItem` on a leaf. -/
namespace Sop.BTree.Rem
open Sop.BTree

theorem parent_ne_zero {t : BTree} (hwf : WFs t) {n : NodeId} {nd : Node}
    (hin : n ∈ reach t (t.nodes.length + 1) t.root) (hgn : t.get? n = some nd) (hnroot : n ≠ t.root) : nd.parent ≠ 0 := by
  obtain ⟨p, pn, cs, i, hp⟩ := parent_of hwf.toWFR hin hgn hnroot
  rw [hp.parent]; exact hp.ne_zero

/-- the way from a reachable node `n` other than the root up to its parent `p`, as `unlink` and
    `promoteSingleChildAsParentChild` walk it after `n` itself was rewritten by `G` (which keeps the id and the memoised
    index): `getIndexOfChild` touches at most `n`'s memoised index (`g`) -/
structure ParentAt (t : BTree) (n : NodeId) (nd : Node) (G : Node → Node) (p : NodeId) (pn : Node) (cs : Array NodeId)
    (i : Nat) (g : Node → Node) : Prop where
  mem : p ∈ reach t (t.nodes.length + 1) t.root
  get : t.get? p = some pn
  getG : (t.upd n G).get? p = some pn
  getGn : (t.upd n G).get? n = some (G nd)
  parent : nd.parent = p
  ne_zero : p ≠ 0
  ne : p ≠ n
  shape : NodeShape t pn
  children : pn.children = some cs
  kid : pn.kids[i]? = some n
  le : i ≤ pn.count
  lt : i < cs.size
  g_id : ∀ x, (g x).id = x.id
  g_ion : ∀ x, ∃ v, g x = { x with ion := v }
  index : (t.upd n G).getIndexOfChild p n = ((t.upd n G).upd n g, (i : Int))

theorem parent_index (t : BTree) (hwf : WFs t) (n : NodeId) (nd : Node) (G : Node → Node)
    (hG : ∀ y, (G y).id = y.id) (hGi : (G nd).ion = nd.ion)
    (hin : n ∈ reach t (t.nodes.length + 1) t.root) (hgn : t.get? n = some nd) (hnroot : n ≠ t.root) :
    ∃ p pn cs i g, ParentAt t n nd G p pn cs i g := by
  have hn0 := reach_ne_zero _ _ _ _ hin
  obtain ⟨p, pn, cs, i0, hp⟩ := parent_of hwf.toWFR hin hgn hnroot
  have hgp1 : (t.upd n G).get? p = some pn := by rw [get?_upd_ne t G hG hp.ne]; exact hp.get
  have hgn1 : (t.upd n G).get? n = some (G nd) := get?_upd_some hG hgn
  obtain ⟨i, g, hgv, hioc, hci, hilt⟩ := getIndexOfChild_spec_ion (t.upd n G) p n pn (G nd) cs hgp1 hgn1 hp.children
    hp.shape (by rw [hGi]; exact (wfs_node_facts hwf hin hgn).1.ion_bounds) hn0 i0 hp.le hp.entry
  exact ⟨p, pn, cs, i, g, hp.mem, hp.get, hgp1, hgn1, hp.parent, hp.ne_zero, hp.ne, hp.shape, hp.children,
    kids_getElem? hp.shape hp.children hilt hci hn0, kid_index_le hp.shape hp.children hilt hci hn0, hilt,
    fun x => by obtain ⟨v, hv⟩ := hgv x; rw [hv], hgv, hioc⟩

theorem one_item {t : BTree} {nd : Node} (hs : NodeShape t nd) (hone : nd.count = 1) : nd.items = [nd.slot 0] := by
  apply List.ext_getElem?
  intro i
  rcases i with _ | i
  · exact items_getElem? hs (by omega)
  · rw [List.getElem?_eq_none (by rw [Node.items_length hs, hone]; omega)]; rfl

theorem kids_two {t : BTree} {nd : Node} (hs : NodeShape t nd) (hone : nd.count = 1) : nd.kids = [nd.child 0, nd.child 1] := by
  apply List.ext_getElem?
  intro i
  rcases i with _ | _ | i
  · exact kids_getElem?_child hs (by omega)
  · exact kids_getElem?_child hs (by omega)
  · rw [List.getElem?_eq_none (by rw [Node.kids_length hs, hone]; omega)]; rfl

theorem subtree_of_single_kid {t : BTree} {f : Nat} {n p c : NodeId} {l h : Option Int} {nd : Node}
    (hw : WFNode t (f + 1) n p l h) (hg : t.get? n = some nd) (hone : nd.count = 1)
    (hnk : nd.kids = [c, 0] ∨ nd.kids = [0, c]) (hc0 : c ≠ 0) :
    WFNode t f c n none none ∧ Splice [nd.slot 0] [] (absNode t (f + 1) n) (absNode t f c) ∧
      reach t (f + 1) n = n :: reach t f c := by
  obtain ⟨hn0, _, hs, _, _⟩ := wfNode_kids hw hg
  have hwc := hw.kid_mem hg (by rcases hnk with e | e <;> rw [e] <;> simp) hc0
  rw [absNode_kids f hn0 hg hs, reach_kids f hn0 hg, one_item hs hone]
  rcases hnk with e | e
  · rw [e]
    refine ⟨hwc, ?_, by simp [reach_zero]⟩
    simp only [weave, absNode_zero, List.append_nil]
    exact ⟨absNode t f c, [], by simp, by simp⟩
  · rw [e]
    refine ⟨hwc, ?_, by simp [reach_zero]⟩
    simp only [weave, absNode_zero, List.nil_append, List.append_nil]
    exact ⟨[], absNode t f c, by simp, by simp⟩

theorem subtree_of_no_kid {t : BTree} {f : Nat} {n p : NodeId} {lo hi : Option Int} {nd : Node}
    (h : WFNode t f n p lo hi) (hg : t.get? n = some nd) (hone : nd.count = 1) (hk : nd.kids = [0, 0]) :
    absNode t f n = [nd.slot 0] ∧ reach t f n = [n] := by
  cases f with
  | zero => exact absurd h (by simp [WFNode])
  | succ f =>
    obtain ⟨hn0, _, hs, _, _⟩ := wfNode_kids h hg
    constructor
    · rw [absNode_kids f hn0 hg hs, hk, one_item hs hone]; simp [weave, absNode_zero]
    · rw [reach_kids f hn0 hg, hk]; simp [reach_zero]

theorem SetKid.dropKid {t : BTree} {pn : Node} {cs : Array NodeId} (hs : NodeShape t pn) (hcs : pn.children = some cs)
    {i : Nat} (hi : i ≤ pn.count) : SetKid t pn (dropKid i pn) i 0 :=
  ⟨dropKid_parent _ _, dropKid_count _ _, dropKid_items _ _, dropKid_shape hs hi, dropKid_kids hs hcs i⟩

structure Fewer (t U : BTree) : Prop where
  same : shell U = shell t
  len : U.nodes.length < t.nodes.length

theorem Fewer.sl {t U : BTree} (h : Fewer t U) : U.sl = t.sl := (congrArg BTree.sl h.same :)
theorem Fewer.root {t U : BTree} (h : Fewer t U) : U.root = t.root := (congrArg BTree.root h.same :)
theorem Fewer.panicked {t U : BTree} (h : Fewer t U) : U.panicked = t.panicked := (congrArg BTree.panicked h.same :)
theorem Fewer.count {t U : BTree} (h : Fewer t U) : U.count = t.count := (congrArg BTree.count h.same :)

theorem Fewer.del {t V : BTree} {n : NodeId} {nd : Node} (hn0 : n ≠ 0) (hg : V.get? n = some nd)
    (hV : shell V = shell t) (hlen : V.nodes.length = t.nodes.length) : Fewer t (V.del n) :=
  ⟨(shell_del V n).trans hV, hlen ▸ del_length_lt V hn0 hg⟩

/-- Kid `i` of `p`, the subtree at `n`, is replaced in `U` by `c` (nil, or the root of what is left of that subtree), `n`
    itself is gone from the repository and `x` from the contents. `hsub` says what happens to that subtree, which it may
    take to be duplicate-free and not to contain `p`; it is asked at every fuel, and returns its own frame, because the
    fuel at which the context of `p` reaches `n` is found inside the proof. -/
theorem kid_drops (t U : BTree) (hwf : WFs t) (p n c : NodeId) (pn pn' : Node) (x : Item) (i : Nat)
    (hpin : p ∈ reach t (t.nodes.length + 1) t.root) (hg : t.get? p = some pn) (hg' : U.get? p = some pn')
    (hset : SetKid t pn pn' i c) (hi : pn.kids[i]? = some n) (hn0 : n ≠ 0) (hU : Fewer t U)
    (hsub : ∀ f, WFNode t f n p none none → (reach t f n).Nodup → p ∉ reach t f n →
      (c = 0 ∨ SNode U f c p) ∧ Splice [x] [] (absNode t f n) (absNode U f c) ∧
        Splice [n] [] (reach t f n) (reach U f c) ∧ ∀ k, k ≠ p → k ∉ reach t f n → U.get? k = t.get? k) :
    Drops t x U := by
  have hw := hwf.toWFR
  obtain ⟨f1, pp, pre, post, hctx⟩ := Ctx.of_reach hw _ _ _ _ _ p Ctx.root hpin
  obtain ⟨hf, lo, hi', hW⟩ := hctx.wf hw
  have hN := hctx.nodup hw
  obtain ⟨f, rfl⟩ := hW.fuel_pos
  obtain ⟨hp0, _, hs, _, _⟩ := wfNode_kids hW hg
  have hNk := hN
  rw [reach_kids f hp0 hg] at hNk
  obtain ⟨hpnot, hndk⟩ := List.nodup_cons.mp hNk
  have hmem : n ∈ pn.kids := List.mem_of_getElem? hi
  have hwn := hW.kid_mem hg hmem hn0
  have hile : i ≤ pn.count := by
    have := (List.getElem?_eq_some_iff.mp hi).1
    rw [Node.kids_length hs] at this; omega
  have hci : pn.child i = n := by
    have := kids_getElem?_child hs hile
    rw [hi] at this; exact (Option.some.inj this).symm
  have hnp : ∀ k ∈ reach t f n, k ∈ reach t (f + 1) p := fun k hk => by
    rw [reach_kids f hp0 hg]; exact List.mem_cons_of_mem _ (List.mem_flatMap.mpr ⟨n, hmem, hk⟩)
  obtain ⟨hc, hAn, hRn, hfr⟩ := hsub f hwn (nodup_flatMap_mem _ _ hndk n hmem)
    (fun h => hpnot (List.mem_flatMap.mpr ⟨n, hmem, h⟩))
  have hlen := hU.len
  obtain ⟨hS, hA, hR⟩ := SNode.set_kid hW hN hg hile (Nat.le_refl f) hU.sl hg' hset
    (fun k _ hkp hk => hfr k hkp (hci ▸ hk)) hc
  obtain ⟨hA0, hR0⟩ := hW.split_kid hg hile
  rw [hci] at hA0 hR0
  have hAs : Splice [x] [] (absNode t (f + 1) p) (absNode U (f + 1) p) := by rw [hA0, hA]; exact (hAn.pre _).post _
  have hRs : Splice [n] [] (reach t (f + 1) p) (reach U (f + 1) p) := by rw [hR0, hR]; exact (hRn.pre _).post _
  obtain ⟨hndU, -, hlenU⟩ := splice_drop_nodup hRs hN
  have habs := hctx.abs_at hw
  obtain ⟨hws, hUabs, -⟩ := hwf.fill hctx 0 hU.sl hU.root
    (fun k _ hk => hfr k (fun e => hk (by rw [e]; exact self_mem_reach hW)) (fun h => hk (hnp k h)))
    hS hndU (fun k hk => Or.inl (splice_drop_mem hRs k hk)) (by show _ ≤ _ + (reach U (f + 1) p).length; omega)
    (hAs.good (habs ▸ hwf.good) (KeysFrom.nil [x]))
  refine ⟨hws, hU.panicked, hU.count, splice_del ?_⟩
  rw [habs, hUabs]; exact (hAs.pre _).post _

theorem unlink_root (t : BTree) (n : NodeId) (h : (t.get n).parent = 0) : t.unlink n = t := by
  unfold BTree.unlink BTree.parentOf
  simp [h]

/-- `n` may have been rewritten by any `G` before (`rncUpd` after `removeItemOnNodeWithNilChild`, the identity for a
    leaf): what `G` wrote does not matter, `n` is deleted; only its parent link and memoised index are read on the way. -/
theorem unlink_drops (t : BTree) (hwf : WFs t) (n : NodeId) (cn : Node) (G : Node → Node)
    (hG : ∀ y, (G y).id = y.id) (hGp : (G cn).parent = cn.parent) (hGi : (G cn).ion = cn.ion)
    (hin : n ∈ reach t (t.nodes.length + 1) t.root) (hgn : t.get? n = some cn) (hnroot : n ≠ t.root)
    (hone : cn.count = 1) (hk : cn.kids = [0, 0]) :
    Drops t (cn.slot 0) ((t.upd n G).unlink n) := by
  have hn0 := reach_ne_zero _ _ _ _ hin
  obtain ⟨p, pn, cs, i, g, hp⟩ := parent_index t hwf n cn G hG hGi hin hgn hnroot
  rw [unlink_eq (t.upd n G) p n pn (G cn) cs hp.getG hp.getGn (by rw [hGp]; exact hp.parent) hp.ne_zero hp.ne hp.children
    i g hp.g_id hp.index hp.lt]
  have hdk := dropKid_id i
  have hget : ∀ k, k ≠ n → ((((t.upd n G).upd n g).upd p (dropKid i)).del n).get? k = (t.upd p (dropKid i)).get? k := by
    intro k hk
    rw [get?_del _ hn0, if_neg hk, get?_upd _ _ _ _ hdk, get?_upd_ne _ g hp.g_id hk, get?_upd_ne t G hG hk,
      get?_upd _ _ _ _ hdk]
  refine kid_drops t _ hwf p n 0 pn (dropKid i pn) (cn.slot 0) i hp.mem hp.get
    (by rw [hget p hp.ne, get?_upd_eq t _ _ hdk, hp.get]; rfl) (SetKid.dropKid hp.shape hp.children hp.le) hp.kid hn0
    (Fewer.del hn0 (nd := g (G cn))
      (by rw [get?_upd_ne _ _ hdk hp.ne.symm, get?_upd_eq _ _ _ hp.g_id, hp.getGn]; rfl) rfl (by simp [BTree.upd]))
    (fun f hw _ _ => ?_)
  rw [(subtree_of_no_kid hw hgn hone hk).1, (subtree_of_no_kid hw hgn hone hk).2, absNode_zero, reach_zero]
  refine ⟨Or.inl rfl, Splice.here _ _, Splice.here _ _, fun k hkp hk' => ?_⟩
  rw [hget k (fun e => hk' (e ▸ List.mem_singleton_self _)), get?_upd_ne t _ hdk hkp]

/-- an item leaves a node that is rewritten in place and stays -/
theorem upd_drops (t : BTree) (hwf : WFs t) (n : NodeId) (g : Node → Node) (hid : ∀ x, (g x).id = x.id) (x : Item)
    (hin : n ∈ reach t (t.nodes.length + 1) t.root)
    (hloc : ∀ f p, WFNode t f n p none none → (reach t f n).Nodup → Step t (t.upd n g) [x] [] f n p) :
    Drops t x (t.upd n g) :=
  have h := wfs_of_ctx t (t.upd n g) n [x] [] hwf hin rfl rfl (by simp [BTree.upd]) (fun k hk => get?_upd_ne t g hid hk) hloc
    (KeysFrom.nil _)
  ⟨h.1, rfl, rfl, splice_del h.2.1⟩

theorem fixVacatedSlot_many_drops (t : BTree) (hwf : WFs t) (hc : CursorOn t)
    (hleaf : (t.get t.cur.node).children = none) (hmany : 1 < (t.get t.cur.node).count) :
    Drops t t.curItem (t.fixVacatedSlot t.cur.node) := by
  obtain ⟨nd, hg, hcn, hid, hget, hi, hneg⟩ := hc.node
  rw [hget] at hleaf hmany
  rw [fixVacatedSlot_many t _ nd hget hneg hmany, curItem_of_get hget]
  obtain ⟨hs, _⟩ := wfs_node_facts hwf hc.1 hg
  have hidp : ∀ x : Node, ({ x with slots := vacate nd.slots t.cur.idx.toNat nd.count, count := nd.count - 1 } : Node).id = x.id :=
    fun _ => rfl
  exact upd_drops t hwf t.cur.node _ hidp (nd.slot t.cur.idx.toNat) hc.1
    (leaf_local t _ t.cur.node nd (vacNode nd t.cur.idx.toNat) t.cur.idx.toNat rfl hg
      (get?_upd_some hidp hg)
      hleaf hleaf rfl (vacNode_shape hs hleaf hi) (Or.inr (by simp [vacNode]; omega)) hi (vacNode_items hs hi))

theorem fixVacatedSlot_unlink_drops (t : BTree) (hwf : WFs t) (hc : CursorOn t)
    (hleaf : (t.get t.cur.node).children = none) (hone : (t.get t.cur.node).count = 1) (hnroot : t.cur.node ≠ t.root) :
    Drops t t.curItem (t.fixVacatedSlot t.cur.node) := by
  obtain ⟨cn, hgn, hcn, hid, hget, hi, hneg⟩ := hc.node
  rw [hget] at hleaf hone
  have hpos : t.cur.idx.toNat = 0 := by omega
  have h := unlink_drops t hwf _ cn (fun x => x) (fun _ => rfl) rfl rfl hc.1 hgn hnroot hone
    (by rw [Node.kids_none hleaf, hone]; rfl)
  rw [upd_id] at h
  rw [fixVacatedSlot_unlink t _ cn hget hneg hone (parent_ne_zero hwf hc.1 hgn hnroot) hleaf, curItem_of_get hget, hpos]
  exact h

theorem fixVacatedSlot_rootOne_drops (t : BTree) (hwf : WFs t) (hc : CursorOn t)
    (hleaf : (t.get t.cur.node).children = none) (hone : (t.get t.cur.node).count = 1) (hroot : t.cur.node = t.root) :
    Drops t t.curItem (t.fixVacatedSlot t.cur.node) := by
  obtain ⟨nd, hg, hcn, hid, hget, hi, hneg⟩ := hc.node
  rw [hget] at hleaf hone
  obtain ⟨hs, hpar⟩ := wfs_node_facts hwf hc.1 hg
  have hidp : ∀ x : Node, (emptyRoot x).id = x.id := fun _ => rfl
  have hpos : t.cur.idx.toNat = 0 := by omega
  rw [fixVacatedSlot_rootOne t _ nd hget hneg hone (hpar hroot)]
  obtain ⟨h1, _, _, h2⟩ := upd_drops t hwf t.cur.node emptyRoot hidp (nd.slot 0) hc.1
    (leaf_local t _ t.cur.node nd (emptyRoot nd) 0 rfl hg (get?_upd_some hidp hg)
      hleaf hleaf rfl (emptyRoot_eq hone ▸ vacNode_shape hs hleaf (by omega)) (Or.inl (hpar hroot)) (by omega)
      (emptyRoot_eq hone ▸ vacNode_items hs (by omega)))
  obtain ⟨h3, h4, _⟩ := WFs.congr h1 (t' := (t.upd t.cur.node emptyRoot).setCur 0 0) rfl rfl (by simp) (fun k => rfl)
  refine ⟨h3, rfl, rfl, ?_⟩
  rw [curItem_of_get hget, hpos, h4]
  exact h2

theorem fixVacatedSlot_leaf_drops (t : BTree) (hwf : WFs t) (hc : CursorOn t) (hleaf : (t.get t.cur.node).children = none) :
    Drops t t.curItem (t.fixVacatedSlot t.cur.node) := by
  by_cases hmany : 1 < (t.get t.cur.node).count
  · exact fixVacatedSlot_many_drops t hwf hc hleaf hmany
  · have hone : (t.get t.cur.node).count = 1 := by
      have := hc.2.1; have := hc.2.2; omega
    by_cases hroot : t.cur.node = t.root
    · exact fixVacatedSlot_rootOne_drops t hwf hc hleaf hone hroot
    · exact fixVacatedSlot_unlink_drops t hwf hc hleaf hone hroot

theorem removeCurrent_leaf_eq (t : BTree) (hwf : WF t) (hc : CursorOn t) (hleaf : (t.get t.cur.node).children = none) :
    t.removeCurrent =
      ({ (t.fixVacatedSlot t.cur.node).setCur 0 0 with count := ((t.fixVacatedSlot t.cur.node).setCur 0 0).count - 1 }, .ok true) := by
  obtain ⟨nd, hg, hcn, hid, hget, hi, hneg⟩ := hc.node
  have hlive := cur_live hwf hc hg
  rw [hget] at hleaf
  unfold BTree.removeCurrent
  rw [hcn]
  simp only [hneg, if_false, hlive, Node.hasChildren, hleaf, Option.isSome_none, Bool.false_eq_true, hid]

/-- `RemoveCurrentItem` with the cursor on an occupied slot of a leaf: exactly the cursor's item leaves the contents. -/
theorem removeCurrent_leaf_ok (t : BTree) (hwf : WF t) (hp : t.panicked = false) (hc : CursorOn t)
    (hleaf : (t.get t.cur.node).children = none) :
    Removed t t.removeCurrent (TakesOut t.abs t.curItem) :=
  have hroot := root_ne_zero_of_reach hc.1
  (fixVacatedSlot_leaf_drops t (WF.wfs hwf hroot) hc hleaf).finish (WF.count_eq hwf hroot) hp (removeCurrent_leaf_eq t hwf hc hleaf)

end Sop.BTree.Rem
