import Sop.Lemmas.BTreeInsertLeafSplit
import Sop.Lemmas.BTreeInsertSteps
/-! # C17 update side, `Btree.Add`: the promote cascade, the model's steps.
What `addOnLeaf` on a full non-root leaf (`leafSplit_spec`) and `promoteStep` on a full non-root inner node
(`innerSplit_spec`) store where; the state of the promote loop (`PState`), its base case after the leaf split
(`leaf_pstate`) and its preservation by one splitting step (`inner_step`); both prove a `Split` and store its
bounded reading (`Split.pending`), which the next step reads back (`PState.virt`). -/
namespace Sop.BTree.Ins
open Sop.BTree

/-- the `sl + 1` items of the over-full node -/
def innerTemp (t : BTree) (gnd : Node) (idx : Nat) : Array Item :=
  (shiftSlots (goCopy (zeros (t.sl + 1)) 0 gnd.slots 0 t.sl) idx t.sl).setIfInBounds idx t.tempParent

/-- the `sl + 2` children of the over-full node -/
def innerTc (t : BTree) (gnd : Node) (cs : Array NodeId) (idx : Nat) : Array NodeId :=
  (shiftSlots ((goCopy (zeroIds (t.sl + 2)) 0 cs 0 (t.sl + 1)).setIfInBounds idx t.tpc0) (idx + 1)
    (gnd.count + 1)).setIfInBounds (idx + 1) t.tpc1

def innerRight (t : BTree) (gnd : Node) (temp : Array Item) (tc : Array NodeId) : Node :=
  { id := t.nextId, parent := gnd.parent, slots := goCopy (zeros t.sl) 0 temp (t.sl / 2 + 1) (t.sl / 2 + 1 + t.sl / 2),
    count := t.sl / 2,
    children := some (goCopy (zeroIds (t.sl + 1)) 0 tc (t.sl / 2 + 1) (t.sl / 2 + 1 + t.sl / 2 + 1)), ion := -1 }

def innerLeftF (t : BTree) (temp : Array Item) (tc : Array NodeId) (x : Node) : Node :=
  { x with slots := goCopy (zeros x.slots.size) 0 temp 0 (t.sl / 2), count := t.sl / 2,
           children := some (goCopy (zeroIds (t.sl + 1)) 0 tc 0 (t.sl / 2 + 1)) }

def setTemp (t : BTree) (a : Item) (b c : NodeId) : BTree := { t with tempParent := a, tpc0 := b, tpc1 := c }
def setProm (t : BTree) (p : NodeId) (i : Int) : BTree := { t with promTarget := p, promIdx := i }

/-- a splitting `promote` step after the new right node was stored -/
def innerT4 (t : BTree) (g : NodeId) (gnd : Node) (cs : Array NodeId) (idx : Nat) : BTree :=
  ((({ t with nextId := t.nextId + 1 } : BTree).upd g (innerLeftF t (innerTemp t gnd idx) (innerTc t gnd cs idx))).updateChildrenParent
    (innerRight t gnd (innerTemp t gnd idx) (innerTc t gnd cs idx)).id
    ((innerRight t gnd (innerTemp t gnd idx) (innerTc t gnd cs idx)).children.getD #[])).put
    (innerRight t gnd (innerTemp t gnd idx) (innerTc t gnd cs idx))

/-- the state of a splitting `promote` step just before it looks up the grandparent -/
def innerPre (t : BTree) (g : NodeId) (gnd : Node) (cs : Array NodeId) (idx : Nat) : BTree :=
  setTemp ((innerT4 t g gnd cs idx).updateChildrenParent g (((innerT4 t g gnd cs idx).get g).children.getD #[]))
    ((innerTemp t gnd idx).getD (t.sl / 2) {}) g (innerRight t gnd (innerTemp t gnd idx) (innerTc t gnd cs idx)).id

/-- the tail of a splitting `promote` step: look up the grandparent and the node's index in it -/
def innerTail (pre : BTree) (g : NodeId) : BTree :=
  if pre.parentOf g = 0 then pre.panic
  else setProm (pre.getIndexOfChild (pre.parentOf g) g).1 (pre.parentOf g) (pre.getIndexOfChild (pre.parentOf g) g).2

def innerSplit (t : BTree) (g : NodeId) (gnd : Node) (cs : Array NodeId) (idx : Nat) : BTree :=
  innerTail (innerPre t g gnd cs idx) g

theorem promoteStep_split {t : BTree} {g : NodeId} {gnd : Node} {cs : Array NodeId} {idx : Nat}
    (hg : t.get? g = some gnd) (hcs : gnd.children = some cs) (hfull : ¬ gnd.count < t.sl) (hidx : idx ≤ t.sl)
    (hnr : gnd.isRoot = false) :
    t.promoteStep g (idx : Int) = innerSplit t g gnd cs idx := by
  unfold BTree.promoteStep
  simp only [get_of_get? hg, hcs]
  have h1 : ¬ ((idx : Int) < 0) := by omega
  have h2 : ¬ idx > t.sl := by omega
  simp only [h1, if_false, hfull, Int.toNat_natCast, h2, hnr, Bool.false_eq_true]
  unfold innerSplit innerTail innerPre innerT4 innerRight innerLeftF innerTemp innerTc setTemp setProm BTree.newNode BTree.newId
  simp only []

theorem innerT4_get? (t : BTree) (g : NodeId) (gnd : Node) (cs : Array NodeId) (idx : Nat) (y : NodeId) :
    (innerT4 t g gnd cs idx).get? y =
      if t.nextId = y then some (innerRight t gnd (innerTemp t gnd idx) (innerTc t gnd cs idx))
      else ((t.get? y).map (fun n => if y = g then innerLeftF t (innerTemp t gnd idx) (innerTc t gnd cs idx) n else n)).map
        (fun n => if y ≠ 0 ∧ y ∈ (goCopy (zeroIds (t.sl + 1)) 0 (innerTc t gnd cs idx) (t.sl / 2 + 1)
          (t.sl / 2 + 1 + t.sl / 2 + 1)).toList then { n with parent := t.nextId } else n) := by
  unfold innerT4
  rw [get?_put]
  have h1 : (innerRight t gnd (innerTemp t gnd idx) (innerTc t gnd cs idx)).id = t.nextId := rfl
  rw [h1, updateChildrenParent_get?,
    get?_upd _ g y (innerLeftF t (innerTemp t gnd idx) (innerTc t gnd cs idx)) (fun _ => rfl)]
  rfl

theorem innerPre_get? (t : BTree) (g : NodeId) (gnd : Node) (cs : Array NodeId) (idx : Nat) (y : NodeId) :
    (innerPre t g gnd cs idx).get? y =
      ((innerT4 t g gnd cs idx).get? y).map (fun n => if y ≠ 0 ∧ y ∈ (((innerT4 t g gnd cs idx).get g).children.getD #[]).toList
        then { n with parent := g } else n) := by
  unfold innerPre setTemp
  have h2 : ∀ (B : BTree) (a : Item) (b c : NodeId), ({ B with tempParent := a, tpc0 := b, tpc1 := c } : BTree).get? y = B.get? y :=
    fun _ _ _ _ => rfl
  rw [h2, updateChildrenParent_get?]

theorem shell_setTemp (t : BTree) (a : Item) (b c : NodeId) : shell (setTemp t a b c) = setTemp (shell t) a b c := rfl
theorem shell_setProm (t : BTree) (p : NodeId) (i : Int) : shell (setProm t p i) = setProm (shell t) p i := rfl
theorem ids_setTemp (t : BTree) (a : Item) (b c : NodeId) : ids (setTemp t a b c) = ids t := rfl

theorem shell_innerPre (t : BTree) (g : NodeId) (gnd : Node) (cs : Array NodeId) (idx : Nat) :
    shell (innerPre t g gnd cs idx) =
      shell { t with nextId := t.nextId + 1, tempParent := (innerTemp t gnd idx).getD (t.sl / 2) {}, tpc0 := g, tpc1 := t.nextId } := by
  unfold innerPre innerT4
  have hRid : (innerRight t gnd (innerTemp t gnd idx) (innerTc t gnd cs idx)).id = t.nextId := rfl
  generalize innerRight t gnd (innerTemp t gnd idx) (innerTc t gnd cs idx) = R at *
  generalize innerLeftF t (innerTemp t gnd idx) (innerTc t gnd cs idx) = F
  generalize (innerTemp t gnd idx).getD (t.sl / 2) {} = a
  rw [shell_setTemp, shell_updateChildrenParent, shell_put, shell_updateChildrenParent, shell_upd, hRid]
  rfl

theorem innerPre_alloc (t : BTree) (g : NodeId) (gnd : Node) (cs : Array NodeId) (idx : Nat) (hnone : t.nextId ∉ ids t) :
    Alloc t (innerPre t g gnd cs idx) 1 := by
  refine Alloc.of_ids ?_ (shell_fields (shell_innerPre t g gnd cs idx)).2.1
  unfold innerPre innerT4
  have hF : ∀ x, (innerLeftF t (innerTemp t gnd idx) (innerTc t gnd cs idx) x).id = x.id := fun _ => rfl
  have hRid : (innerRight t gnd (innerTemp t gnd idx) (innerTc t gnd cs idx)).id = t.nextId := rfl
  generalize innerRight t gnd (innerTemp t gnd idx) (innerTc t gnd cs idx) = R at *
  generalize innerLeftF t (innerTemp t gnd idx) (innerTc t gnd cs idx) = F at *
  generalize (innerTemp t gnd idx).getD (t.sl / 2) {} = a
  have h1 : ids (({ t with nextId := t.nextId + 1 } : BTree).upd g F) = ids t := ids_upd _ g F hF
  rw [ids_setTemp, ids_updateChildrenParent, ids_put _ _ (by rw [ids_updateChildrenParent, h1, hRid]; exact hnone),
    ids_updateChildrenParent, h1, hRid]
  exact List.Perm.refl _

theorem innerTemp_toList {t : BTree} {gnd : Node} {idx : Nat} (hs : NodeShape t gnd) (hfull : gnd.count = t.sl)
    (hidx : idx ≤ gnd.count) :
    (innerTemp t gnd idx).toList = itemsIns gnd idx t.tempParent := by
  have h0 : (goCopy (zeros (t.sl + 1)) 0 gnd.slots 0 t.sl).toList = gnd.items ++ [({} : Item)] := by
    rw [zeros, goCopy0_toList _ _ _ _ (by omega) (by rw [hs.1]; omega), slots_toList hs, hfull, Nat.sub_self, Nat.sub_zero,
      List.drop_zero, List.replicate_zero, List.append_nil,
      List.take_of_length_le (by rw [Node.items_length hs, hfull]; exact Nat.le_refl _), Nat.add_sub_cancel_left]
    rfl
  unfold innerTemp itemsIns
  rw [(shiftSet_toList _ idx t.sl t.tempParent (by omega) (by rw [zeros, goCopy0_size]; omega)).1, h0]
  exact (insert_spare _ _ _ ((Node.items_length hs).trans hfull) (by omega)).trans (List.append_nil _)

theorem innerTc_toList {t : BTree} {gnd : Node} {cs : Array NodeId} {idx : Nat} (hs : NodeShape t gnd)
    (hcs : gnd.children = some cs) (hfull : gnd.count = t.sl) (hidx : idx ≤ gnd.count)
    (hci : cs.getD idx 0 = t.tpc0) :
    (innerTc t gnd cs idx).toList = kidsIns gnd idx t.tpc1 := by
  have hcsz : cs.size = t.sl + 1 := (hs.2.2.2.2 cs hcs).1
  have hkids : gnd.kids = cs.toList := by
    rw [children_toList hs hcs, hfull, Nat.sub_self, List.replicate_zero, List.append_nil]
  have hself : cs.toList.set idx t.tpc0 = cs.toList := by
    have hi : idx < cs.toList.length := by rw [Array.length_toList]; omega
    have : t.tpc0 = cs.toList[idx] := by rw [← hci]; simp [Array.getD, show idx < cs.size by omega]
    rw [this, List.set_getElem_self]
  have h0 : ((goCopy (zeroIds (t.sl + 2)) 0 cs 0 (t.sl + 1)).setIfInBounds idx t.tpc0).toList = cs.toList ++ [0] := by
    rw [Array.toList_setIfInBounds, zeroIds, goCopy0_toList _ _ _ _ (by omega) (by omega), Nat.sub_zero, List.drop_zero,
      List.take_of_length_le (by rw [Array.length_toList]; omega),
      List.set_append_left _ _ (by rw [Array.length_toList]; omega), hself, show t.sl + 2 - (t.sl + 1) = 1 by omega]
    rfl
  unfold innerTc kidsIns
  rw [(shiftSet_toList _ (idx + 1) (gnd.count + 1) t.tpc1 (by omega) (by simp [zeroIds, goCopy0_size]; omega)).1, h0, hkids]
  exact (insert_spare _ _ _ (by rw [Array.length_toList]; omega) (by omega)).trans (List.append_nil _)
theorem mem_pad_iff (l : List NodeId) (k : Nat) (y : NodeId) :
    (y ≠ 0 ∧ y ∈ l ++ List.replicate k 0) ↔ (y ≠ 0 ∧ y ∈ l) := by
  constructor
  · rintro ⟨h0, h⟩
    rcases List.mem_append.mp h with h | h
    · exact ⟨h0, h⟩
    · exact absurd (List.eq_of_mem_replicate h) h0
  · rintro ⟨h0, h⟩
    exact ⟨h0, List.mem_append_left _ h⟩

/-- the fields no step of the cascade writes -/
def SameBase (T Tk : BTree) : Prop :=
  Tk.root = T.root ∧ Tk.count = T.count ∧ Tk.cur = T.cur ∧ Tk.lb = T.lb ∧ Tk.fixFast = T.fixFast ∧
  Tk.fixErr = T.fixErr ∧ Tk.fixId = T.fixId ∧ Tk.distSrc = T.distSrc

theorem SameBase.of_shell {A B : BTree} (h : shell B = shell A) : SameBase A B :=
  have e : ∀ {α} (F : BTree → α), F (shell B) = F (shell A) := fun F => congrArg F h
  ⟨e BTree.root, e BTree.count, e BTree.cur, e BTree.lb, e BTree.fixFast, e BTree.fixErr, e BTree.fixId, e BTree.distSrc⟩

theorem SameBase.refl (A : BTree) : SameBase A A := ⟨rfl, rfl, rfl, rfl, rfl, rfl, rfl, rfl⟩

theorem SameBase.trans {A B C : BTree} (h1 : SameBase A B) (h2 : SameBase B C) : SameBase A C := by
  obtain ⟨a1, a2, a3, a4, a5, a6, a7, a8⟩ := h1
  obtain ⟨b1, b2, b3, b4, b5, b6, b7, b8⟩ := h2
  exact ⟨b1.trans a1, b2.trans a2, b3.trans a3, b4.trans a4, b5.trans a5, b6.trans a6, b7.trans a7, b8.trans a8⟩

section
variable {T Tk : BTree}
theorem SameBase.root (h : SameBase T Tk) : Tk.root = T.root := h.1
theorem SameBase.count (h : SameBase T Tk) : Tk.count = T.count := h.2.1
theorem SameBase.cur (h : SameBase T Tk) : Tk.cur = T.cur := h.2.2.1
theorem SameBase.lb (h : SameBase T Tk) : Tk.lb = T.lb := h.2.2.2.1
theorem SameBase.fixFast (h : SameBase T Tk) : Tk.fixFast = T.fixFast := h.2.2.2.2.1
theorem SameBase.fixErr (h : SameBase T Tk) : Tk.fixErr = T.fixErr := h.2.2.2.2.2.1
theorem SameBase.fixId (h : SameBase T Tk) : Tk.fixId = T.fixId := h.2.2.2.2.2.2.1
theorem SameBase.distSrc (h : SameBase T Tk) : Tk.distSrc = T.distSrc := h.2.2.2.2.2.2.2
end

/-- the invariant of the promote loop: in `Tk` a split of child `c` of `g` is pending (`pend`) and the promote action points
    at `g` with it (`prom`); the rest is the bookkeeping of ids and untouched fields against the start state `T` -/
structure PState (T Tk : BTree) (saved : Bool) (item : Item) (g c r : NodeId) (sep : Item) (f : Nat)
    (news : List NodeId) (idx : Nat) : Prop where
  pend : Pending T Tk item g c r sep f news
  prom : Tk.promTarget = g ∧ Tk.promIdx = (idx : Int) ∧ Tk.tempParent = sep ∧ Tk.tpc0 = c ∧ Tk.tpc1 = r
  ok : Tk.panicked = false
  len : Tk.nodes.length = T.nodes.length + news.length
  fresh : Fresh Tk
  nextId : T.nextId < Tk.nextId
  base : SameBase T Tk
  uniq : Tk.unique = saved
  keep : ∀ x, (T.get? x).isSome → (Tk.get? x).isSome
  news1 : 1 ≤ news.length
  nextEq : Tk.nextId = T.nextId + news.length
  newsEq : news = List.range' T.nextId news.length

section
variable {T Tk : BTree} {saved : Bool} {item : Item} {g c r : NodeId} {sep : Item} {f : Nat} {news : List NodeId} {idx : Nat}
theorem PState.promTarget (hS : PState T Tk saved item g c r sep f news idx) : Tk.promTarget = g := hS.prom.1
theorem PState.promIdx (hS : PState T Tk saved item g c r sep f news idx) : Tk.promIdx = (idx : Int) := hS.prom.2.1
theorem PState.tempParent (hS : PState T Tk saved item g c r sep f news idx) : Tk.tempParent = sep := hS.prom.2.2.1
theorem PState.tpc0 (hS : PState T Tk saved item g c r sep f news idx) : Tk.tpc0 = c := hS.prom.2.2.2.1
theorem PState.tpc1 (hS : PState T Tk saved item g c r sep f news idx) : Tk.tpc1 = r := hS.prom.2.2.2.2
/-- the pending split of the state, seen from the inner node it has reached -/
theorem PState.virt (hS : PState T Tk saved item g c r sep f news idx) {gg : NodeId} {gnd : Node} {cs : Array NodeId}
    (a : AtInner T item.key g gg c f gnd cs idx) : Virt T Tk item g gg r sep f news gnd idx :=
  Ins.virt a (hS.pend.split (child_facts a).wf)
end

/-- the loop state as `Btree.promote` hands it to `node.promote`: the promote action taken off -/
def clearProm (t : BTree) : BTree := { t with promTarget := 0, promIdx := 0 }

/-- one round of `Btree.promote` -/
def pstep (t : BTree) : BTree := (clearProm t).promoteStep t.promTarget t.promIdx

theorem PState.pstep_eq {T Tk : BTree} {saved : Bool} {item : Item} {g c r : NodeId} {sep : Item} {f : Nat}
    {news : List NodeId} {idx : Nat} (hS : PState T Tk saved item g c r sep f news idx) :
    pstep Tk = (clearProm Tk).promoteStep g (idx : Int) := by
  rw [pstep, hS.promTarget, hS.promIdx]

theorem PState.news_fresh {T Tk : BTree} {saved : Bool} {item : Item} {g c r : NodeId} {sep : Item} {f : Nat}
    {news : List NodeId} {idx : Nat} (hS : PState T Tk saved item g c r sep f news idx) (hfreshT : Fresh T) (k : Nat) :
    (∀ x ∈ news ++ List.range' Tk.nextId k, T.get? x = none) ∧ (news ++ List.range' Tk.nextId k).Nodup ∧
    news ++ List.range' Tk.nextId k = List.range' T.nextId (news ++ List.range' Tk.nextId k).length := by
  have h : news ++ List.range' Tk.nextId k = List.range' T.nextId (news ++ List.range' Tk.nextId k).length := by
    rw [List.length_append, List.length_range', ← List.range'_append_1, ← hS.nextEq, ← hS.newsEq]
  refine ⟨fun x hx => ?_, ?_, h⟩
  · rw [h] at hx; exact hfreshT.news_none hx
  · rw [h]; exact List.nodup_range'

/-- what `PState T Tk …` says about `Tk0 = clearProm Tk`, the tree `node.promote` runs on -/
structure Cleared (T Tk Tk0 : BTree) (saved : Bool) (c r : NodeId) (sep : Item) (k : Nat) : Prop where
  get : ∀ x, Tk0.get? x = Tk.get? x
  next : Tk0.nextId = Tk.nextId
  sl : Tk0.sl = T.sl
  tempParent : Tk0.tempParent = sep
  tpc0 : Tk0.tpc0 = c
  tpc1 : Tk0.tpc1 = r
  fresh : Fresh Tk0
  ok : Tk0.panicked = false
  promTarget : Tk0.promTarget = 0
  uniq : Tk0.unique = saved
  base : SameBase T Tk0
  alloc : Alloc T Tk0 k

theorem PState.cleared {T Tk : BTree} {saved : Bool} {item : Item} {g c r : NodeId} {sep : Item} {f : Nat}
    {news : List NodeId} {idx : Nat} (hS : PState T Tk saved item g c r sep f news idx) :
    Cleared T Tk (clearProm Tk) saved c r sep news.length :=
  ⟨fun _ => rfl, rfl, hS.pend.sl, hS.tempParent, hS.tpc0, hS.tpc1, hS.fresh, hS.ok, rfl, hS.uniq, hS.base,
    ⟨hS.len, hS.nextEq, fun _ => hS.fresh, hS.keep⟩⟩

theorem getIndexOfChild_spec {S T : BTree} {p c : NodeId} {pn cn : Node} {cs : Array NodeId} {i : Nat}
    (hgp : S.get? p = some pn) (hgc : S.get? c = some cn) (hcs : pn.children = some cs) (hc0 : c ≠ 0)
    (hps : NodeShape T pn) (hion : -1 ≤ cn.ion ∧ cn.ion ≤ (T.sl : Int)) (hi : i ≤ pn.count) (hci : cs.getD i 0 = c)
    (huniq : ∀ j, cs.getD j 0 = c → j = i) :
    (S.getIndexOfChild p c).2 = (i : Int) ∧
    ∃ ion', (-1 ≤ ion' ∧ ion' ≤ (T.sl : Int)) ∧ (S.getIndexOfChild p c).1.get? c = some { cn with ion := ion' } ∧
      (∀ x, x ≠ c → (S.getIndexOfChild p c).1.get? x = S.get? x) ∧
      Alloc S (S.getIndexOfChild p c).1 0 ∧ shell (S.getIndexOfChild p c).1 = shell S := by
  obtain ⟨h2, h1⟩ := getIndexOfChild_val hgp hgc hcs hc0 (by rw [hps.1]; have := hps.2.1; omega) hci huniq hion.1
    (by rw [(hps.2.2.2.2 cs hcs).1]; have := hion.2; omega)
  obtain ⟨ga, ⟨ion', hion', gb⟩, hal, ge⟩ := gi_facts hgc h1
  refine ⟨h2, ion', ?_, gb, ga, hal, shell_of_nodes ge⟩
  rcases hion' with e | e
  · rw [e]; exact hion
  · have := hps.2.1
    rw [e]; omega

/-- `addOnLeaf` on the full non-root leaf `n` (child `idx` of `g`), load balancing off: `n` keeps the lower half, the
    fresh node gets the upper half, and the split is handed on to `g`. -/
theorem leafSplit_spec {T : BTree} {g n : NodeId} {item : Item} {i idx : Nat} {gnd nd : Node} {cs : Array NodeId}
    (hfresh : Fresh T) (hsl2 : 2 ≤ T.sl ∧ T.sl % 2 = 0)
    (hgg : T.get? g = some gnd) (hgn : T.get? n = some nd) (hpar : nd.parent = g) (hn0 : n ≠ 0)
    (hgs : NodeShape T gnd) (hns : NodeShape T nd) (hcs : gnd.children = some cs) (hidxle : idx ≤ gnd.count)
    (hci : cs.getD idx 0 = n) (huniq : ∀ j, cs.getD j 0 = n → j = idx)
    (hfull : nd.count = T.sl) (hleaf : nd.children = none) (hile : i ≤ nd.count) :
    ∃ nL nR,
      (leafSplit T n item i).get? n = some nL ∧ (leafSplit T n item i).get? T.nextId = some nR ∧
      (∀ x, x ≠ n → x ≠ T.nextId → (leafSplit T n item i).get? x = T.get? x) ∧
      (NodeShape (leafSplit T n item i) nL ∧ nL.parent = g ∧ nL.count = T.sl / 2 ∧ nL.children = none ∧
        nL.items = (nd.items.take i ++ item :: nd.items.drop i).take (T.sl / 2)) ∧
      (NodeShape (leafSplit T n item i) nR ∧ nR.parent = g ∧ nR.count = T.sl / 2 ∧ nR.children = none ∧
        nR.items = (nd.items.take i ++ item :: nd.items.drop i).drop (T.sl / 2 + 1)) ∧
      shell (leafSplit T n item i) =
        shell { T with nextId := T.nextId + 1, tempParent := (nd.items.take i ++ item :: nd.items.drop i).getD (T.sl / 2) {},
                       tpc0 := n, tpc1 := T.nextId, promTarget := g, promIdx := (idx : Int) } ∧
      Alloc T (leafSplit T n item i) 1 := by
  have hgetn := get_of_get? hgn
  have hrn : T.get? T.nextId = none := fresh_get? hfresh (Nat.le_refl _)
  have hnr : n ≠ T.nextId := by intro e; rw [e, hrn] at hgn; cases hgn
  have hgr : g ≠ T.nextId := by intro e; rw [e, hrn] at hgg; cases hgg
  have hgn' : g ≠ n := by
    intro e; rw [e, hgn] at hgg; cases hgg; rw [hleaf] at hcs; cases hcs
  have hpg : (T.get n).parent = g := by rw [hgetn]; exact hpar
  have hSg : (leafSplitPre T n item i).get? g = some gnd := by
    rw [leafSplitPre_get?, if_neg (Ne.symm hgr), hgg]; simp [hgn']
  have hSn : (leafSplitPre T n item i).get? n = some (leafKeep T (splitTemp nd.slots T.sl i item) nd) := by
    rw [leafSplitPre_get?, if_neg (Ne.symm hnr), hgn, hgetn]; simp
  have hSr : (leafSplitPre T n item i).get? T.nextId = some (rightHalf T g (splitTemp nd.slots T.sl i item)) := by
    rw [leafSplitPre_get?, if_pos rfl, hgetn, hpar]
  have hSo : ∀ x, x ≠ n → x ≠ T.nextId → (leafSplitPre T n item i).get? x = T.get? x := by
    intro x hxn hxr
    rw [leafSplitPre_get?, if_neg (Ne.symm hxr)]
    cases T.get? x with
    | none => rfl
    | some y => simp [hxn]
  have hSsh : shell (leafSplitPre T n item i) =
      shell { T with nextId := T.nextId + 1, tempParent := (splitTemp nd.slots T.sl i item).getD (T.sl / 2) {},
                     tpc0 := n, tpc1 := T.nextId } := by
    rw [← hgetn]; rfl
  obtain ⟨hGI2, ion', hionb, gb, ga, gc, ge⟩ := getIndexOfChild_spec (S := leafSplitPre T n item i) (T := T) (i := idx)
    hSg hSn hcs hn0 hgs hns.2.2.1 hidxle hci huniq
  unfold leafSplit
  rw [hpg, hGI2]
  generalize ((leafSplitPre T n item i).getIndexOfChild g n).1 = GI at *
  have hitems : nd.items = nd.slots.toList := by
    unfold Node.items; rw [List.take_of_length_le (by simp; have := hns.1; omega)]
  have hX := splitTemp_toList nd.slots T.sl i item hns.1 (by omega)
  rw [← hitems] at hX
  have hXlen : (nd.items.take i ++ item :: nd.items.drop i).length = T.sl + 1 := by
    rw [← hX]; simp [splitTemp_size]
  have hmid : (splitTemp nd.slots T.sl i item).getD (T.sl / 2) {} =
      (nd.items.take i ++ item :: nd.items.drop i).getD (T.sl / 2) {} := by
    rw [← hX]; simp [Array.getD_eq_getD_getElem?, List.getD_eq_getElem?_getD]
  have hsh : shell ({ GI with promTarget := g, promIdx := (idx : Int) } : BTree) =
      shell { T with nextId := T.nextId + 1, tempParent := (nd.items.take i ++ item :: nd.items.drop i).getD (T.sl / 2) {},
                     tpc0 := n, tpc1 := T.nextId, promTarget := g, promIdx := (idx : Int) } := by
    have e : shell ({ GI with promTarget := g, promIdx := (idx : Int) } : BTree) =
        { shell GI with promTarget := g, promIdx := (idx : Int) } := rfl
    rw [e, ge, hSsh, hmid]; rfl
  have hsl' : ({ GI with promTarget := g, promIdx := (idx : Int) } : BTree).sl = T.sl := (shell_fields hsh).1
  obtain ⟨hLs, hLi⟩ := leafKeep_facts (T' := ({ GI with promTarget := g, promIdx := (idx : Int) } : BTree))
    hns hleaf hX hXlen hsl2 hsl' ion' hionb
  obtain ⟨hRs, hRi⟩ := rightHalf_facts (T' := ({ GI with promTarget := g, promIdx := (idx : Int) } : BTree)) g hX hXlen hsl2 hsl'
  exact ⟨_, _, gb, (ga _ (Ne.symm hnr)).trans hSr, fun x h2 h3 => (ga x h2).trans (hSo x h2 h3),
    ⟨hLs, hpar, rfl, hleaf, hLi⟩, ⟨hRs, rfl, rfl, rfl, hRi⟩, hsh, ((leafSplitPre_alloc hfresh n item i).trans gc).congr rfl rfl⟩

/-- the loop state after the leaf split, from local facts about the leaf `n` and its parent `g` only: what the state says
    of order (`Pending.wf`, `Pending.abs`) is asked under the hypothesis that the old leaf was a subtree, and proved from it -/
theorem leaf_pstate {T : BTree} {g n : NodeId} {item : Item} {i idx : Nat} {gnd nd : Node} {cs : Array NodeId}
    (saved : Bool)
    (hgg : T.get? g = some gnd) (hgn : T.get? n = some nd) (hpar : nd.parent = g) (hn0 : n ≠ 0)
    (hgs : NodeShape T gnd) (hns : NodeShape T nd)
    (hcs : gnd.children = some cs) (hidxle : idx ≤ gnd.count) (hci : cs.getD idx 0 = n)
    (huniq : ∀ j, cs.getD j 0 = n → j = idx)
    (hfull : nd.count = T.sl) (hleaf : nd.children = none)
    (hi : i = (getIndexToInsertTo T nd item.key).1) (hile : i ≤ nd.count)
    (hfresh : Fresh T) (hsl2 : 2 ≤ T.sl ∧ T.sl % 2 = 0) (hid : item.id ≠ 0) (hok : T.panicked = false) (f : Nat) :
    PState T ({ leafSplit T n item i with unique := saved } : BTree) saved item g n T.nextId
      ((nd.items.take i ++ item :: nd.items.drop i).getD (T.sl / 2) {}) (f + 1) [T.nextId] idx := by
  obtain ⟨nL, nR, hRn, hRr, hRo, ⟨hLs, hLp, hLc, hLch, hLi⟩, ⟨hRs, hRp, hRc, hRch, hRi⟩, hsh, hal⟩ :=
    leafSplit_spec (item := item) (i := i) hfresh hsl2 hgg hgn hpar hn0 hgs hns hcs hidxle hci huniq hfull hleaf hile
  have hrn : T.get? T.nextId = none := fresh_get? hfresh (Nat.le_refl _)
  have hr0 : T.nextId ≠ 0 := Nat.ne_of_gt hfresh.1
  generalize leafSplit T n item i = S at *
  obtain ⟨s1, s2, s3, _, s5, s6, s7, s8, s9⟩ := shell_fields hsh
  have hXlen : (nd.items.take i ++ item :: nd.items.drop i).length = T.sl + 1 := by
    rw [List.length_append, List.length_cons, List.length_take, List.length_drop, Node.items_length hns, hfull]
    omega
  have hhalf : 1 ≤ T.sl / 2 ∧ T.sl / 2 < T.sl + 1 := by omega
  have hXs := list_split_at (nd.items.take i ++ item :: nd.items.drop i) (T.sl / 2) ({} : Item) (hXlen ▸ hhalf.2)
  obtain ⟨-, hTA, hTR⟩ := SNode.of_leaf hn0 hgn hpar hns (Or.inr (hfull ▸ Nat.le_trans (by decide) hsl2.1)) hleaf f
  obtain ⟨hcS, hcA, hcR⟩ := SNode.of_leaf (t := ({ S with unique := saved } : BTree)) hn0 hRn hLp hLs
    (Or.inr (hLc ▸ hhalf.1)) hLch f
  obtain ⟨hrS, hrA, hrR⟩ := SNode.of_leaf (t := ({ S with unique := saved } : BTree)) hr0 hRr hRp hRs
    (Or.inr (hRc ▸ hhalf.1)) hRch f
  have ha : Alloc T ({ S with unique := saved } : BTree) 1 := hal.congr rfl rfl
  have hframe : ∀ x, (T.get? x).isSome → x ∉ reach T (f + 1) n →
      ({ S with unique := saved } : BTree).get? x = T.get? x := fun x hs hx => by
    rw [hTR] at hx
    exact hRo x (by simpa using hx) (fun e => by rw [e, hrn] at hs; simp at hs)
  have hnone : ∀ x ∈ [T.nextId], T.get? x = none := fun x hx => by rw [List.mem_singleton.mp hx]; exact hrn
  have hreach : (reach ({ S with unique := saved } : BTree) (f + 1) n ++
      reach ({ S with unique := saved } : BTree) (f + 1) T.nextId).Perm (reach T (f + 1) n ++ [T.nextId]) := by
    rw [hcR, hrR, hTR]
  -- the order of the old leaf's items, where the old leaf was a subtree, places the item
  have hsplit : ∀ l h, WFNode T (f + 1) n g l h → Split T ({ S with unique := saved } : BTree) item g n T.nextId
      ((nd.items.take i ++ item :: nd.items.drop i).getD (T.sl / 2) {}) (f + 1) [T.nextId] := fun l h hw => by
    obtain ⟨-, nd', hgn', -, -, -, hb0⟩ := id hw
    cases hgn.symm.trans hgn'
    rw [hleaf] at hb0
    obtain ⟨-, htn, hdn⟩ := insIdx_spec T nd item.key hns (itemsOk_good _ _ _ hb0).1
    rw [← hi] at htn hdn
    exact ⟨s1, hframe, hnone, by simp, hreach, hcS, hrS,
      ⟨nd.items.take i, nd.items.drop i, by rw [hTA, List.take_append_drop], by rw [hcA, hrA, hLi, hRi]; exact hXs.symm,
        htn, hdn⟩⟩
  exact ⟨⟨s1, hframe, hnone, by simp, hreach, fun l h hw hl hh => ((hsplit l h hw).pending hid).wf l h hw hl hh,
      fun l h hw _ _ => (hsplit l h hw).abs⟩,
    ⟨s5, s6, s7, s8, s9⟩, s3.trans hok, ha.len, ha.fresh hfresh, ha.lt Nat.one_pos,
    SameBase.trans (B := S) (SameBase.trans (by exact SameBase.refl T) (SameBase.of_shell hsh)) (by exact SameBase.refl S),
    rfl, ha.keep, Nat.le_refl 1, ha.next, rfl⟩

theorem ion_unset (n : Nat) : (-1 : Int) ≤ -1 ∧ (-1 : Int) ≤ (n : Int) :=
  ⟨Int.le_refl _, Int.le_trans (show (-1 : Int) ≤ 0 by decide) (Int.natCast_nonneg n)⟩

/-- `half_recs` read for the two nodes `promote` writes for a non-root node, whatever the memoised index of the lower one;
    no user in the development -/
theorem inner_nodes {T T' t : BTree} {gnd : Node} {cs : Array NodeId} {idx : Nat} {X : List Item} {K : List NodeId}
    (hs : NodeShape T gnd) (htsl : t.sl = T.sl) (hsl' : T'.sl = T.sl) (hsl2 : 2 ≤ T.sl ∧ T.sl % 2 = 0)
    (hX : (innerTemp t gnd idx).toList = X) (hXlen : X.length = T.sl + 1)
    (hK : (innerTc t gnd cs idx).toList = K) (hKlen : K.length = T.sl + 2)
    (ion : Int) (hion : -1 ≤ ion ∧ ion ≤ (T.sl : Int)) :
    (NodeShape T' ({ innerLeftF t (innerTemp t gnd idx) (innerTc t gnd cs idx) gnd with ion := ion } : Node) ∧
      ({ innerLeftF t (innerTemp t gnd idx) (innerTc t gnd cs idx) gnd with ion := ion } : Node).items = X.take (T.sl / 2) ∧
      (goCopy (zeroIds (t.sl + 1)) 0 (innerTc t gnd cs idx) 0 (t.sl / 2 + 1)).toList.take (T.sl / 2 + 1) = K.take (T.sl / 2 + 1) ∧
      (goCopy (zeroIds (t.sl + 1)) 0 (innerTc t gnd cs idx) 0 (t.sl / 2 + 1)).toList =
        K.take (T.sl / 2 + 1) ++ List.replicate (T.sl + 1 - (T.sl / 2 + 1)) 0) ∧
    (NodeShape T' (innerRight t gnd (innerTemp t gnd idx) (innerTc t gnd cs idx)) ∧
      (innerRight t gnd (innerTemp t gnd idx) (innerTc t gnd cs idx)).items = X.drop (T.sl / 2 + 1) ∧
      (goCopy (zeroIds (t.sl + 1)) 0 (innerTc t gnd cs idx) (t.sl / 2 + 1) (t.sl / 2 + 1 + t.sl / 2 + 1)).toList.take (T.sl / 2 + 1) =
        K.drop (T.sl / 2 + 1) ∧
      (goCopy (zeroIds (t.sl + 1)) 0 (innerTc t gnd cs idx) (t.sl / 2 + 1) (t.sl / 2 + 1 + t.sl / 2 + 1)).toList =
        K.drop (T.sl / 2 + 1) ++ List.replicate (T.sl + 1 - (T.sl / 2 + 1)) 0) := by
  rw [← htsl] at hsl2 hXlen hKlen hion
  obtain ⟨hL, hR, b1, b2⟩ := half_recs (t := t)
    (ndL := ({ innerLeftF t (innerTemp t gnd idx) (innerTc t gnd cs idx) gnd with ion := ion } : Node))
    (ndR := innerRight t gnd (innerTemp t gnd idx) (innerTc t gnd cs idx)) hsl2 hX hK hXlen hKlen
    (by show goCopy (zeros gnd.slots.size) 0 _ 0 _ = _; rw [hs.1, htsl]) rfl rfl hion rfl rfl rfl (ion_unset _)
  have l3 : (K.take (t.sl / 2 + 1)).length = t.sl / 2 + 1 := by rw [List.length_take, hKlen]; omega
  have l4 : (K.drop (t.sl / 2 + 1)).length = t.sl / 2 + 1 := by rw [List.length_drop, hKlen]; omega
  rw [← htsl, Nat.add_sub_add_right]
  exact ⟨⟨(hL.congr (hsl'.trans htsl.symm)).shape, hL.items, by rw [b1, List.take_left' l3], b1⟩,
    (hR.congr (hsl'.trans htsl.symm)).shape, hR.items, by rw [b2, List.take_left' l4], b2⟩

/-- `promote` on the full non-root inner node `g` (child `idxg` of `gg`), none of `g`, `gg` and the fresh id being
    among the over-full children and none of these in both halves: `g` keeps the lower half, the fresh node gets the
    upper half, the children are re-parented in two passes, and the split is handed on to `gg`. -/
theorem innerSplit_spec {t : BTree} {g gg : NodeId} {gnd ggnd : Node} {cs csg : Array NodeId} {idx idxg : Nat}
    (hfr : Fresh t) (hsl2 : 2 ≤ t.sl ∧ t.sl % 2 = 0) (hg0 : g ≠ 0) (hgg0 : gg ≠ 0) (hggg : gg ≠ g)
    (hgk : t.get? g = some gnd) (hgs : NodeShape t gnd) (hgp : gnd.parent = gg) (hcs : gnd.children = some cs)
    (hfull : gnd.count = t.sl) (hidxle : idx ≤ gnd.count) (hci : cs.getD idx 0 = t.tpc0)
    (hggk : t.get? gg = some ggnd) (hggs : NodeShape t ggnd) (hcsg : ggnd.children = some csg)
    (hcig : csg.getD idxg 0 = g) (huniqg : ∀ j, csg.getD j 0 = g → j = idxg) (hidxg : idxg ≤ ggnd.count)
    (hgK : g ∉ kidsIns gnd idx t.tpc1) (hggK : gg ∉ kidsIns gnd idx t.tpc1) (hnK : t.nextId ∉ kidsIns gnd idx t.tpc1)
    (hdis : ∀ y, ¬ ((y ≠ 0 ∧ y ∈ (kidsIns gnd idx t.tpc1).take (t.sl / 2 + 1)) ∧
      (y ≠ 0 ∧ y ∈ (kidsIns gnd idx t.tpc1).drop (t.sl / 2 + 1)))) :
    CutAt t (t.promoteStep g (idx : Int)) g gg g t.nextId (kidsIns gnd idx t.tpc1) (itemsIns gnd idx t.tempParent) (t.sl / 2) ∧
    shell (t.promoteStep g (idx : Int)) =
      shell { t with nextId := t.nextId + 1, tempParent := (itemsIns gnd idx t.tempParent).getD (t.sl / 2) {}, tpc0 := g,
                     tpc1 := t.nextId, promTarget := gg, promIdx := (idxg : Int) } ∧
    Alloc t (t.promoteStep g (idx : Int)) 1 := by
  have hr'k : t.get? t.nextId = none := fresh_get? hfr (Nat.le_refl _)
  have hgr' : g ≠ t.nextId := by intro e; rw [e, hr'k] at hgk; cases hgk
  have hggr' : gg ≠ t.nextId := by intro e; rw [e, hr'k] at hggk; cases hggk
  have hnr : gnd.isRoot = false := by simp [Node.isRoot, hgp, hgg0]
  rw [promoteStep_split hgk hcs (hfull ▸ Nat.lt_irrefl _) (hfull ▸ hidxle) hnr]
  have hrecs := fun ion (hion : -1 ≤ ion ∧ ion ≤ (t.sl : Int)) =>
    half_recs (ndL := ({ innerLeftF t (innerTemp t gnd idx) (innerTc t gnd cs idx) gnd with ion := ion } : Node))
      (ndR := innerRight t gnd (innerTemp t gnd idx) (innerTc t gnd cs idx)) hsl2 (innerTemp_toList hgs hfull hidxle)
      (innerTc_toList hgs hcs hfull hidxle hci) (hfull ▸ itemsIns_length hgs hidxle _) (hfull ▸ kidsIns_length hgs hidxle _)
      (by show goCopy (zeros gnd.slots.size) 0 _ 0 _ = _; rw [hgs.1]) rfl rfl hion rfl rfl rfl (ion_unset _)
  obtain ⟨_, _, b1, b2⟩ := hrecs _ hgs.2.2.1
  have hLA := fun y => b1 ▸ mem_pad_iff _ _ y
  have hRA := fun y => b2 ▸ mem_pad_iff _ _ y
  have hnotL : ∀ z, z ∉ kidsIns gnd idx t.tpc1 →
      ¬ (z ≠ 0 ∧ z ∈ (goCopy (zeroIds (t.sl + 1)) 0 (innerTc t gnd cs idx) 0 (t.sl / 2 + 1)).toList) :=
    fun z hz h => hz (List.mem_of_mem_take ((hLA z).mp h).2)
  have hnotR : ∀ z, z ∉ kidsIns gnd idx t.tpc1 →
      ¬ (z ≠ 0 ∧ z ∈ (goCopy (zeroIds (t.sl + 1)) 0 (innerTc t gnd cs idx) (t.sl / 2 + 1) (t.sl / 2 + 1 + t.sl / 2 + 1)).toList) :=
    fun z hz h => hz (List.mem_of_mem_drop ((hRA z).mp h).2)
  have hT4g : (innerT4 t g gnd cs idx).get? g = some (innerLeftF t (innerTemp t gnd idx) (innerTc t gnd cs idx) gnd) := by
    rw [innerT4_get?, if_neg (Ne.symm hgr'), hgk]
    simp only [Option.map_some, if_true, if_neg (hnotR g hgK)]
  have hLAeq : ((innerT4 t g gnd cs idx).get g).children.getD #[] =
      goCopy (zeroIds (t.sl + 1)) 0 (innerTc t gnd cs idx) 0 (t.sl / 2 + 1) := by
    rw [get_of_get? hT4g]; rfl
  have hPg : (innerPre t g gnd cs idx).get? g = some (innerLeftF t (innerTemp t gnd idx) (innerTc t gnd cs idx) gnd) := by
    rw [innerPre_get?, hT4g, hLAeq]
    simp only [Option.map_some, if_neg (hnotL g hgK)]
  have hPr : (innerPre t g gnd cs idx).get? t.nextId = some (innerRight t gnd (innerTemp t gnd idx) (innerTc t gnd cs idx)) := by
    rw [innerPre_get?, innerT4_get?, if_pos rfl, hLAeq]
    simp only [Option.map_some, if_neg (hnotL _ hnK)]
  have hPgg : (innerPre t g gnd cs idx).get? gg = some ggnd := by
    rw [innerPre_get?, innerT4_get?, if_neg (Ne.symm hggr'), hggk, hLAeq]
    simp only [Option.map_some, if_neg hggg, if_neg (hnotL gg hggK), if_neg (hnotR gg hggK)]
  have hPo : ∀ y, y ≠ g → y ≠ t.nextId → (innerPre t g gnd cs idx).get? y =
      reparent2 t ((kidsIns gnd idx t.tpc1).drop (t.sl / 2 + 1)) t.nextId ((kidsIns gnd idx t.tpc1).take (t.sl / 2 + 1)) g y := by
    intro y hyg hyr
    rw [innerPre_get?, innerT4_get?, if_neg (Ne.symm hyr), hLAeq]
    unfold reparent2
    cases t.get? y with
    | none => rfl
    | some n => simp only [Option.map_some, if_neg hyg, hLA y, hRA y]
  have hpar : (innerPre t g gnd cs idx).parentOf g = gg := by
    have hp : (innerLeftF t (innerTemp t gnd idx) (innerTc t gnd cs idx) gnd).parent = gg := hgp
    rw [parentOf_of_get hPg (by rw [hp]; exact hgg0) (by rw [hp, hPgg]; rfl), hp]
  obtain ⟨hGI2, ion', hionb, gb, ga, gc, ge'⟩ := getIndexOfChild_spec (S := innerPre t g gnd cs idx) (T := t) (i := idxg)
    hPgg hPg hcsg hg0 hggs hgs.2.2.1 hidxg hcig huniqg
  have hTail : innerSplit t g gnd cs idx =
      setProm ((innerPre t g gnd cs idx).getIndexOfChild gg g).1 gg ((innerPre t g gnd cs idx).getIndexOfChild gg g).2 := by
    unfold innerSplit innerTail
    rw [hpar, if_neg hgg0]
  rw [hTail, hGI2]
  generalize ((innerPre t g gnd cs idx).getIndexOfChild gg g).1 = GI at *
  have hmid : (innerTemp t gnd idx).getD (t.sl / 2) {} = (itemsIns gnd idx t.tempParent).getD (t.sl / 2) {} := by
    rw [← (innerTemp_toList hgs hfull hidxle)]; simp [Array.getD_eq_getD_getElem?, List.getD_eq_getElem?_getD]
  have hsh : shell (setProm GI gg (idxg : Int)) =
      shell { t with nextId := t.nextId + 1, tempParent := (itemsIns gnd idx t.tempParent).getD (t.sl / 2) {}, tpc0 := g,
                     tpc1 := t.nextId, promTarget := gg, promIdx := (idxg : Int) } := by
    rw [shell_setProm, ge', shell_innerPre, hmid]; rfl
  have hsl' : (setProm GI gg (idxg : Int)).sl = t.sl := (shell_fields hsh).1
  obtain ⟨hL, hR, _, _⟩ := hrecs ion' hionb
  -- the model re-parents the upper children first; `CutAt` names the lower ones first
  exact ⟨⟨hsl', ⟨_, gb, hgp ▸ hL.congr hsl'⟩, ⟨_, (ga _ (Ne.symm hgr')).trans hPr, hgp ▸ hR.congr hsl'⟩,
      fun y hs hyg => ((ga y hyg).trans (hPo y hyg (fun e => by rw [e, hr'k] at hs; cases hs))).trans
        (reparent_comm (fun h => hdis y ⟨h.2, h.1⟩))⟩, hsh,
    ((innerPre_alloc t g gnd cs idx (fresh_not_mem hfr (Nat.le_refl _))).trans gc).congr rfl rfl⟩

theorem inner_step {T Tk : BTree} {saved : Bool} {item : Item} {g gg ggg c r : NodeId} {sep : Item} {f : Nat}
    {news : List NodeId} {idx idxg : Nat} {gnd ggnd : Node} {cs csg : Array NodeId}
    (hS : PState T Tk saved item g c r sep f news idx) (a : AtInner T item.key g gg c f gnd cs idx)
    (hfull : gnd.count = T.sl) (hp : ChildAt T item.key gg ggg g (f + 1) ggnd csg idxg)
    (hfreshT : Fresh T) (hsl2 : 2 ≤ T.sl ∧ T.sl % 2 = 0) (hid : item.id ≠ 0) :
    PState T (pstep Tk) saved item gg g Tk.nextId ((itemsIns gnd idx sep).getD (T.sl / 2) {}) (f + 1)
      (news ++ [Tk.nextId]) idxg := by
  obtain ⟨hW, -, hgg, hcs, -, hchild, -⟩ := id a
  obtain ⟨hggg, hcsg, hidxg, hcig, huniqg, hggs, -, hgg0, hggnot, -, -⟩ := hp
  have hP := hS.pend
  have hv := hS.virt a
  have hr'k : Tk.get? Tk.nextId = none := fresh_get? hS.fresh (Nat.le_refl _)
  have hr'0 : Tk.nextId ≠ 0 := Nat.ne_of_gt hS.fresh.1
  have hnK : Tk.nextId ∉ kidsIns gnd idx r := fun h => by
    have := mem_reach_isSome Tk f _ _ (hv.kids.self_mem h hr'0)
    rw [hr'k] at this; simp at this
  have hggK : gg ∉ kidsIns gnd idx r := fun h =>
    (hv.kid_old_or_new h hgg0).elim hggnot (fun h1 => by have := hP.newsNone gg h1; rw [hggg] at this; cases this)
  have hggk : Tk.get? gg = some ggnd := by rw [hv.frame gg (by simp [hggg]) hggnot]; exact hggg
  have h0 := hS.cleared
  rw [hS.pstep_eq]
  generalize clearProm Tk = Tk0 at h0 ⊢
  obtain ⟨hc, hsh, hal'⟩ :=
    innerSplit_spec (t := Tk0) (g := g) (gg := gg) (idx := idx) (idxg := idxg)
      h0.fresh (h0.sl ▸ hsl2) hv.g0 hgg0 (fun e => hggnot (by rw [e]; exact self_mem_reach hW))
      ((h0.get g).trans hv.getG) (nodeShape_congr h0.sl hv.shape) hv.parent hcs (hfull.trans h0.sl.symm) hv.idxLe
      (by rw [h0.tpc0, ← hchild]; simp [Node.child, hcs]) ((h0.get gg).trans hggk)
      (nodeShape_congr h0.sl hggs) hcsg hcig huniqg hidxg (h0.tpc1 ▸ hv.g_not_kid) (h0.tpc1 ▸ hggK) (h0.tpc1 ▸ h0.next ▸ hnK)
      (by rw [h0.tpc1, h0.sl]; exact fun y => kids_disjoint hv.kids hv.nodup _)
  generalize Tk0.promoteStep g (idx : Int) = T' at *
  rw [h0.next, h0.tpc1, h0.tempParent, h0.sl] at hc
  obtain ⟨s1, s2, s3, s4, s5, s6, s7, s8, s9⟩ := shell_fields hsh
  have hsl' : T'.sl = T.sl := s1.trans h0.sl
  obtain ⟨n1, n2, n3⟩ := hS.news_fresh hfreshT 1
  have al : Alloc T T' (news.length + 1) := h0.alloc.trans hal'
  exact ⟨(split_step hv hfull hr'0 (hc.congr h0.get (h0.sl.trans hv.sl.symm)) n1 n2).pending hid,
    ⟨s5, s6, s7.trans (by rw [h0.tempParent, h0.sl]), s8, s9.trans h0.next⟩, s3.trans h0.ok, by rw [List.length_append]; exact al.len,
    al.fresh hfreshT, al.lt (Nat.succ_pos _), h0.base.trans (SameBase.trans (by exact SameBase.refl Tk0) (SameBase.of_shell hsh)),
    s4.trans h0.uniq, al.keep, by simp, by rw [List.length_append]; exact al.next, n3⟩

end Sop.BTree.Ins
