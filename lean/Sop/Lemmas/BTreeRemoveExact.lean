import Sop.Lemmas.BTreeRemoveCases
/-! Remove side of Model B (C17): with pairwise different item ids the contents after `RemoveCurrentItem` are exact
in every branch, and the ids stay pairwise different. -/
namespace Sop.BTree.Rem
open Sop.BTree

/-- `s` occurs neither in `L` nor in `R`, so a cut `L2 ++ s :: R2` of `L ++ s :: s :: R` is at one of the two adjacent
    `s`, and both give `L ++ s :: R` -/
theorem twostep_list {s : Item} {L R L2 R2 : List Item} (hL : s ∉ L) (hR : s ∉ R)
    (h : L ++ s :: s :: R = L2 ++ s :: R2) : L2 ++ R2 = L ++ s :: R := by
  rcases List.append_eq_append_iff.mp h with ⟨a', h1, h2⟩ | ⟨c', h1, h2⟩
  · cases a' with
    | nil =>
      simp only [List.nil_append, List.cons.injEq, true_and] at h2
      rw [h1, ← h2]; simp
    | cons y a'' =>
      simp only [List.cons_append, List.cons.injEq] at h2
      obtain ⟨rfl, h2⟩ := h2
      cases a'' with
      | nil =>
        simp only [List.nil_append, List.cons.injEq, true_and] at h2
        rw [h1, h2]; simp
      | cons z a''' =>
        simp only [List.cons_append, List.cons.injEq] at h2
        exfalso; apply hR; rw [h2.2]; simp
  · cases c' with
    | nil =>
      simp only [List.nil_append, List.cons.injEq, true_and] at h2
      rw [List.append_nil] at h1
      rw [h1, h2]
    | cons y c'' =>
      simp only [List.cons_append, List.cons.injEq] at h2
      exfalso; apply hL; rw [h1, h2.1]; simp

theorem twostep_exact {x : Item} {a u : List Item} (hids : (a.map (·.id)).Nodup) (h : TakesOutVia a x u) :
    TakesOut a x u := by
  obtain ⟨L, s, R, e1, L2, R2, e2, e3⟩ := h
  refine ⟨L, s :: R, e1, ?_⟩
  rw [e3]
  rw [e1] at hids
  simp only [List.map_append, List.map_cons] at hids
  have h1 := List.nodup_append.mp hids
  have h2 := List.nodup_cons.mp h1.2.1
  have h3 := List.nodup_cons.mp h2.2
  refine twostep_list ?_ ?_ e2
  · intro hm
    exact h1.2.2 s.id (List.mem_map.mpr ⟨s, hm, rfl⟩) s.id (by simp) rfl
  · intro hm
    exact h3.1 (List.mem_map.mpr ⟨s, hm, rfl⟩)

/-- Exact contents, under the hypothesis that the item ids of the tree are pairwise different (no theorem of the
    development establishes it). -/
theorem removeCurrent_ok_exact (t : BTree) (hwf : WF t) (hp : t.panicked = false) (hc : CursorOn t)
    (hids : (t.abs.map (·.id)).Nodup) :
    Removed t t.removeCurrent (TakesOut t.abs t.curItem) := by
  exact (removeCurrent_cases t hwf hp hc).imp rfl (fun _ h => h.elim id (twostep_exact hids))

theorem removeCurrent_ids (t : BTree) (hwf : WF t) (hp : t.panicked = false) (hc : CursorOn t)
    (hids : (t.abs.map (·.id)).Nodup) : (t.removeCurrent.1.abs.map (·.id)).Nodup := by
  obtain ⟨_, _, _, _, _, L, R, e1, e2⟩ := removeCurrent_ok_exact t hwf hp hc hids
  rw [e2]
  rw [e1] at hids
  refine List.Nodup.sublist ?_ hids
  apply List.Sublist.map
  exact List.Sublist.append (List.Sublist.refl L) (List.sublist_cons_self _ R)

theorem updateCurrentValue_ids (t : BTree) (v : Nat) (hwf : WF t) (hp : t.panicked = false) (hc : CursorOn t) :
    (t.updateCurrentValue v).1.abs.map (·.id) = t.abs.map (·.id) ∧
    (t.updateCurrentValue v).1.abs.map (·.key) = t.abs.map (·.key) := by
  obtain ⟨_, _, _, _, _, L, R, e1, e2⟩ := updateCurrentValue_ok t v hwf hp hc
  rw [e1, e2]; simp

theorem updateCurrent_ids (t : BTree) (key : Int) (val : Option Nat) (hwf : WF t) (hp : t.panicked = false)
    (hc : CursorOn t) (hkey : t.curItem.key = key) :
    (t.updateCurrent key val).1.abs.map (·.id) = t.abs.map (·.id) ∧
    (t.updateCurrent key val).1.abs.map (·.key) = t.abs.map (·.key) := by
  obtain ⟨_, _, _, _, _, L, R, e1, e2⟩ := updateCurrent_ok t key val hwf hp hc hkey
  rw [e1, e2]; simp

end Sop.BTree.Rem
