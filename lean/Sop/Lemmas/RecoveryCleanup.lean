import Sop.Lemmas.RecoveryFlipped
/-! The cleanup window: once `deleteObsoleteEntries` is logged, recovery only finishes the cleanup. -/
namespace Sop.Recovery
open Sop.Commit

/-- log lines cleanup itself appends -/
def cleanupLine (e : Entry) : Bool :=
  (e.step == .deleteObsoleteEntries || e.step == .deleteTrackedItemsValues) && e.p == .none

/-- they carry no payload and fall in `walkEntry`'s catch-all arm -/
theorem walk_skips_cleanup_lines (last : Nat) (post : List Entry) (hpost : ∀ e ∈ post, cleanupLine e = true)
    (rest : List Entry) (x : DState × List Ev) : walk last (post ++ rest) x = walk last rest x := by
  induction post with
  | nil => rfl
  | cons e t ih =>
    have he := hpost e (by simp)
    have ht : ∀ e ∈ t, cleanupLine e = true := fun e' h' => hpost e' (by simp [h'])
    obtain ⟨st, p⟩ := e
    simp [cleanupLine] at he
    obtain ⟨hst, hp⟩ := he
    subst hp
    rcases hst with h | h <;> subst h <;> simp [walk, walkEntry, ih ht]

theorem expired_finishes_cleanup (x : DState × List Ev) (pre post : List Entry) (dead unused vals : List UUID) (l : Entry)
    (hlog : x.1.log = pre ++ ⟨.finalizeCommit, .obsolete dead unused vals⟩ :: post)
    (hpost : ∀ e ∈ post, cleanupLine e = true) (hne : post.getLast? = some l) (htl : x.1.s.tlog x.1.tid = true) :
    expiredRollback x =
      removeLog (deleteObsolete dead unused
        (if l.step.ord == Step.deleteTrackedItemsValues.ord && !vals.isEmpty then blobRemove vals x else x)) := by
  have hl : x.1.log.getLast? = some l := by
    rw [hlog]
    cases post with
    | nil => simp at hne
    | cons a t => simp [List.getLast?_append, List.getLast?_cons_cons] at hne ⊢; simpa [List.getLast?_cons] using hne
  have hge : l.step.ord ≥ Step.deleteObsoleteEntries.ord := by
    have := hpost l (List.mem_of_getLast? hne)
    obtain ⟨st, p⟩ := l
    simp [cleanupLine] at this
    rcases this.1 with h | h <;> subst h <;> simp [Step.ord]
  unfold expiredRollback
  simp only [htl, hl]
  simp only [Bool.not_true, Bool.false_eq_true, ↓reduceIte]
  rw [hlog]
  simp only [List.reverse_append, List.reverse_cons, List.append_assoc]
  rw [walk_skips_cleanup_lines _ post.reverse (fun e he => hpost e (by simpa using he))]
  simp [walk, walkEntry, hge]

theorem State.addBlobs_tlog (s : State) (ids : List UUID) : (s.addBlobs ids).tlog = s.tlog :=
  foldl_keeps (·.tlog) (fun s i => s.setBlob i true) (fun _ _ => rfl) ids s

theorem State.delRegs_tlog (s : State) (ids : List UUID) : (s.delRegs ids).tlog = s.tlog :=
  foldl_keeps (·.tlog) State.delReg (fun _ _ => rfl) ids s

theorem run_tlog_keep (l : List DOp) (h : ∀ o ∈ l, o.isTlogRemove = false) :
    ∀ d : DState, d.s.tlog d.tid = true → (run d l).s.tlog d.tid = true := by
  intro d ht
  refine run_inv (fun d' => d'.s.tlog d.tid = true) l (fun o ho d' hd => ?_) d ht
  have keep : ∀ s' : State, s'.tlog = d'.s.tlog → s'.tlog d.tid = true := fun _ e => (congrFun e d.tid).trans hd
  cases o with
  | log e => show (if d.tid = d'.tid then true else d'.s.tlog d.tid) = true; split <;> simp [hd]
  | regAdd hs | regUpd hs _ => exact keep _ (setRegs_tlog hs d'.s)
  | regRemove ids => exact keep _ (State.delRegs_tlog d'.s ids)
  | cnt ds => exact keep _ (addCnts_tlog ds d'.s)
  | blobAdd ids => exact keep _ (State.addBlobs_tlog d'.s ids)
  | blobRemove ids => exact keep _ (State.delBlobs_tlog d'.s ids)
  | tlogRemove => cases h _ ho
  | plogAdd _ | plogRemove => exact hd

theorem addCnts_cnt_congr (ds : List (Nat × Int)) : ∀ s s' : State, s.cnt = s'.cnt → (addCnts s ds).cnt = (addCnts s' ds).cnt :=
  foldl_addCnt_cnt_congr ds

section
variable {s0 : State} {w : WS} {fresh : List (UUID × UUID)}

theorem segClean_ops : ∀ o ∈ segClean s0 fresh w,
    o.isTlogRemove = false ∧ o.isPlogOp = false ∧ ∀ e, o = .log e → cleanupLine e = true := by
  simp only [segClean, segCleanNodes, segCleanValues, List.forall_mem_append]
  refine ⟨⟨all_when (all_one ⟨rfl, rfl, fun _ h => DOp.noConfusion h⟩), all_one ⟨rfl, rfl, fun _ h => DOp.noConfusion h⟩⟩,
    all_one ⟨rfl, rfl, fun e he => ?_⟩, fun o ho => ?_⟩
  · cases he; rfl
  · obtain ⟨st, _, rfl⟩ := List.mem_map.mp ho
    exact ⟨rfl, rfl, fun _ h => DOp.noConfusion h⟩

theorem clean_apply (wf : WF s0 w fresh) (tid : Tid) :
    ∀ o ∈ segCleanupLog ++ (segClean s0 fresh w ++ [.tlogRemove]), ∀ d, FlippedInv s0 fresh w tid d → FlippedInv s0 fresh w tid (o.apply d) := by
  simp only [segCleanupLog, segClean, segCleanNodes, segCleanValues, List.forall_mem_append]
  refine ⟨all_one ?logLine12, ⟨⟨all_when (all_one ?deleteUnused), all_one ?unregisterDead⟩, all_one ?logLine13, ?deleteObsolete⟩,
    all_one ?removeLog⟩
  case logLine12 => exact fun d j => j.setTlog _ _
  case deleteUnused => exact fun d j => j.delBlobs (cleanableW_unused wf)
  case unregisterDead => exact fun d j => (j.delRegs_dead wf).1
  case logLine13 => exact fun d j => j.setTlog _ _
  case deleteObsolete =>
    intro o ho d j
    obtain ⟨st, hst, rfl⟩ := List.mem_map.mp ho
    exact j.delBlobs (cleanableW_obsolete wf _ fun x hx => obsolete_sub (List.mem_filter.mp hst).1 hx)
  case removeLog => exact fun d j => j.setTlog _ _

structure CleanupInv (s0 : State) (fresh : List (UUID × UUID)) (w : WS) (tid : Tid) (d : DState) : Prop where
  flipped : FlippedInv s0 fresh w tid d
  /-- the log ends with the line of `finalizeCommit` followed by at least one line of cleanup: the walk's `last` is then a cleanup line, and
  that is what makes it finish the cleanup instead of rolling back -/
  log : ∃ preL post, d.log = preL ++ finEntry s0 fresh w :: post ∧ post ≠ [] ∧ ∀ e ∈ post, cleanupLine e = true
  tlog : d.s.tlog d.tid = true

/-- a call of cleanup keeps `FlippedInv` (`clean_apply`), appends at most a cleanup line to the log and leaves the log file there -/
theorem clean_step (wf : WF s0 w fresh) (tid : Tid) :
    ∀ o ∈ segClean s0 fresh w, ∀ d, CleanupInv s0 fresh w tid d → CleanupInv s0 fresh w tid (o.apply d) := by
  intro o ho d k
  obtain ⟨noRemove, _, line⟩ := segClean_ops o ho
  obtain ⟨preL, post, e, hne, hpost⟩ := k.log
  have hlog : (o.apply d).log = d.log ++ logsOf [o] := run_log [o] (all_one noRemove) d
  refine ⟨clean_apply wf tid o (List.mem_append_right _ (List.mem_append_left _ ho)) d k.flipped,
    ⟨preL, post ++ logsOf [o], by rw [hlog, e, List.append_assoc, List.cons_append],
      List.append_ne_nil_of_left_ne_nil hne _, fun e' he' => ?_⟩,
    (apply_tid d o).symm ▸ run_tlog_keep [o] (all_one noRemove) d k.tlog⟩
  rcases List.mem_append.mp he' with he' | he'
  · exact hpost e' he'
  · exact line e' (List.mem_singleton.mp (mem_logsOf he')).symm

theorem deleteObsolete_state (dead unused : List UUID) (x : DState × List Ev) :
    (deleteObsolete dead unused x).1 = { x.1 with s := (x.1.s.delBlobs unused).delRegs dead } := by
  cases unused <;> rfl

theorem recover_cleanup (wf : WF s0 w fresh) (tid : Tid) (d : DState) (k : CleanupInv s0 fresh w tid d) :
    Finished s0 fresh w tid (recover d).1 := by
  obtain ⟨j, ⟨preL, post, hlog, hne, hpost⟩, htl⟩ := k
  rw [recover_fst, priorityRollback_none _ j.plg]
  cases hl : post.getLast? with
  | none => exact absurd (List.getLast?_eq_none_iff.mp hl) hne
  | some l =>
    rw [expired_finishes_cleanup (d, []) preL post _ _ _ l hlog hpost hl htl]
    -- the optional deletion of the obsolete value blobs, then what `deleteObsoleteEntries` does
    generalize hX : (if (l.step.ord == Step.deleteTrackedItemsValues.ord && !w.obsoleteValues.isEmpty) = true
        then blobRemove w.obsoleteValues (d, []) else (d, [])) = X
    have jX : FlippedInv s0 fresh w tid X.1 := by
      subst hX
      split
      · exact j.delBlobs (cleanableW_obsolete wf _ fun _ hx => hx)
      · exact j
    obtain ⟨j3, dead⟩ := (jX.delBlobs (cleanableW_unused wf)).delRegs_dead wf
    simp only [removeLog, emit, deleteObsolete_state]
    exact ⟨j3.setTlog _ _, dead⟩

end
end Sop.Recovery
