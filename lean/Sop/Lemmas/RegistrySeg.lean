import Sop.Lemmas.RegistryRmw
/-!
# Creating a missing segment file does not lose an acknowledged write

`Rmw.Seg`: writers of one block of one segment file that may not exist yet. Every writer looks (without a lock)
whether the file exists; if not it goes through `setupNewFile` (preallocation lock, `Open(O_CREATE)` + `Truncate`,
unlock) — possibly after another writer created the file and wrote into it; then it does its block
read-modify-write. With an open that keeps an existing file's content (`trunc = false`) the block
invariant `Rmw.Inv` holds along every schedule (`SInv`), so the slot of every writer that has returned holds its value,
when no other writer aims at that slot (`done_slot_kept`).
-/
namespace Sop.RegistryMW.Rmw

variable {K R : Type} [DecidableEq K]

theorem mkStep_locks (me : Nat) (l : Locks K) (pk k : K) (hk : k ≠ pk) (p : MkPc) : (mkStep me l pk p).1 k = l k := by
  cases p with
  | lock =>
    simp only [mkStep, tryLock]
    cases l pk <;> simp [Locks.set, hk]
  | «open» => rfl
  | unlock =>
    simp only [mkStep, unlock]
    split <;> simp [Locks.set, hk]
  | ready | busy => rfl

def needsFile : Pre → Bool
  | .go => true
  | .mk .unlock => true
  | .mk .ready => true
  | _ => false

structure SInv (ws0 : List (Wr K R)) (b0 : List (Option R)) (k : K) (s : Seg K R) : Prop where
  inv : Inv ws0 b0 k s.rs
  absent : s.present = false → s.rs.blk = b0
  /-- a writer past the creating open (or that saw the file) implies the file exists -/
  file : ∀ (i : Nat) (x : Pre), s.pre[i]? = some x → needsFile x = true → s.present = true

omit [DecidableEq K] in
theorem SInv.set_pre {ws0 : List (Wr K R)} {b0 : List (Option R)} {k : K} {s : Seg K R} (hi : SInv ws0 b0 k s)
    (i : Nat) (x : Pre) (present' : Bool) (rs' : Sys K R) (hinv : Inv ws0 b0 k rs')
    (habs : present' = false → rs'.blk = b0) (hmono : s.present = true → present' = true)
    (hx : needsFile x = true → present' = true) :
    SInv ws0 b0 k { present := present', pre := s.pre.set i x, rs := rs' } :=
  ⟨hinv, habs, forall_set (fun j y _ h hy => hmono (hi.file j y h hy)) (fun _ => hx)⟩

/-- with an open that keeps the content of an existing file, every call of every writer keeps the invariant -/
theorem sinv_step {ws0 : List (Wr K R)} {n : Nat} {k pk : K} (hk : k ≠ pk) {s : Seg K R}
    (hi : SInv ws0 (List.replicate n none) k s) (i : Nat) :
    SInv ws0 (List.replicate n none) k (Seg.step false pk n s i) := by
  unfold Seg.step
  cases hp : s.pre[i]? with
  | none => exact hi
  | some p =>
    cases p with
    | check =>
      simp only
      apply SInv.set_pre hi i _ s.present s.rs hi.inv hi.absent id
      cases s.present
      · exact fun h => nomatch h
      · exact fun _ => rfl
    | go =>
      simp only
      have hpres := hi.file i .go hp rfl
      exact ⟨inv_step hi.inv i, (fun h => by rw [hpres] at h; cases h), hi.file⟩
    | failed => exact hi
    | mk q =>
      simp only
      have hlocks := mkStep_locks i s.rs.locks pk k hk q
      cases q with
      | lock =>
        simp only [mkStep] at hlocks ⊢
        -- granted or refused, the block key is not touched
        cases hl : tryLock s.rs.locks pk i with
        | none =>
          rw [hl] at hlocks
          exact SInv.set_pre hi i _ s.present _ (inv_congr_locks hi.inv _ hlocks) hi.absent id (fun h => nomatch h)
        | some l' =>
          rw [hl] at hlocks
          exact SInv.set_pre hi i _ s.present _ (inv_congr_locks hi.inv _ hlocks) hi.absent id (fun h => nomatch h)
      | «open» =>
        simp only [mkStep]
        have hblk : created false s.present s.rs.blk (List.replicate n (none : Option R)) = s.rs.blk := by
          unfold created
          cases hpr : s.present with
          | true => simp
          | false => simp [hi.absent hpr]
        rw [hblk]
        exact SInv.set_pre hi i _ true _ hi.inv (fun h => by cases h) (fun _ => rfl) (fun _ => rfl)
      | unlock =>
        simp only [mkStep] at hlocks ⊢
        exact SInv.set_pre hi i _ s.present _ (inv_congr_locks hi.inv _ hlocks) hi.absent id (fun _ => hi.file i _ hp rfl)
      | ready =>
        simp only [mkStep]
        exact SInv.set_pre hi i _ s.present _ hi.inv hi.absent id (fun _ => hi.file i _ hp rfl)
      | busy =>
        simp only [mkStep]
        exact SInv.set_pre hi i _ s.present _ hi.inv hi.absent id (fun h => nomatch h)

theorem sinv_run {ws0 : List (Wr K R)} {n : Nat} {k pk : K} (hk : k ≠ pk) (sch : List Nat) :
    ∀ {s : Seg K R}, SInv ws0 (List.replicate n none) k s → SInv ws0 (List.replicate n none) k (Seg.run false pk n s sch) := by
  induction sch with
  | nil => intro s h; exact h
  | cons i is ih => intro s h; exact ih (sinv_step hk h i)

end Sop.RegistryMW.Rmw
