import Sop.Model.RegistryMW
import Sop.Lemmas.Basics
/-!
# The block read-modify-write under one lock is linearizable in the order of lock acquisition

`Rmw.Sys`: any number of writers of ONE block, each an `updateFileBlockRegion` (lock, read the block, write it
back with one slot changed, unlock), all locking the same key `k`. `Inv` holds along every schedule; it says that
the block on disk is the initial block with the changes of the writers that have written, applied in the order in
which they were granted the lock (`applied`, `Inv.blk_applied`), and that a writer between its read and its write holds
the block that is on disk. A writer is at `lock` exactly while it has not been granted the lock (`acqLock`): that is what
makes the order a permutation of all writers once all have returned (`done_of_inv`).
`Rmw.step` never lets a retry time lapse (`timedOut = false`): "every schedule" means every schedule of refused and
granted calls, and no writer ever fails.
-/
set_option linter.unusedSectionVars false

namespace Sop.RegistryMW.Rmw

variable {K R : Type}

def holds (pc : Pc) : Bool := pc == .read || pc == .write || pc == .unlock

def SameProg (ws0 ws : List (Wr K R)) : Prop :=
  ws.length = ws0.length ∧
  ∀ (i : Nat) (w : Wr K R), ws[i]? = some w → ∃ w0 : Wr K R, ws0[i]? = some w0 ∧ w.slot = w0.slot ∧ w.val = w0.val ∧ w.key = w0.key

structure Inv (ws0 : List (Wr K R)) (b0 : List (Option R)) (k : K) (s : Sys K R) : Prop where
  prog : SameProg ws0 s.ws
  key : ∀ (i : Nat) (w : Wr K R), s.ws[i]? = some w → w.key = k
  notFailed : ∀ (i : Nat) (w : Wr K R), s.ws[i]? = some w → w.pc ≠ Pc.failed
  acqLock : ∀ (i : Nat) (w : Wr K R), s.ws[i]? = some w → (w.pc = Pc.lock ↔ i ∉ s.acq)
  acqBound : ∀ i, i ∈ s.acq → i < s.ws.length
  nodup : s.acq.Nodup
  free : s.locks k = none → (∀ (i : Nat) (w : Wr K R), s.ws[i]? = some w → holds w.pc = false) ∧ s.blk = applyAll ws0 b0 s.acq
  held : ∀ h, s.locks k = some h → ∃ (w : Wr K R) (pre : List Nat), s.ws[h]? = some w ∧ s.acq = pre ++ [h] ∧
    (∀ (j : Nat) (w' : Wr K R), j ≠ h → s.ws[j]? = some w' → holds w'.pc = false) ∧
    ((w.pc = Pc.read ∧ s.blk = applyAll ws0 b0 pre) ∨
     (w.pc = Pc.write ∧ s.blk = applyAll ws0 b0 pre ∧ w.buf = s.blk) ∨
     (w.pc = Pc.unlock ∧ s.blk = applyAll ws0 b0 s.acq))

theorem applyAll_append (ws : List (Wr K R)) (b : List (Option R)) (xs ys : List Nat) :
    applyAll ws b (xs ++ ys) = applyAll ws (applyAll ws b xs) ys := by
  simp [applyAll, List.foldl_append]

theorem applyAll_single (ws : List (Wr K R)) (b : List (Option R)) (h : Nat) (w : Wr K R) (hw : ws[h]? = some w) :
    applyAll ws b [h] = b.set w.slot w.val := by
  simp [applyAll, hw]

theorem applyAll_cons_some (ws : List (Wr K R)) (b : List (Option R)) (j : Nat) (js : List Nat) (w : Wr K R)
    (hw : ws[j]? = some w) : applyAll ws b (j :: js) = applyAll ws (b.set w.slot w.val) js := by
  simp [applyAll, hw]

theorem applyAll_cons_none (ws : List (Wr K R)) (b : List (Option R)) (j : Nat) (js : List Nat)
    (hw : ws[j]? = none) : applyAll ws b (j :: js) = applyAll ws b js := by
  simp [applyAll, hw]

theorem applyAll_untouched (ws : List (Wr K R)) (t : Nat) (order : List Nat) :
    ∀ b : List (Option R), (∀ (j : Nat) (wj : Wr K R), j ∈ order → ws[j]? = some wj → wj.slot ≠ t) →
      (applyAll ws b order)[t]? = b[t]? := by
  induction order with
  | nil => intro b _; rfl
  | cons j js ih =>
    intro b h
    have h' : ∀ (j' : Nat) (wj : Wr K R), j' ∈ js → ws[j']? = some wj → wj.slot ≠ t :=
      fun j' wj hj hw => h j' wj (List.mem_cons_of_mem _ hj) hw
    cases hw : ws[j]? with
    | none => rw [applyAll_cons_none ws b j js hw]; exact ih b h'
    | some wj =>
      rw [applyAll_cons_some ws b j js wj hw, ih _ h']
      exact List.getElem?_set_ne (h j wj (List.mem_cons_self ..) hw)

/-- the only writer of its slot in `order` finds its value there afterwards -/
theorem applyAll_get (ws : List (Wr K R)) (i : Nat) (w0 : Wr K R) (hw0 : ws[i]? = some w0) (order : List Nat) :
    ∀ b : List (Option R), i ∈ order → order.Nodup → w0.slot < b.length →
      (∀ (j : Nat) (wj : Wr K R), j ∈ order → j ≠ i → ws[j]? = some wj → wj.slot ≠ w0.slot) →
      (applyAll ws b order)[w0.slot]? = some w0.val := by
  induction order with
  | nil => intro b h; cases h
  | cons j js ih =>
    intro b hmem hnd hlt hdist
    have hnd' := List.nodup_cons.mp hnd
    by_cases hji : j = i
    · subst hji
      rw [applyAll_cons_some ws b j js w0 hw0]
      rw [applyAll_untouched ws w0.slot js _ (fun j' wj hj hw => hdist j' wj (List.mem_cons_of_mem _ hj)
        (fun e => hnd'.1 (e ▸ hj)) hw)]
      exact List.getElem?_set_self hlt
    · have hmem' : i ∈ js := by
        rcases List.mem_cons.mp hmem with e | h
        · exact absurd e.symm hji
        · exact h
      have hdist' : ∀ (j' : Nat) (wj : Wr K R), j' ∈ js → j' ≠ i → ws[j']? = some wj → wj.slot ≠ w0.slot :=
        fun j' wj hj hne hw => hdist j' wj (List.mem_cons_of_mem _ hj) hne hw
      cases hw : ws[j]? with
      | none => rw [applyAll_cons_none ws b j js hw]; exact ih b hmem' hnd'.2 hlt hdist'
      | some wj =>
        rw [applyAll_cons_some ws b j js wj hw]
        exact ih _ hmem' hnd'.2 (by simpa using hlt) hdist'

variable [DecidableEq K]

theorem inv_start (ws0 : List (Wr K R)) (b0 : List (Option R)) (k : K) (l : Locks K) (hl : l k = none)
    (hw : ∀ w ∈ ws0, w.key = k ∧ w.pc = .lock) : Inv ws0 b0 k { blk := b0, locks := l, ws := ws0, acq := [] } := by
  replace hw := fun (i : Nat) (w : Wr K R) (h : ws0[i]? = some w) => hw w (List.mem_of_getElem? h)
  refine ⟨⟨rfl, fun i w h => ⟨w, h, rfl, rfl, rfl⟩⟩, fun i w h => (hw i w h).1, fun i w h => ?_, fun i w h => ?_,
    (fun i h => nomatch h), List.nodup_nil, fun _ => ⟨fun i w h => ?_, rfl⟩, fun h hh => ?_⟩
  · rw [(hw i w h).2]; decide
  · simp [(hw i w h).2]
  · rw [(hw i w h).2]; rfl
  · exact nomatch hl.symm.trans hh

theorem step_of_none (s : Sys K R) (i : Nat) (h : s.ws[i]? = none) : step s i = s := by
  simp [step, h]

section Call
variable (s : Sys K R) (i : Nat) (w : Wr K R) (hw : s.ws[i]? = some w)
include hw

theorem step_refused (hpc : w.pc = .lock) {h : Nat} (hh : s.locks w.key = some h) : step s i = s := by
  simp [step, hw, stepW, hpc, tryLock, hh, set_self hw]

theorem step_done (hpc : w.pc = .done) : step s i = s := by
  simp [step, hw, stepW, hpc, set_self hw]

theorem step_lock_free (hpc : w.pc = .lock) (hf : s.locks w.key = none) :
    step s i = ⟨s.blk, s.locks.set w.key (some i), s.ws.set i { w with pc := .read }, s.acq ++ [i]⟩ := by
  simp [step, hw, stepW, hpc, tryLock, hf]

theorem step_read (hpc : w.pc = .read) :
    step s i = ⟨s.blk, s.locks, s.ws.set i { w with pc := .write, buf := s.blk }, s.acq⟩ := by
  simp [step, hw, stepW, hpc]

theorem step_write (hpc : w.pc = .write) :
    step s i = ⟨w.buf.set w.slot w.val, s.locks, s.ws.set i { w with pc := .unlock }, s.acq⟩ := by
  simp [step, hw, stepW, hpc]

theorem step_unlock (hpc : w.pc = .unlock) (hh : s.locks w.key = some i) :
    step s i = ⟨s.blk, s.locks.set w.key none, s.ws.set i { w with pc := .done }, s.acq⟩ := by
  simp [step, hw, stepW, hpc, unlock, hh]

end Call

section Step
variable {ws0 : List (Wr K R)} {b0 : List (Option R)} {k : K} {s : Sys K R}

/-- `held` read from the writer's side, in the form the proofs use: a writer inside read..unlock is the holder, and each
position implies its clause (where `held` has a disjunction to be taken apart) -/
theorem Inv.holder (hi : Inv ws0 b0 k s) {i : Nat} {w : Wr K R} (hw : s.ws[i]? = some w) (hh : holds w.pc = true) :
    s.locks k = some i ∧ ∃ pre, s.acq = pre ++ [i] ∧
      (∀ (j : Nat) (w' : Wr K R), j ≠ i → s.ws[j]? = some w' → holds w'.pc = false) ∧
      (w.pc = Pc.read → s.blk = applyAll ws0 b0 pre) ∧
      (w.pc = Pc.write → s.blk = applyAll ws0 b0 pre ∧ w.buf = s.blk) ∧
      (w.pc = Pc.unlock → s.blk = applyAll ws0 b0 s.acq) := by
  cases hlk : s.locks k with
  | none => rw [(hi.free hlk).1 i w hw] at hh; cases hh
  | some h =>
    obtain ⟨wh, pre, hwh, hacq, hoth, hc⟩ := hi.held h hlk
    by_cases e : i = h
    · subst e
      rw [hw] at hwh; cases hwh
      refine ⟨rfl, pre, hacq, hoth, ?_⟩
      rcases hc with ⟨e, h⟩ | ⟨e, h⟩ | ⟨e, h⟩
      · exact ⟨fun _ => h, fun e' => Pc.noConfusion (e.symm.trans e'), fun e' => Pc.noConfusion (e.symm.trans e')⟩
      · exact ⟨fun e' => Pc.noConfusion (e.symm.trans e'), fun _ => h, fun e' => Pc.noConfusion (e.symm.trans e')⟩
      · exact ⟨fun e' => Pc.noConfusion (e.symm.trans e'), fun e' => Pc.noConfusion (e.symm.trans e'), fun _ => h⟩
    · rw [hoth i w e hw] at hh; cases hh

theorem Inv.orig (hi : Inv ws0 b0 k s) {i : Nat} {w : Wr K R} (hw : s.ws[i]? = some w) :
    ∃ w0 : Wr K R, ws0[i]? = some w0 ∧ w.slot = w0.slot ∧ w.val = w0.val ∧ w.key = w0.key :=
  hi.prog.2 i w hw

/-- the fields of `Inv` that speak of the writers' records only, for a list of records `ws` -/
structure Records (ws0 : List (Wr K R)) (k : K) (acq : List Nat) (ws : List (Wr K R)) : Prop where
  prog : SameProg ws0 ws
  key : ∀ (j : Nat) (x : Wr K R), ws[j]? = some x → x.key = k
  notFailed : ∀ (j : Nat) (x : Wr K R), ws[j]? = some x → x.pc ≠ Pc.failed
  acqBound : ∀ j, j ∈ acq → j < ws.length

theorem Inv.set_records (hi : Inv ws0 b0 k s) {i : Nat} {w w' : Wr K R} (hw : s.ws[i]? = some w)
    (hs : w'.slot = w.slot) (hv : w'.val = w.val) (hk : w'.key = w.key) (hf : w'.pc ≠ .failed) :
    Records ws0 k s.acq (s.ws.set i w') := by
  obtain ⟨w0, hw0, hs0, hv0, hk0⟩ := hi.orig hw
  refine ⟨⟨by rw [List.length_set, hi.prog.1], ?_⟩, ?_, ?_, ?_⟩
  · exact forall_set (fun j x _ hx => hi.prog.2 j x hx) (fun _ => ⟨w0, hw0, hs.trans hs0, hv.trans hv0, hk.trans hk0⟩)
  · exact forall_set (fun j x _ hx => hi.key j x hx) (fun _ => hk.trans (hi.key i w hw))
  · exact forall_set (fun j x _ hx => hi.notFailed j x hx) (fun _ => hf)
  · intro j hj; rw [List.length_set]; exact hi.acqBound j hj

theorem Inv.set_acqLock (hi : Inv ws0 b0 k s) {i : Nat} {w' : Wr K R} (hin : i ∈ s.acq) (hl : w'.pc ≠ .lock) :
    ∀ (j : Nat) (x : Wr K R), (s.ws.set i w')[j]? = some x → (x.pc = Pc.lock ↔ j ∉ s.acq) :=
  forall_set (fun j x _ hx => hi.acqLock j x hx) (fun _ => by simp [hin, hl])

theorem inv_step (hi : Inv ws0 b0 k s) (i : Nat) : Inv ws0 b0 k (step s i) := by
  cases hw : s.ws[i]? with
  | none => rw [step_of_none s i hw]; exact hi
  | some w =>
    have hil := lt_of_get hw
    obtain rfl := hi.key i w hw
    have hget : ∀ w' : Wr K R, (s.ws.set i w')[i]? = some w' := fun w' => by rw [List.getElem?_set_self hil]
    have hothers : ∀ {w' : Wr K R}, (∀ (j : Nat) (x : Wr K R), j ≠ i → s.ws[j]? = some x → holds x.pc = false) →
        ∀ (j : Nat) (x : Wr K R), j ≠ i → (s.ws.set i w')[j]? = some x → holds x.pc = false :=
      fun h j x hne hx => h j x hne (by rwa [List.getElem?_set_ne (Ne.symm hne)] at hx)
    cases hpc : w.pc with
    | lock =>
      cases hlk : s.locks w.key with
      | some h => rw [step_refused s i w hw hpc hlk]; exact hi
      | none =>
        -- granted: `i` is appended to the acquisition order and becomes the holder, in front of its read
        have hnotacq : i ∉ s.acq := (hi.acqLock i w hw).1 hpc
        obtain ⟨hfree, hblk⟩ := hi.free hlk
        have hr := hi.set_records hw (w' := { w with pc := .read }) rfl rfl rfl (fun e => nomatch e)
        rw [step_lock_free s i w hw hpc hlk]
        refine ⟨hr.prog, hr.key, hr.notFailed, ?_, ?_, ?_, ?_, ?_⟩
        · exact forall_set (fun j x hne hx => by simp [hi.acqLock j x hx, hne]) (fun _ => by simp)
        · intro j hj
          rcases List.mem_append.mp hj with hj | hj
          · exact hr.acqBound j hj
          · rw [List.mem_singleton.mp hj, List.length_set]; exact hil
        · exact List.nodup_append.mpr ⟨hi.nodup, (by simp), fun a ha b hb e =>
            hnotacq (by rw [← List.mem_singleton.mp hb, ← e]; exact ha)⟩
        · intro hn; simp [Locks.set] at hn
        · intro h hh
          obtain rfl : i = h := by simpa [Locks.set] using hh
          exact ⟨_, s.acq, hget _, rfl, hothers fun j x _ hx => hfree j x hx, .inl ⟨rfl, hblk⟩⟩
    | read =>
      obtain ⟨hholder, pre, hacq, hoth, hblk, -⟩ := hi.holder hw (by rw [hpc]; rfl)
      replace hblk := hblk hpc
      have hin : i ∈ s.acq := by simp [hacq]
      have hr := hi.set_records hw (w' := { w with pc := .write, buf := s.blk }) rfl rfl rfl (fun e => nomatch e)
      rw [step_read s i w hw hpc]
      refine ⟨hr.prog, hr.key, hr.notFailed, hi.set_acqLock hin (fun e => nomatch e), hr.acqBound, hi.nodup, ?_, ?_⟩
      · intro hn; rw [hholder] at hn; cases hn
      · intro h hh
        obtain rfl : i = h := Option.some.inj (hholder.symm.trans hh)
        exact ⟨_, pre, hget _, hacq, hothers hoth, .inr (.inl ⟨rfl, hblk, rfl⟩)⟩
    | write =>
      obtain ⟨hholder, pre, hacq, hoth, -, hblk, -⟩ := hi.holder hw (by rw [hpc]; rfl)
      replace hblk := hblk hpc
      have hin : i ∈ s.acq := by simp [hacq]
      obtain ⟨w0, hw0, hs0, hv0, _⟩ := hi.orig hw
      have hr := hi.set_records hw (w' := { w with pc := .unlock }) rfl rfl rfl (fun e => nomatch e)
      rw [step_write s i w hw hpc]
      refine ⟨hr.prog, hr.key, hr.notFailed, hi.set_acqLock hin (fun e => nomatch e), hr.acqBound, hi.nodup, ?_, ?_⟩
      · intro hn; rw [hholder] at hn; cases hn
      · intro h hh
        obtain rfl : i = h := Option.some.inj (hholder.symm.trans hh)
        refine ⟨_, pre, hget _, hacq, hothers hoth, .inr (.inr ⟨rfl, ?_⟩)⟩
        -- the block it read is the block on disk: its change lands on top of all earlier ones
        show w.buf.set w.slot w.val = applyAll ws0 b0 s.acq
        rw [hacq, applyAll_append, applyAll_single ws0 _ i w0 hw0, hblk.2, hblk.1, hs0, hv0]
    | unlock =>
      obtain ⟨hholder, pre, hacq, hoth, -, -, hblk⟩ := hi.holder hw (by rw [hpc]; rfl)
      replace hblk := hblk hpc
      have hin : i ∈ s.acq := by simp [hacq]
      have hr := hi.set_records hw (w' := { w with pc := .done }) rfl rfl rfl (fun e => nomatch e)
      rw [step_unlock s i w hw hpc hholder]
      refine ⟨hr.prog, hr.key, hr.notFailed, hi.set_acqLock hin (fun e => nomatch e), hr.acqBound, hi.nodup, fun _ => ⟨?_, hblk⟩, ?_⟩
      · exact forall_set (fun j x hne hx => hoth j x hne hx) (fun _ => rfl)
      · intro h hh; simp [Locks.set] at hh
    | done => rw [step_done s i w hw hpc]; exact hi
    | failed => exact absurd hpc (hi.notFailed i w hw)

theorem inv_run {ws0 : List (Wr K R)} {b0 : List (Option R)} {k : K} (sch : List Nat) :
    ∀ {s : Sys K R}, Inv ws0 b0 k s → Inv ws0 b0 k (run s sch) := by
  induction sch with
  | nil => intro s h; exact h
  | cons i is ih => intro s h; exact ih (inv_step h i)

theorem Inv.held_holds (hi : Inv ws0 b0 k s) {h : Nat} (hh : s.locks k = some h) :
    ∃ w, s.ws[h]? = some w ∧ holds w.pc = true := by
  obtain ⟨w, _, hw, _, _, hc⟩ := hi.held h hh
  refine ⟨w, hw, ?_⟩
  rcases hc with ⟨e, _⟩ | ⟨e, _⟩ | ⟨e, _⟩
  · rw [e]; rfl
  · rw [e]; rfl
  · rw [e]; rfl

theorem allDone_get (hd : allDone s = true) {i : Nat} {w : Wr K R} (h : s.ws[i]? = some w) : w.pc = Pc.done := by
  have := List.all_eq_true.mp hd w (List.mem_of_getElem? h)
  simpa using this

theorem done_of_inv (hi : Inv ws0 b0 k s)
    (hd : allDone s = true) :
    s.blk = applyAll ws0 b0 s.acq ∧ s.acq.Nodup ∧ (∀ i, i ∈ s.acq ↔ i < ws0.length) ∧ s.locks k = none := by
  have hall : ∀ (i : Nat) (w : Wr K R), s.ws[i]? = some w → w.pc = Pc.done := fun i w h => allDone_get hd h
  have hfree : s.locks k = none := by
    cases hlk : s.locks k with
    | none => rfl
    | some h =>
      obtain ⟨w, hw, hh⟩ := hi.held_holds hlk
      rw [hall h w hw] at hh; cases hh
  refine ⟨(hi.free hfree).2, hi.nodup, ?_, hfree⟩
  intro i
  constructor
  · intro h; rw [← hi.prog.1]; exact hi.acqBound i h
  · intro h
    rw [← hi.prog.1] at h
    have hw : s.ws[i]? = some s.ws[i] := List.getElem?_eq_getElem h
    apply Decidable.byContradiction
    intro hn
    have := (hi.acqLock i _ hw).2 hn
    rw [hall i _ hw] at this
    cases this

/-- the writers whose change is on disk, in grant order: all that were granted the lock, but for a holder that has not
written yet -/
def applied (k : K) (s : Sys K R) : List Nat :=
  match s.locks k with
  | some h => if (s.ws[h]?.map (·.pc)) = some .unlock then s.acq else s.acq.dropLast
  | none => s.acq

/-- what `free` and the three cases of `held` say of the block -/
theorem Inv.blk_applied (hi : Inv ws0 b0 k s) : s.blk = applyAll ws0 b0 (applied k s) := by
  unfold applied
  cases hlk : s.locks k with
  | none => exact (hi.free hlk).2
  | some h =>
    obtain ⟨w, pre, hw, hacq, _, hc⟩ := hi.held h hlk
    simp only [hw, Option.map_some]
    rcases hc with ⟨e, hb⟩ | ⟨e, hb, _⟩ | ⟨e, hb⟩
    · rw [e, if_neg (by decide), hacq, List.dropLast_concat]; exact hb
    · rw [e, if_neg (by decide), hacq, List.dropLast_concat]; exact hb
    · rw [e, if_pos rfl]; exact hb

theorem Inv.nodup_applied (hi : Inv ws0 b0 k s) : (applied k s).Nodup := by
  unfold applied
  split
  · split
    · exact hi.nodup
    · exact hi.nodup.sublist (List.dropLast_sublist _)
  · exact hi.nodup

/-- a writer that has returned was granted the lock, and is not the holder: its change is on disk -/
theorem Inv.mem_applied (hi : Inv ws0 b0 k s) {i : Nat} {w : Wr K R} (hw : s.ws[i]? = some w) (hd : w.pc = .done) :
    i ∈ applied k s := by
  have hacq : i ∈ s.acq := Decidable.byContradiction fun hn => by
    have := (hi.acqLock i w hw).2 hn
    rw [hd] at this; cases this
  unfold applied
  cases hlk : s.locks k with
  | none => exact hacq
  | some h =>
    obtain ⟨_, pre, _, hpre, _, _⟩ := hi.held h hlk
    simp only
    split
    · exact hacq
    · have hne : i ≠ h := fun e => by
        obtain ⟨wh, hwh, hh⟩ := hi.held_holds hlk
        rw [← e, hw] at hwh; cases hwh
        rw [hd] at hh; cases hh
      rw [hpre, List.dropLast_concat]
      rw [hpre] at hacq
      exact (List.mem_append.mp hacq).resolve_right fun h1 => hne (List.mem_singleton.mp h1)

/-- at every point of every schedule: the slot of a writer that has returned holds its value, when no other writer
aims at that slot -/
theorem done_slot_kept (hi : Inv ws0 b0 k s)
    (i : Nat) (w : Wr K R) (hw : s.ws[i]? = some w) (hd : w.pc = .done) (hlt : w.slot < b0.length)
    (hdist : ∀ (j : Nat) (wj : Wr K R), j ≠ i → ws0[j]? = some wj → wj.slot ≠ w.slot) :
    s.blk[w.slot]? = some w.val := by
  obtain ⟨w0, hw0, hs0, hv0, _⟩ := hi.orig hw
  rw [hs0, hv0, hi.blk_applied]
  exact applyAll_get ws0 i w0 hw0 _ b0 (hi.mem_applied hw hd) hi.nodup_applied (hs0 ▸ hlt)
    fun j wj _ hne hwj => hs0 ▸ hdist j wj hne hwj

theorem init_ws (prog : List (Nat × Option R)) (b0 : List (Option R)) (j : Nat) :
    (init false prog b0).ws[j]? = prog[j]?.map fun p => { key := 0, slot := p.1, val := p.2 } := by
  simp [init, mkKey]

theorem seg_init_ws (prog : List (Nat × Option R)) (n : Nat) (b0 : List (Option R)) :
    (Seg.init prog n).rs.ws = (init false prog b0).ws := by
  simp [Seg.init, init, mkKey]

/-- writers of pairwise different slots, at every point of every schedule, not only once all have returned.
`(init false prog b0').ws` are the writers' records and do not depend on `b0'`: it is left open so that the block model
(`b0' = b0`) and the segment model (which starts from `Seg.init`) both fit. -/
theorem kept_of_inv {prog : List (Nat × Option R)} {b0 b0' : List (Option R)} {k : Nat} {s : Sys Nat R}
    (hdist : ∀ (i j : Nat) (pi pj : Nat × Option R), prog[i]? = some pi → prog[j]? = some pj → i ≠ j → pi.1 ≠ pj.1)
    (hi : Inv (init false prog b0').ws b0 k s) :
    (∀ (i : Nat) (p : Nat × Option R) (w : Wr Nat R), prog[i]? = some p → s.ws[i]? = some w → w.pc = .done →
      p.1 < b0.length → s.blk[p.1]? = some p.2) ∧
    ∀ t, (∀ p ∈ prog, p.1 ≠ t) → s.blk[t]? = b0[t]? := by
  refine ⟨fun i p w hp hw hd hlt => ?_, fun t ht => ?_⟩
  · obtain ⟨w0, hw0, hs, hv, _⟩ := hi.orig hw
    rw [init_ws, hp] at hw0
    cases hw0
    have hs : w.slot = p.1 := hs
    have hv : w.val = p.2 := hv
    rw [← hs, ← hv]
    refine done_slot_kept hi i w hw hd (hs ▸ hlt) fun j wj hne hwj => ?_
    rw [init_ws, Option.map_eq_some_iff] at hwj
    obtain ⟨q, hq, rfl⟩ := hwj
    rw [hs]
    exact hdist j i q p hq hp hne
  · rw [hi.blk_applied]
    refine applyAll_untouched _ t _ b0 fun j wj _ hwj => ?_
    rw [init_ws, Option.map_eq_some_iff] at hwj
    obtain ⟨q, hq, rfl⟩ := hwj
    exact ht q (List.mem_of_getElem? hq)

/-- `Inv` looks at the lock table through the block key only -/
theorem inv_congr_locks (hi : Inv ws0 b0 k s)
    (l : Locks K) (hl : l k = s.locks k) : Inv ws0 b0 k { s with locks := l } := by
  refine ⟨hi.prog, hi.key, hi.notFailed, hi.acqLock, hi.acqBound, hi.nodup, ?_, ?_⟩
  · intro h; exact hi.free (hl ▸ h)
  · intro h hh; exact hi.held h (hl ▸ hh)

theorem run_cons (s : Sys K R) (i : Nat) (is : List Nat) : run s (i :: is) = run (step s i) is := rfl

abbrev Finished (s : Sys K R) (i : Nat) (key : K) : Prop :=
  s.locks key = none ∧ ∃ w', s.ws[i]? = some w' ∧ w'.pc = .done

section Finish
variable (s : Sys K R) (i : Nat) (w : Wr K R) (hw : s.ws[i]? = some w)
include hw

theorem finish_from_unlock (hpc : w.pc = .unlock) (hh : s.locks w.key = some i) : Finished (step s i) i w.key := by
  rw [step_unlock s i w hw hpc hh]
  exact ⟨by simp [Locks.set], { w with pc := .done }, List.getElem?_set_self (lt_of_get hw), rfl⟩

theorem finish_from_write (hpc : w.pc = .write) (hh : s.locks w.key = some i) : Finished (run s [i, i]) i w.key := by
  rw [run_cons, step_write s i w hw hpc]
  exact finish_from_unlock _ i { w with pc := .unlock } (List.getElem?_set_self (lt_of_get hw)) rfl hh

theorem finish_from_read (hpc : w.pc = .read) (hh : s.locks w.key = some i) : Finished (run s [i, i, i]) i w.key := by
  rw [run_cons, step_read s i w hw hpc]
  exact finish_from_write _ i { w with pc := .write, buf := s.blk } (List.getElem?_set_self (lt_of_get hw)) rfl hh

theorem finish_from_lock (hpc : w.pc = .lock) (hf : s.locks w.key = none) : Finished (run s [i, i, i, i]) i w.key := by
  rw [run_cons, step_lock_free s i w hw hpc hf]
  exact finish_from_read _ i { w with pc := .read } (List.getElem?_set_self (lt_of_get hw)) rfl (if_pos rfl)

end Finish

theorem holder_finishes (hi : Inv ws0 b0 k s)
    (h : Nat) (hh : s.locks k = some h) : ∃ n, n ≤ 3 ∧ (run s (List.replicate n h)).locks k = none := by
  obtain ⟨w, pre, hw, _, _, hc⟩ := hi.held h hh
  have hkey := hi.key h w hw
  rw [← hkey] at hh ⊢
  rcases hc with ⟨e, _⟩ | ⟨e, _⟩ | ⟨e, _⟩
  · exact ⟨3, by decide, (finish_from_read s h w hw e hh).1⟩
  · exact ⟨2, by decide, (finish_from_write s h w hw e hh).1⟩
  · exact ⟨1, by decide, (finish_from_unlock s h w hw e hh).1⟩

theorem solo_finishes (hi : Inv ws0 b0 k s)
    (i : Nat) (w : Wr K R) (hw : s.ws[i]? = some w) (hfree : s.locks k = none) :
    ∃ n, n ≤ 4 ∧ (run s (List.replicate n i)).locks k = none ∧
      ∃ w', (run s (List.replicate n i)).ws[i]? = some w' ∧ w'.pc = .done := by
  have hkey := hi.key i w hw
  have hnf := hi.notFailed i w hw
  have hh := (hi.free hfree).1 i w hw
  cases hpc : w.pc with
  | lock =>
    rw [← hkey] at hfree ⊢
    exact ⟨4, by decide, finish_from_lock s i w hw hpc hfree⟩
  | done => exact ⟨0, by decide, hfree, w, hw, hpc⟩
  | failed => exact absurd hpc hnf
  | read | write | unlock => simp [holds, hpc] at hh

end Step

end Sop.RegistryMW.Rmw
