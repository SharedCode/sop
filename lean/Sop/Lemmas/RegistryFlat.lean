import Sop.Model.RegistryMW
/-!
# Whole-range reads and writes of the registry cell array in one pass

`putBlock` and `zeroSeg` are folds of single-cell `write`s, each an `Array.setIfInBounds` whose bounds check makes the
kernel walk the whole cell list (66 walks for one `putBlock`); `getBlock` indexes the array 66 times from the front.
`writeRange` and `readRange` do the same in one pass; `runFlat` is `RegistryMW.run` with them in place of the folds
(`run_eq_runFlat : run = runFlat`). It exists only so that the concrete multi-writer witnesses of `Sop/Props/C21.lean`
can be evaluated.
-/
namespace Sop.RegistryMW
open Sop.RegistryMap

variable {V : Type}

def writeRange (st : St V) (base n : Nat) (f : Nat → Option (Rec V)) : St V :=
  { st with cells := (st.cells.toList.zipIdx.map fun p =>
      if base ≤ p.2 ∧ p.2 < base + n then f (p.2 - base) else p.1).toArray }

theorem getElem?_map_zipIdx {α β : Type} (l : List α) (g : α × Nat → β) (i : Nat) :
    (l.zipIdx.map g)[i]? = (l[i]?).map fun a => g (a, i) := by
  simp [List.getElem?_zipIdx, Function.comp_def]

theorem foldl_write (st : St V) (base : Nat) (f : Nat → Option (Rec V)) (n : Nat) :
    (List.range n).foldl (fun st k => write st (base + k) (f k)) st = writeRange st base n f := by
  induction n with
  | zero =>
    obtain ⟨nseg, ⟨l⟩⟩ := st
    simp only [List.range_zero, List.foldl_nil, writeRange, St.mk.injEq, true_and]
    refine congrArg Array.mk (List.ext_getElem? fun i => ?_)
    rw [getElem?_map_zipIdx]
    cases l[i]? with
    | none => rfl
    | some x => exact congrArg some (if_neg fun h => by omega).symm
  | succ n ih =>
    obtain ⟨nseg, ⟨l⟩⟩ := st
    rw [List.range_succ, List.foldl_append, ih]
    simp only [List.foldl_cons, List.foldl_nil, write, writeRange, St.mk.injEq, true_and,
      List.setIfInBounds_toArray]
    refine congrArg Array.mk (List.ext_getElem? fun i => ?_)
    rw [List.getElem?_set, getElem?_map_zipIdx, getElem?_map_zipIdx, List.length_map, List.length_zipIdx]
    cases h : l[i]? with
    | none =>
      have := List.getElem?_eq_none_iff.mp h
      by_cases e : base + n = i
      · rw [if_pos e, if_neg (by omega)]; rfl
      · rw [if_neg e]; rfl
    | some x =>
      have := (List.getElem?_eq_some_iff.mp h).1
      show (if base + n = i then _ else some (if base ≤ i ∧ i < base + n then _ else _)) =
        some (if base ≤ i ∧ i < base + (n + 1) then _ else _)
      by_cases e : base + n = i
      · subst e
        rw [if_pos rfl, if_pos this, if_pos ⟨Nat.le_add_right .., Nat.lt_succ_self _⟩, Nat.add_sub_cancel_left]
      · rw [if_neg e]
        by_cases hc : base ≤ i ∧ i < base + n
        · rw [if_pos hc, if_pos ⟨hc.1, Nat.lt_succ_of_lt hc.2⟩]
        · rw [if_neg hc, if_neg fun h' => hc ⟨h'.1, by omega⟩]

theorem putBlock_eq (c : Cfg) (st : St V) (seg b : Nat) (blk : List (Option (Rec V))) :
    putBlock c st seg b blk = writeRange st (blockBase c seg b) hpb fun s => (blk[s]?).getD none :=
  foldl_write st _ _ hpb

theorem zeroSeg_eq (c : Cfg) (st : St V) (seg : Nat) :
    zeroSeg c st seg = writeRange st (seg * (c.md * hpb)) (c.md * hpb) fun _ => none :=
  foldl_write st _ _ _

theorem addSeg_eq (c : Cfg) (st : St V) :
    addSeg c st = ⟨st.nseg + 1, (st.cells.toList ++ List.replicate (c.md * hpb) none).toArray⟩ := by
  unfold addSeg
  congr 1
  apply Array.ext'
  simp

def readRange (st : St V) (base n : Nat) : List (Option (Rec V)) :=
  (st.cells.toList.drop base ++ List.replicate n none).take n

theorem getBlock_eq (c : Cfg) (st : St V) (seg b : Nat) : getBlock c st seg b = readRange st (blockBase c seg b) hpb := by
  unfold getBlock readRange cell
  simp only [← Array.getElem?_toList]
  generalize blockBase c seg b = base, hpb = n, st.cells.toList = l
  refine List.ext_getElem? fun i => ?_
  rw [List.getElem?_map, List.getElem?_take, List.getElem?_append, List.getElem?_drop, List.length_drop,
    List.getElem?_replicate]
  by_cases hi : i < n
  · rw [List.getElem?_range hi, if_pos hi]
    show some ((l[base + i]?).getD none) = _
    by_cases h : base + i < l.length
    · rw [if_pos (by omega), List.getElem?_eq_getElem h]; rfl
    · rw [if_neg (by omega), if_pos (by omega), List.getElem?_eq_none (by omega)]; rfl
  · rw [List.getElem?_eq_none (by simpa using hi), if_neg hi]; rfl

/-- The three arms written out are the positions of `stepW` that read or write a whole block or segment file; there the model
uses neither `me` nor `timedOut` (block write, block read, creating open), so they do not occur. -/
def stepWFlat (mc : MCfg) (me : Nat) (timedOut : Bool) (st : St V) (l : Rmw.Locks Key) (w : W V) :
    St V × Rmw.Locks Key × W V × Ev :=
  match w.pc with
  | .rmw a =>
    match w.m.pc with
    | .write =>
      (writeRange st (blockBase mc.c (segOfAddr mc.c a) (blkOfAddr mc.c a)) hpb fun s =>
          ((w.m.buf.set w.m.slot w.m.val)[s]?).getD none,
        l, { w with m := { w.m with pc := .unlock } }, .wr (segOfAddr mc.c a) (blkOfAddr mc.c a))
    | .read =>
      let buf := readRange st (blockBase mc.c (segOfAddr mc.c a) (blkOfAddr mc.c a)) hpb
      (st, l, { w with m := { w.m with pc := .write, buf := buf } }, .rd (segOfAddr mc.c a) (blkOfAddr mc.c a))
    | _ => stepW mc me timedOut st l w
  | .mk seg .open =>
    (Rmw.created mc.trunc (decide (seg < st.nseg)) st
        (if seg < st.nseg then writeRange st (seg * (mc.c.md * hpb)) (mc.c.md * hpb) fun _ => none
          else ⟨st.nseg + 1, (st.cells.toList ++ List.replicate (mc.c.md * hpb) none).toArray⟩),
      l, { w with pc := .mk seg .unlock }, .mk seg)
  | _ => stepW mc me timedOut st l w

theorem stepWFlat_eq (mc : MCfg) (me : Nat) (timedOut : Bool) (st : St V) (l : Rmw.Locks Key) (w : W V) :
    stepWFlat mc me timedOut st l w = stepW mc me timedOut st l w := by
  unfold stepWFlat
  cases hpc : w.pc with
  | rmw a =>
    cases hm : w.m.pc with
    | read => simp [stepW, hpc, Rmw.stepW, hm, getBlock_eq]
    | write => simp [stepW, hpc, Rmw.stepW, hm, putBlock_eq]
    | _ => rfl
  | mk seg p =>
    cases p with
    | «open» => simp [stepW, hpc, Rmw.mkStep, createSeg, zeroSeg_eq, addSeg_eq]
    | _ => rfl
  | _ => rfl

def stepFlat (mc : MCfg) (s : Sys V) (i : Nat) : Sys V :=
  match s.ws[i]? with
  | none => s
  | some w =>
    match stepWFlat mc i false s.st s.locks w with
    | (st', l', w', _) => { st := st', locks := l', ws := s.ws.set i w' }

def runFlat (mc : MCfg) (s : Sys V) : List Nat → Sys V
  | [] => s
  | i :: is => runFlat mc (stepFlat mc s i) is

theorem run_eq_runFlat (mc : MCfg) (sch : List Nat) : ∀ s : Sys V, run mc s sch = runFlat mc s sch := by
  induction sch with
  | nil => intro s; rfl
  | cons i is ih =>
    intro s
    have : (step mc false s i).1 = stepFlat mc s i := by
      unfold step stepFlat
      cases s.ws[i]? with
      | none => rfl
      | some w => dsimp only; rw [stepWFlat_eq]
    rw [run, this, ih, runFlat]

end Sop.RegistryMW
