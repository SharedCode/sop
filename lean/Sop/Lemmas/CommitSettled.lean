import Sop.Lemmas.CommitSpent
import Sop.Lemmas.CommitEnds
/-!
The settled run (`SP0`): the run's single fault has been spent — or there is none (`HF.sp0`) — and there is no observer.
Every later call takes effect, so `attempt` returns true and nothing raises, except where the backend itself reports an
error (removing a log file that is not there, `Triple.callSettled`). The error handling of a failed commit (C07) and
phase 2 with the cleanup of a commit whose phase 1 went through (C11) are walked with these rules (`S.`); `nr_` + a
function's name: it never raises in a settled run.
-/
namespace Sop.Commit

/-- the settled run: the fault (if any) is spent, no observer stop point is set, the run is not halted -/
def SP0 (r : Run) : Prop := Spent r ∧ r.stopAt = none ∧ r.halted = false

theorem SP0.spent {r : Run} (h : SP0 r) : Spent r := h.1
theorem SP0.noStop {r : Run} (h : SP0 r) : r.stopAt = none := h.2.1
theorem SP0.notHalted {r : Run} (h : SP0 r) : r.halted = false := h.2.2
theorem SP0.step {r r' : Run} (h : SP0 r) (hs : Spent r') (e1 : r'.stopAt = r.stopAt) (e2 : r'.halted = r.halted) : SP0 r' :=
  ⟨hs, e1.trans h.noStop, e2.trans h.notHalted⟩

def spentB (r : Run) : Bool :=
  match r.fault with
  | none => true
  | some f => decide (f.occ ≤ lookupOcc r.occs f.cls)

theorem spent_of_spentB {r : Run} (h : spentB r = true) : Spent r := by
  intro f hf
  unfold spentB at h
  rw [hf] at h
  simpa using h

theorem HF.sp0 {r : Run} (h : HF none r) : SP0 r := ⟨fun f hf => (by rw [h.2.2] at hf; cases hf), h.1, h.2.1⟩

section
variable {E : Run → Prop}

theorem S.modify (f : Run → Run)
    (h : ∀ r, (f r).fault = r.fault ∧ (f r).occs = r.occs ∧ (f r).stopAt = r.stopAt ∧ (f r).halted = r.halted) :
    Triple SP0 (modify f) (fun _ => SP0) E :=
  Triple.modify f (fun r hr => by
    obtain ⟨a, b, c, d⟩ := h r
    refine hr.step (fun g hg => ?_) c d
    rw [a] at hg; rw [b]; exact hr.spent g hg)
theorem S.call {cls : Cls} {args : Args} {eff : State → State} {res : Args} {nat : State → Bool} :
    Preserves SP0 (Sop.Commit.call cls args eff res nat) :=
  Triple.callFull cls args eff res nat
    (fun r _ hr => hr.step (spent_bump hr.spent cls rfl rfl) rfl rfl)
    (fun r _ hr hs => by rw [hr.noStop] at hs; cases hs)
    (fun r _ hr _ => hr.step (spent_bump hr.spent cls rfl rfl) rfl rfl)
    (fun r _ _ hr _ _ _ _ => hr.step (spent_bump hr.spent cls rfl rfl) rfl rfl)
    (fun r _ _ hr _ _ _ _ => hr.step (spent_bump hr.spent cls rfl rfl) rfl rfl)
theorem S.callOk {cls : Cls} {args : Args} {eff : State → State} {res : Args} :
    Triple SP0 (Sop.Commit.call cls args eff res) (fun _ => SP0) E :=
  Triple.callAfterSpent cls args eff res (fun _ h => ⟨h.spent, h.noStop⟩) (fun _ _ _ h hs => h.step hs rfl rfl)
theorem S.attempt {m : M Unit} (h : Preserves SP0 m) : Triple SP0 (attempt m) (fun _ => SP0) E :=
  Triple.attempt' (Q := fun _ => SP0) h (fun r hr hh => by rw [hr.notHalted] at hh; cases hh)

end

theorem S.tryCall {E : Run → Prop} {cls : Cls} {args : Args} {eff : State → State} {res : Args} {nat : State → Bool} :
    Triple SP0 (Sop.Commit.attempt (Sop.Commit.call cls args eff res nat)) (fun _ => SP0) E :=
  S.attempt S.call

theorem Triple.callSettled {P : Run → Prop} {Q : Unit → Run → Prop} {E : Run → Prop}
    (cls : Cls) (args : Args) (eff : State → State) (res : Args) (nat : State → Bool) (hP : ∀ r, P r → SP0 r)
    (hok : ∀ r occs tr, P r → SP0 { r with occs := occs, trace := tr, s := eff r.s } →
      Q () { r with occs := occs, trace := tr, s := eff r.s })
    (hnat : ∀ r occs tr, P r → nat r.s = true → SP0 { r with occs := occs, trace := tr } → E { r with occs := occs, trace := tr }) :
    Triple P (Sop.Commit.call cls args eff res nat) Q E :=
  Triple.callAfterSpentOrRefused cls args eff res nat (fun r h => ⟨(hP r h).spent, (hP r h).noStop⟩)
    (fun r o t h hs => hok r o t h ((hP r h).step hs rfl rfl)) (fun r o t h hn hs => hnat r o t h hn ((hP r h).step hs rfl rfl))

section
variable {I I' E : Run → Prop} {cls : Cls} {args : Args} {eff : State → State} {res : Args}

theorem S.callEff (h : ∀ r occs tr, I r → I' { r with occs := occs, trace := tr, s := eff r.s }) :
    Triple (fun r => SP0 r ∧ I r) (Sop.Commit.call cls args eff res) (fun _ r => SP0 r ∧ I' r) E :=
  Triple.callAfterSpent cls args eff res (fun _ h => ⟨h.1.spent, h.1.noStop⟩) fun r o t hr hs => ⟨hr.1.step hs rfl rfl, h r o t hr.2⟩

theorem S.tryEff (h : ∀ r occs tr, I r → I' { r with occs := occs, trace := tr, s := eff r.s }) :
    Triple (fun r => SP0 r ∧ I r) (Sop.Commit.attempt (Sop.Commit.call cls args eff res)) (fun _ r => SP0 r ∧ I' r) E :=
  Triple.attempt_nr (S.callEff h)

end

abbrev NoRaise (m : M α) : Prop := Triple SP0 m (fun _ => SP0) (fun _ => False)

theorem NoRaise.keeps {m : M α} {ch F : List Part} {I : Run → Prop} (hn : NoRaise m) (hf : Foot ch m) (hI : Reads F I)
    (h : ∀ p ∈ F, p ∉ ch := by decide) : Triple (fun r => SP0 r ∧ I r) m (fun _ r => SP0 r ∧ I r) (fun _ => False) :=
  Triple.andNR hn (hf.keeps hI h)

theorem nr_logStep (st : Step) : NoRaise (logStep st) :=
  Keeps.bind (S.modify _ (fun _ => ⟨rfl, rfl, rfl, rfl⟩)) (fun _ => Keeps.bind Keeps.get (fun _ => S.callOk))

/-- `B` is arbitrary: in a settled run the `log` call does not answer false -/
theorem S.logStep_if {P I B E : Run → Prop} (st : Step) (hI : Preserves I (Sop.Commit.logStep st)) (hP : ∀ r, P r → SP0 r ∧ I r) :
    Triple P (Sop.Commit.attempt (Sop.Commit.logStep st)) (fun ok r => if ok then SP0 r ∧ I r else B r) E :=
  Triple.conseq (Triple.attempt_true (Triple.andNR (nr_logStep st) hI)) hP (fun ok r h => by obtain ⟨rfl, h⟩ := h; exact h) (fun _ h => h)

theorem nr_regGet (ids : List UUID) : NoRaise (regGet ids) :=
  Keeps.bind Keeps.getS (fun _ => Keeps.void S.callOk)

theorem nr_unlockItems (w : WS) : NoRaise (unlockItems w) :=
  Keeps.void (Keeps.forIn _ _ (fun _ => Keeps.bind Keeps.get (fun _ =>
    Triple.ite (fun _ => Keeps.void S.tryCall) (fun _ => Keeps.pure _))))

theorem nr_unlockKeys (ids : List UUID) : NoRaise (unlockKeys ids) :=
  Keeps.bind Keeps.get (fun _ => S.callOk)

theorem nr_unlockNodesKeys : NoRaise unlockNodesKeys := by
  unfold unlockNodesKeys
  refine Keeps.bind Keeps.get (fun r => ?_)
  split
  · exact Keeps.pure _
  · exact Keeps.bind (Triple.attempt_nr (nr_unlockKeys _)) (fun _ => S.modify _ (fun _ => ⟨rfl, rfl, rfl, rfl⟩))

theorem nr_dropNodeCache (ids : List UUID) : NoRaise (dropNodeCache ids) :=
  Keeps.void (Keeps.forIn _ _ (fun _ => Keeps.void S.tryCall))

theorem nr_rollbackStores (w : WS) : NoRaise (rollbackStores w) :=
  Triple.ite (fun _ => Keeps.pure _) (fun _ => Keeps.void S.tryCall)

theorem nr_rollbackAdded (w : WS) : NoRaise (rollbackAdded w) :=
  Triple.ite (fun _ => Keeps.pure _) (fun _ =>
    Keeps.bind S.tryCall (fun _ => Keeps.bind S.tryCall (fun _ => nr_dropNodeCache _)))

theorem nr_rollbackRemoved (w : WS) : NoRaise (rollbackRemoved w) :=
  Triple.ite (fun _ => Keeps.pure _) (fun _ =>
    Keeps.bind (Triple.attempt_nr (Keeps.void (nr_regGet _))) (fun _ =>
      Triple.ite (fun _ => Keeps.pure _) (fun _ => Keeps.bind Keeps.getS (fun _ => Keeps.bind Keeps.get (fun _ =>
        Triple.ite (fun _ => Keeps.void S.tryCall)
          (fun _ => Keeps.void S.tryCall))))))

theorem nr_rollbackUpdated (w : WS) : NoRaise (rollbackUpdated w) :=
  Triple.ite (fun _ => Keeps.pure _) (fun _ =>
    Keeps.bind (nr_regGet _) (fun _ => Keeps.bind S.tryCall (fun _ => Keeps.bind Keeps.get (fun _ =>
      Triple.ite (fun _ => Keeps.bind S.tryCall (fun _ => nr_dropNodeCache _))
        (fun _ => Keeps.bind S.tryCall (fun _ => nr_dropNodeCache _))))))

theorem nr_rollbackNewRoots (w : WS) : NoRaise (rollbackNewRoots w) :=
  Triple.ite (fun _ => Keeps.pure _) (fun _ =>
    Keeps.bind S.tryCall (fun _ => Keeps.bind (nr_dropNodeCache _) (fun _ =>
      Keeps.bind (Triple.attempt_nr (Keeps.void (nr_regGet _))) (fun _ =>
        Triple.ite (fun _ => Keeps.pure _) (fun _ => Keeps.bind Keeps.getS (fun _ =>
          Triple.ite (fun _ => Keeps.void S.tryCall) (fun _ => Keeps.pure _)))))))

theorem nr_rollbackValues (w : WS) : NoRaise (rollbackValues w) :=
  Keeps.void (Keeps.forIn _ _ (fun _ =>
    Keeps.void (Keeps.whenM _ (Keeps.void S.tryCall))))

theorem nr_removeCreatedStores (w : WS) : NoRaise (removeCreatedStores w) :=
  Keeps.void (Keeps.forIn _ _ (fun _ =>
    Keeps.void (Keeps.whenM _ (Keeps.void S.tryCall))))

theorem nr_priorityRollbackSelf : NoRaise priorityRollbackSelf :=
  Keeps.bind Keeps.get (fun _ => Triple.ite
    (fun _ => Keeps.bind S.tryCall (fun _ => Keeps.void S.tryCall)) (fun _ => Keeps.pure _))

theorem regGet_settled (ids : List UUID) :
    Triple SP0 (regGet ids) (fun hs r => SP0 r ∧ hs = ids.filterMap r.s.reg) (fun _ => False) := by
  unfold regGet
  refine Triple.bind (Q1 := fun s r => SP0 r ∧ s = r.s) (Triple.getS (fun _ h => ⟨h, rfl⟩)) (fun s => ?_)
  refine Triple.bind (Q1 := fun _ r => SP0 r ∧ s = r.s) ?_ (fun _ => Triple.pure _ (fun r h => ⟨h.1, by rw [h.2]⟩))
  exact S.callEff fun _ _ _ h => h

theorem commit_of_phase2_noraise {w : WS} {n : Nat} {r0 r1 : Run} {P Q : Run → Prop}
    (h : Triple P (phase2 w) (fun _ => Q) (fun _ => False)) (hp : phase1 w n r0 = .ok ((), r1)) (h1 : P r1) :
    ∃ r2, commit w n r0 = (.ok, r2) ∧ Q r2 := by
  have := h r1 h1
  cases hq : phase2 w r1 with
  | error r2 => rw [hq] at this; exact this.elim
  | ok p =>
    obtain ⟨u, r2⟩ := p
    rw [hq] at this
    exact ⟨r2, commit_of_ok hp hq, this⟩

end Sop.Commit
