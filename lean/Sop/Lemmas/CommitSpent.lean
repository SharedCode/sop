import Sop.Lemmas.CommitInert
/-!
"The one fault has been spent": a run carries at most one fault, aimed at the n-th call of one class. Once that
class has been called n times the fault can never fire again, and (with no observer stop point) every later call
takes effect. Needed where the error handling must SUCCEED at something: the priority rollback after a flip write
that failed after taking effect.
-/
namespace Sop.Commit

def lookupOcc (occs : List (Cls × Nat)) (cls : Cls) : Nat :=
  match occs.find? (·.1 == cls) with
  | some p => p.2
  | none => 0

theorem bumpOcc_snd (occs : List (Cls × Nat)) (cls : Cls) : (bumpOcc occs cls).2 = lookupOcc occs cls + 1 := by
  unfold bumpOcc lookupOcc
  cases h : occs.find? (·.1 == cls) with
  | none => rfl
  | some p => rfl

theorem lookup_bump (occs : List (Cls × Nat)) (cls c : Cls) :
    lookupOcc (bumpOcc occs cls).1 c = if c = cls then lookupOcc occs cls + 1 else lookupOcc occs c := by
  unfold bumpOcc
  cases h : occs.find? (·.1 == cls) with
  | none =>
    simp only
    unfold lookupOcc
    by_cases e : c = cls
    · subst e; simp [h]
    · have : (cls == c) = false := by simpa using fun x => e x.symm
      simp [List.find?_cons, this, e]
  | some p =>
    obtain ⟨pc, n⟩ := p
    simp only
    have hpc : pc = cls := by
      have := List.find?_some h
      simpa using this
    subst hpc
    unfold lookupOcc
    rw [List.find?_map]
    have hfun : ((fun (p : Cls × Nat) => p.1 == c) ∘ fun (p : Cls × Nat) => if (p.1 == pc) = true then (p.1, n + 1) else p) =
        fun (p : Cls × Nat) => p.1 == c := by
      funext p
      simp only [Function.comp]
      split <;> rfl
    rw [hfun]
    by_cases e : c = pc
    · subst e
      simp [h]
    · cases hc : occs.find? (·.1 == c) with
      | none => simp [e]
      | some q =>
        have hq : q.1 = c := by
          have := List.find?_some hc
          simpa using this
        have hne : ¬ q.1 = pc := by rw [hq]; exact e
        simp [hne, e]

/-- the run's fault (if any) is aimed at a call that has already been made (`≤`, not `=`: later calls of the class keep it
spent) -/
def Spent (r : Run) : Prop := ∀ f, r.fault = some f → f.occ ≤ lookupOcc r.occs f.cls

theorem spent_of_hit {r : Run} {f : Fault} {cls : Cls} (hfa : r.fault = some f) (h1 : f.cls = cls)
    (h3 : f.occ = (bumpOcc r.occs cls).2) {r' : Run} (ef : r'.fault = r.fault) (eo : r'.occs = (bumpOcc r.occs cls).1) :
    Spent r' := by
  intro g hg
  rw [ef, hfa] at hg
  have : g = f := (Option.some.inj hg).symm
  subst this
  rw [eo, lookup_bump, h1, if_pos rfl, h3, bumpOcc_snd]
  omega

theorem spent_bump {r : Run} (hs : Spent r) (cls : Cls) {r' : Run} (ef : r'.fault = r.fault)
    (eo : r'.occs = (bumpOcc r.occs cls).1) : Spent r' := by
  intro g hg
  rw [ef] at hg
  have := hs g hg
  rw [eo, lookup_bump]
  split
  · rename_i h; rw [h] at this; omega
  · exact this

/-- A call made after the fault is spent, with nobody observing: it takes effect, or the backend refuses by itself (`nat`) and
nothing changes. The two fault exits of `callFull` are impossible. -/
theorem Triple.callAfterSpentOrRefused {P : Run → Prop} {Q : Unit → Run → Prop} {E : Run → Prop}
    (cls : Cls) (args : Args) (eff : State → State) (res : Args) (nat : State → Bool)
    (hP : ∀ r, P r → Spent r ∧ r.stopAt = none)
    (hok : ∀ r occs tr, P r → Spent { r with occs := occs, trace := tr, s := eff r.s } →
      Q () { r with occs := occs, trace := tr, s := eff r.s })
    (hnat : ∀ r occs tr, P r → nat r.s = true → Spent { r with occs := occs, trace := tr } → E { r with occs := occs, trace := tr }) :
    Triple P (Sop.Commit.call cls args eff res nat) Q E := by
  have no : ∀ r f, P r → r.fault = some f → f.cls = cls → f.occ = (bumpOcc r.occs cls).2 → False := fun r f hr hf hc ho => by
    have := (hP r hr).1 f hf
    rw [bumpOcc_snd, ← hc] at ho
    omega
  exact Triple.callFull cls args eff res nat (fun r tr hr => hok r _ tr hr (spent_bump (hP r hr).1 cls rfl rfl))
    (fun r _ hr hs => by rw [(hP r hr).2] at hs; cases hs)
    (fun r tr hr hn => hnat r _ tr hr hn (spent_bump (hP r hr).1 cls rfl rfl))
    (fun r _ f hr hf hc _ ho => (no r f hr hf hc ho).elim) (fun r _ f hr hf hc _ ho => (no r f hr hf hc ho).elim)

/-- … and where the backend has no error of its own, it cannot fail -/
theorem Triple.callAfterSpent {P : Run → Prop} {Q : Unit → Run → Prop} {E : Run → Prop}
    (cls : Cls) (args : Args) (eff : State → State) (res : Args)
    (hP : ∀ r, P r → Spent r ∧ r.stopAt = none)
    (hok : ∀ r occs tr, P r → Spent { r with occs := occs, trace := tr, s := eff r.s } →
      Q () { r with occs := occs, trace := tr, s := eff r.s }) :
    Triple P (Sop.Commit.call cls args eff res) Q E :=
  Triple.callAfterSpentOrRefused cls args eff res _ hP hok fun _ _ _ _ h => nomatch h

/-- a call the fault may still fire at: where it fails after its effect, the fault is spent from then on (`callAfterSpent` is for the
calls made after that) -/
theorem Triple.callSpent {P : Run → Prop} {Q : Unit → Run → Prop} {E : Run → Prop}
    (cls : Cls) (args : Args) (eff : State → State) (res : Args) (nat : State → Bool)
    (hok : ∀ r occs tr, P r → Q () { r with occs := occs, trace := tr, s := eff r.s })
    (hstop : ∀ r occs, P r → r.stopAt.isSome → E { r with occs := occs, halted := true })
    (hbefore : ∀ r occs tr, P r → E { r with occs := occs, trace := tr })
    (hafter : ∀ r occs tr, P r → (∃ f, r.fault = some f ∧ f.cls = cls ∧ f.kind = .failAfter) →
      Spent { r with occs := occs, trace := tr, s := eff r.s } → E { r with occs := occs, trace := tr, s := eff r.s }) :
    Triple P (Sop.Commit.call cls args eff res nat) Q E :=
  Triple.callFull cls args eff res nat (fun r tr hr => hok r _ tr hr) hstop (fun r tr hr _ => hbefore r _ tr hr)
    (fun r tr _ hr _ _ _ _ => hbefore r _ tr hr)
    (fun r tr f hr hf hc hk ho => hafter r _ tr hr ⟨f, hf, hc, hk⟩ (spent_of_hit hf hc ho rfl rfl))

end Sop.Commit
