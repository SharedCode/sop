import Sop.Model.Erasure
/-! Lemmas for C25/C26: the encoder's arithmetic (`perShard`, `split`, padding); the library's checks on shard sets whose
shards are nil or of one length (`Uni`, `IsMask`, `verify_eq_pass`); the code word of a blob (`cwOf`, `Blob`: `Verify` passes
on it, `Reconstruct` restores it from any mask with `d` shards, `Join` gives the padded data); the read path of the fixed code
over a directory of damaged shard files, as pairs (file now, file written) and then over `(fs, files0)`: `Blob.decode_fixed`. -/
namespace Sop.Erasure

theorem perShard_spec (d size : Nat) (hd : 0 < d) :
    size ≤ d * perShard d size ∧ d * perShard d size - size = (if size % d ≠ 0 then d - size % d else 0) := by
  unfold perShard
  have h3 := Nat.div_add_mod size d
  have h4 := Nat.mod_lt size hd
  by_cases hr : size % d = 0
  · have : (size + d - 1) / d = size / d := by
      apply Nat.div_eq_of_lt_le
      · rw [Nat.mul_comm]; omega
      · rw [Nat.add_mul, Nat.mul_comm]; omega
    rw [this]; simp [hr]; omega
  · have : (size + d - 1) / d = size / d + 1 := by
      apply Nat.div_eq_of_lt_le
      · rw [Nat.add_mul, Nat.mul_comm]; omega
      · rw [Nat.add_mul, Nat.add_mul, Nat.mul_comm]; omega
    rw [this, Nat.mul_add]; simp [hr]; omega

theorem perShard_pos (d size : Nat) (hd : 0 < d) (hs : 0 < size) : 0 < perShard d size := by
  have := (perShard_spec d size hd).1
  rcases Nat.eq_zero_or_pos (perShard d size) with h | h
  · rw [h] at this; omega
  · exact h

theorem padCount_eq (d size : Nat) (hd : 0 < d) (h256 : d < 256) :
    padCount d size = d * perShard d size - size := by
  rw [(perShard_spec d size hd).2]
  unfold padCount
  have h4 := Nat.mod_lt size hd
  split
  · rw [Nat.mod_eq_of_lt]; omega
  · rfl

theorem chunks_length (L n : Nat) (xs : Bytes) : (chunks L n xs).length = n := by
  induction n generalizing xs with
  | zero => rfl
  | succ n ih => simp [chunks, ih]

theorem chunks_flatten (L n : Nat) (xs : Bytes) : (chunks L n xs).flatten = xs.take (L * n) := by
  induction n generalizing xs with
  | zero => simp [chunks]
  | succ n ih =>
    simp only [chunks, List.flatten_cons, ih]
    rw [Nat.mul_succ, Nat.add_comm, List.take_add]

theorem chunks_each (L n : Nat) (xs : Bytes) (h : L * n ≤ xs.length) : ∀ s ∈ chunks L n xs, s.length = L := by
  induction n generalizing xs with
  | zero => intro s hs; simp [chunks] at hs
  | succ n ih =>
    intro s hs
    simp only [chunks, List.mem_cons] at hs
    rw [Nat.mul_succ] at h
    rcases hs with rfl | hs
    · simp; omega
    · exact ih (xs.drop L) (by simp; omega) s hs

theorem split_length (d : Nat) (data : Bytes) : (split d data).length = d := by
  simp [split, chunks_length]

theorem split_each (d : Nat) (data : Bytes)
    (hd : 0 < d) : ∀ s ∈ split d data, s.length = perShard d data.length := by
  unfold split
  apply chunks_each
  have := (perShard_spec d data.length hd).1
  have e := Nat.mul_comm (perShard d data.length) d
  simp only [List.length_append, List.length_replicate]
  omega

theorem split_flatten (d : Nat) (data : Bytes) (hd : 0 < d) :
    (split d data).flatten = data ++ List.replicate (d * perShard d data.length - data.length) 0 := by
  unfold split
  simp only [chunks_flatten]
  apply List.take_of_length_le
  have := (perShard_spec d data.length hd).1
  have e := Nat.mul_comm (perShard d data.length) d
  simp only [List.length_append, List.length_replicate]
  omega

theorem joinCheck_somes (bs : List Bytes) (size out : Nat) :
    joinCheck (bs.map some) size out = some (decide (out ≤ size + bs.flatten.length)) := by
  induction bs generalizing size with
  | nil => simp [joinCheck]
  | cons b bs ih =>
    simp only [List.map_cons, joinCheck, List.flatten_cons, List.length_append]
    split
    · simp; omega
    · rw [ih]; simp [Nat.add_assoc]

/-- every shard is nil or has exactly `L` bytes: what a masked code word looks like; under it the library's length checks
reduce to counting -/
def Uni (L : Nat) (ss : List Shard) : Prop := ∀ s ∈ ss, s = none ∨ ∃ b, s = some b ∧ b.length = L

theorem Uni.tail {L : Nat} {s : Shard} {ss : List Shard} (h : Uni L (s :: ss)) : Uni L ss :=
  fun t ht => h t (List.mem_cons_of_mem _ ht)

theorem slen_none : slen none = 0 := rfl
theorem slen_some (b : Bytes) : slen (some b) = b.length := rfl

theorem Uni.slen_eq {L : Nat} {ss : List Shard} (h : Uni L ss) {s : Shard} (hs : s ∈ ss) :
    slen s = if s.isSome then L else 0 := by
  rcases h s hs with rfl | ⟨b, rfl, hb⟩
  · rfl
  · exact hb

theorem Uni.present_eq {L : Nat} (hL : 0 < L) {ss : List Shard} (h : Uni L ss) {s : Shard} (hs : s ∈ ss) :
    present s = s.isSome := by
  rw [present, h.slen_eq hs]
  cases s <;> simp; omega

theorem shardSize_uni {L : Nat} (hL : 0 < L) {ss : List Shard} (h : Uni L ss) :
    shardSize ss = if ss.any Option.isSome then L else 0 := by
  induction ss with
  | nil => rfl
  | cons s ss ih =>
    rcases h s (List.mem_cons_self ..) with rfl | ⟨b, rfl, hb⟩
    · simp [shardSize, slen_none, ih h.tail]
    · simp [shardSize, slen_some, hb]; omega

theorem checkShards_nilok_uni {L : Nat} (hL : 0 < L) {ss : List Shard} (h : Uni L ss) :
    checkShards ss true = ss.any Option.isSome := by
  unfold checkShards
  rw [shardSize_uni hL h]
  by_cases ha : ss.any Option.isSome = true
  · simp only [ha, if_true]
    have : (ss.all fun s => slen s == L || (true && slen s == 0)) = true :=
      List.all_eq_true.mpr fun s hs => by rw [h.slen_eq hs]; cases s <;> simp
    rw [this]; simp; omega
  · simp [ha]

theorem countP_present_uni {L : Nat} (hL : 0 < L) {ss : List Shard} (h : Uni L ss) :
    ss.countP present = ss.countP Option.isSome :=
  List.countP_congr fun _ hs => by rw [h.present_eq hL hs]

theorem missingRequired_map (f : Shard → Bool) : ∀ ss : List Shard,
    missingRequired ss (ss.map f) = ss.countP fun s => !present s && f s
  | [] => rfl
  | s :: ss => by
    rw [List.map_cons, missingRequired, missingRequired_map f ss, List.countP_cons, Nat.add_comm]

theorem missingRequired_uni {L : Nat} (hL : 0 < L) {ss : List Shard} (h : Uni L ss) :
    missingRequired ss (ss.map Option.isNone) = ss.countP Option.isNone := by
  rw [missingRequired_map]
  exact List.countP_congr fun s hs => by rw [h.present_eq hL hs]; cases s <;> rfl

theorem asMask_uni {L : Nat} (hL : 0 < L) {ss : List Shard} (h : Uni L ss) : asMask ss = ss := by
  unfold asMask
  conv => rhs; rw [← List.map_id ss]
  exact List.map_congr_left fun s hs => by rw [h.present_eq hL hs]; cases s <;> rfl

theorem IsMask.length_eq {ss : List Shard} {cw : List Bytes} (h : IsMask ss cw) : ss.length = cw.length := by
  fun_induction IsMask ss cw with
  | case1 => rfl
  | case2 m ms c cs ih => simp [ih h.2]
  | case3 => exact h.elim

theorem IsMask.uni {L : Nat} {ss : List Shard} {cw : List Bytes} (h : IsMask ss cw)
    (hcw : ∀ c ∈ cw, c.length = L) :
    Uni L ss := by
  fun_induction IsMask ss cw with
  | case1 => intro s hs; simp at hs
  | case2 m ms c cs ih =>
    intro t ht
    rcases List.mem_cons.1 ht with rfl | ht
    · exact h.1.imp id fun h1 => ⟨c, h1, hcw c (List.mem_cons_self ..)⟩
    · exact ih h.2 (fun c' hc' => hcw c' (List.mem_cons_of_mem _ hc')) t ht
  | case3 => exact h.elim

theorem IsMask.fill_eq {ss : List Shard} {cw : List Bytes} (h : IsMask ss cw) :
    fill ss (ss.map Option.isNone) cw = cw.map some := by
  fun_induction IsMask ss cw with
  | case1 => rfl
  | case2 m ms c cs ih =>
    simp only [List.map_cons, Erasure.fill, ih h.2]
    rcases h.1 with rfl | rfl
    · simp [present, slen_none]
    · simp
  | case3 => exact h.elim

theorem IsMask.all_some {ss : List Shard} {cw : List Bytes} (h : IsMask ss cw)
    (ha : ss.all Option.isSome = true) :
    ss = cw.map some := by
  fun_induction IsMask ss cw with
  | case1 => rfl
  | case2 m ms c cs ih =>
    simp only [List.all_cons, Bool.and_eq_true] at ha
    rcases h.1 with rfl | rfl
    · simp at ha
    · simp [ih h.2 ha.2]
  | case3 => exact h.elim

theorem isMask_map {α : Type} (f : α → Option Bytes) (g : α → Bytes) :
    ∀ l : List α, (∀ x ∈ l, f x = none ∨ f x = some (g x)) → IsMask (l.map f) (l.map g)
  | [], _ => trivial
  | x :: l, h => ⟨h x (List.mem_cons_self ..), isMask_map f g l fun y hy => h y (List.mem_cons_of_mem _ hy)⟩

theorem isMask_self (cw : List Bytes) : IsMask (cw.map some) cw := by
  simpa using isMask_map some id cw fun _ _ => Or.inr rfl

theorem countP_isNone (ss : List Shard) : ss.countP Option.isNone = ss.length - ss.countP Option.isSome := by
  induction ss with
  | nil => rfl
  | cons s ss ih =>
    have := List.countP_le_length (p := Option.isSome) (l := ss)
    cases s <;> simp [ih] <;> omega

theorem checkShards_strict_iff {ss : List Shard} :
    checkShards ss false = true ↔ shardSize ss ≠ 0 ∧ ∀ s ∈ ss, slen s = shardSize ss := by
  simp only [checkShards, Bool.and_eq_true, bne_iff_ne, ne_eq, List.all_eq_true, Bool.false_and, Bool.or_false,
    beq_iff_eq]

theorem verify_eq_pass {C : Code} {ss : List Shard} :
    verify C ss = .pass ↔ ss.length = C.d + C.p ∧ checkShards ss false = true ∧
      C.parity ((ss.map (·.getD [])).take C.d) = (ss.map (·.getD [])).drop C.d := by
  unfold verify
  by_cases hl : ss.length = C.d + C.p
  · cases hc : checkShards ss false
    · simp [hl]
    · by_cases hp : C.parity ((ss.map (·.getD [])).take C.d) = (ss.map (·.getD [])).drop C.d <;> simp [hl, hp]
  · simp [hl]

/-- the code word `Encode data` produces -/
def cwOf (C : Code) (data : Bytes) : List Bytes := split C.d data ++ C.parity (split C.d data)

theorem encodeFiles_eq (C : Code) (md5 : Bytes → Bytes) {data : Bytes} (h : data ≠ []) :
    encodeFiles C md5 data = some ((cwOf C data).map (shardFile md5 C.d data.length)) := by
  unfold encodeFiles encode
  rw [if_neg (by have := List.length_pos_iff.mpr h; omega)]
  rfl

structure Blob (C : Code) (md5 : Bytes → Bytes) (data : Bytes) : Prop where
  laws : C.Laws
  md5Len : ∀ b, (md5 b).length = 16
  nonempty : data ≠ []
  dPos : 0 < C.d
  dLt : C.d < 256

namespace Blob
variable {C : Code} {md5 : Bytes → Bytes} {data : Bytes} (B : Blob C md5 data)
include B

theorem shardPos : 0 < perShard C.d data.length := perShard_pos C.d data.length B.dPos (List.length_pos_iff.mpr B.nonempty)

theorem shard_length : ∀ s ∈ split C.d data, s.length = perShard C.d data.length := split_each C.d data B.dPos

theorem cw_length : (cwOf C data).length = C.d + C.p := by
  simp [cwOf, split_length, (B.laws.parity_shape _ _ (split_length C.d data) B.shard_length).1]

theorem cw_each : ∀ c ∈ cwOf C data, c.length = perShard C.d data.length := by
  intro c hc
  rcases List.mem_append.mp hc with h | h
  · exact B.shard_length c h
  · exact (B.laws.parity_shape _ _ (split_length C.d data) B.shard_length).2 c h

omit B in
theorem cw_parity : C.parity ((cwOf C data).take C.d) = (cwOf C data).drop C.d := by
  unfold cwOf
  rw [List.take_left' (split_length C.d data), List.drop_left' (split_length C.d data)]

/-- the MDS law at this blob's code word -/
theorem recon_mask {ss : List Shard} (hm : IsMask ss (cwOf C data)) (hk : C.d ≤ ss.countP Option.isSome) :
    C.recon ss = cwOf C data :=
  B.laws.recon_spec _ _ ss (split_length C.d data) B.shard_length hm hk

theorem verify_cw : verify C ((cwOf C data).map some) = .pass := by
  have hL := B.shardPos
  have hd := B.dPos
  have hlen := B.cw_length
  have huni : Uni (perShard C.d data.length) ((cwOf C data).map some) := (isMask_self _).uni B.cw_each
  have hsz : shardSize ((cwOf C data).map some) = perShard C.d data.length := by
    rw [shardSize_uni hL huni, if_pos]
    refine List.any_eq_true.2 (List.countP_pos_iff.1 ?_)
    rw [List.countP_eq_length.mpr (by
      intro a ha
      obtain ⟨b, _, rfl⟩ := List.mem_map.mp ha
      rfl)]
    simp only [List.length_map]; omega
  have e : ((cwOf C data).map some).map (fun x => x.getD []) = cwOf C data := by
    simp [List.map_map, Function.comp_def]
  refine verify_eq_pass.2 ⟨by simp only [List.length_map]; omega, checkShards_strict_iff.2 ⟨by omega, ?_⟩,
    by rw [e, cw_parity]⟩
  intro s hs
  obtain ⟨c, hc, rfl⟩ := List.mem_map.mp hs
  rw [hsz]
  exact B.cw_each c hc

theorem reconstruct_mask {ss : List Shard} (hm : IsMask ss (cwOf C data)) :
    reconstruct C ss (some (ss.map Option.isNone)) =
      if C.d ≤ ss.countP Option.isSome then some ((cwOf C data).map some) else none := by
  have hL := B.shardPos
  have hd := B.dPos
  have hsl : ss.length = C.d + C.p := hm.length_eq.trans B.cw_length
  have huni : Uni (perShard C.d data.length) ss := hm.uni B.cw_each
  have hle := List.countP_le_length (p := Option.isSome) (l := ss)
  unfold reconstruct
  rw [if_neg (by omega), checkShards_nilok_uni hL huni]
  simp only [Option.getD_some, Option.isSome_some, Bool.true_and, countP_present_uni hL huni,
    missingRequired_uni hL huni, countP_isNone, asMask_uni hL huni]
  generalize hc : ss.countP Option.isSome = c at *
  by_cases hk : C.d ≤ c
  · have ha : ss.any Option.isSome = true := List.any_eq_true.2 (List.countP_pos_iff.1 (by omega))
    rw [if_pos hk, ha, if_neg (by decide)]
    by_cases hall : c = ss.length
    · rw [if_pos (by simp; omega), hm.all_some (List.all_eq_true.2 (List.countP_eq_length.1 (hc.trans hall)))]
    · rw [if_neg (by simp; omega), if_neg (by omega), B.recon_mask hm (hc ▸ hk), hm.fill_eq]
  · rw [if_neg hk]
    cases ss.any Option.isSome
    · rfl
    · rw [if_neg (by decide), if_neg (by simp; omega), if_pos (by omega)]

theorem join_cw : join C ((cwOf C data).map some) (perShard C.d data.length * C.d) =
    some (data ++ List.replicate (C.d * perShard C.d data.length - data.length) 0) := by
  have hd := B.dPos
  have hds := split_length C.d data
  have hflat := split_flatten C.d data hd
  have hcwl := B.cw_length
  have htake : (List.map some (cwOf C data)).take C.d = (split C.d data).map some := by
    unfold cwOf
    rw [List.map_append]
    apply List.take_left'
    simp [hds]
  have hfl : (split C.d data).flatten.length = perShard C.d data.length * C.d := by
    rw [hflat]
    have e := Nat.mul_comm (perShard C.d data.length) C.d
    have hsz := (perShard_spec C.d data.length hd).1
    simp only [List.length_append, List.length_replicate]
    omega
  unfold join
  rw [if_neg (by simp only [List.length_map]; omega), htake, joinCheck_somes, hfl]
  simp only [Nat.zero_add, Nat.le_refl, decide_true, List.map_map]
  have : (fun x => Option.getD x []) ∘ some = (id : Bytes → Bytes) := rfl
  rw [this, List.map_id, ← hfl, List.take_length, hflat]

theorem head_cw : slen ((List.map some (cwOf C data)).headD none) = perShard C.d data.length := by
  have hds := split_length C.d data
  cases h : split C.d data with
  | nil => rw [h] at hds; exact absurd hds.symm (Nat.ne_of_gt B.dPos)
  | cons a b =>
    unfold cwOf
    rw [h]
    exact B.shard_length a (by rw [h]; exact List.mem_cons_self ..)

end Blob

/-- `readShard .fixed`, which never panics -/
def rd (f : Option Bytes) : Shard × Option Bytes :=
  match f with
  | none => (none, none)
  | some ba => if ba.length < metaSize then (none, none) else (some (ba.drop metaSize), some (ba.take metaSize))

theorem rd_some (ba : Bytes) : rd (some ba) =
    if ba.length < metaSize then (none, none) else (some (ba.drop metaSize), some (ba.take metaSize)) := rfl

theorem readShard_fixed (f : Option Bytes) : readShard .fixed f = some (rd f) := by
  cases f with
  | none => rfl
  | some ba =>
    simp only [readShard, rd_some]
    by_cases h : ba.length < metaSize <;> simp [h]

theorem readAll_fixed (fs : List (Option Bytes)) : readAll .fixed fs = some (fs.map rd) := by
  induction fs with
  | nil => rfl
  | cons f fs ih => simp [readAll, ih, readShard_fixed]

theorem getOne_fixed_fst (C : Code) (md5 : Bytes → Bytes) (repair : Bool) (fs : List (Option Bytes)) :
    (getOne .fixed C md5 repair fs).1 =
      if (fs.map rd).all (fun x => x.1.isNone) then .err else decode .fixed C md5 (fs.map rd) := by
  unfold getOne
  rw [readAll_fixed]
  dsimp only
  split
  · rfl
  · cases h : decode .fixed C md5 (fs.map rd) with
    | err => rfl
    | panic => rfl
    | ok data idxs =>
      dsimp only
      split
      · split <;> rfl
      · rfl

theorem getOne_fixed_files (C : Code) (md5 : Bytes → Bytes) (fs : List (Option Bytes)) (data : Bytes)
    (idxs : List Nat) (fresh : List Bytes)
    (hne : ((fs.map rd).all fun x => x.1.isNone) = false)
    (hdec : decode .fixed C md5 (fs.map rd) = .ok data idxs) (henc : encodeFiles C md5 data = some fresh) :
    (getOne .fixed C md5 true fs).2.1 = if idxs.isEmpty then fs else rewrite fs fresh idxs := by
  unfold getOne
  rw [readAll_fixed]
  dsimp only
  rw [if_neg (by rw [hne]; simp), hdec]
  dsimp only
  rw [henc]
  cases idxs <;> simp

theorem rewrite_nil (fs : List (Option Bytes)) (fresh : List Bytes) (h : fs.length = fresh.length) :
    rewrite fs fresh [] = fs := by
  unfold rewrite
  simp only [List.contains_nil, Bool.false_eq_true, if_false]
  have e : (fun (x : (Option Bytes × Bytes) × Nat) => match x with | ((f, _), _) => f) = Prod.fst ∘ Prod.fst := by
    funext x; rfl
  rw [e, ← List.map_map, List.zipIdx_map_fst, List.map_fst_zip (by omega)]

-- no user in the development
theorem nilIdx_ge (ss : List Shard) (k : Nat) : ∀ i ∈ nilIdx ss k, k ≤ i := by
  induction ss generalizing k with
  | nil => intro i hi; simp [nilIdx] at hi
  | cons s ss ih =>
    intro i hi
    simp only [nilIdx] at hi
    split at hi
    · simp only [List.mem_cons] at hi
      rcases hi with rfl | hi
      · exact Nat.le_refl _
      · have := ih (k+1) i hi; omega
    · have := ih (k+1) i hi; omega

section read
variable (md5 : Bytes → Bytes)

/-! The read path speaks of a directory through the list of pairs (shard file now, shard file `Add` wrote there) — the zip
over which the statements of C25 count damage and ask the checksum to detect it. -/

def intact (x : Option Bytes × Bytes) : Bool := x.1 == some x.2

/-- the checksum tells: a present file that differs from the one written and is long enough to carry the metadata prefix
fails the checksum in its prefix -/
def DetectsAt (x : Option Bytes × Bytes) : Prop :=
  ∀ b, x.1 = some b → b ≠ x.2 → metaSize ≤ b.length → (b.take metaSize).drop 1 ≠ md5 (b.drop metaSize)

def Detects (tr : List (Option Bytes × Bytes)) : Prop := ∀ x ∈ tr, DetectsAt md5 x

/-- `w` is a shard file as `Add` writes them: a 17-byte prefix holding the blob's pad count and the checksum of the rest.
The shard written at a position is `w.drop metaSize`. -/
structure Written (pad : Nat) (w : Bytes) : Prop where
  len : metaSize ≤ w.length
  head : w.take metaSize = pad :: md5 (w.drop metaSize)

theorem rd_of_len {w : Bytes} (h : metaSize ≤ w.length) : rd (some w) = (some (w.drop metaSize), some (w.take metaSize)) := by
  rw [rd_some, if_neg (by omega)]

variable {md5} in
theorem Written.sum {pad : Nat} {w : Bytes} (h : Written md5 pad w) :
    metaMatches md5 (some (w.drop metaSize)) (some (w.take metaSize)) = true := by
  have hl : (w.take metaSize).length = metaSize := by rw [List.length_take]; have := h.len; omega
  simp only [metaMatches, hl, beq_self_eq_true, Bool.true_and, Option.getD_some, beq_iff_eq]
  rw [h.head]; rfl

theorem shardFile_drop (d size : Nat) (hmd : ∀ b, (md5 b).length = 16) (c : Bytes) :
    (shardFile md5 d size c).drop metaSize = c := by
  have h17 : (padCount d size :: md5 c).length = metaSize := by simp [hmd, metaSize]
  unfold shardFile; rw [← h17, List.drop_left]

theorem written_shardFile (d size : Nat) (hmd : ∀ b, (md5 b).length = 16) (c : Bytes) :
    Written md5 (padCount d size) (shardFile md5 d size c) := by
  have h17 : (padCount d size :: md5 c).length = metaSize := by simp [hmd, metaSize]
  refine ⟨by unfold shardFile; simp only [List.length_append]; omega, ?_⟩
  rw [shardFile_drop md5 d size hmd c]; unfold shardFile; rw [← h17, List.take_left]

variable {md5} in
theorem prepass1_of_matches {y : Shard × Option Bytes} (h : metaMatches md5 y.1 y.2 = true) :
    prepass1 md5 y = y := by
  obtain ⟨s, m⟩ := y
  cases s with
  | none => rfl
  | some b =>
    cases m with
    | none => rfl
    | some mt =>
      simp only [metaMatches, Option.getD_some, Bool.and_eq_true, beq_iff_eq] at h
      simp [prepass1, h.1, h.2]

theorem prepass_rd (x : Option Bytes × Bytes) (hx : DetectsAt md5 x) {pad : Nat} (hw : Written md5 pad x.2) :
    prepass1 md5 (rd x.1) = if intact x then (some (x.2.drop metaSize), some (x.2.take metaSize)) else (none, none) := by
  obtain ⟨f, w⟩ := x
  cases f with
  | none => rfl
  | some b =>
    by_cases hi : b = w
    · subst hi
      simp only [intact, beq_self_eq_true, if_true]
      rw [rd_of_len hw.len]
      exact prepass1_of_matches hw.sum
    · have hni : intact (some b, w) = false := by simp [intact, hi]
      rw [hni]
      simp only [rd_some]
      split
      · rfl
      · rename_i hlen
        have := hx b rfl hi (by omega)
        have ht : (b.take metaSize).length = metaSize := by simp; omega
        simp only [prepass1]
        rw [if_pos]
        · rfl
        · have h2 : ((b.take metaSize).drop 1 != md5 (b.drop metaSize)) = true := by
            simp only [bne_iff_ne, ne_eq]; exact this
          rw [h2]; simp

theorem rd_fst_some {f : Option Bytes} {c : Bytes} (h : (rd f).1 = some c) :
    ∃ b, f = some b ∧ metaSize ≤ b.length ∧ b.drop metaSize = c := by
  cases f with
  | none => cases h
  | some b =>
    rw [rd_some] at h
    split at h
    · cases h
    · exact ⟨b, rfl, by omega, Option.some.inj h⟩

end read

/-- what the shards look like after the checksum pre-pass: the intact files give the shard that was written (the written
file without its prefix), the others are blanked; so the set is a mask of the code word and `Blob.reconstruct_mask` applies -/
def maskOf (tr : List (Option Bytes × Bytes)) : List Shard :=
  tr.map fun x => if intact x then some (x.2.drop metaSize) else none

theorem maskOf_cons (x : Option Bytes × Bytes) (tr : List (Option Bytes × Bytes)) :
    maskOf (x :: tr) = (if intact x then some (x.2.drop metaSize) else none) :: maskOf tr := rfl

theorem maskOf_isMask (tr : List (Option Bytes × Bytes)) : IsMask (maskOf tr) (tr.map fun x => x.2.drop metaSize) :=
  isMask_map _ _ tr fun x _ => by
    by_cases hi : intact x = true
    · exact Or.inr (if_pos hi)
    · exact Or.inl (if_neg hi)

theorem maskOf_countP (tr : List (Option Bytes × Bytes)) : (maskOf tr).countP Option.isSome = tr.countP intact := by
  unfold maskOf
  rw [List.countP_map]
  apply List.countP_congr
  intro x _
  simp only [Function.comp]
  by_cases hi : intact x = true <;> simp [hi]

/-- rewriting exactly the positions the checksum pass blanked leaves every file as written (`k`: the position of the
head, for the induction) -/
theorem rewrite_blanked (tr : List (Option Bytes × Bytes))
    (k : Nat) (idxs : List Nat) (h : ∀ i, k ≤ i → (idxs.contains i = true ↔ i ∈ nilIdx (maskOf tr) k)) :
    (tr.zipIdx k).map (fun x => if idxs.contains x.2 then some x.1.2 else x.1.1) = tr.map fun x => some x.2 := by
  induction tr generalizing k with
  | nil => rfl
  | cons x tr ih =>
    simp only [List.map_cons, List.zipIdx_cons, List.cons.injEq]
    constructor
    · by_cases hi : intact x = true
      · have : x.1 = some x.2 := by simpa [intact] using hi
        rw [this]; split <;> rfl
      · have hi' : intact x = false := by simpa using hi
        have hk := (h k (Nat.le_refl _)).mpr (by simp [maskOf_cons, nilIdx, hi'])
        rw [if_pos hk]
    · apply ih (k+1)
      intro i hi
      rw [h i (by omega)]
      simp only [maskOf_cons, nilIdx]
      by_cases hx : intact x = true
      · simp [hx]
      · have hx' : intact x = false := by simpa using hx
        simp only [hx', Bool.false_eq_true, if_false, Option.isNone_none, if_true, List.mem_cons]
        constructor
        · rintro (rfl | h1)
          · omega
          · exact h1
        · exact Or.inr

namespace Blob
variable {C : Code} {md5 : Bytes → Bytes} {data : Bytes} (B : Blob C md5 data)
include B

theorem finish_codeword (sm : List (Shard × Option Bytes)) (idxs : List Nat)
    (hs : sm.map (·.1) = (cwOf C data).map some)
    (hpad : ∀ x ∈ sm, metaMatches md5 x.1 x.2 = true → (x.2.getD []).headD 0 = padCount C.d data.length) :
    finish .fixed C md5 sm idxs =
      if sm.any (fun x => metaMatches md5 x.1 x.2) then .ok data idxs else .err := by
  have hd := B.dPos
  have hsz := (perShard_spec C.d data.length hd).1
  unfold finish
  simp only [hs, B.head_cw, B.join_cw]
  cases hf : sm.find? (fun x => metaMatches md5 x.1 x.2) with
  | none =>
    have : sm.any (fun x => metaMatches md5 x.1 x.2) = false := by
      rw [List.any_eq_false]
      intro x hx
      have := List.find?_eq_none.mp hf x hx
      simpa using this
    simp [this]
  | some x =>
    have hx := List.mem_of_find?_eq_some hf
    have hp := List.find?_some hf
    have : sm.any (fun x => metaMatches md5 x.1 x.2) = true := List.any_eq_true.mpr ⟨x, hx, hp⟩
    simp only [this, if_true, hpad x hx hp, padCount_eq C.d data.length hd B.dLt]
    rw [if_neg (by simp only [List.length_append, List.length_replicate]; omega)]
    simp

/-! `tr`: the directory as pairs (file now, file written); `htr`, `hw`: the files written are those of the blob. -/
variable (tr : List (Option Bytes × Bytes)) (htr : tr.map (fun x => x.2.drop metaSize) = cwOf C data)
  (hw : ∀ x ∈ tr, Written md5 (padCount C.d data.length) x.2)

include htr in
theorem tr_length : tr.length = C.d + C.p := by
  have := congrArg List.length htr
  rw [List.length_map, B.cw_length] at this
  exact this

include htr hw in
/-- `Decode` when the first `Verify` does not pass: checksum pass, reconstruction, second `Verify` -/
theorem decode_slow (hdet : Detects md5 tr)
    (hv : verify C ((tr.map fun x => rd x.1).map (·.1)) ≠ .pass) :
    decode .fixed C md5 (tr.map fun x => rd x.1) =
      if C.d ≤ tr.countP intact then .ok data (nilIdx (maskOf tr) 0) else .err := by
  have hd := B.dPos
  have hn := B.tr_length tr htr
  unfold decode
  rw [if_neg (by simp only [List.length_map]; omega)]
  have hpre : (tr.map fun x => rd x.1).map (prepass1 md5) =
      tr.map fun x => if intact x then (some (x.2.drop metaSize), some (x.2.take metaSize)) else (none, none) := by
    rw [List.map_map]
    exact List.map_congr_left fun x hx => prepass_rd md5 x (hdet x hx) (hw x hx)
  have hfst : ((tr.map fun x => rd x.1).map (prepass1 md5)).map (·.1) = maskOf tr := by
    rw [hpre, List.map_map]
    apply List.map_congr_left
    intro x _
    simp only [Function.comp]
    split <;> rfl
  have hrec := B.reconstruct_mask (htr ▸ maskOf_isMask tr)
  rw [maskOf_countP tr] at hrec
  split
  · rename_i h; exact absurd h hv
  · dsimp only
    rw [hfst]
    unfold reconstructMissing
    rw [hrec]
    by_cases hk : C.d ≤ tr.countP intact
    · simp only [if_pos hk, B.verify_cw]
      have hz : ((cwOf C data).map some).zip (((tr.map fun x => rd x.1).map (prepass1 md5)).map (·.2)) =
          tr.map fun x => (some (x.2.drop metaSize), if intact x then some (x.2.take metaSize) else none) := by
        rw [← htr, List.map_map, hpre, List.map_map, List.zip_map']
        apply List.map_congr_left
        intro x _
        simp only [Function.comp]
        split <;> rfl
      rw [hz, B.finish_codeword, if_pos]
      · obtain ⟨x, hx, hi⟩ := List.countP_pos_iff.mp (show 0 < tr.countP intact by omega)
        rw [List.any_eq_true]
        exact ⟨_, List.mem_map.mpr ⟨x, hx, rfl⟩, by simp only [hi, if_true]; exact (hw x hx).sum⟩
      · rw [List.map_map, ← htr, List.map_map]; rfl
      · intro y hy hm
        obtain ⟨x, hx, rfl⟩ := List.mem_map.mp hy
        by_cases hi : intact x = true
        · simp only [hi, if_true, Option.getD_some, (hw x hx).head]; rfl
        · simp [hi, metaMatches] at hm
    · simp only [if_neg hk]

omit B in
include hw in
/-- a file whose metadata matches its body is the file written (the checksum would have told), so it carries the pad count -/
theorem pad_of_match (hdet : Detects md5 tr)
    (y : Shard × Option Bytes) (hy : y ∈ tr.map fun x => rd x.1)
    (hm : metaMatches md5 y.1 y.2 = true) : (y.2.getD []).headD 0 = padCount C.d data.length := by
  obtain ⟨x, hx, rfl⟩ := List.mem_map.mp hy
  have hb : x.1 = some x.2 := by
    cases hf : x.1 with
    | none => rw [hf] at hm; simp [rd, metaMatches] at hm
    | some b =>
      rw [hf, rd_some] at hm
      by_cases hlen : b.length < metaSize
      · simp [hlen, metaMatches] at hm
      · simp only [hlen, if_false, metaMatches, Option.getD_some, Bool.and_eq_true, beq_iff_eq] at hm
        exact congrArg some (Decidable.byContradiction fun hne => hdet x hx b hf hne (by omega) hm.2)
  rw [hb, rd_of_len (hw x hx).len, Option.getD_some, (hw x hx).head]
  rfl

include htr hw in
theorem decode_fast (hdet : Detects md5 tr)
    (hv : verify C ((tr.map fun x => rd x.1).map (·.1)) = .pass)
    (h2 : (tr.map fun x => rd x.1).map (·.1) = (cwOf C data).map some) :
    decode .fixed C md5 (tr.map fun x => rd x.1) =
      if (tr.map fun x => rd x.1).any (fun x => metaMatches md5 x.1 x.2) then .ok data [] else .err := by
  have hd := B.dPos
  have hn := B.tr_length tr htr
  unfold decode
  rw [if_neg (by simp only [List.length_map]; omega)]
  simp only [hv]
  exact B.finish_codeword _ _ h2 (pad_of_match tr hw hdet)

omit B in
include hw in
/-- `maskOf tr` is also a mask of the bodies actually read (code word or not): an intact file reads as the shard written -/
theorem maskOf_isMask_bodies : IsMask (maskOf tr) ((tr.map fun x => (rd x.1).1).map (·.getD [])) := by
  rw [List.map_map]
  refine isMask_map _ _ tr fun x hx => ?_
  by_cases hi : intact x = true
  · right
    have : x.1 = some x.2 := by simpa [intact] using hi
    simp [hi, this, rd_of_len (hw x hx).len]
  · left; simp [hi]

end Blob

/-- two code words that share a mask with `d` present entries are equal (the distance of an MDS code) -/
theorem Code.Laws.determined {C : Code} (hC : C.Laws) {ds ds' : List Bytes} {L L' : Nat} {mask : List (Option Bytes)}
    (hds : ds.length = C.d) (hl : ∀ s ∈ ds, s.length = L) (hds' : ds'.length = C.d) (hl' : ∀ s ∈ ds', s.length = L')
    (hm : IsMask mask (ds ++ C.parity ds)) (hm' : IsMask mask (ds' ++ C.parity ds'))
    (hk : C.d ≤ mask.countP Option.isSome) : ds' ++ C.parity ds' = ds ++ C.parity ds := by
  rw [← hC.recon_spec ds' L' mask hds' hl' hm' hk, hC.recon_spec ds L mask hds hl hm hk]

theorem verify_pass_cw {C : Code} {ss : List Shard} (hv : verify C ss = .pass) :
    ∃ bs : List Bytes, ss = bs.map some ∧ bs = bs.take C.d ++ C.parity (bs.take C.d) ∧ bs.length = C.d + C.p ∧
      ∀ s ∈ bs.take C.d, s.length = shardSize ss := by
  obtain ⟨hlen, hchk, hpar⟩ := verify_eq_pass.1 hv
  obtain ⟨hnz, hall⟩ := checkShards_strict_iff.1 hchk
  refine ⟨ss.map (·.getD []), ?_, by rw [hpar, List.take_append_drop], by rw [List.length_map, hlen], ?_⟩
  · conv => lhs; rw [← List.map_id ss]
    rw [List.map_map]
    apply List.map_congr_left
    intro s hs
    have h1 := hall s hs
    cases s with
    | none => rw [slen_none] at h1; exact absurd h1.symm hnz
    | some b => rfl
  · intro s hs
    obtain ⟨t, ht, rfl⟩ := List.mem_map.mp (List.mem_of_mem_take hs)
    exact hall t ht

theorem Blob.verify_pass_eq {C : Code} {md5 : Bytes → Bytes} {data : Bytes} (B : Blob C md5 data)
    (tr : List (Option Bytes × Bytes)) (htr : tr.map (fun x => x.2.drop metaSize) = cwOf C data)
    (hw : ∀ x ∈ tr, Written md5 (padCount C.d data.length) x.2) (hk : C.d ≤ tr.countP intact)
    (hv : verify C (tr.map fun x => (rd x.1).1) = .pass) :
    (tr.map fun x => (rd x.1).1) = (cwOf C data).map some := by
  have hmb := Blob.maskOf_isMask_bodies tr hw
  obtain ⟨bs, hss, hbs, hlen, hl'⟩ := verify_pass_cw hv
  have e : (bs.map some).map (·.getD []) = bs := by rw [List.map_map]; exact List.map_id'' (fun _ => rfl) bs
  rw [hss, e, hbs] at hmb
  rw [hss, hbs, B.laws.determined (split_length C.d data) B.shard_length (by rw [List.length_take]; omega) hl'
    (show IsMask (maskOf tr) (cwOf C data) from htr ▸ maskOf_isMask tr) hmb (by rw [maskOf_countP tr]; exact hk)]
  rfl

/-! The same over a directory `fs` and the shard files `files0` that `Add` wrote for the blob. -/

theorem map_zip_fst {α β γ : Type} (g : α → γ) {l : List α} {m : List β} (h : l.length ≤ m.length) :
    (l.zip m).map (fun x => g x.1) = l.map g := by
  conv => rhs; rw [← List.map_fst_zip h, List.map_map]
  rfl

theorem map_zip_snd {α β γ : Type} (g : β → γ) {l : List α} {m : List β} (h : m.length ≤ l.length) :
    (l.zip m).map (fun x => g x.2) = m.map g := by
  conv => rhs; rw [← List.map_snd_zip h, List.map_map]
  rfl

def intactCount (files0 : List Bytes) (fs : List (Option Bytes)) : Nat := (fs.zip files0).countP intact

/-- the positions of the others: what the checksum pass of `Decode` blanks, and what a repairing read rewrites -/
def lost (files0 : List Bytes) (fs : List (Option Bytes)) : List Nat := nilIdx (maskOf (fs.zip files0)) 0

theorem rewrite_lost {files0 : List Bytes} {fs : List (Option Bytes)} (hlen : fs.length = files0.length) :
    rewrite fs files0 (lost files0 fs) = files0.map some := by
  have h := rewrite_blanked (fs.zip files0) 0 (lost files0 fs) (fun i _ => List.contains_iff_mem)
  rw [map_zip_snd some (Nat.le_of_eq hlen.symm)] at h
  exact h

namespace Blob
variable {C : Code} {md5 : Bytes → Bytes} {data : Bytes} (B : Blob C md5 data) {files0 : List Bytes}
  (hfiles : files0 = (cwOf C data).map (shardFile md5 C.d data.length))
  {fs : List (Option Bytes)} (hlen : fs.length = files0.length)
include B hfiles hlen

theorem zip_shards : (fs.zip files0).map (fun x => x.2.drop metaSize) = cwOf C data := by
  refine (map_zip_snd (fun f => f.drop metaSize) (Nat.le_of_eq hlen.symm)).trans ?_
  rw [hfiles, List.map_map]
  conv => rhs; rw [← List.map_id (cwOf C data)]
  exact List.map_congr_left fun c _ => shardFile_drop md5 C.d data.length B.md5Len c

omit B hfiles in
theorem zip_fst : (fs.zip files0).map (fun x => rd x.1) = fs.map rd := map_zip_fst rd (Nat.le_of_eq hlen)

omit hlen in
theorem zip_written : ∀ x ∈ fs.zip files0, Written md5 (padCount C.d data.length) x.2 := by
  intro x hx
  have hf := (List.of_mem_zip hx).2
  rw [hfiles] at hf
  obtain ⟨c, _, hc⟩ := List.mem_map.mp hf
  exact hc ▸ written_shardFile md5 _ _ B.md5Len c

/-- **`Decode` of the fixed code, whatever the directory holds**: the fast path when `Verify` passes at once (`hnc`: then
the bodies are the code word), else the checksum pass and a reconstruction from the intact files -/
theorem decode_fixed (hdet : Detects md5 (fs.zip files0))
    (hnc : verify C (fs.map fun f => (rd f).1) = .pass → (fs.map fun f => (rd f).1) = (cwOf C data).map some) :
    decode .fixed C md5 (fs.map rd) =
      if verify C (fs.map fun f => (rd f).1) = .pass then
        if (fs.map rd).any (fun x => metaMatches md5 x.1 x.2) then .ok data [] else .err
      else if C.d ≤ intactCount files0 fs then .ok data (lost files0 fs)
      else .err := by
  have hb : (fs.map fun f => (rd f).1) = ((fs.zip files0).map fun x => rd x.1).map (·.1) := by
    rw [zip_fst hlen, List.map_map]; rfl
  rw [hb] at hnc ⊢
  rw [← zip_fst hlen]
  split
  · rename_i hv
    exact B.decode_fast _ (B.zip_shards hfiles hlen) (B.zip_written hfiles) hdet hv (hnc hv)
  · rename_i hv
    exact B.decode_slow _ (B.zip_shards hfiles hlen) (B.zip_written hfiles) hdet hv

/-- with `d` intact files a set that passes `Verify` is the code word: the damage is not itself one -/
theorem pass_is_codeword (hk : C.d ≤ intactCount files0 fs) (hv : verify C (fs.map fun f => (rd f).1) = .pass) :
    (fs.map fun f => (rd f).1) = (cwOf C data).map some := by
  have hb : (fs.map fun f => (rd f).1) = (fs.zip files0).map fun x => (rd x.1).1 :=
    (map_zip_fst (fun f => (rd f).1) (Nat.le_of_eq hlen)).symm
  rw [hb] at hv ⊢
  exact B.verify_pass_eq _ (B.zip_shards hfiles hlen) (B.zip_written hfiles) hk hv

theorem some_intact (hpos : 0 < intactCount files0 fs) :
    ((fs.map rd).all fun x => x.1.isNone) = false ∧ (fs.map rd).any (fun x => metaMatches md5 x.1 x.2) = true := by
  obtain ⟨x, hx, hi⟩ := List.countP_pos_iff.mp hpos
  have hw := B.zip_written hfiles x hx
  have hrx : rd x.1 = (some (x.2.drop metaSize), some (x.2.take metaSize)) := by
    rw [show x.1 = some x.2 by simpa [intact] using hi, rd_of_len hw.len]
  rw [← zip_fst hlen]
  constructor
  · rw [List.all_eq_false]
    exact ⟨rd x.1, List.mem_map.mpr ⟨x, hx, rfl⟩, by rw [hrx]; simp⟩
  · rw [List.any_eq_true]
    exact ⟨rd x.1, List.mem_map.mpr ⟨x, hx, rfl⟩, by rw [hrx]; exact hw.sum⟩

end Blob

end Sop.Erasure
