import Sop.Lemmas.BTreeFind
import Sop.Lemmas.BTreeReach
/-! The public cursor calls of Model B (`First`, `Last`, `Next`, `Previous`, `Find`) on a well-formed tree,
stated with `CursorPos`: the cursor stands on a definite in-order position `L | R` of the tree. `Find(k, false)` with
its fast path (proposed repair `fixFast`: it trusts the cursor only if it holds a live item) is `find_any_spec`. -/
namespace Sop.BTree

/-- `t` is the tree `t₀` (well-formed wherever this is used: `WF t₀` is passed beside it) up to memoised child indices and
    cursor, it has not panicked, and its cursor designates the occupied slot that is the head of `R` in the in-order
    contents `L ++ R` -/
def CursorPos (t₀ t : BTree) (L R : List Item) : Prop :=
  HeapEq t₀ t ∧ t.panicked = false ∧
    ∃ (f : Nat) (m : NodeId) (s : Nat), t.cur.node = m ∧ t.cur.idx = (s : Int) ∧ At t₀ f m s L R

/-- `getCurrentItem` cannot fail: no cursor, a cached item, or a cursor inside the slot array of a stored node -/
def CursorValid (t : BTree) : Prop :=
  t.cur.node = 0 ∨ t.cur.cached = true ∨ ∃ nd, t.get? t.cur.node = some nd ∧ 0 ≤ t.cur.idx ∧ t.cur.idx < (nd.slots.size : Int)

/-- `CursorValid`, and a non-negative index unless there is no cursor: what the guards of `UpdateCurrent*` and
    `RemoveCurrentItem` need beside it -/
def CursorOK (t : BTree) : Prop := CursorValid t ∧ (t.cur.node = 0 ∨ 0 ≤ t.cur.idx)

/-- what every read-only call leaves of `t₀`, whatever it answers: the same tree up to memo and cursor, not panicked, with a
    cursor the next call can read -/
def GoodSt (t₀ t : BTree) : Prop := HeapEq t₀ t ∧ t.panicked = false ∧ CursorOK t

theorem GoodSt.refl {t : BTree} (hp : t.panicked = false) (hc : CursorOK t) : GoodSt t t := ⟨HeapEq.refl t, hp, hc⟩

/-! How the cursor predicates of Model B's lemma files lead to one another (`t₀` well-formed):
`RawPos` (a walk's result, not yet cached) → `CursorPos` by `RawPos.cursorPos`; `CursorPos` → `GoodSt` by `cursorPos_good`
(`GoodSt` = `HeapEq` ∧ not panicked ∧ `CursorOK`, `CursorOK` = `CursorValid` ∧ index not negative; `At.valid` is the `CursorValid`
part), → the guards of `Next`/`Previous` by `cursorPos_head`, → `Rem.CursorOn` by `cursorOn_of_pos` (BTreeStep), →
`C18.CursorAt` by `C18_cursorPos_meaning`. Back: the guards of `Next`/`Previous` → `CursorPos` by `cursorPos_of_guards`
(BTreeReadOps); `curNode? = some _` with `CursorOK` → `0 ≤ idx` by `CursorOK.idx` (BTreeRun) → `Rem.CursorOn` by
`WF.cursorOn_of_curNode` (BTreeStep); `Rem.CursorOn` → `curNode? = some _` by `Rem.CursorOn.node` (BTreeRemove). -/

theorem WF.count_ne {t : BTree} (h : WF t) (hne : t.abs ≠ []) : (t.count == 0) = false ∧ t.root ≠ 0 := by
  have hc := (abs_sorted_of_WF t h).2.2
  have hlen : t.abs.length ≠ 0 := fun e => hne (List.eq_nil_of_length_eq_zero e)
  refine ⟨by simp only [beq_eq_false_iff_ne, ne_eq]; omega, ?_⟩
  intro hr
  apply hne
  simp [BTree.abs, hr, absNode_zero]

theorem WF.count_zero {t : BTree} (h : WF t) (hne : t.abs = []) : (t.count == 0) = true := by
  have := (abs_sorted_of_WF t h).2.2
  rw [hne] at this; simp [this]


theorem find_empty {t : BTree} (h : WF t) (hne : t.abs = []) (k : Int) (f : Bool) : t.find k f = (t, false) := by
  unfold BTree.find; simp [h.count_zero hne]

theorem findDesc_empty {t : BTree} (h : WF t) (hne : t.abs = []) (k : Int) : t.findDesc k = (t, false) := by
  unfold BTree.findDesc; simp [h.count_zero hne]

theorem first_empty {t : BTree} (h : WF t) (hne : t.abs = []) : t.first = (t, false) := by
  unfold BTree.first; simp [h.count_zero hne]

theorem last_empty {t : BTree} (h : WF t) (hne : t.abs = []) : t.last = (t, false) := by
  unfold BTree.last; simp [h.count_zero hne]

theorem CursorPos.wfr {t₀ t : BTree} (hwf : WF t₀) {L R : List Item} (h : CursorPos t₀ t L R) : WFR t₀ := by
  obtain ⟨_, _, f, m, s, _, _, hat⟩ := h
  obtain ⟨nd, hg, _⟩ := hat.2
  exact hwf.wfr (hwf.root_ne_of_get hg)

theorem getRootNode_eq {t : BTree} (hc : (t.count == 0) = false) (hr : t.root ≠ 0) : t.getRootNode = (t, t.root) := by
  unfold BTree.getRootNode
  have : (t.root == 0) = false := by simpa using hr
  simp [hc, this]

theorem HeapEq.cur {t₀ t : BTree} (he : HeapEq t₀ t) (c : Cursor) : HeapEq t₀ { t with cur := c } :=
  ⟨he.frame, he.len, he.get, he.ion⟩

theorem getCurrentItem_valid {t₀ t : BTree} (he : HeapEq t₀ t) (hp : t.panicked = false) (hv : CursorValid t) :
    HeapEq t₀ t.getCurrentItem.1 ∧ t.getCurrentItem.1.panicked = false ∧
      t.getCurrentItem.1.cur.node = t.cur.node ∧ t.getCurrentItem.1.cur.idx = t.cur.idx ∧
      (t.cur.node ≠ 0 → t.getCurrentItem.1.cur.cached = true ∧ t.getCurrentItem.2 = some t.curItem) := by
  unfold BTree.getCurrentItem
  by_cases h0 : t.cur.node = 0
  · rw [if_pos h0]
    exact ⟨he.cur _, hp, rfl, rfl, fun h => absurd h0 h⟩
  · rw [if_neg h0]
    by_cases hc : t.cur.cached = true
    · rw [if_pos hc]
      exact ⟨he, hp, rfl, rfl, fun _ => ⟨hc, rfl⟩⟩
    · rw [if_neg hc]
      rcases hv with h | h | ⟨nd, hg, h1, h2⟩
      · exact absurd h h0
      · exact absurd h hc
      · rw [hg]
        have : ¬ (t.cur.idx < 0 ∨ t.cur.idx ≥ (nd.slots.size : Int)) :=
          fun h => h.elim (Int.not_lt.mpr h1) (Int.not_le.mpr h2)
        simp only []
        rw [if_neg this]
        exact ⟨he.cur _, hp, rfl, rfl, fun _ => ⟨rfl, rfl⟩⟩

theorem At.valid {t₀ t : BTree} (hw : WFR t₀) (he : HeapEq t₀ t) {f m s L R} (hat : At t₀ f m s L R)
    (hn : t.cur.node = m) (hi : t.cur.idx = (s : Int)) : CursorValid t := by
  obtain ⟨⟨p, pre, post, nd, hctx, hg, hs, _, _⟩, nd', hg', hlt⟩ := hat
  rw [hg] at hg'; cases hg'
  have hsh := hctx.nodeShape hw hg
  obtain ⟨nd', hgt, hc⟩ := he.get_some hg
  right; right
  refine ⟨nd', by rw [hn]; exact hgt, hi ▸ Int.natCast_nonneg s, ?_⟩
  rw [core_eq_slots hc, hsh.slots_size, hi]
  exact Int.ofNat_lt.mpr (Nat.lt_of_lt_of_le hlt hsh.count_le)

theorem cursorPos_node_ne {t₀ t : BTree} (hw : WFR t₀) {L R : List Item} (h : CursorPos t₀ t L R) : t.cur.node ≠ 0 := by
  obtain ⟨_, _, f, m, s, hn, _, ⟨p, pre, post, nd, hctx, hg, _⟩, _⟩ := h
  rw [hn]; exact hctx.ne_zero hw

theorem cursorPos_cache {t₀ t : BTree} (hw : WFR t₀) {L R : List Item} (h : CursorPos t₀ t L R) :
    CursorPos t₀ t.getCurrentItem.1 L R ∧ t.getCurrentItem.1.cur.cached = true := by
  have hnode := cursorPos_node_ne hw h
  obtain ⟨he, hp, f, m, s, hn, hi, hat⟩ := h
  obtain ⟨he', hp', hn', hi', hc'⟩ := getCurrentItem_valid he hp (hat.valid hw he hn hi)
  exact ⟨⟨he', hp', f, m, s, by rw [hn', hn], by rw [hi', hi], hat⟩, (hc' hnode).1⟩

theorem RawPos.cursorPos {t₀ t : BTree} {L R : List Item} (he : HeapEq t₀ t) (hp : t.panicked = false)
    (h : RawPos t₀ t L R) : CursorPos t₀ t L R :=
  let ⟨f, m, s, hcur, hat⟩ := h
  ⟨he, hp, f, m, s, by rw [hcur], by rw [hcur], hat⟩

theorem FwdResult.pos {t₀ : BTree} {L R : List Item} {r : BTree × Bool} (h : FwdResult t₀ L R r) (hR : R ≠ []) :
    r.2 = true ∧ CursorPos t₀ r.1 L R := by
  obtain ⟨he, hp, ⟨hnil, _⟩ | ⟨hr, hraw⟩⟩ := h
  · exact absurd hnil hR
  · exact ⟨hr, hraw.cursorPos he hp⟩

theorem BwdResult.pos {t₀ : BTree} {L R : List Item} {r : BTree × Bool} (h : BwdResult t₀ L R r) (hL : L ≠ []) :
    r.2 = true ∧ ∃ L' x, L = L' ++ [x] ∧ CursorPos t₀ r.1 L' (x :: R) := by
  obtain ⟨he, hp, ⟨hnil, _⟩ | ⟨hr, L', x, hLx, hraw⟩⟩ := h
  · exact absurd hnil hL
  · exact ⟨hr, L', x, hLx, hraw.cursorPos he hp⟩

theorem Pre.root {t : BTree} (hw : WFR t) : Pre t (t.nodes.length + 1) t.root 0 [] t.abs := by
  obtain ⟨nd, hg⟩ := Ctx.root.node hw
  refine ⟨0, [], [], nd, Ctx.root, hg, Nat.zero_le _, by rw [Node.pre_zero]; rfl, ?_⟩
  rw [abs_eq_A, A_split t hw.wf (Nat.le_refl _) hg (Nat.zero_le _), Node.pre_zero]; simp

theorem Gap.root {t : BTree} (hw : WFR t) {nd : Node} (hg : t.get? t.root = some nd) :
    Gap t (t.nodes.length + 1) t.root nd.count t.abs [] := by
  have hsh : NodeShape t nd := Ctx.root.nodeShape hw hg
  refine ⟨0, [], [], nd, Ctx.root, hg, Nat.le_refl _, ?_, by rw [Node.post_count hsh]; rfl⟩
  rw [abs_eq_A, A_split t hw.wf (Nat.le_refl _) hg (Nat.le_refl _), Node.post_count hsh]; simp

theorem first_spec {t : BTree} (hwf : WF t) (hp : t.panicked = false) (hne : t.abs ≠ []) :
    t.first.2 = true ∧ CursorPos t t.first.1 [] t.abs ∧ t.first.1.cur.cached = true := by
  obtain ⟨hc, hr⟩ := hwf.count_ne hne
  have hw := hwf.wfr hr
  have h := moveToFirst_spec hw t.fuel t _ _ _ _ (HeapEq.refl t) hp (Pre.root hw) (fuel_root (HeapEq.refl t)) hne
  obtain ⟨h1, h2⟩ := h.pos hne
  obtain ⟨h3, h4⟩ := cursorPos_cache hw h2
  unfold BTree.first
  simp only [hc, Bool.false_eq_true, if_false, getRootNode_eq hc hr]
  exact ⟨h1, h3, h4⟩

theorem last_spec {t : BTree} (hwf : WF t) (hp : t.panicked = false) (hne : t.abs ≠ []) :
    t.last.2 = true ∧ ∃ L x, t.abs = L ++ [x] ∧ CursorPos t t.last.1 L [x] ∧ t.last.1.cur.cached = true := by
  obtain ⟨hc, hr⟩ := hwf.count_ne hne
  have hw := hwf.wfr hr
  obtain ⟨nd, hg⟩ := Ctx.root.node hw
  have h := moveToLast_spec hw t.fuel t _ _ nd _ _ (HeapEq.refl t) hp hg (Gap.root hw hg) (fuel_root (HeapEq.refl t)) hne
  obtain ⟨h1, L, x, hLx, h2⟩ := h.pos hne
  obtain ⟨h3, h4⟩ := cursorPos_cache hw h2
  unfold BTree.last
  simp only [hc, Bool.false_eq_true, if_false, getRootNode_eq hc hr]
  exact ⟨h1, L, x, hLx, h3, h4⟩

theorem cursorPos_abs {t₀ t : BTree} (hw : WFR t₀) {L R : List Item} (h : CursorPos t₀ t L R) :
    t₀.abs = L ++ R ∧ t.abs = L ++ R ∧ ∃ x R', R = x :: R' ∧ t.curItem = x := by
  obtain ⟨he, hp, f, m, s, hn, hi, hat⟩ := h
  have habs := hat.gap.abs hw
  obtain ⟨nd, R', hg, hlt, hR⟩ := hat.head hw
  refine ⟨habs, by rw [abs_heapEq he]; exact habs, nd.slot s, R', hR, ?_⟩
  unfold BTree.curItem
  rw [hn, hi, Int.toNat_natCast]
  exact core_eq_slot (he.node hg).1 s

theorem cursorPos_head {t₀ t : BTree} (hwf : WF t₀) {L R : List Item} (h : CursorPos t₀ t L R) :
    (t.count == 0 || !t.isCurSelected) = false ∧
      ∃ nd, t.get? t.cur.node = some nd ∧ ¬ (t.cur.idx ≥ (nd.count : Int)) ∧ nd.id = t.cur.node := by
  have hw := h.wfr hwf
  obtain ⟨habs, _, x, R', hR, _⟩ := cursorPos_abs hw h
  have hm0 := cursorPos_node_ne hw h
  obtain ⟨he, hp, f, m, s, hn, hi, hat⟩ := h
  rw [hn] at hm0
  have hne : t₀.abs ≠ [] := by rw [habs, hR]; simp
  obtain ⟨hc, _⟩ := hwf.count_ne hne
  obtain ⟨nd, _, hg, hlt, _⟩ := hat.head hw
  obtain ⟨nd', hgt, hcore⟩ := he.get_some hg
  refine ⟨?_, nd', by rw [hn]; exact hgt, ?_, by rw [hn]; exact get?_id hgt⟩
  · have h1 : (t.count == 0) = false := by rw [he.count]; exact hc
    have h2 : t.isCurSelected = true := by
      unfold BTree.isCurSelected
      rw [hn, hi]
      simp [hm0]
    simp [h1, h2]
  · rw [core_eq_count hcore, hi]; exact Int.not_le.mpr (Int.ofNat_lt.mpr hlt)

theorem next_spec {t₀ t : BTree} (hwf : WF t₀) {L R : List Item} {x : Item} (h : CursorPos t₀ t L (x :: R)) :
    HeapEq t₀ t.next.1 ∧ t.next.1.panicked = false ∧ (R = [] → t.next.2 = false ∧ t.next.1.cur.node = 0) ∧
      (R ≠ [] → t.next.2 = true ∧ CursorPos t₀ t.next.1 (L ++ [x]) R ∧ t.next.1.cur.cached = true) := by
  have hw := h.wfr hwf
  obtain ⟨hhead, nd, hg, hidx, hid⟩ := cursorPos_head hwf h
  obtain ⟨he, hp, f, m, s, hn, hi, hat⟩ := h
  have hmv := moveToNext_spec hw he hp hat hi
  rw [← hn, ← hid] at hmv
  unfold BTree.next
  simp only [hhead, Bool.false_eq_true, if_false, hg, hidx]
  obtain ⟨he1, hp1, hres⟩ := id hmv
  by_cases hR : R = []
  · rcases hres with ⟨_, hr2, hn0⟩ | ⟨hr2, f', m', s', hcur, hat'⟩
    · obtain ⟨he2, hp2, hn2, _⟩ := getCurrentItem_valid he1 hp1 (Or.inl hn0)
      exact ⟨he2, hp2, fun _ => ⟨hr2, hn2.trans hn0⟩, fun h' => absurd hR h'⟩
    · exfalso
      obtain ⟨_, _, _, _, hh⟩ := hat'.head hw
      rw [hR] at hh; simp at hh
  · obtain ⟨h1, h2⟩ := hmv.pos hR
    obtain ⟨h3, h4⟩ := cursorPos_cache hw h2
    exact ⟨h3.1, h3.2.1, fun h' => absurd h' hR, fun _ => ⟨h1, h3, h4⟩⟩

theorem prev_spec {t₀ t : BTree} (hwf : WF t₀) {L R : List Item} (h : CursorPos t₀ t L R) :
    HeapEq t₀ t.prev.1 ∧ t.prev.1.panicked = false ∧ (L = [] → t.prev.2 = false ∧ t.prev.1.cur.node = 0) ∧
      (L ≠ [] → t.prev.2 = true ∧ ∃ L' x, L = L' ++ [x] ∧ CursorPos t₀ t.prev.1 L' (x :: R) ∧
        t.prev.1.cur.cached = true) := by
  have hw := h.wfr hwf
  obtain ⟨hhead, nd, hg, hidx, hid⟩ := cursorPos_head hwf h
  obtain ⟨he, hp, f, m, s, hn, hi, hat⟩ := h
  have hmv := moveToPrevious_spec hw he hp hat hi
  rw [← hn, ← hid] at hmv
  unfold BTree.prev
  simp only [hhead, Bool.false_eq_true, if_false, hg, hidx]
  obtain ⟨he1, hp1, hres⟩ := id hmv
  by_cases hL : L = []
  · rcases hres with ⟨_, hr2, hn0⟩ | ⟨hr2, L', x', hLx, _⟩
    · obtain ⟨he2, hp2, hn2, _⟩ := getCurrentItem_valid he1 hp1 (Or.inl hn0)
      exact ⟨he2, hp2, fun _ => ⟨hr2, hn2.trans hn0⟩, fun h' => absurd hL h'⟩
    · exfalso
      rw [hL] at hLx; simp at hLx
  · obtain ⟨h1, L', x, hLx, h2⟩ := hmv.pos hL
    obtain ⟨h3, h4⟩ := cursorPos_cache hw h2
    exact ⟨h3.1, h3.2.1, fun h' => absurd h' hL, fun _ => ⟨h1, L', x, hLx, h3, h4⟩⟩

/-- with `first`, the fast path of `Find` is never taken: after the probe of the current item the search descends -/
theorem find_first_unfold (t : BTree) (k : Int) (hc : (t.count == 0) = false) :
    t.find k true =
      (let t1 := if t.isCurSelected then t.getCurrentItem.1 else t
       if t1.panicked then (t1, false)
       else
         let r := findAux k true t1.getRootNode.1.fuel t1.getRootNode.1 t1.getRootNode.2 none
         (r.1.getCurrentItem.1, r.2)) := by
  unfold BTree.find
  simp only [hc, Bool.false_eq_true, if_false]
  cases hsel : t.isCurSelected with
  | false => simp
  | true =>
    simp only [if_true]
    rcases hgc : t.getCurrentItem with ⟨t', ci⟩
    cases ci <;> simp

theorem cursorPos_good {t₀ t : BTree} (hwf : WF t₀) {L R : List Item} (h : CursorPos t₀ t L R) : GoodSt t₀ t := by
  have hw := h.wfr hwf
  obtain ⟨he, hp, f, m, s, hn, hi, hat⟩ := h
  exact ⟨he, hp, hat.valid hw he hn hi, Or.inr (hi ▸ Int.natCast_nonneg s)⟩

/-- how a public search for `k` with answer `b` ends, leaving the state `t'` -/
def SearchOutcome (t₀ t' : BTree) (k : Int) (b : Bool) (Q : List Item → List Item → Prop) : Prop :=
  SearchEnd k b (CursorPos t₀ t') Q

theorem miss_no_key {t₀ t' : BTree} (hw : WFR t₀) {k : Int} {Lo Hi : List Item} (hLo : ∀ x ∈ Lo, x.key < k)
    (hHi : ∀ x ∈ Hi, k < x.key)
    (hpos : CursorPos t₀ t' Lo Hi ∨ ∃ Lo' x, Lo = Lo' ++ [x] ∧ CursorPos t₀ t' Lo' (x :: Hi)) :
    t₀.abs = Lo ++ Hi ∧ ∀ x ∈ t₀.abs, x.key ≠ k := by
  have habs : t₀.abs = Lo ++ Hi := by
    rcases hpos with hpos | ⟨Lo', x, hLx, hpos⟩
    · exact (cursorPos_abs hw hpos).1
    · rw [(cursorPos_abs hw hpos).1, hLx, List.append_assoc]; rfl
  refine ⟨habs, fun x hx => ?_⟩
  rw [habs] at hx
  rcases List.mem_append.mp hx with hx | hx
  · exact Int.ne_of_lt (hLo x hx)
  · exact Int.ne_of_gt (hHi x hx)

theorem SearchOutcome.iff_hasKey {t₀ t' : BTree} (hw : WFR t₀) {k : Int} {b : Bool} {Q : List Item → List Item → Prop}
    (h : SearchOutcome t₀ t' k b Q) : b = true ↔ hasKey t₀.abs k = true := by
  rcases h with ⟨hr, L, y, R, hpos, hy, _⟩ | ⟨hr, Lo, Hi, hLo, hHi, hpos⟩
  · rw [hr]
    exact ⟨fun _ => hasKey_of_mem (by rw [(cursorPos_abs hw hpos).1]; simp) hy, fun _ => rfl⟩
  · rw [hr, hasKey_false (miss_no_key hw hLo hHi hpos).2]

theorem SearchOutcome.good {t₀ t' : BTree} (hwf : WF t₀) {k : Int} {b : Bool} {Q : List Item → List Item → Prop}
    (h : SearchOutcome t₀ t' k b Q) : GoodSt t₀ t' := by
  rcases h with ⟨_, _, _, _, hpos, _⟩ | ⟨_, _, _, _, _, hpos | ⟨_, _, _, hpos⟩⟩
  · exact cursorPos_good hwf hpos
  · exact cursorPos_good hwf hpos
  · exact cursorPos_good hwf hpos

/-- the public searches end with `getCurrentItem`: the raw outcome of the descent becomes a cached `SearchOutcome` -/
theorem SearchResult.cached {t₀ : BTree} (hw : WFR t₀) {k : Int} {PL PR : List Item → Prop} {r : BTree × Bool}
    (h : SearchResult t₀ k PL PR r) :
    HeapEq t₀ r.1.getCurrentItem.1 ∧ r.1.getCurrentItem.1.panicked = false ∧ r.1.getCurrentItem.1.cur.cached = true ∧
      SearchOutcome t₀ r.1.getCurrentItem.1 k r.2 (fun L R => PL L ∧ PR R) := by
  obtain ⟨he, hp, hres⟩ := h
  have hpos : ∀ L R, RawPos t₀ r.1 L R →
      CursorPos t₀ r.1.getCurrentItem.1 L R ∧ r.1.getCurrentItem.1.cur.cached = true :=
    fun _ _ h => cursorPos_cache hw (h.cursorPos he hp)
  obtain ⟨L, R, hraw⟩ := hres.pos
  obtain ⟨h3, h4⟩ := hpos L R hraw
  exact ⟨h3.1, h3.2.1, h4, hres.imp (fun L R h => (hpos L R h).1) (fun _ _ h => h)⟩

theorem find_spec {t : BTree} (hwf : WF t) (hp : t.panicked = false) (hv : CursorValid t) (hne : t.abs ≠ []) (k : Int) :
    HeapEq t (t.find k true).1 ∧ (t.find k true).1.panicked = false ∧ (t.find k true).1.cur.cached = true ∧
      SearchOutcome t (t.find k true).1 k (t.find k true).2 (fun L _ => ∀ x ∈ L, x.key < k) := by
  obtain ⟨hc, hr⟩ := hwf.count_ne hne
  have hw := hwf.wfr hr
  have hsorted := (abs_sorted_of_WF t hwf).1
  rw [find_first_unfold t k hc]
  dsimp only
  have h1 : HeapEq t (if t.isCurSelected then t.getCurrentItem.1 else t) ∧
      (if t.isCurSelected then t.getCurrentItem.1 else t).panicked = false := by
    cases t.isCurSelected with
    | false => exact ⟨HeapEq.refl t, hp⟩
    | true =>
      obtain ⟨a, b, _⟩ := getCurrentItem_valid (HeapEq.refl t) hp hv
      exact ⟨a, b⟩
  generalize (if t.isCurSelected then t.getCurrentItem.1 else t) = t1 at h1 ⊢
  obtain ⟨he1, hp1⟩ := h1
  have hc1 : (t1.count == 0) = false := by rw [he1.count]; exact hc
  have hr1 : t1.root ≠ 0 := by rw [he1.root]; exact hr
  simp only [hp1, Bool.false_eq_true, if_false, getRootNode_eq hc1 hr1, he1.root]
  obtain ⟨h1, h2, h3, h4⟩ := (findAux_spec hw hsorted hne k true t1.fuel t1 _ t.root 0 [] [] none he1 hp1 Ctx.root
    (fuel_root he1) (fun _ h => nomatch h) (fun _ h => nomatch h) (fun _ h => nomatch h)).cached hw
  exact ⟨h1, h2, h3, SearchEnd.imp (fun _ _ h => h) (fun _ _ h => h.1 rfl) h4⟩

theorem SearchResult.any {t₀ : BTree} (hw : WFR t₀) {k : Int} {PL PR : List Item → Prop} {r : BTree × Bool}
    (h : SearchResult t₀ k PL PR r) :
    HeapEq t₀ r.1.getCurrentItem.1 ∧ r.1.getCurrentItem.1.panicked = false ∧
    ((r.2 = true ∧ ∃ L y R, CursorPos t₀ r.1.getCurrentItem.1 L (y :: R) ∧ y.key = k) ∨
     (r.2 = false ∧ (∀ x ∈ t₀.abs, x.key ≠ k) ∧ ∃ L R, CursorPos t₀ r.1.getCurrentItem.1 L R)) := by
  obtain ⟨h1, h2, _, h4⟩ := h.cached hw
  refine ⟨h1, h2, Or.imp (fun ⟨hr, L, y, R, hpos, hy, _⟩ => ⟨hr, L, y, R, hpos, hy⟩) ?_ h4⟩
  rintro ⟨hr, Lo, Hi, hLo, hHi, hpos⟩
  exact ⟨hr, (miss_no_key hw hLo hHi hpos).2, SearchEnd.pos (Q := fun _ _ => True) (.inr ⟨hr, Lo, Hi, hLo, hHi, hpos⟩)⟩

/-- `Find(k, false)` (the search used by `Update`, `Remove`, `UpdateKey`) on a non-empty well-formed tree, with the
    repaired fast path: a hit leaves the cursor on SOME item of key `k`; a miss means `k` is not stored -/
theorem find_any_spec {t : BTree} (hwf : WF t) (hp : t.panicked = false) (hv : CursorValid t) (hfix : t.fixFast = true)
    (hne : t.abs ≠ []) (k : Int) :
    HeapEq t (t.find k false).1 ∧ (t.find k false).1.panicked = false ∧
    (((t.find k false).2 = true ∧ ∃ L y R, CursorPos t (t.find k false).1 L (y :: R) ∧ y.key = k) ∨
     ((t.find k false).2 = false ∧ (∀ x ∈ t.abs, x.key ≠ k) ∧ ∃ L R, CursorPos t (t.find k false).1 L R)) := by
  obtain ⟨hc, hr⟩ := hwf.count_ne hne
  have hw := hwf.wfr hr
  have hsorted := (abs_sorted_of_WF t hwf).1
  -- the slow path from any state equal to `t` up to memo/cursor
  have hslow := fun (t1 : BTree) (he1 : HeapEq t t1) (hp1 : t1.panicked = false) =>
    (findAux_spec hw hsorted hne k false t1.fuel t1 _ t.root 0 [] [] none he1 hp1 Ctx.root
      (fuel_root he1) (fun _ h => nomatch h) (fun _ h => nomatch h) (fun _ h => nomatch h)).any hw
  unfold BTree.find
  simp only [hc, Bool.false_eq_true, if_false]
  cases hsel : t.isCurSelected with
  | false =>
    simp only [Bool.false_eq_true, if_false, hp, getRootNode_eq hc hr]
    exact hslow t (HeapEq.refl t) hp
  | true =>
    simp only [if_true]
    obtain ⟨he1, hp1, hn1, hi1, hc1⟩ := getCurrentItem_valid (HeapEq.refl t) hp hv
    obtain ⟨hnode, hidx⟩ : t.cur.node ≠ 0 ∧ 0 ≤ t.cur.idx := by
      unfold BTree.isCurSelected at hsel
      simpa only [Bool.and_eq_true, bne_iff_ne, ne_eq, decide_eq_true_eq] using hsel
    have hgc : t.getCurrentItem = (t.getCurrentItem.1, some t.curItem) := Prod.ext rfl (hc1 hnode).2
    generalize t.getCurrentItem.1 = t1 at he1 hp1 hn1 hi1 hc1 hgc
    rw [hgc]
    simp only [Bool.not_false, Bool.true_and, he1.fixFast, hfix, Bool.not_true, Bool.false_or, hp1,
      Bool.false_eq_true, if_false]
    have hc1' : (t1.count == 0) = false := by rw [he1.count]; exact hc
    have hr1 : t1.root ≠ 0 := by rw [he1.root]; exact hr
    by_cases hfast : (t.curItem.id != 0 && t.curItem.key == k) = true
    · simp only [hfast, if_true]
      simp only [Bool.and_eq_true, bne_iff_ne, ne_eq, beq_iff_eq] at hfast
      refine ⟨he1, hp1, Or.inl ⟨trivial, ?_⟩⟩
      obtain ⟨f', L, R, hat⟩ := hwf.at_of_live_cur hfast.1
      exact ⟨L, _, R, ⟨he1, hp1, f', _, _, hn1, by rw [hi1]; exact (Int.toNat_of_nonneg hidx).symm, hat⟩, hfast.2⟩
    · have hfast' : (t.curItem.id != 0 && t.curItem.key == k) = false := by simpa using hfast
      simp only [hfast', Bool.false_eq_true, if_false, getRootNode_eq hc1' hr1, he1.root]
      exact hslow t1 he1 hp1

theorem empty_curKey {t : BTree} (hwf : WF t) (hne : t.abs = []) : t.getCurrentKey.id = 0 := by
  unfold BTree.getCurrentKey
  by_cases hc : t.cur.cached = true
  · rw [if_pos hc]
    apply Classical.byContradiction
    intro hid
    obtain ⟨f, L, R, hat⟩ := hwf.at_of_live_cur hid
    have := hat.gap.abs (hwf.wfr (by obtain ⟨_, nd, hg, _⟩ := hat; exact hwf.root_ne_of_get hg))
    rw [hne] at this
    exact absurd this (by simp)
  · rw [if_neg hc]

end Sop.BTree
