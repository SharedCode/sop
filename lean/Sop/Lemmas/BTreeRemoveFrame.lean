import Sop.Lemmas.BTreeHeap
/-! C17: frame facts of the update-in-place / remove routines of Model B, WITHOUT hypotheses (`SameFrame`):
configuration, id counter and pending distribute/promote actions untouched, no node id invented. -/
namespace Sop.BTree.Rem
open Sop.BTree

def SameFrame (t r : BTree) : Prop :=
  r.nextId = t.nextId ∧ r.sl = t.sl ∧ r.unique = t.unique ∧ r.lb = t.lb ∧ r.fixFast = t.fixFast ∧
  r.fixErr = t.fixErr ∧ r.fixId = t.fixId ∧ r.distSrc = t.distSrc ∧ r.promTarget = t.promTarget ∧
  (∀ nd' ∈ r.nodes, ∃ nd ∈ t.nodes, nd.id = nd'.id)

theorem SameFrame.refl (t : BTree) : SameFrame t t :=
  ⟨rfl, rfl, rfl, rfl, rfl, rfl, rfl, rfl, rfl, fun nd h => ⟨nd, h, rfl⟩⟩

theorem SameFrame.trans {a b c : BTree} (h1 : SameFrame a b) (h2 : SameFrame b c) : SameFrame a c := by
  obtain ⟨a1, a2, a3, a4, a5, a6, a7, a8, a9, a10⟩ := h1
  obtain ⟨b1, b2, b3, b4, b5, b6, b7, b8, b9, b10⟩ := h2
  refine ⟨b1.trans a1, b2.trans a2, b3.trans a3, b4.trans a4, b5.trans a5, b6.trans a6, b7.trans a7, b8.trans a8,
    b9.trans a9, ?_⟩
  intro nd' h
  obtain ⟨nd, hnd, e⟩ := b10 nd' h
  obtain ⟨nd0, hnd0, e0⟩ := a10 nd hnd
  exact ⟨nd0, hnd0, e0.trans e⟩

/-! Panicking, moving the cursor and setting `count` touch none of the fields `SameFrame` speaks of, so the hypothesis
itself is the proof. -/

theorem SameFrame.panic {t r : BTree} (h : SameFrame t r) : SameFrame t r.panic := h
theorem SameFrame.setCur {t r : BTree} (h : SameFrame t r) (n : NodeId) (i : Int) : SameFrame t (r.setCur n i) := h

theorem SameFrame.upd {t r : BTree} (h : SameFrame t r) {n : NodeId} {g : Node → Node}
    (hg : ∀ x, (g x).id = x.id := by intro; rfl) : SameFrame t (r.upd n g) := by
  refine h.trans ⟨rfl, rfl, rfl, rfl, rfl, rfl, rfl, rfl, rfl, ?_⟩
  intro nd' h'
  obtain ⟨nd, hnd, e⟩ := List.mem_map.mp h'
  refine ⟨nd, hnd, ?_⟩
  rw [← e]; split
  · exact (hg nd).symm
  · rfl

theorem SameFrame.del {t r : BTree} (h : SameFrame t r) (n : NodeId) : SameFrame t (r.del n) := by
  unfold BTree.del
  split
  · exact h
  · exact h.trans ⟨rfl, rfl, rfl, rfl, rfl, rfl, rfl, rfl, rfl, fun nd' h' => ⟨nd', (List.mem_filter.mp h').1, rfl⟩⟩

/-- the goal `split` leaves for a routine that answers `some (a, x)` -/
theorem SameFrame.of_some {t a : BTree} (h : SameFrame t a) (x : Ret) :
    ∀ r, some (a, x) = some r → SameFrame t r.1 := by
  rintro _ ⟨⟩; exact h

theorem getIndexOfChild_frame (t : BTree) (p c : NodeId) : SameFrame t (t.getIndexOfChild p c).1 := by
  unfold BTree.getIndexOfChild
  extract_lets pn cn
  split
  · exact SameFrame.refl t
  · split
    · exact (SameFrame.refl t).panic
    · split
      · exact (SameFrame.refl t).upd
      · exact SameFrame.refl t

theorem unlink_frame (t : BTree) (n : NodeId) : SameFrame t (t.unlink n) := by
  unfold BTree.unlink
  simp only
  split
  · exact SameFrame.refl t
  · split
    · exact SameFrame.refl t
    · have h1 := getIndexOfChild_frame t (t.parentOf n) n
      split
      · exact h1.panic
      · exact (((h1.upd).upd (hg := by intro x; split <;> rfl)).del n)

theorem promoteSingleChild_frame (t : BTree) (n : NodeId) : ∀ r, t.promoteSingleChild n = some r → SameFrame t r := by
  intro r h
  unfold BTree.promoteSingleChild at h
  simp only at h
  split at h
  · cases h
  · have h1 := getIndexOfChild_frame t (t.parentOf n) n
    split at h
    · cases h; exact h1.panic
    · split at h
      · cases h
        exact (h1.upd).panic
      · cases h
        exact ((h1.upd).upd).del n

theorem fixVacatedSlot_frame (t : BTree) (n : NodeId) : SameFrame t (t.fixVacatedSlot n) := by
  unfold BTree.fixVacatedSlot
  simp only
  split
  · exact (SameFrame.refl t).panic
  · split
    · exact (SameFrame.refl t).upd
    · split
      · exact ((SameFrame.refl t).upd).setCur 0 0
      · split
        · cases h : t.promoteSingleChild n with
          | none => exact SameFrame.refl t
          | some r => exact promoteSingleChild_frame t n r h
        · exact unlink_frame t n

theorem updateChildrenParent_frame {t r : BTree} (h : SameFrame t r) (n : NodeId) (kids : Array NodeId) :
    SameFrame t (r.updateChildrenParent n kids) := by
  obtain ⟨ns, h1, h2⟩ := updateChildrenParent_eq r n kids
  rw [h2]
  refine h.trans ⟨rfl, rfl, rfl, rfl, rfl, rfl, rfl, rfl, rfl, fun nd' hnd' => ?_⟩
  exact List.mem_map.mp (h1 ▸ List.mem_map_of_mem (f := (·.id)) hnd' : nd'.id ∈ ids r)

theorem removeItemOnNodeWithNilChild_frame (t : BTree) (n : NodeId) (index : Nat) :
    ∀ r, t.removeItemOnNodeWithNilChild n index = some r → SameFrame t r.1 := by
  unfold BTree.removeItemOnNodeWithNilChild
  extract_lets nd kids toMove cnt
  by_cases hc : (!nd.hasChildren || nd.child index != 0 && nd.child (index + 1) != 0) = true
  · rw [if_pos hc]; intro r h; cases h
  · rw [if_neg hc]
    -- which arrays the node is given does not matter
    generalize (if (nd.child index == 0) = true then _ else _ : Array Item × Array NodeId) = sk
    obtain ⟨s, k⟩ := sk
    dsimp -zeta only
    extract_lets slots kids t1 ncId nc t2 t3 t4 t5
    have h1 : SameFrame t t1 := (SameFrame.refl t).upd
    have h2 : SameFrame t t2 := h1.upd
    have h3 : SameFrame t t3 := h2.upd
    have h4 : SameFrame t t4 := h2.upd
    have h5 : SameFrame t t5 := by
      unfold t5
      split
      · exact updateChildrenParent_frame h3 _ _
      · exact h4.upd (hg := by intro x; split <;> rfl)
    clear_value t1 t5
    by_cases hz : cnt = 0 ∧ kids.getD 0 0 ≠ 0
    · rw [if_pos hz]
      split
      · split
        · exact h1.of_some _
        · exact (h5.del _).of_some _
      · split
        · exact h1.of_some _
        · exact (h1.trans (promoteSingleChild_frame _ _ _ (by assumption))).of_some _
    · rw [if_neg hz]
      split
      · exact (h1.trans (unlink_frame _ _)).of_some _
      · exact h1.of_some _

theorem climbRight_frame : ∀ (fuel : Nat) (t : BTree) (n : NodeId) (i : Int), SameFrame t (climbRight fuel t n i).1
  | 0, t, _, _ => SameFrame.refl t
  | fuel + 1, t, n, i => by
    unfold climbRight
    split
    · exact SameFrame.refl t
    · simp only
      split
      · exact SameFrame.refl t
      · split
        · exact SameFrame.refl t
        · split
          · exact SameFrame.refl t
          · exact (getIndexOfChild_frame t _ n).trans (climbRight_frame fuel _ _ _)

theorem descendRight_frame : ∀ (fuel : Nat) (t : BTree) (n : NodeId) (s : Nat), SameFrame t (descendRight fuel t n s).1
  | 0, t, _, _ => SameFrame.refl t
  | fuel + 1, t, n, s => by
    unfold descendRight
    split
    · exact SameFrame.refl t
    · simp only
      split
      · split
        · exact climbRight_frame _ t n s
        · exact descendRight_frame fuel t _ 0
      · exact SameFrame.refl t

theorem moveToNext_frame (t : BTree) (n : NodeId) : SameFrame t (t.moveToNext n).1 := by
  unfold BTree.moveToNext
  simp only
  split
  · split
    · exact SameFrame.refl t
    · exact descendRight_frame _ t n _
  · exact climbRight_frame _ t n _

theorem updateCurrent_frame (t : BTree) (key : Int) (val : Option Nat) :
    SameFrame t (t.updateCurrent key val).1 ∧ ∀ n, (t.get? n).isSome → ((t.updateCurrent key val).1.get? n).isSome := by
  have same : SameFrame t t ∧ ∀ n, (t.get? n).isSome → (t.get? n).isSome := ⟨SameFrame.refl t, fun _ h => h⟩
  unfold BTree.updateCurrent
  split
  · exact same
  · extract_lets i item
    split
    · exact same
    · split
      · split
        · exact same
        · exact same
      · exact ⟨(SameFrame.refl t).upd, fun m => Ins.keep_upd t _ _ (by intro; rfl) m⟩

theorem updateCurrentValue_frame (t : BTree) (v : Nat) :
    SameFrame t (t.updateCurrentValue v).1 ∧ ∀ n, (t.get? n).isSome → ((t.updateCurrentValue v).1.get? n).isSome := by
  unfold BTree.updateCurrentValue
  split
  · exact ⟨SameFrame.refl t, fun _ h => h⟩
  · extract_lets i
    split
    · exact ⟨SameFrame.refl t, fun _ h => h⟩
    · exact ⟨(SameFrame.refl t).upd, fun m => Ins.keep_upd t _ _ (by intro; rfl) m⟩

/-- the local `finish` of `removeCurrent` -/
theorem SameFrame.finish {t r : BTree} (h : SameFrame t r) (n : NodeId) :
    SameFrame t { (r.fixVacatedSlot n).setCur 0 0 with count := ((r.fixVacatedSlot n).setCur 0 0).count - 1 } :=
  h.trans (fixVacatedSlot_frame r n)

theorem removeCurrent_frame (t : BTree) : SameFrame t t.removeCurrent.1 := by
  unfold BTree.removeCurrent
  split
  · exact SameFrame.refl t
  next nd _ =>
    extract_lets index finish
    -- (`split` is slow on this goal)
    by_cases h1 : t.cur.idx < 0
    · rw [if_pos h1]; exact SameFrame.refl t
    rw [if_neg h1]
    by_cases h2 : (nd.slot index).id = 0
    · rw [if_pos h2]; exact SameFrame.refl t
    rw [if_neg h2]
    by_cases h3 : nd.hasChildren = true
    · rw [if_pos h3]
      split
      next t' h => exact removeItemOnNodeWithNilChild_frame _ _ _ (t', _) h
      next t' r _ h => exact removeItemOnNodeWithNilChild_frame _ _ _ (t', r) h
      · have hm := moveToNext_frame t nd.id
        generalize t.moveToNext nd.id = m at hm ⊢
        obtain ⟨t1, ok⟩ := m
        dsimp -zeta only at hm ⊢
        split
        · exact hm
        · split
          · exact hm
          · split
            · exact hm
            · extract_lets ci t2
              have hu : SameFrame t t2 := hm.upd
              split
              next t' h => exact hu.trans (removeItemOnNodeWithNilChild_frame _ _ _ (t', _) h)
              next t' r _ h => exact hu.trans (removeItemOnNodeWithNilChild_frame _ _ _ (t', r) h)
              · exact hu.finish _
    · rw [if_neg h3]; exact (SameFrame.refl t).finish _

end Sop.BTree.Rem
