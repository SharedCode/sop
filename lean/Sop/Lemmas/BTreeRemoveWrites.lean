import Sop.Lemmas.BTreeRemoveParent
import Sop.Lemmas.BTreeSlices
/-! Remove side of Model B (C17): the nodes the removal routines write: the list-level meaning of the shifting `moveElems`
calls (`shift_spec`), `fixVacatedSlot` on a leaf, and `removeItemOnNodeWithNilChild` (`rnc…`) as "rewrite the node, then
the tail" (`rnc_eq`); and what rewriting one node that way does to its subtree (`rnc_local`, `leaf_local`). -/
namespace Sop.BTree.Rem
open Sop.BTree

theorem writeAt_toList {α : Type} (xs : List α) (dst : Array α) (off : Nat) (h : off + xs.length ≤ dst.size) :
    (writeAt dst off xs).toList = dst.toList.take off ++ xs ++ dst.toList.drop (off + xs.length) := by
  rw [writeAt_toList_cut xs dst off (by omega), List.take_of_length_le]
  simp only [List.length_append, List.length_take, List.length_drop, Array.length_toList]
  omega

theorem moveElems_size {α : Type} (a : Array α) (d s : Nat) (m : Int) : (moveElems a d s m).size = a.size := by
  unfold moveElems
  split
  · rfl
  · exact writeAt_size _ _ _

theorem moveLeft_getElem? {α : Type} (a : Array α) (i : Nat) (m : Int) (k : Nat) :
    (moveElems a i (i + 1) m)[k]? =
      if i ≤ k ∧ k < i + min m.toNat (a.size - (i + 1)) then a[k + 1]? else a[k]? := by
  unfold moveElems
  split
  · rename_i hdeg
    have : min m.toNat (a.size - (i + 1)) = 0 := by
      rcases hdeg with h | h | h
      · rw [Int.toNat_of_nonpos h, Nat.zero_min]
      · rw [Nat.sub_eq_zero_of_le (by omega), Nat.min_zero]
      · rw [Nat.sub_eq_zero_of_le h, Nat.min_zero]
    rw [this, if_neg (by omega)]
  · have h0 : min (i + 1 + m.toNat) a.size - (i + 1) = min m.toNat (a.size - (i + 1)) := by
      rw [← Nat.sub_min_sub_right, Nat.add_sub_cancel_left]
    have h1 : i + min m.toNat (a.size - (i + 1)) < a.size := by
      have := Nat.min_le_right m.toNat (a.size - (i + 1)); omega
    generalize min m.toNat (a.size - (i + 1)) = len at h0 h1 ⊢
    have hl : ((a.toList.drop (i + 1)).take (min (i + 1 + m.toNat) a.size - (i + 1))).length = len := by
      rw [h0, List.length_take, List.length_drop, Array.length_toList]; omega
    unfold goCopy
    rw [writeAt_getElem?, hl, h0]
    by_cases h2 : i ≤ k ∧ k < i + len
    · rw [if_pos ⟨h2.1, h2.2, by omega⟩, if_pos h2, List.getElem?_take, if_pos (by omega), List.getElem?_drop,
        Array.getElem?_toList]
      congr 1; omega
    · rw [if_neg (fun h => h2 ⟨h.1, h.2.1⟩), if_neg h2]

theorem mem_drop_of_getElem? {α : Type} {l : List α} {c k : Nat} {y : α} (h : l[k]? = some y) (hk : c ≤ k) : y ∈ l.drop c := by
  apply List.mem_iff_getElem?.mpr
  exact ⟨k - c, by rw [List.getElem?_drop, ← h]; congr 1; omega⟩

/-- `moveElems a i (i+1) m` followed by writing `z` at `c - 1`, when the copied range reaches `c` and everything from `c`
    on is `z` already: the first `c` entries lose the one at `i`, the rest is `z` -/
theorem shift_spec {α : Type} (a : Array α) (z : α) (i c : Nat) (m : Int) (hi : i < c) (hc : c ≤ a.size)
    (hm : (c : Int) ≤ i + 1 + m) (hz : ∀ y ∈ a.toList.drop c, y = z) :
    ((moveElems a i (i + 1) m).setIfInBounds (c - 1) z).toList.take (c - 1) = (a.toList.take c).eraseIdx i ∧
    ∀ y ∈ ((moveElems a i (i + 1) m).setIfInBounds (c - 1) z).toList.drop (c - 1), y = z := by
  have hget : ∀ k, ((moveElems a i (i + 1) m).setIfInBounds (c - 1) z).toList[k]? =
      if c - 1 = k then some z else
        if i ≤ k ∧ k < i + min m.toNat (a.size - (i + 1)) then a.toList[k + 1]? else a.toList[k]? := by
    intro k
    rw [Array.toList_setIfInBounds, List.getElem?_set, Array.getElem?_toList, moveLeft_getElem?, Array.length_toList,
      moveElems_size, Array.getElem?_toList, Array.getElem?_toList]
    by_cases hk : c - 1 = k
    · rw [if_pos hk, if_pos hk, if_pos (by omega)]
    · rw [if_neg hk, if_neg hk]
  have hlen : c - 1 ≤ i + min m.toNat (a.size - (i + 1)) :=
    Nat.sub_le_iff_le_add'.mp (Nat.le_min.mpr ⟨by omega, by omega⟩)
  generalize min m.toNat (a.size - (i + 1)) = len at hget hlen
  constructor
  · apply List.ext_getElem?
    intro k
    rw [List.getElem?_take, List.getElem?_eraseIdx, List.getElem?_take, List.getElem?_take, hget]
    by_cases h1 : k < c - 1
    · rw [if_pos h1, if_neg (by omega)]
      by_cases h2 : k < i
      · rw [if_pos h2, if_neg (by omega), if_pos (by omega)]
      · rw [if_neg h2, if_pos ⟨by omega, by omega⟩, if_pos (by omega)]
    · rw [if_neg h1, if_neg (by omega), if_neg (by omega)]
  · intro y hy
    obtain ⟨j, hj⟩ := List.mem_iff_getElem?.mp hy
    rw [List.getElem?_drop, hget] at hj
    split at hj
    · cases hj; rfl
    · split at hj
      · exact hz y (mem_drop_of_getElem? hj (by omega))
      · exact hz y (mem_drop_of_getElem? hj (by omega))

def vacate (a : Array Item) (pos c : Nat) : Array Item :=
  (if pos < c - 1 then moveElems a pos (pos + 1) ((c : Int) - pos - 1) else a).setIfInBounds (c - 1) {}

theorem vacate_eq_shift (a : Array Item) (pos c : Nat) :
    vacate a pos c = (moveElems a pos (pos + 1) ((c : Int) - pos - 1)).setIfInBounds (c - 1) {} := by
  unfold vacate
  split
  · rfl
  · unfold moveElems
    rw [if_pos (Or.inl (by omega))]

/-- the node `fixVacatedSlot` leaves when the node keeps at least one item -/
def vacNode (nd : Node) (pos : Nat) : Node := { nd with slots := vacate nd.slots pos nd.count, count := nd.count - 1 }

theorem vacNode_items {t : BTree} {nd : Node} (hs : NodeShape t nd) {pos : Nat} (hpos : pos < nd.count) :
    (vacNode nd pos).items = nd.items.eraseIdx pos := by
  unfold vacNode Node.items
  rw [vacate_eq_shift]
  exact (shift_spec nd.slots {} pos nd.count _ hpos (by rw [hs.slots_size]; exact hs.count_le) (by omega) hs.slots_tail).1

theorem vacNode_shape {t : BTree} {nd : Node} (hs : NodeShape t nd) (hleaf : nd.children = none) {pos : Nat}
    (hpos : pos < nd.count) :
    NodeShape t (vacNode nd pos) := by
  obtain ⟨h1, h2, h3, h4, h5⟩ := hs
  unfold vacNode
  refine ⟨?_, Nat.le_trans (Nat.sub_le _ _) h2, h3, ?_, ?_⟩
  · show (vacate _ _ _).size = _
    rw [vacate_eq_shift, Array.size_setIfInBounds, moveElems_size, h1]
  · show ∀ y ∈ (vacate _ _ _).toList.drop _, _
    rw [vacate_eq_shift]
    exact (shift_spec nd.slots {} pos nd.count _ hpos (by rw [h1]; exact h2) (by omega) h4).2
  · intro cs hcs
    rw [show nd.children = none from hleaf] at hcs
    cases hcs

theorem fixVacatedSlot_many (t : BTree) (n : NodeId) (nd : Node) (hget : t.get n = nd) (hneg : ¬ t.cur.idx < 0)
    (hmany : 1 < nd.count) :
    t.fixVacatedSlot n = t.upd n (fun x => { x with slots := vacate nd.slots t.cur.idx.toNat nd.count, count := nd.count - 1 }) := by
  unfold BTree.fixVacatedSlot
  simp only [hget, hneg, if_false]
  rw [if_pos (by omega)]
  rfl

/-- the node `fixVacatedSlot` leaves in a root that held one item -/
def emptyRoot (nd : Node) : Node := { nd with count := 0, slots := nd.slots.setIfInBounds 0 {} }

theorem emptyRoot_eq {nd : Node} (h1 : nd.count = 1) : emptyRoot nd = vacNode nd 0 := by
  unfold emptyRoot vacNode vacate
  rw [h1]
  rfl

theorem fixVacatedSlot_rootOne (t : BTree) (n : NodeId) (nd : Node) (hget : t.get n = nd) (hneg : ¬ t.cur.idx < 0)
    (h1 : nd.count = 1) (hroot : nd.parent = 0) :
    t.fixVacatedSlot n = (t.upd n emptyRoot).setCur 0 0 := by
  unfold BTree.fixVacatedSlot
  simp only [hget, hneg, if_false, h1, Nat.lt_irrefl, Node.isRoot, hroot, beq_self_eq_true, if_true]
  rfl

theorem weave_erase (g : NodeId → List Item) (g0 : g 0 = []) :
    ∀ (i j : Nat) (cs : List NodeId) (is : List Item) (x : Item), (j = i ∨ j = i + 1) → cs[j]? = some 0 →
      is[i]? = some x → cs.length = is.length + 1 → Splice [x] [] (weave g cs is) (weave g (cs.eraseIdx j) (is.eraseIdx i))
  | _, _, _, [], _, _, _, hx, _ => by simp at hx
  | _, _, [], _ :: _, _, _, _, _, hl => by simp at hl
  | 0, j, c :: cs, a :: is, x, hj, hz, hx, hl => by
    simp only [List.getElem?_cons_zero, Option.some.injEq] at hx
    subst hx
    rcases hj with rfl | rfl
    · simp only [List.getElem?_cons_zero, Option.some.injEq] at hz
      subst hz
      simp only [List.eraseIdx_cons_zero, weave, g0, List.nil_append]
      exact ⟨[], weave g cs is, by simp, by simp⟩
    · cases cs with
      | nil => simp at hl
      | cons c1 cs =>
        simp only [List.getElem?_cons_succ, List.getElem?_cons_zero, Option.some.injEq] at hz
        subst hz
        simp only [List.eraseIdx_cons_succ, List.eraseIdx_cons_zero]
        cases is with
        | nil => simp only [weave, g0, List.nil_append]; exact ⟨g c, weave g cs [], by simp, by simp⟩
        | cons b is => simp only [weave, g0, List.nil_append]; exact ⟨g c, b :: weave g cs is, by simp, by simp⟩
  | i + 1, j, c :: cs, a :: is, x, hj, hz, hx, hl => by
    obtain ⟨j', rfl⟩ : ∃ j', j = j' + 1 := ⟨j - 1, by omega⟩
    simp only [List.eraseIdx_cons_succ, weave]
    exact ((weave_erase g g0 i j' cs is x (by omega) hz hx (Nat.succ.inj hl)).cons a).pre _

theorem flatMap_erase_zero {β : Type} (r : NodeId → List β) (r0 : r 0 = []) :
    ∀ (j : Nat) (cs : List NodeId), cs[j]? = some 0 → (cs.eraseIdx j).flatMap r = cs.flatMap r
  | _, [], h => by simp at h
  | 0, c :: cs, h => by
    simp only [List.getElem?_cons_zero, Option.some.injEq] at h
    subst h; simp [r0]
  | j + 1, c :: cs, h => by
    simp only [List.eraseIdx_cons_succ, List.flatMap_cons]
    rw [flatMap_erase_zero r r0 j cs h]

theorem rnc_local (t t' : BTree) (n : NodeId) (nd nd' : Node) (i j : Nat) (hsl : t'.sl = t.sl)
    (hout : ∀ k, k ≠ n → t'.get? k = t.get? k)
    (hg : t.get? n = some nd) (hg' : t'.get? n = some nd') (hpar : nd'.parent = nd.parent)
    (hshape : NodeShape t nd') (hne : nd.parent = 0 ∨ 1 ≤ nd'.count) (hi : i < nd.count)
    (hj : j = i ∨ j = i + 1) (hz : nd.kids[j]? = some 0)
    (hitems : nd'.items = nd.items.eraseIdx i) (hkids : nd'.kids = nd.kids.eraseIdx j) :
    ∀ f p, WFNode t f n p none none → (reach t f n).Nodup → Step t t' [nd.slot i] [] f n p := by
  refine local_step t t' n nd nd' hsl hout hg hg' hpar (fun _ => hshape) hne
    (fun c hc _ => List.mem_of_mem_eraseIdx (hkids ▸ hc)) ?_
  intro f hs _
  have hlen : nd.kids.length = nd.items.length + 1 := by rw [Node.kids_length hs, Node.items_length hs]
  rw [hkids, hitems]
  exact ⟨weave_erase _ (absNode_zero t f) i j _ _ _ hj hz (items_getElem? hs hi) hlen,
    flatMap_erase_zero _ (reach_zero t f) j _ hz⟩

/-- A leaf loses slot `pos`. The one local step not through `local_step`: a leaf has nothing below it, so `t'` need not
    agree with `t` anywhere else (`Nodup` is there only for the shape `wfs_of_ctx` asks for). -/
theorem leaf_local (t t' : BTree) (n : NodeId) (nd nd' : Node) (pos : Nat) (hsl : t'.sl = t.sl)
    (hg : t.get? n = some nd) (hg' : t'.get? n = some nd')
    (hleaf : nd.children = none) (hleaf' : nd'.children = none) (hpar : nd'.parent = nd.parent)
    (hshape : NodeShape t nd') (hne : nd.parent = 0 ∨ 1 ≤ nd'.count) (hpos : pos < nd.count)
    (hitems : nd'.items = nd.items.eraseIdx pos) :
    ∀ f p, WFNode t f n p none none → (reach t f n).Nodup → Step t t' [nd.slot pos] [] f n p
  | 0, _, h, _ => absurd h (by simp [WFNode])
  | f + 1, p, h, _ => by
    obtain ⟨hn, hp, hs, _, _⟩ := wfNode_kids h hg
    obtain ⟨_, ha, hr⟩ := SNode.of_leaf hn hg hp hs (Or.inr (by omega)) hleaf f
    obtain ⟨hs', ha', hr'⟩ := SNode.of_leaf hn hg' (hpar.trans hp) (nodeShape_congr hsl hshape) (hp ▸ hne) hleaf' f
    refine ⟨hs', ?_, hr'.trans hr.symm⟩
    rw [ha, ha', hitems, List.eraseIdx_eq_take_drop_succ]
    refine ⟨nd.items.take pos, nd.items.drop (pos + 1), ?_, by rw [List.append_nil]⟩
    rw [List.append_assoc, List.singleton_append, ← Node.items_getD hs hpos]
    exact list_split_at nd.items pos _ (by rw [Node.items_length hs]; exact hpos)

/-! The arrays and the node `removeItemOnNodeWithNilChild` (`rnc`) writes when `index < nd.count` (the model's guard on
that is dropped here; `rnc_eq` has it as a hypothesis). -/

def rncSlots (nd : Node) (index : Nat) : Array Item :=
  (moveElems nd.slots index (index + 1) ((nd.count : Int) - index)).setIfInBounds (nd.count - 1) {}

def rncKids (nd : Node) (index : Nat) : Array NodeId :=
  (if nd.child index == 0 then moveElems (nd.children.getD #[]) index (index + 1) ((nd.count : Int) - index + 1)
   else moveElems (nd.children.getD #[]) (index + 1) (index + 2) ((nd.count : Int) - index + 1)).setIfInBounds nd.count 0

def rncNode (nd : Node) (index : Nat) : Node :=
  { nd with slots := rncSlots nd index, children := some (rncKids nd index), count := nd.count - 1 }

def rncUpd (nd : Node) (index : Nat) (x : Node) : Node :=
  { x with slots := rncSlots nd index, children := some (rncKids nd index), count := nd.count - 1 }

theorem rncUpd_self (nd : Node) (index : Nat) : rncUpd nd index nd = rncNode nd index := rfl
theorem rncUpd_id (nd : Node) (i : Nat) (x : Node) : (rncUpd nd i x).id = x.id := by simp only [rncUpd]
theorem rncUpd_parent (nd : Node) (i : Nat) (x : Node) : (rncUpd nd i x).parent = x.parent := by simp only [rncUpd]
theorem rncUpd_ion (nd : Node) (i : Nat) (x : Node) : (rncUpd nd i x).ion = x.ion := by simp only [rncUpd]

def rncTail (t : BTree) (n : NodeId) (nd : Node) (index : Nat) : Option (BTree × Ret) :=
  let kids := rncKids nd index
  let cnt := nd.count - 1
  if cnt = 0 ∧ kids.getD 0 0 ≠ 0 then
    if nd.isRoot then
      let ncId := t.childOf n 0
      if ncId = 0 then some (t, .err)
      else
        let nc := t.get ncId
        let t := t.upd n (fun x => { x with slots := goCopy x.slots 0 nc.slots 0 nc.slots.size, count := nc.count })
        let t :=
          if nc.hasChildren then
            let t := t.upd n (fun x => { x with children := some (goCopy kids 0 (nc.children.getD #[]) 0 (nc.children.getD #[]).size) })
            t.updateChildrenParent n ((t.get n).children.getD #[])
          else
            let t := t.upd n (fun x => x.setChild 0 0)
            t.upd n (fun x => if x.isNilChildren then { x with children := none } else x)
        some (t.del ncId, .ok true)
    else
      match t.promoteSingleChild n with
      | none => some (t, .err)
      | some t => some (t, .ok true)
  else if cnt = 0 then some (t.unlink n, .ok true)
  else some (t, .ok true)

theorem rnc_eq (t : BTree) (n : NodeId) (index : Nat) (nd : Node) (hget : t.get n = nd) (hch : nd.children.isSome = true)
    (hnil : nd.child index = 0 ∨ nd.child (index + 1) = 0) (hi : index < nd.count) :
    t.removeItemOnNodeWithNilChild n index =
      rncTail (t.upd n (rncUpd nd index)) n nd index := by
  subst hget
  have hcond : ¬ (!(t.get n).hasChildren || ((t.get n).child index != 0 && (t.get n).child (index + 1) != 0)) = true := by
    rcases hnil with h | h <;> simp [Node.hasChildren, hch, h]
  unfold BTree.removeItemOnNodeWithNilChild rncTail rncUpd rncKids rncSlots
  by_cases h0 : ((t.get n).child index == 0) = true
  · simp only [if_neg hcond, if_pos h0, if_pos hi]; rfl
  · simp only [if_neg hcond, if_neg h0, if_pos hi]; rfl

/-- the position of the nil kid that goes away with item `index` -/
def nilPos (nd : Node) (index : Nat) : Nat := if nd.child index == 0 then index else index + 1

theorem nilPos_bounds (nd : Node) (index : Nat) : index ≤ nilPos nd index ∧ nilPos nd index ≤ index + 1 := by
  unfold nilPos; split <;> omega

theorem rncKids_eq_shift (nd : Node) (index : Nat) :
    rncKids nd index = (moveElems (nd.children.getD #[]) (nilPos nd index) (nilPos nd index + 1)
      ((nd.count : Int) - index + 1)).setIfInBounds (nd.count + 1 - 1) 0 := by
  unfold rncKids nilPos
  split <;> rfl

theorem rncNode_items {t : BTree} {nd : Node} (hs : NodeShape t nd) {index : Nat} (hi : index < nd.count) :
    (rncNode nd index).items = nd.items.eraseIdx index :=
  (shift_spec nd.slots {} index nd.count _ hi (by rw [hs.slots_size]; exact hs.count_le) (by omega) hs.slots_tail).1

theorem rncNode_kids {t : BTree} {nd : Node} {cs : Array NodeId} (hs : NodeShape t nd) (hcs : nd.children = some cs)
    {index : Nat} (hi : index < nd.count) : (rncNode nd index).kids = nd.kids.eraseIdx (nilPos nd index) := by
  have hsz := hs.children_size hcs
  have htail := hs.children_tail hcs
  have hc := hs.count_le
  have hj := nilPos_bounds nd index
  rw [Node.kids_some hcs]
  show (rncKids nd index).toList.take (nd.count - 1 + 1) = _
  rw [rncKids_eq_shift, hcs, show nd.count - 1 + 1 = nd.count + 1 - 1 by omega]
  exact (shift_spec cs 0 _ (nd.count + 1) _ (by omega) (by omega) (by omega) htail).1

theorem rncNode_shape {t : BTree} {nd : Node} {cs : Array NodeId} (hs : NodeShape t nd) (hcs : nd.children = some cs)
    {index : Nat} (hi : index < nd.count) : NodeShape t (rncNode nd index) := by
  have hsz := hs.children_size hcs
  have htail := hs.children_tail hcs
  have hj := nilPos_bounds nd index
  obtain ⟨h1, h2, h3, h4, h5⟩ := hs
  unfold rncNode
  refine ⟨?_, Nat.le_trans (Nat.sub_le _ _) h2, h3, ?_, ?_⟩
  · unfold rncSlots
    dsimp only
    rw [Array.size_setIfInBounds, moveElems_size, h1]
  · exact (shift_spec nd.slots {} index nd.count _ hi (by rw [h1]; exact h2) (by omega) h4).2
  · intro cs' hcs'
    rw [← Option.some.inj hcs', rncKids_eq_shift, hcs]
    dsimp only
    rw [show nd.count - 1 + 1 = nd.count + 1 - 1 by omega]
    exact ⟨by rw [Array.size_setIfInBounds, moveElems_size]; exact hsz,
      (shift_spec cs 0 _ (nd.count + 1) _ (by omega) (by omega) (by omega) htail).2⟩

theorem child_rncNode (nd : Node) (i j : Nat) : (rncNode nd i).child j = (rncKids nd i).getD j 0 := by
  simp only [Node.child, rncNode, Option.getD_some]

theorem rncKids_getD0 {t : BTree} {nd : Node} {cs : Array NodeId} (hs : NodeShape t nd) (hcs : nd.children = some cs)
    {index : Nat} (hi : index < nd.count) :
    (rncKids nd index).getD 0 0 = (nd.kids.eraseIdx (nilPos nd index)).getD 0 0 := by
  rw [← child_rncNode, ← Node.kids_getD (rncNode_shape hs hcs hi) (Nat.zero_le _), rncNode_kids hs hcs hi]


theorem rncKids_rest_nil {t : BTree} {nd : Node} {cs : Array NodeId} (hs : NodeShape t nd) (hcs : nd.children = some cs)
    (hone : nd.count = 1) : ((rncKids nd 0).setIfInBounds 0 0).all (· == 0) = true := by
  apply Array.all_eq_true_iff_forall_mem.mpr
  intro y hy
  have hy' : y ∈ ((rncKids nd 0).toList.set 0 0) := by
    rw [← Array.toList_setIfInBounds]; exact Array.mem_def.mp hy
  have htl := (rncNode_shape hs hcs (by omega : 0 < nd.count)).children_tail (cs := rncKids nd 0) rfl
  have hcnt : (rncNode nd 0).count = 0 := by simp [rncNode, hone]
  rw [hcnt] at htl
  cases hkl : (rncKids nd 0).toList with
  | nil => rw [hkl] at hy'; simp at hy'
  | cons a l =>
    rw [hkl] at hy' htl
    simp only [List.set_cons_zero, List.mem_cons] at hy'
    rcases hy' with rfl | hy'
    · simp
    · have := htl y (by simpa using hy'); simp [this]

theorem nilPos_spec {t : BTree} {nd : Node} (hs : NodeShape t nd) {index : Nat} (hi : index < nd.count)
    (hnil : nd.child index = 0 ∨ nd.child (index + 1) = 0) :
    (nilPos nd index = index ∨ nilPos nd index = index + 1) ∧ nd.kids[nilPos nd index]? = some 0 := by
  have hb := nilPos_bounds nd index
  refine ⟨by omega, ?_⟩
  rw [kids_getElem?_child hs (by omega)]
  congr 1
  unfold nilPos
  split
  · rename_i h0; exact beq_iff_eq.mp h0
  · rename_i h0; exact hnil.resolve_left (fun h => h0 (beq_iff_eq.mpr h))

end Sop.BTree.Rem
