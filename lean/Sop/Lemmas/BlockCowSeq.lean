import Sop.Model.BlockCow
/-! # One reader of a block (`readAndRestore` by the state of the disk), a writer that died, and readers one after the other:
what the disk can look like (`Crash`, byte-wise mixtures `Mix`), the checksum hypothesis `Detects`, and the disk states from
which every reader is served the same block (`Stable`) -/
namespace Sop.C23
open Sop.BlockCow

def usableCow (P : Params) (cow : Option (List Nat)) : Bool :=
  match cow with
  | none => false
  | some data => data.length == P.n && data.length != 0 && valid P data

end Sop.C23

namespace Sop.BlockCow
open Sop.C23 (usableCow)

theorem valid_len {P : Params} {b : Block} (h : valid P b = true) : 4 ≤ b.length := by
  unfold valid at h
  by_cases hl : b.length < 4
  · simp [hl] at h
  · omega

theorem valid_ne_nil {P : Params} {b : Block} (h : valid P b = true) : b ≠ [] := fun e => by
  have := valid_len h; rw [e] at this; cases this

theorem checkCow_valid (P : Params) (b : Block) (hl : b.length = P.n) (hv : valid P b = true) :
    checkCow P (some b) = (b, true) := by
  have hP : ¬ P.n = 0 := by have := valid_len hv; omega
  simp [checkCow, hl, hv, hP]

theorem usableCow_some {P : Params} {cow : Option (List Nat)} (h : usableCow P cow = true) :
    ∃ b, cow = some b ∧ b.length = P.n ∧ valid P b = true := by
  cases cow with
  | none => cases h
  | some b =>
    simp only [usableCow, Bool.and_eq_true, beq_iff_eq] at h
    exact ⟨b, rfl, h.1.1, h.2⟩

/-- "do not restore", or the empty backup that `restoreFromCow` ignores -/
theorem checkCow_unusable (P : Params) (cow : Option (List Nat)) (h : usableCow P cow = false) :
    checkCow P cow = ([], false) ∨ checkCow P cow = ([], true) := by
  unfold usableCow at h
  unfold checkCow
  cases cow with
  | none => simp
  | some data =>
    simp only at h ⊢
    by_cases h0 : data.length = 0
    · simp [h0]
    · by_cases hn : data.length = P.n
      · have hP : ¬ P.n = 0 := by omega
        have hv : valid P data = false := by simpa [hn, hP] using h
        simp [hn, hv, hP]
      · simp [h0, hn]

variable {P : Params} {d : Disk}

/-! `readAndRestore` by the state of the disk: four equations, and `read_cases`, which says that they are all. -/

theorem read_short (rw : Bool) (hl : d.blk.length ≠ P.n) : readAndRestore P rw d = (.err, d) := by
  rw [readAndRestore, if_pos hl]

theorem read_valid (rw : Bool) (hl : d.blk.length = P.n) (hv : valid P d.blk = true) :
    readAndRestore P rw d = (.ok d.blk, { d with cow := none }) := by
  rw [readAndRestore, if_neg (fun h => h hl), if_pos hv]

theorem read_restore (rw : Bool) (hl : d.blk.length = P.n) (hv : valid P d.blk = false) {b : Block}
    (hc : d.cow = some b) (hlb : b.length = P.n) (hvb : valid P b = true) :
    readAndRestore P rw d = (.ok b, if rw then { d with blk := b } else d) := by
  simp [readAndRestore, hl, hv, hc, checkCow_valid P b hlb hvb, valid_ne_nil hvb]

theorem read_defect (rw : Bool) (hl : d.blk.length = P.n) (hv : valid P d.blk = false)
    (hu : usableCow P d.cow = false) : readAndRestore P rw d = (.ok d.blk, d) := by
  unfold readAndRestore
  rcases checkCow_unusable P d.cow hu with e | e
  · simp [hl, hv, e]
  · simp [hl, hv, e]

theorem read_cases (P : Params) (rw : Bool) (d : Disk) :
    (d.blk.length ≠ P.n ∧ readAndRestore P rw d = (.err, d)) ∨
    (d.blk.length = P.n ∧ valid P d.blk = true ∧ readAndRestore P rw d = (.ok d.blk, { d with cow := none })) ∨
    (∃ b, d.blk.length = P.n ∧ valid P d.blk = false ∧ d.cow = some b ∧ b.length = P.n ∧ valid P b = true ∧
      readAndRestore P rw d = (.ok b, if rw then { d with blk := b } else d)) ∨
    (d.blk.length = P.n ∧ valid P d.blk = false ∧ usableCow P d.cow = false ∧ readAndRestore P rw d = (.ok d.blk, d)) := by
  by_cases hl : d.blk.length = P.n
  · cases hv : valid P d.blk with
    | true => exact .inr (.inl ⟨hl, rfl, read_valid rw hl hv⟩)
    | false =>
      cases hu : usableCow P d.cow with
      | false => exact .inr (.inr (.inr ⟨hl, rfl, rfl, read_defect rw hl hv hu⟩))
      | true =>
        obtain ⟨b, hc, hlb, hvb⟩ := usableCow_some hu
        exact .inr (.inr (.inl ⟨b, hl, rfl, hc, hlb, hvb, read_restore rw hl hv hc hlb hvb⟩))
  · exact .inl ⟨hl, read_short rw hl⟩

end Sop.BlockCow

namespace Sop.C22
open Sop.BlockCow

/-- `t` is a byte-wise mixture of `old` and `new` -/
def Mix (old new t : Block) : Prop :=
  t.length = old.length ∧ ∀ i : Nat, t[i]? = old[i]? ∨ t[i]? = new[i]?

/-- the disk states a writer that dies can leave behind -/
inductive Crash (old new : Block) : Disk → Prop
  | before : Crash old new ⟨old, none⟩
  | cowPartial (k : Nat) : Crash old new ⟨old, some (old.take k)⟩
  | tornWrite (t : Block) : Mix old new t → Crash old new ⟨t, some old⟩
  | after : Crash old new ⟨new, none⟩

/-- checksum-detection hypothesis: a mixture that is neither image fails the checksum -/
def Detects (P : Params) (old new : Block) : Prop :=
  ∀ t, Mix old new t → t = old ∨ t = new ∨ valid P t = false

/-- each image is a mixture (`mix_old`, `mix_new`); no user in the development -/
theorem mix_old (old new : Block) : Mix old new old := ⟨rfl, fun _ => Or.inl rfl⟩

theorem mix_new (old new : Block) (h : new.length = old.length) : Mix old new new := ⟨h, fun _ => Or.inr rfl⟩

theorem mix_symm {old new t : Block} (h : new.length = old.length) (hm : Mix new old t) : Mix old new t :=
  ⟨hm.1.trans h, fun i => (hm.2 i).symm⟩

theorem detects_symm {P : Params} {old new : Block} (h : new.length = old.length) (hd : Detects P old new) :
    Detects P new old := fun t hm =>
  match hd t (mix_symm h hm) with
  | .inl e => .inr (.inl e)
  | .inr (.inl e) => .inl e
  | .inr (.inr e) => .inr (.inr e)

/-- the first `L` bytes of `new` over `old` is a mixture, for every `L` -/
theorem mix_torn (old new : Block) (h : new.length = old.length) (L : Nat) : Mix old new (torn old new L) := by
  unfold torn
  -- both images split at `L` into pieces of equal lengths; `torn` is the first piece of `new` and the second of `old`
  have hm : (new.take L).length = (old.take L).length := by rw [List.length_take, List.length_take, h]
  constructor
  · rw [List.length_append, hm, ← List.length_append, List.take_append_drop]
  · intro i
    by_cases hi : i < (new.take L).length
    · right
      rw [List.getElem?_append_left hi]
      conv => rhs; rw [← List.take_append_drop L new, List.getElem?_append_left hi]
    · left
      rw [List.getElem?_append_right (Nat.le_of_not_lt hi), hm]
      conv => rhs; rw [← List.take_append_drop L old, List.getElem?_append_right (hm ▸ Nat.le_of_not_lt hi)]

theorem crash_torn (old new : Block) (h : new.length = old.length) (L : Nat) :
    Crash old new ⟨torn old new L, some old⟩ := Crash.tornWrite _ (mix_torn old new h L)

theorem mix_tornMask (old new : Block) (h : new.length = old.length) (s : Nat) (bits : List Bool) :
    Mix old new (tornMask old new s bits) := by
  unfold tornMask
  refine ⟨by simp [h], fun i => ?_⟩
  rw [List.getElem?_map, List.getElem?_zipIdx]
  by_cases hi : i < old.length
  · rw [List.getElem?_eq_getElem (l := old.zip new) (by simp [h, hi]), List.getElem?_eq_getElem hi,
      List.getElem?_eq_getElem (h ▸ hi), List.getElem_zip]
    dsimp only [Option.map]
    split
    · exact .inr rfl
    · exact .inl rfl
  · rw [List.getElem?_eq_none (l := old.zip new) (by simp [h]; omega), List.getElem?_eq_none (Nat.le_of_not_lt hi)]
    exact .inl rfl

/-- what is proved of `Crash` holds at the crash points of the model (`crashDisk`; `skipZero = false` is the code as it
is), which are those the harness kills at -/
theorem crash_of_crashDisk (old new : Block) (h : new.length = old.length) (cp : CrashPoint) :
    Crash old new (crashDisk false old new cp) := by
  cases cp with
  | before => exact .before
  | cow k => exact .cowPartial k
  | torn L => exact crash_torn old new h L
  | mask s bits => exact .tornWrite _ (mix_tornMask old new h s bits)
  | after => exact .after

/-- a restoring write of `old` that is itself torn (a reader dies, or is observed, half way) leaves a mixture again;
no user in the development -/
theorem mix_restore (old new t t' : Block) (h : Mix old new t) (h' : Mix t old t') : Mix old new t' := by
  refine ⟨h'.1.trans h.1, fun i => ?_⟩
  rcases h'.2 i with e | e
  · rw [e]; exact h.2 i
  · exact Or.inl e

variable {P : Params} {d : Disk}

/-- results of readers that run one after the other (each with its own read-write flag) -/
def readMany (P : Params) : List Bool → Disk → List Res
  | [], _ => []
  | rw :: rest, d => (readAndRestore P rw d).1 :: readMany P rest (readAndRestore P rw d).2

/-- every reader is handed `b` (`stable_read`) -/
def Stable (P : Params) (b : Block) (d : Disk) : Prop :=
  d.blk = b ∨ (d.blk.length = P.n ∧ valid P d.blk = false ∧ d.cow = some b)

variable {b : Block}

theorem stable_read (hlb : b.length = P.n) (hvb : valid P b = true) (h : Stable P b d) (rw : Bool) :
    (readAndRestore P rw d).1 = .ok b ∧ Stable P b (readAndRestore P rw d).2 := by
  rcases h with e | ⟨hl, hv, hc⟩
  · subst e; rw [read_valid rw hlb hvb]; exact ⟨rfl, Or.inl rfl⟩
  · rw [read_restore rw hl hv hc hlb hvb]
    cases rw
    · exact ⟨rfl, Or.inr ⟨hl, hv, hc⟩⟩
    · exact ⟨rfl, Or.inl rfl⟩

theorem crash_stable {old new : Block} (hlo : old.length = P.n) (hdet : Detects P old new) {c : Disk}
    (hc : Crash old new c) : Stable P old c ∨ Stable P new c := by
  cases hc with
  | before | cowPartial k => exact .inl (.inl rfl)
  | after => exact .inr (.inl rfl)
  | tornWrite t hm =>
    rcases hdet t hm with e | e | e
    · exact .inl (.inl e)
    · exact .inr (.inl e)
    · exact .inl (.inr ⟨hm.1.trans hlo, e, rfl⟩)

theorem readMany_stable (hlb : b.length = P.n) (hvb : valid P b = true) (rws : List Bool) :
    ∀ d, Stable P b d → ∀ r ∈ readMany P rws d, r = .ok b := by
  induction rws with
  | nil => intro d _ r hr; simp [readMany] at hr
  | cons rw rest ih =>
    intro d hs r hr
    have h1 := stable_read hlb hvb hs rw
    simp only [readMany, List.mem_cons] at hr
    rcases hr with e | hr
    · rw [e]; exact h1.1
    · exact ih _ h1.2 r hr

end Sop.C22
