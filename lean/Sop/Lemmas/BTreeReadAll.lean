import Sop.Lemmas.BTreeReadOps
/-! Every read-only operation of Model B meets the ordered-collection specification on a well-formed tree (readable
cursor, the two read-side repairs on) and keeps it well-formed: the read-only part of `Statement_C17`. -/
namespace Sop.BTree

theorem bool_eq_of_iff {a b : Bool} (h : a = true ↔ b = true) : (a == b) = true := by
  cases a <;> cases b <;> simp_all

def isReadOp : Op → Bool
  | .find _ _ | .findDesc _ | .findWithID _ _ | .first | .last | .next | .prev | .range _ _ | .rangeDesc _ _ => true
  | _ => false

theorem read_op_state {t : BTree} (hwf : WF t) (hp : t.panicked = false) (hc : CursorOK t)
    (hff : t.fixFast = true) (hfi : t.fixId = true) (op : Op) (hro : isReadOp op = true) :
    GoodSt t (t.step op).1 := by
  have hself : GoodSt t t := GoodSt.refl hp hc
  cases op with
  | find k f => exact (find_answer hwf hp hc k f (fun _ => hff)).1
  | findDesc k => exact (findDesc_answer hwf hp hc k).1
  | findWithID k id => exact (findWithID_spec hwf hp hc hfi k id).1
  | first => exact (first_answer hwf hp hc).1
  | last => exact (last_answer hwf hp hc).1
  | next => exact next_any hwf hself
  | prev => exact prev_any hwf hself
  | range a b => exact range_state hwf hp hc a b true
  | rangeDesc a b => exact range_state hwf hp hc a b false
  | _ => simp [isReadOp] at hro

theorem read_op_accepts {t : BTree} (hwf : WF t) (hp : t.panicked = false) (hc : CursorOK t)
    (hff : t.fixFast = true) (hfi : t.fixId = true) (op : Op) (hro : isReadOp op = true) :
    WF (t.step op).1 ∧ (t.step op).1.panicked = false ∧ (t.step op).1.abs = t.abs ∧ GoodSt t (t.step op).1 ∧
      Spec.accepts t.unique t.abs op (t.step op).2 (t.step op).1.abs = true := by
  have hgood := read_op_state hwf hp hc hff hfi op hro
  obtain ⟨he, hp', _⟩ := id hgood
  have habs := abs_heapEq he
  have hks := keysSorted_of_WF hwf
  have hperm := isPerm_refl t.abs
  refine ⟨WF_heapEq he hwf, hp', habs, hgood, ?_⟩
  rw [habs]
  cases op with
  | find k f =>
    simp only [Spec.accepts, BTree.step, okb, hks, hperm, bool_eq_of_iff (find_answer hwf hp hc k f (fun _ => hff)).2, Bool.and_self]
  | findDesc k =>
    simp only [Spec.accepts, BTree.step, okb, hks, hperm, bool_eq_of_iff (findDesc_answer hwf hp hc k).2, Bool.and_self]
  | findWithID k id =>
    have hiff' : (t.findWithID k id).2 = true ↔ (t.abs.any (fun x => x.key == k && x.id == id)) = true := by
      rw [(findWithID_spec hwf hp hc hfi k id).2]; simp
    simp only [Spec.accepts, BTree.step, okb, hks, hperm, bool_eq_of_iff hiff', Bool.and_self]
  | first => simp only [Spec.accepts, BTree.step, okb, hks, hperm, bool_eq_of_iff (first_answer hwf hp hc).2, Bool.and_self]
  | last => simp only [Spec.accepts, BTree.step, okb, hks, hperm, bool_eq_of_iff (last_answer hwf hp hc).2, Bool.and_self]
  | next => rw [(step_move t).1]; exact (Spec.accepts_move_same _ hks _).1
  | prev => rw [(step_move t).2]; exact (Spec.accepts_move_same _ hks _).2
  | range a b =>
    have := range_asc_spec hwf hp hc.1 a b
    simp only [Spec.accepts, BTree.step, hks, hperm, this, beq_self_eq_true, Bool.and_self]
  | rangeDesc a b =>
    have := range_desc_spec hwf hp a b
    simp only [Spec.accepts, BTree.step, hks, hperm, this, List.map_reverse, beq_self_eq_true, Bool.and_self]
  | _ => simp [isReadOp] at hro

end Sop.BTree
