import Sop.Model.Locks
import Sop.Lemmas.Assoc
/-! Lemmas for C28: the lease invariant `Inv` on the ghost leases, for both implementations (in-memory, Redis). -/
namespace Sop.Locks
open Sop.Assoc

-- no user in the development
theorem get_key {es : List Entry} {k : Nat} {e : Entry} (h : get es k = some e) : e.key = k := by
  unfold get at h
  have := List.find?_some h
  simpa using this

theorem get_del_same (es : List Entry) (k : Nat) : get (del es k) k = none :=
  find?_filter_drop fun x _ hp => by simpa using hp

theorem get_del_ne (es : List Entry) {k k' : Nat} (h : k' ≠ k) : get (del es k) k' = get es k' :=
  find?_filter_keep fun x _ hp => by
    have : x.key = k' := by simpa using hp
    simpa [this] using h

theorem get_put_same (es : List Entry) (e : Entry) : get (put es e) e.key = some e := by
  simp [get, put]

theorem get_put_ne (es : List Entry) (e : Entry) {k : Nat} (h : k ≠ e.key) : get (put es e) k = get es k := by
  rw [← get_del_ne es h]
  exact List.find?_cons_of_neg (by simpa using fun x => h x.symm)

theorem get_filter_shard (f : Nat → Nat) (es : List Entry) (k0 vk : Nat) (v : Entry)
    (h : get (es.filter (fun e => f e.key == f k0)) vk = some v) : get es vk = some v := by
  -- the entry found lies in the shard, so the filter keeps every entry with its key
  have hv : v.key = vk ∧ f v.key = f k0 := by
    have h1 := List.find?_some h
    have h2 := (List.mem_filter.1 (List.mem_of_find?_eq_some h)).2
    exact ⟨by simpa using h1, by simpa using h2⟩
  rw [← h]
  exact (find?_filter_keep fun x _ hp => by
    have : x.key = vk := by simpa using hp
    simp [this, ← hv.1, hv.2]).symm

theorem mem_release {gs : List Grant} {k o : Nat} {g : Grant} :
    g ∈ release gs k o ↔ g ∈ gs ∧ ¬ (g.key = k ∧ g.owner = o) := by
  simp only [release, List.mem_filter, Bool.not_eq_eq_eq_not, Bool.not_true, Bool.and_eq_false_iff,
    beq_eq_false_iff_ne, ne_eq, and_congr_right_iff]
  intro _
  exact ⟨fun h hk => h.elim (fun h => h hk.1) (fun h => h hk.2), fun h => Decidable.not_and_iff_not_or_not.1 h⟩

theorem mem_grant {gs : List Grant} {g0 g : Grant} :
    g ∈ grant gs g0 ↔ g = g0 ∨ (g ∈ gs ∧ ¬ (g.key = g0.key ∧ g.owner = g0.owner)) := by
  simp [grant, mem_release]

theorem mem_releaseAll {o : Nat} {ks : List Nat} {gs : List Grant} {g : Grant} :
    g ∈ releaseAll o ks gs ↔ g ∈ gs ∧ ¬ (g.key ∈ ks ∧ g.owner = o) := by
  induction ks generalizing gs with
  | nil => simp [releaseAll]
  | cons k ks ih =>
    simp only [releaseAll, ih, mem_release, List.mem_cons]
    constructor
    · rintro ⟨⟨h1, h2⟩, h3⟩
      refine ⟨h1, ?_⟩
      rintro ⟨hk | hk, ho⟩
      · exact h2 ⟨hk, ho⟩
      · exact h3 ⟨hk, ho⟩
    · rintro ⟨h1, h2⟩
      exact ⟨⟨h1, fun ⟨a, b⟩ => h2 ⟨Or.inl a, b⟩⟩, fun ⟨a, b⟩ => h2 ⟨Or.inr a, b⟩⟩

/-! `live now d`: a lease/entry with deadline `d` is still running at time `now`
(in-memory: `now ≤ d`, Redis: `now < d`). -/
structure LiveRel where
  live : Nat → Nat → Prop
  mono_t : ∀ {n n' d}, n ≤ n' → live n' d → live n d
  mono_d : ∀ {n d d'}, d ≤ d' → live n d → live n d'

def memLive : LiveRel := ⟨fun n d => n ≤ d, by intros; omega, by intros; omega⟩
def redisLive : LiveRel := ⟨fun n d => n < d, by intros; omega, by intros; omega⟩

/-- every live lease is backed by an entry of the same owner that lasts at least as long -/
def Inv (L : LiveRel) (es : List Entry) (gs : List Grant) (now : Nat) : Prop :=
  ∀ g ∈ gs, L.live now g.dl → ∃ e, get es g.key = some e ∧ e.owner = g.owner ∧ g.dl ≤ e.exp

variable {L : LiveRel} {es : List Entry} {gs : List Grant} {n : Nat}

theorem Inv.time (h : Inv L es gs n) {n' : Nat} (hn : n ≤ n') : Inv L es gs n' :=
  fun g hg hl => h g hg (L.mono_t hn hl)

theorem Inv.nil : Inv L es [] n := fun _ hg => nomatch hg

theorem Inv.rel (h : Inv L es gs n) (k o : Nat) : Inv L es (release gs k o) n :=
  fun g hg hl => h g (mem_release.1 hg).1 hl

/-- any change of the entries confined to a key whose entry (if any) is dead -/
theorem Inv.change_dead (h : Inv L es gs n) {k : Nat} {es' : List Entry}
    (hd : ∀ e, get es k = some e → ¬ L.live n e.exp) (hne : ∀ k', k' ≠ k → get es' k' = get es k') : Inv L es' gs n := by
  intro g hg hl
  obtain ⟨e, he, ho, hx⟩ := h g hg hl
  by_cases hk : g.key = k
  · exact absurd (L.mono_d hx hl) (hd e (hk ▸ he))
  · exact ⟨e, (hne _ hk).trans he, ho, hx⟩

theorem Inv.del_own (h : Inv L es gs n) {k o : Nat} (hown : ∀ e, get es k = some e → e.owner = o) :
    Inv L (del es k) (release gs k o) n := by
  intro g hg hl
  obtain ⟨hg1, hg2⟩ := mem_release.1 hg
  obtain ⟨e, he, ho, hx⟩ := h g hg1 hl
  by_cases hk : g.key = k
  · exact absurd ⟨hk, ho ▸ hown e (hk ▸ he)⟩ hg2
  · exact ⟨e, by rw [get_del_ne es hk]; exact he, ho, hx⟩

theorem Inv.put_grant (h : Inv L es gs n) {k o x : Nat}
    (hd : ∀ e, get es k = some e → ¬ L.live n e.exp ∨ e.owner = o) :
    Inv L (put es ⟨k, o, x⟩) (grant gs ⟨k, o, x⟩) n := by
  intro g hg hl
  rcases mem_grant.1 hg with rfl | ⟨hg1, hg2⟩
  · exact ⟨⟨k, o, x⟩, get_put_same es ⟨k, o, x⟩, rfl, Nat.le_refl _⟩
  · obtain ⟨e, he, ho, hx⟩ := h g hg1 hl
    by_cases hk : g.key = k
    · rcases hd e (hk ▸ he) with hdead | hown
      · exact absurd (L.mono_d hx hl) hdead
      · exact absurd ⟨hk, ho ▸ hown⟩ hg2
    · exact ⟨e, by rw [get_put_ne es _ (by simpa using hk)]; exact he, ho, hx⟩

theorem Inv.grant_existing (h : Inv L es gs n) {k o : Nat} {e : Entry} (he : get es k = some e) (ho : e.owner = o) :
    Inv L es (grant gs ⟨k, o, e.exp⟩) n := by
  intro g hg hl
  rcases mem_grant.1 hg with rfl | ⟨hg1, _⟩
  · exact ⟨e, he, ho, Nat.le_refl _⟩
  · exact h g hg1 hl

/-- rewriting the expiry of key `k` keeps the invariant when no live lease on `k` outlasts the new expiry -/
theorem Inv.reexp (h : Inv L es gs n) {k x : Nat} {e : Entry} (he : get es k = some e)
    (hx : ∀ g ∈ gs, g.key = k → L.live n g.dl → g.dl ≤ x) : Inv L (put es ⟨k, e.owner, x⟩) gs n := by
  intro g hg hl
  obtain ⟨e', he', ho', hx'⟩ := h g hg hl
  by_cases hk : g.key = k
  · rw [hk, he] at he'
    cases he'
    exact ⟨⟨k, e.owner, x⟩, hk ▸ get_put_same es ⟨k, e.owner, x⟩, ho', hx g hg hk hl⟩
  · exact ⟨e', by rw [get_put_ne es _ (by simpa using hk)]; exact he', ho', hx'⟩

theorem Inv.unique (h : Inv L es gs n) {g1 g2 : Grant} (h1 : g1 ∈ gs) (h2 : g2 ∈ gs)
    (l1 : L.live n g1.dl) (l2 : L.live n g2.dl) (hk : g1.key = g2.key) : g1.owner = g2.owner := by
  obtain ⟨e1, he1, ho1, _⟩ := h g1 h1 l1
  obtain ⟨e2, he2, ho2, _⟩ := h g2 h2 l2
  rw [hk, he2] at he1
  cases he1
  rw [← ho1, ← ho2]

def MemInv (s : Mem) : Prop := Inv memLive s.entries s.grants s.now

theorem tick_fst (cfg : MemCfg) (s : Mem) : (tick cfg s).1 = { s with now := s.now + cfg.readCost } := rfl
theorem tick_snd (cfg : MemCfg) (s : Mem) : (tick cfg s).2 = s.now := rfl

/-- a part of a call of the in-memory cache made by `actor` (`none`: the clock): the lease invariant survives (if
`protectLive`: without it eviction deletes unexpired entries), and so do the leases of everybody else -/
structure Step (cfg : MemCfg) (actor : Option Nat) (s s' : Mem) : Prop where
  inv : cfg.protectLive = true → MemInv s → MemInv s'
  keeps : ∀ g ∈ s.grants, actor ≠ some g.owner → g ∈ s'.grants

section step
variable {cfg : MemCfg} {o : Nat} {actor : Option Nat}

theorem Step.refl (s : Mem) : Step cfg actor s s := ⟨fun _ h => h, fun _ h _ => h⟩

theorem Step.trans {a b c : Mem} (h1 : Step cfg actor a b) (h2 : Step cfg actor b c) : Step cfg actor a c :=
  ⟨fun hp h => h2.inv hp (h1.inv hp h), fun g hg ho => h2.keeps g (h1.keeps g hg ho) ho⟩

theorem Step.keeps_of_ne {s s' : Mem} (h : Step cfg (some o) s s') {g : Grant} (hg : g ∈ s.grants) (hne : g.owner ≠ o) :
    g ∈ s'.grants :=
  h.keeps g hg fun e => hne (Option.some.inj e).symm

theorem Step.time {s : Mem} {n' : Nat} (h : s.now ≤ n') : Step cfg actor s { s with now := n' } :=
  ⟨fun _ hi => Inv.time hi h, fun _ hg _ => hg⟩

theorem Step.tick (s : Mem) : Step cfg actor s (tick cfg s).1 := Step.time (Nat.le_add_right _ _)

theorem Step.putGrant {s : Mem} {k x : Nat} (hd : ∀ e, get s.entries k = some e → e.exp < s.now ∨ e.owner = o) :
    Step cfg (some o) s { s with entries := put s.entries ⟨k, o, x⟩, grants := grant s.grants ⟨k, o, x⟩ } :=
  ⟨fun _ hi => Inv.put_grant hi fun e he => (hd e he).imp Nat.not_le.2 id,
    fun _ hg ho => mem_grant.2 (Or.inr ⟨hg, fun h => ho (congrArg some h.2.symm)⟩)⟩

theorem Step.grantExisting {s : Mem} {k : Nat} {e : Entry} (he : get s.entries k = some e) (ho : e.owner = o) :
    Step cfg (some o) s { s with grants := grant s.grants ⟨k, o, e.exp⟩ } :=
  ⟨fun _ hi => Inv.grant_existing hi he ho,
    fun _ hg h => mem_grant.2 (Or.inr ⟨hg, fun h' => h (congrArg some h'.2.symm)⟩)⟩

theorem Step.delDead {s : Mem} {k : Nat} (hd : cfg.protectLive = true → ∀ e, get s.entries k = some e → e.exp < s.now) :
    Step cfg actor s { s with entries := del s.entries k } :=
  ⟨fun hp hi => Inv.change_dead hi (fun e he => Nat.not_le.2 (hd hp e he)) fun _ hk => get_del_ne _ hk, fun _ hg _ => hg⟩

theorem Step.unlease (s : Mem) (k : Nat) : Step cfg (some o) s { s with grants := release s.grants k o } :=
  ⟨fun _ hi => Inv.rel hi k o, fun _ hg ho => mem_release.2 ⟨hg, fun h => ho (congrArg some h.2.symm)⟩⟩

theorem Step.delOwn {s : Mem} {k : Nat} (h : ∀ e, get s.entries k = some e → e.owner = o) :
    Step cfg (some o) s { s with entries := del s.entries k, grants := release s.grants k o } :=
  ⟨fun _ hi => Inv.del_own hi h, fun _ hg ho => mem_release.2 ⟨hg, fun h => ho (congrArg some h.2.symm)⟩⟩

theorem evictKey_spec {s s' : Mem} {t k vk : Nat} (h : evictKey cfg s t (shardEntries cfg s.entries k) vk = some s') :
    ∃ v, get s.entries vk = some v ∧ evictable cfg t v = true ∧ s' = { s with entries := del s.entries vk } := by
  unfold evictKey at h
  split at h
  · rename_i v hv
    split at h
    · rename_i ha
      refine ⟨v, get_filter_shard cfg.shardOf _ _ _ _ hv, ?_, (Option.some.inj h).symm⟩
      unfold admissibleVictim at ha
      exact (Bool.and_eq_true _ _ ▸ ha).1
    · cases h
  · cases h

theorem evictChoose_spec {s s' : Mem} {t k : Nat} {hints h' : List Nat}
    (h : evictChoose cfg s t (shardEntries cfg s.entries k) hints = some (s', h')) :
    s' = s ∨ ∃ vk v, get s.entries vk = some v ∧ evictable cfg t v = true ∧ s' = { s with entries := del s.entries vk } := by
  have victim : ∀ {vk rest}, (evictKey cfg s t (shardEntries cfg s.entries k) vk).map (fun x => (x, rest)) = some (s', h') →
      ∃ vk v, get s.entries vk = some v ∧ evictable cfg t v = true ∧ s' = { s with entries := del s.entries vk } := by
    intro vk rest hm
    obtain ⟨x, hk, he⟩ := Option.map_eq_some_iff.1 hm
    cases he
    exact ⟨vk, evictKey_spec hk⟩
  unfold evictChoose at h
  split at h
  · exact Or.inr (victim h)
  · split at h
    · cases h; exact Or.inl rfl
    · exact Or.inr (victim h)
    · cases h

theorem evict_step {s s' : Mem} {k : Nat} {hints h' : List Nat} (h : evict cfg s k hints = some (s', h')) :
    Step cfg actor s s' ∧ (get s.entries k = none → get s'.entries k = none) := by
  have del_none : ∀ vk, get s.entries k = none → get (del s.entries vk) k = none := by
    intro vk hn
    by_cases hkv : k = vk
    · subst hkv; exact get_del_same _ _
    · rw [get_del_ne _ hkv]; exact hn
  unfold evict at h
  simp only [] at h
  split at h
  · cases h; exact ⟨Step.refl s, id⟩
  · split at h
    · -- the clock was read; the victim (if any) had expired at that reading
      rename_i hp
      rcases evictChoose_spec (s := (tick cfg s).1) h with rfl | ⟨vk, v, hv, hev, rfl⟩
      · exact ⟨Step.tick s, id⟩
      · refine ⟨(Step.tick s).trans (Step.delDead fun _ e he => ?_), del_none vk⟩
        obtain rfl : v = e := Option.some.inj (hv.symm.trans he)
        have hlt : v.exp < s.now := by
          simp only [evictable, hp, after, tick_snd, Bool.not_true, Bool.false_or] at hev
          exact of_decide_eq_true hev
        exact Nat.lt_of_lt_of_le hlt (Nat.le_add_right _ _)
    · rename_i hp
      rcases evictChoose_spec h with rfl | ⟨vk, v, _, _, rfl⟩
      · exact ⟨Step.refl _, id⟩
      · exact ⟨Step.delDead fun hp' => absurd hp' hp, del_none vk⟩

theorem memUnlock_step : ∀ (ks : List Nat) (s : Mem), Step cfg (some o) s (memUnlock o ks s)
  | [], s => Step.refl s
  | k :: ks, s => by
    unfold memUnlock
    cases hg : get s.entries k with
    | none => exact (Step.unlease s k).trans (memUnlock_step ks _)
    | some v =>
      by_cases hv : v.owner = o
      · simp only [hv, beq_self_eq_true, if_true]
        exact (Step.delOwn fun e he => by rw [hg] at he; cases he; exact hv).trans (memUnlock_step ks _)
      · simp only [beq_eq_false_iff_ne.2 hv]
        exact (Step.unlease s k).trans (memUnlock_step ks _)

theorem memUnlock_now (o : Nat) : ∀ (ks : List Nat) (s : Mem), (memUnlock o ks s).now = s.now
  | [], _ => rfl
  | k :: ks, s => by
    unfold memUnlock
    rw [memUnlock_now o ks]
    cases get s.entries k with
    | none => rfl
    | some v => by_cases hv : (v.owner == o) = true <;> simp [hv]

theorem rollback_eq (o : Nat) : ∀ (acq : List Nat) (s : Mem), rollback o s acq = memUnlock o acq s
  | [], _ => rfl
  | a :: as, s => by
    unfold rollback memUnlock
    exact rollback_eq o as _

-- no user in the development
theorem rollback_now (o : Nat) : ∀ (acq : List Nat) (s : Mem), (rollback o s acq).now = s.now :=
  fun acq s => by rw [rollback_eq, memUnlock_now]

theorem lockLoop_step (d : Nat) :
    ∀ (ks : List Nat) (s : Mem) (acq hints : List Nat), Step cfg (some o) s (lockLoop cfg o d ks s acq hints).s
  | [], s, _, _ => Step.refl s
  | k :: ks, s, acq, hints => by
    unfold lockLoop
    simp only [tick_fst, tick_snd]
    refine (Step.tick s).trans ?_
    cases hg : get s.entries k with
    | some ex =>
      simp only []
      refine (Step.tick _).trans ?_
      by_cases ha : after (s.now + cfg.readCost) ex.exp = true
      · -- expired at the second reading: taken over
        simp only [ha, if_true]
        refine Step.trans (Step.putGrant fun e he => Or.inl ?_) (lockLoop_step d ks _ _ _)
        obtain rfl : ex = e := Option.some.inj (hg.symm.trans he)
        exact Nat.lt_of_lt_of_le (of_decide_eq_true ha) (Nat.le_add_right _ _)
      · simp only [ha]
        by_cases ho : ex.owner = o
        · simp only [ho, beq_self_eq_true, if_true]
          exact Step.trans (Step.grantExisting hg ho) (lockLoop_step d ks _ _ _)
        · simp only [beq_eq_false_iff_ne.2 ho]
          rw [rollback_eq]
          exact memUnlock_step acq _
    | none =>
      simp only []
      cases he : evict cfg { s with now := s.now + cfg.readCost } k hints with
      | none => exact Step.refl _
      | some r =>
        obtain ⟨s', hints'⟩ := r
        simp only []
        obtain ⟨hs', hn'⟩ := evict_step (actor := some o) he
        refine hs'.trans (Step.trans (Step.putGrant fun e he' => ?_) (lockLoop_step d ks _ _ _))
        rw [hn' hg] at he'; cases he'

theorem memIsLockedLoop_step : ∀ (ks : List Nat) (s : Mem), Step cfg (some o) s (memIsLockedLoop cfg o ks s).1
  | [], s => Step.refl s
  | k :: ks, s => by
    unfold memIsLockedLoop
    cases get s.entries k with
    | none => exact Step.refl s
    | some e =>
      simp only []
      split
      · exact Step.refl s
      · split
        · exact Step.tick s
        · exact (Step.tick s).trans (memIsLockedLoop_step ks _)

theorem memTtlCheck_step : ∀ (ks : List Nat) (s : Mem), Step cfg (some o) s (memTtlCheck cfg o ks s).1
  | [], s => Step.refl s
  | k :: ks, s => by
    unfold memTtlCheck
    cases hg : get s.entries k with
    | none => exact Step.refl s
    | some e =>
      simp only []
      split
      · exact Step.refl s
      · split
        · rename_i ha
          refine (Step.tick s).trans (Step.delDead fun _ e' he' => ?_)
          obtain rfl : e = e' := Option.some.inj (hg.symm.trans he')
          exact Nat.lt_of_lt_of_le (of_decide_eq_true ha) (Nat.le_add_right _ _)
        · exact (Step.tick s).trans (memTtlCheck_step ks _)

theorem memTtlRefresh_step (x : Nat) : ∀ (ks : List Nat) (s : Mem), Step cfg (some o) s (memTtlRefresh o x ks s).1
  | [], s => Step.refl s
  | k :: ks, s => by
    unfold memTtlRefresh
    cases hg : get s.entries k with
    | none => exact Step.refl s
    | some e =>
      simp only []
      split
      · exact Step.refl s
      · rename_i ho
        refine Step.trans (Step.putGrant fun e' he' => Or.inr ?_) (memTtlRefresh_step x ks _)
        obtain rfl : e = e' := Option.some.inj (hg.symm.trans he')
        simpa using ho

theorem memIsLockedTTL_step (s : Mem) (d : Nat) (keys : List Nat) : Step cfg (some o) s (memIsLockedTTL cfg s o d keys).1 := by
  unfold memIsLockedTTL
  have h1 := memTtlCheck_step (cfg := cfg) (o := o) keys s
  cases hc : memTtlCheck cfg o keys s with
  | mk s1 b =>
    rw [hc] at h1
    cases b with
    | false => exact h1
    | true => exact h1.trans ((Step.tick s1).trans (memTtlRefresh_step _ keys _))

theorem memLock_step (s : Mem) (d : Nat) (keys hints : List Nat) : Step cfg (some o) s (memLock cfg s o d keys hints).s :=
  lockLoop_step _ _ s [] hints

end step

def memActor : MemOp → Option Nat
  | .adv _ => none
  | .lock o _ _ _ => some o
  | .dualLock o _ _ _ => some o
  | .isLocked o _ => some o
  | .isLockedTTL o _ _ => some o
  | .unlock o _ => some o

theorem memStep_step {cfg : MemCfg} (s : Mem) (op : MemOp) : Step cfg (memActor op) s (memStep cfg s op).1 := by
  cases op with
  | adv d => exact Step.time (Nat.le_add_right _ _)
  | lock o d keys hints =>
    simp only [memStep]
    split
    · exact Step.refl s
    · exact memLock_step s d keys hints
  | dualLock o d keys hints =>
    simp only [memStep]
    split
    · exact Step.refl s
    · split
      · exact memLock_step s d keys hints
      · exact (memLock_step s d keys hints).trans (memIsLockedLoop_step _ _)
  | isLocked o keys => exact memIsLockedLoop_step keys s
  | isLockedTTL o d keys => exact memIsLockedTTL_step s d keys
  | unlock o keys => exact memUnlock_step keys s

theorem memRun_inv {cfg : MemCfg} (hp : cfg.protectLive = true) : ∀ (ops : List MemOp) (s : Mem), MemInv s → MemInv (memRun cfg s ops)
  | [], _, h => h
  | op :: ops, s, h => by
    show MemInv (memRun cfg (memStep cfg s op).1 ops)
    exact memRun_inv hp ops _ ((memStep_step s op).inv hp h)

theorem mem_memHolders {s : Mem} {k o : Nat} :
    o ∈ memHolders s k ↔ ∃ g ∈ s.grants, g.key = k ∧ s.now ≤ g.dl ∧ g.owner = o := by
  simp only [memHolders, List.mem_map, List.mem_filter, Bool.and_eq_true, beq_iff_eq, decide_eq_true_eq, and_assoc]

def Leased (o : Nat) (s : Redis) (k : Nat) : Prop := ∃ g ∈ s.grants, g.key = k ∧ s.now < g.dl ∧ g.owner = o

theorem mem_redisHolders {s : Redis} {k o : Nat} : o ∈ redisHolders s k ↔ Leased o s k := by
  simp only [Leased, redisHolders, List.mem_map, List.mem_filter, Bool.and_eq_true, beq_iff_eq, decide_eq_true_eq, and_assoc]

theorem MemInv.mutex {s : Mem} (h : MemInv s) {k o1 o2 : Nat} (h1 : o1 ∈ memHolders s k) (h2 : o2 ∈ memHolders s k) : o1 = o2 := by
  obtain ⟨g1, hg1, hk1, hl1, rfl⟩ := mem_memHolders.1 h1
  obtain ⟨g2, hg2, hk2, hl2, rfl⟩ := mem_memHolders.1 h2
  exact Inv.unique h hg1 hg2 hl1 hl2 (hk1.trans hk2.symm)

theorem MemInv.confirmed {s : Mem} (h : MemInv s) {k o : Nat} (ho : o ∈ memHolders s k) : memHolds s o k = true := by
  obtain ⟨g, hg, hk, hl, rfl⟩ := mem_memHolders.1 ho
  obtain ⟨e, he, heo, hx⟩ := h g hg hl
  unfold memHolds
  rw [← hk, he]
  have : ¬ e.exp < s.now := by omega
  simp [heo, after, this]

/-! Redis. Inside a call the server state (entries, leases, clock) changes only in `redisSetnxAll`, `redisGrantAll`,
`redisTtlLoop` and `redisUnlock` (`redisDelAll`, `releaseAll`); the `IsLocked` loop and pipeline 2 of `Lock` touch client flags
only (`SameServer`). -/

def RInv (s : Redis) : Prop := Inv redisLive s.entries s.grants s.now

structure SameServer (s s' : Redis) : Prop where
  entries : s'.entries = s.entries
  grants : s'.grants = s.grants
  now : s'.now = s.now

theorem SameServer.of_setFlag {s s' : Redis} {o k : Nat} {b : Bool} (h : SameServer (setFlag s o k b) s') : SameServer s s' :=
  ⟨h.entries, h.grants, h.now⟩

theorem RInv.congr {s s' : Redis} (h : RInv s) (hs : SameServer s s') : RInv s' := by
  unfold RInv; rw [hs.entries, hs.grants, hs.now]; exact h

theorem vget_eq_some {s : Redis} {k : Nat} {e : Entry} :
    vget s k = some e ↔ get s.entries k = some e ∧ s.now < e.exp := by
  unfold vget
  cases get s.entries k with
  | none => simp
  | some e' =>
    by_cases h : s.now < e'.exp
    · simp only [h, if_true, Option.some.injEq]
      exact ⟨fun he => ⟨he, he ▸ h⟩, fun he => he.1⟩
    · simp only [h, if_false, Option.some.injEq]
      constructor
      · intro he; cases he
      · intro he; exact absurd (he.1 ▸ he.2) h

theorem RInv.mutex {s : Redis} (h : RInv s) {k o1 o2 : Nat} (h1 : o1 ∈ redisHolders s k) (h2 : o2 ∈ redisHolders s k) :
    o1 = o2 := by
  obtain ⟨g1, hg1, hk1, hl1, rfl⟩ := mem_redisHolders.1 h1
  obtain ⟨g2, hg2, hk2, hl2, rfl⟩ := mem_redisHolders.1 h2
  exact Inv.unique (L := redisLive) h hg1 hg2 hl1 hl2 (hk1.trans hk2.symm)

theorem vget_none {s : Redis} {k : Nat} (h : vget s k = none) : ∀ e, get s.entries k = some e → ¬ redisLive.live s.now e.exp :=
  fun _ he hl => nomatch h.symm.trans (vget_eq_some.2 ⟨he, hl⟩)

theorem vget_congr {s s' : Redis} {k : Nat} (hg : get s'.entries k = get s.entries k) (hn : s'.now = s.now) :
    vget s' k = vget s k := by
  unfold vget; rw [hg, hn]

theorem setnxAll_inv (o d : Nat) : ∀ (ks : List Nat) (s : Redis), RInv s → RInv (redisSetnxAll o d ks s).1
  | [], _, h => h
  | k :: ks, s, h => by
    unfold redisSetnxAll
    split
    · rename_i hv
      exact setnxAll_inv o d ks _ (Inv.change_dead (L := redisLive) h (vget_none hv) fun _ hk => get_put_ne _ _ hk)
    · exact setnxAll_inv o d ks s h

theorem grantAll_inv (o : Nat) : ∀ (ks : List Nat) (s : Redis), RInv s → RInv (redisGrantAll o ks s)
  | [], _, h => h
  | k :: ks, s, h => by
    unfold redisGrantAll
    split
    · rename_i e hv
      split
      · rename_i ho
        exact grantAll_inv o ks _ (Inv.grant_existing (L := redisLive) h (vget_eq_some.1 hv).1 (by simpa using ho))
      · exact grantAll_inv o ks s h
    · exact grantAll_inv o ks s h

def Own (o : Nat) (s : Redis) (k : Nat) : Prop := ∃ e, vget s k = some e ∧ e.owner = o

theorem Own.congr {o : Nat} {s s' : Redis} {k : Nat} (h : Own o s k) (hs : SameServer s s') : Own o s' k := by
  obtain ⟨e, hv, ho⟩ := h
  exact ⟨e, (vget_congr (by rw [hs.entries]) hs.now).trans hv, ho⟩

theorem checkFailed_spec (o : Nat) : ∀ (ks : List Nat) (s : Redis),
    SameServer s (redisCheckFailed o ks s).1 ∧
    ((redisCheckFailed o ks s).2.1 = true → ∀ k ∈ ks, Own o s k)
  | [], _ => ⟨⟨rfl, rfl, rfl⟩, fun _ _ h => nomatch h⟩
  | k0 :: ks, s => by
    unfold redisCheckFailed
    split
    · exact ⟨⟨rfl, rfl, rfl⟩, fun h => nomatch h⟩
    · rename_i e hv
      split
      · rename_i ho
        have ih := checkFailed_spec o ks (setFlag s o k0 true)
        refine ⟨ih.1.of_setFlag, fun hr k hk => ?_⟩
        rcases List.mem_cons.1 hk with rfl | hk'
        · exact ⟨e, hv, by simpa using ho⟩
        · exact ih.2 hr k hk'
      · exact ⟨⟨rfl, rfl, rfl⟩, fun h => nomatch h⟩

/-- the two outcomes of `Lock`; `s2`: the state after pipeline 2 -/
theorem redisLock_shape (s : Redis) (o d : Nat) (keys : List Nat) :
    ∃ s2, SameServer (redisSetnxAll o d keys s).1 s2 ∧
      ((redisLock s o d keys = (redisGrantAll o keys s2, true, 0) ∧
          ∀ k ∈ (redisSetnxAll o d keys s).2, Own o s2 k) ∨
        ∃ ow, redisLock s o d keys = (s2, false, ow)) := by
  unfold redisLock
  cases redisSetnxAll o d keys s with
  | mk s1 failed =>
    cases failed with
    | nil => exact ⟨s1, ⟨rfl, rfl, rfl⟩, Or.inl ⟨rfl, fun _ h => nomatch h⟩⟩
    | cons f fs =>
      obtain ⟨hc, hco⟩ := checkFailed_spec o (f :: fs) s1
      cases hr : redisCheckFailed o (f :: fs) s1 with
      | mk s2 r =>
        rw [hr] at hc hco
        obtain ⟨b, ow⟩ := r
        cases b with
        | true => exact ⟨s2, hc, Or.inl ⟨by simp only [hr], fun k hk => (hco rfl k hk).congr hc⟩⟩
        | false => exact ⟨s2, hc, Or.inr ⟨ow, by simp only [hr]⟩⟩

theorem redisLock_inv (s : Redis) (o d : Nat) (keys : List Nat) (h : RInv s) : RInv (redisLock s o d keys).1 := by
  obtain ⟨s2, hc, hl⟩ := redisLock_shape s o d keys
  have h2 : RInv s2 := RInv.congr (setnxAll_inv o d keys s h) hc
  rcases hl with hl | ⟨ow, hl⟩
  · rw [hl.1]; exact grantAll_inv o keys s2 h2
  · rw [hl]; exact h2

theorem redisIsLockedLoop_same (o : Nat) : ∀ (ks : List Nat) (s : Redis) (r : Bool),
    SameServer s (redisIsLockedLoop o ks s r).1
  | [], _, _ => ⟨rfl, rfl, rfl⟩
  | k :: ks, s, r => by
    unfold redisIsLockedLoop
    split
    · exact (redisIsLockedLoop_same o ks (setFlag s o k false) false).of_setFlag
    · split
      · exact (redisIsLockedLoop_same o ks (setFlag s o k false) false).of_setFlag
      · exact (redisIsLockedLoop_same o ks (setFlag s o k true) r).of_setFlag

theorem redisIsLocked_inv (s : Redis) (o : Nat) (keys : List Nat) (h : RInv s) : RInv (redisIsLocked s o keys).1 := by
  exact RInv.congr h (redisIsLockedLoop_same o keys s true)

/-- the usage rule of `IsLockedTTL` on the ghost side: a live lease on `k` is the caller's or ends by `x`. Only the
caller's own leases are added by the loop, so the rule survives it. -/
def TtlOkG (gs : List Grant) (now o x k : Nat) : Prop :=
  ∀ g ∈ gs, g.key = k → now < g.dl → g.owner = o ∨ g.dl ≤ x

/-- from the rule as `redisOpOk` states it, on the entry of the key -/
theorem ttlOkG_of (s : Redis) (h : RInv s) {o d k : Nat} (hk : ∀ e, vget s k = some e → e.owner = o ∨ e.exp ≤ s.now + d) :
    TtlOkG s.grants s.now o (s.now + d) k := by
  intro g hg hgk hl
  obtain ⟨e, he, ho, hx⟩ := h g hg hl
  rcases hk e (vget_eq_some.2 ⟨hgk ▸ he, Nat.lt_of_lt_of_le hl hx⟩) with h1 | h1
  · exact Or.inl (ho ▸ h1)
  · exact Or.inr (Nat.le_trans hx h1)

theorem redisTtlLoop_inv (o d x : Nat) : ∀ (ks : List Nat) (s : Redis) (r : Bool), RInv s → x = s.now + d →
    (∀ k ∈ ks, TtlOkG s.grants s.now o x k) → RInv (redisTtlLoop o d ks s r).1
  | [], _, _, h, _, _ => h
  | k :: ks, s, r, h, hx, hg => by
    have rest : ∀ k' ∈ ks, TtlOkG s.grants s.now o x k' := fun k' hk' => hg k' (List.mem_cons_of_mem _ hk')
    unfold redisTtlLoop
    cases hv : vget s k with
    | none => exact redisTtlLoop_inv o d x ks (setFlag s o k false) false h hx rest
    | some e =>
      simp only []
      obtain ⟨hget, hvis⟩ := vget_eq_some.1 hv
      by_cases ho : (e.owner != o) = true
      · simp only [ho, if_true]
        refine redisTtlLoop_inv o d x ks _ false (Inv.reexp (L := redisLive) h hget fun g hgm hgk hl => ?_) hx rest
        rcases hg k (List.mem_cons_self ..) g hgm hgk hl with h1 | h1
        · obtain ⟨e', he', ho', _⟩ := h g hgm hl
          rw [hgk, hget] at he'; cases he'
          exact absurd (ho'.trans h1) (by simpa using ho)
        · exact hx ▸ h1
      · simp only [ho, Bool.false_eq_true, if_false]
        have hown : e.owner = o := by simpa using ho
        refine redisTtlLoop_inv o d x ks _ r ?_ hx fun k' hk' g hgm hgk hl => ?_
        · show Inv redisLive (put s.entries ⟨k, e.owner, s.now + d⟩) (grant s.grants ⟨k, o, s.now + d⟩) s.now
          rw [hown]
          exact Inv.put_grant h fun e' he' => Or.inr (by rw [hget] at he'; cases he'; exact hown)
        · rcases mem_grant.1 hgm with rfl | ⟨hg1, _⟩
          · exact Or.inl rfl
          · exact rest k' hk' g hg1 hgk hl

theorem delAll_same : ∀ (ks : List Nat) (s : Redis),
    (redisDelAll ks s).grants = s.grants ∧ (redisDelAll ks s).now = s.now ∧ (redisDelAll ks s).flags = s.flags
  | [], _ => ⟨rfl, rfl, rfl⟩
  | k :: ks, s => by unfold redisDelAll; exact delAll_same ks _

theorem delAll_get : ∀ (ks : List Nat) (s : Redis) (k : Nat),
    get (redisDelAll ks s).entries k = if k ∈ ks then none else get s.entries k
  | [], _, _ => by simp [redisDelAll]
  | k0 :: ks, s, k => by
    unfold redisDelAll
    rw [delAll_get ks]
    by_cases h0 : k = k0
    · subst h0; simp [get_del_same]
    · simp [h0, get_del_ne _ h0]

-- no user in the development
theorem delAll_get_mem : ∀ (ks : List Nat) (s : Redis) (k : Nat), k ∈ ks → get (redisDelAll ks s).entries k = none :=
  fun ks s k h => by rw [delAll_get, if_pos h]

theorem delAll_get_not_mem : ∀ (ks : List Nat) (s : Redis) (k : Nat), k ∉ ks → get (redisDelAll ks s).entries k = get s.entries k :=
  fun ks s k h => by rw [delAll_get, if_neg h]

theorem redisUnlock_grants (s : Redis) (o : Nat) (keys : List Nat) :
    (redisUnlock s o keys).grants = releaseAll o keys s.grants ∧ (redisUnlock s o keys).now = s.now := by
  have h := delAll_same (keys.filter (flagged s o)) s
  exact ⟨congrArg _ h.1, h.2.1⟩

theorem redisUnlock_keeps (s : Redis) (o : Nat) (keys : List Nat) :
    ∀ g ∈ s.grants, g.owner ≠ o → g ∈ (redisUnlock s o keys).grants := fun g hg ho => by
  rw [(redisUnlock_grants s o keys).1]; exact mem_releaseAll.2 ⟨hg, fun h => ho h.2⟩

theorem redisUnlock_inv (s : Redis) (o : Nat) (keys : List Nat) (h : RInv s)
    (hg : ∀ k ∈ keys, flagged s o k = true → ∀ e, vget s k = some e → e.owner = o) : RInv (redisUnlock s o keys) := by
  intro g hgm hl
  rw [(redisUnlock_grants s o keys).1] at hgm
  rw [(redisUnlock_grants s o keys).2] at hl
  obtain ⟨hg1, hg2⟩ := mem_releaseAll.1 hgm
  obtain ⟨e, he, ho, hx⟩ := h g hg1 hl
  by_cases hdel : g.key ∈ keys.filter (flagged s o)
  · -- the key was deleted: then it carried the caller's value, so the lease was the caller's and is released
    obtain ⟨hk, hf⟩ := List.mem_filter.1 hdel
    have hvis : s.now < e.exp := Nat.lt_of_lt_of_le hl hx
    have hv : vget s g.key = some e := vget_eq_some.2 ⟨he, hvis⟩
    exact absurd ⟨hk, ho ▸ hg g.key hk hf e hv⟩ hg2
  · exact ⟨e, (delAll_get_not_mem _ s _ hdel).trans he, ho, hx⟩

theorem redisStep_inv (s : Redis) (op : RedisOp) (h : RInv s) (hok : redisOpOk s op = true) : RInv (redisStep s op).1 := by
  cases op with
  | adv d => exact Inv.time (n' := s.now + d) h (Nat.le_add_right _ _)
  | lock o d keys => exact redisLock_inv s o d keys h
  | dualLock o d keys =>
    simp only [redisStep]
    have h1 := redisLock_inv s o d keys h
    cases hr : redisLock s o d keys with
    | mk s2 r =>
      rw [hr] at h1
      obtain ⟨b, ow⟩ := r
      cases b with
      | false => exact h1
      | true => exact redisIsLocked_inv s2 o keys h1
  | isLocked o keys => exact redisIsLocked_inv s o keys h
  | isLockedTTL o d keys =>
    refine redisTtlLoop_inv o d _ keys s true h rfl fun k hk => ttlOkG_of s h fun e he => ?_
    simp only [redisOpOk, List.all_eq_true] at hok
    have := hok k hk
    rw [he] at this
    simpa using this
  | unlock o keys =>
    apply redisUnlock_inv s o keys h
    intro k hk hf e he
    simp only [redisOpOk, List.all_eq_true] at hok
    have := hok k hk
    rw [he, hf] at this
    simpa using this

theorem redisRun_inv : ∀ (ops : List RedisOp) (s : Redis), RInv s → redisDisciplined s ops = true → RInv (redisRun s ops)
  | [], _, h, _ => h
  | op :: ops, s, h, hd => by
    simp only [redisDisciplined, Bool.and_eq_true] at hd
    show RInv (redisRun (redisStep s op).1 ops)
    exact redisRun_inv ops _ (redisStep_inv s op h hd.1) hd.2

/-! A successful `Lock` is recorded: every listed key ends up `Leased`. -/

-- no user in the development
theorem setnxAll_now (o d : Nat) : ∀ (ks : List Nat) (s : Redis), (redisSetnxAll o d ks s).1.now = s.now
  | [], _ => rfl
  | k :: ks, s => by
    unfold redisSetnxAll
    split
    · rw [setnxAll_now o d ks]; rfl
    · exact setnxAll_now o d ks s

theorem setnxAll_own (o d : Nat) (hd : 0 < d) (k : Nat) : ∀ (ks : List Nat) (s : Redis),
    (Own o s k → Own o (redisSetnxAll o d ks s).1 k) ∧
    (k ∈ ks → Own o (redisSetnxAll o d ks s).1 k ∨ k ∈ (redisSetnxAll o d ks s).2)
  | [], _ => ⟨id, fun h => nomatch h⟩
  | k0 :: ks, s => by
    unfold redisSetnxAll
    split
    · rename_i hv
      have ih := setnxAll_own o d hd k ks (setFlag { s with entries := put s.entries ⟨k0, o, s.now + d⟩ } o k0 true)
      refine ⟨fun ⟨e, he, ho⟩ => ih.1 ?_, fun h => ?_⟩
      · have hne : k ≠ k0 := by intro hk; subst hk; rw [hv] at he; cases he
        exact ⟨e, (vget_congr (s' := { s with entries := put s.entries ⟨k0, o, s.now + d⟩ }) (get_put_ne _ _ hne) rfl).trans he, ho⟩
      · rcases List.mem_cons.1 h with rfl | hk
        · exact Or.inl (ih.1 ⟨⟨k, o, s.now + d⟩,
            vget_eq_some.2 ⟨get_put_same _ ⟨k, o, s.now + d⟩, Nat.lt_add_of_pos_right hd⟩, rfl⟩)
        · exact ih.2 hk
    · have ih := setnxAll_own o d hd k ks s
      refine ⟨ih.1, fun h => ?_⟩
      rcases List.mem_cons.1 h with rfl | hk
      · exact Or.inr (List.mem_cons_self ..)
      · exact (ih.2 hk).imp id (List.mem_cons_of_mem _)

-- no user in the development
theorem grantAll_same (o : Nat) : ∀ (ks : List Nat) (s : Redis),
    (redisGrantAll o ks s).entries = s.entries ∧ (redisGrantAll o ks s).now = s.now
  | [], _ => ⟨rfl, rfl⟩
  | k :: ks, s => by
    unfold redisGrantAll
    split
    · split
      · exact grantAll_same o ks _
      · exact grantAll_same o ks s
    · exact grantAll_same o ks s

theorem grantAll_holds (o k : Nat) : ∀ (ks : List Nat) (s : Redis),
    Leased o s k ∨ (k ∈ ks ∧ Own o s k) → Leased o (redisGrantAll o ks s) k
  | [], _, h => h.elim id fun h => nomatch h.1
  | k0 :: ks, s, h => by
    -- a listed key that is the caller's and is not granted at this step is further down the list
    have rest : (∀ e, vget s k0 = some e → e.owner ≠ o) → Leased o s k ∨ (k ∈ ks ∧ Own o s k) := fun hno =>
      h.imp id fun ⟨hm, e, hv, ho⟩ =>
        ⟨(List.mem_cons.1 hm).resolve_left fun hk => hno e (hk ▸ hv) ho, e, hv, ho⟩
    unfold redisGrantAll
    split
    · rename_i e hv
      split
      · apply grantAll_holds o k ks
        by_cases hkk : k = k0
        · exact Or.inl ⟨⟨k0, o, e.exp⟩, mem_grant.2 (Or.inl rfl), hkk.symm, (vget_eq_some.1 hv).2, rfl⟩
        · exact h.imp
            (fun ⟨g, hg, hk, hl, hgo⟩ => ⟨g, mem_grant.2 (Or.inr ⟨hg, fun a => hkk (hk ▸ a.1)⟩), hk, hl, hgo⟩)
            (fun ⟨hm, ho'⟩ => ⟨(List.mem_cons.1 hm).resolve_left hkk, ho'⟩)
      · rename_i ho
        exact grantAll_holds o k ks s (rest fun e' he' => by
          obtain rfl : e = e' := Option.some.inj (hv.symm.trans he')
          simpa using ho)
    · rename_i hv
      exact grantAll_holds o k ks s (rest fun e' he' => by rw [hv] at he'; cases he')

/-- the ghost misses no holder: a `Lock` that answers true has handed out a live lease on every listed key -/
theorem redisLock_true_holds (s : Redis) (o d : Nat) (keys : List Nat) (hd : 0 < d)
    (hok : (redisLock s o d keys).2.1 = true) : ∀ k ∈ keys, Leased o (redisLock s o d keys).1 k := by
  intro k hk
  obtain ⟨s2, hc, hl | ⟨ow, hl⟩⟩ := redisLock_shape s o d keys
  · rw [hl.1]
    refine grantAll_holds o k keys s2 (Or.inr ⟨hk, ?_⟩)
    rcases (setnxAll_own o d hd k keys s).2 hk with h1 | h1
    · exact h1.congr hc
    · exact hl.2 k h1
  · rw [hl] at hok; cases hok

end Sop.Locks
