import Sop.Lemmas.BTreeHeap
/-! The repository under `put` and `upd`, and what holds of the counters between public calls: `Idle` (no deferred action
pending), `Fresh` (ids handed out are new).
How many nodes are stored, which ids are absent and whether the counter is ahead of them all depend only on the list of stored
ids (`ids`, BTreeHeap); `Alloc` collects what follows when that list grew by the ids handed out since (`Alloc.of_ids`). -/
namespace Sop.BTree.Ins
open Sop.BTree

/-- no deferred distribute/promote action is pending (true between public calls) -/
def Idle (t : BTree) : Prop := t.distSrc = 0 ∧ t.promTarget = 0

def Fresh (t : BTree) : Prop := 0 < t.nextId ∧ ∀ nd ∈ t.nodes, nd.id < t.nextId

theorem find?_putNode (nd : Node) (x : NodeId) : ∀ (l : List Node),
    (putNode nd l).find? (fun y => y.id == x) = if nd.id = x then some nd else l.find? (fun y => y.id == x)
  | [] => by
    by_cases h : nd.id = x <;> simp [putNode, h]
  | y :: ys => by
    unfold putNode
    by_cases hy : (y.id == nd.id) = true
    · rw [if_pos hy]
      have hy' : y.id = nd.id := by simpa using hy
      by_cases h : nd.id = x
      · simp [h]
      · have : ¬ y.id = x := by rw [hy']; exact h
        simp [h, this]
    · rw [if_neg hy]
      have hy' : ¬ y.id = nd.id := by simpa using hy
      by_cases hyx : y.id = x
      · have : ¬ nd.id = x := by rw [← hyx]; exact fun e => hy' e.symm
        simp [hyx, this]
      · simp only [List.find?_cons, show (y.id == x) = false by simpa using hyx]
        exact find?_putNode nd x ys

theorem get?_put (t : BTree) (nd : Node) (x : NodeId) :
    (t.put nd).get? x = if nd.id = x then some nd else t.get? x := by
  unfold BTree.put BTree.get?
  exact find?_putNode nd x t.nodes

theorem fresh_iff (t : BTree) : Fresh t ↔ 0 < t.nextId ∧ ∀ x ∈ ids t, x < t.nextId :=
  and_congr_right fun _ => ⟨fun h x hx => by obtain ⟨nd, hnd, rfl⟩ := List.mem_map.mp hx; exact h nd hnd,
    fun h nd hnd => h _ (List.mem_map_of_mem hnd)⟩

theorem putNode_length_fresh (nd : Node) : ∀ (l : List Node), l.find? (fun y => y.id == nd.id) = none →
    (putNode nd l).length = l.length + 1 := fun l h => by
  have h' : nd.id ∉ l.map (·.id) := fun hm => by
    obtain ⟨y, hy, e⟩ := List.mem_map.mp hm
    exact List.find?_eq_none.mp h y hy (by simpa using e)
  rw [← List.length_map (·.id), ids_putNode nd l h', List.length_append, List.length_map, List.length_singleton]

theorem mem_putNode {nd x : Node} : ∀ (l : List Node), x ∈ putNode nd l → x = nd ∨ x ∈ l
  | [], h => by simp [putNode] at h; exact Or.inl h
  | y :: ys, h => by
    unfold putNode at h
    split at h
    · rcases List.mem_cons.mp h with h | h
      · exact Or.inl h
      · exact Or.inr (List.mem_cons_of_mem _ h)
    · rcases List.mem_cons.mp h with h | h
      · exact Or.inr (h ▸ List.mem_cons_self)
      · rcases mem_putNode ys h with h | h
        · exact Or.inl h
        · exact Or.inr (List.mem_cons_of_mem _ h)

theorem fresh_not_mem {t : BTree} (h : Fresh t) {x : NodeId} (hx : t.nextId ≤ x) : x ∉ ids t :=
  fun hm => Nat.lt_irrefl _ (Nat.lt_of_lt_of_le (((fresh_iff t).mp h).2 x hm) hx)

theorem fresh_get? {T : BTree} (h : Fresh T) {x : NodeId} (hx : T.nextId ≤ x) : T.get? x = none :=
  (get?_eq_none_iff T x).mpr (fresh_not_mem h hx)

theorem fresh_put {t : BTree} (h : Fresh t) {nd : Node} (hid : nd.id < t.nextId) : Fresh (t.put nd) := by
  refine ⟨h.1, ?_⟩
  intro x hx
  rcases mem_putNode _ hx with e | hx
  · rw [e]; exact hid
  · exact h.2 x hx

theorem put_length_fresh (t : BTree) (nd : Node) (h : t.get? nd.id = none) :
    (t.put nd).nodes.length = t.nodes.length + 1 := by
  rw [← ids_length, ids_put t nd ((get?_eq_none_iff t _).mp h), List.length_append, ids_length, List.length_singleton]

theorem fresh_upd {T : BTree} (h : Fresh T) (n : NodeId) (F : Node → Node) (hF : ∀ x, (F x).id = x.id) :
    Fresh (T.upd n F) := by
  rw [fresh_iff, ids_upd T n F hF]
  exact (fresh_iff T).mp h

/-- between `t` and `t'` the next `k` ids were handed out and nodes were stored under them; nothing stored was dropped -/
structure Alloc (t t' : BTree) (k : Nat) : Prop where
  len : t'.nodes.length = t.nodes.length + k
  next : t'.nextId = t.nextId + k
  fresh : Fresh t → Fresh t'
  keep : ∀ x, (t.get? x).isSome → (t'.get? x).isSome

/-- how `Alloc` is shown for a model step: its repository holds the old ids and the new ones (a root split stores the
    second of its two new nodes first, hence up to order) -/
theorem Alloc.of_ids {t t' : BTree} {k : Nat} (hi : (ids t').Perm (ids t ++ List.range' t.nextId k))
    (hn : t'.nextId = t.nextId + k) : Alloc t t' k := by
  refine ⟨by rw [← ids_length, hi.length_eq, List.length_append, List.length_range', ids_length], hn, fun hf => ?_,
    fun x hx => (isSome_get?_iff t' x).mpr (hi.mem_iff.mpr (List.mem_append_left _ ((isSome_get?_iff t x).mp hx)))⟩
  rw [fresh_iff] at hf ⊢
  rw [hn]
  refine ⟨Nat.lt_of_lt_of_le hf.1 (Nat.le_add_right _ _), fun x hx => ?_⟩
  rcases List.mem_append.mp (hi.mem_iff.mp hx) with hx | hx
  · exact Nat.lt_of_lt_of_le (hf.2 x hx) (Nat.le_add_right _ _)
  · exact (List.mem_range'_1.mp hx).2

theorem Alloc.of_ids_eq {t t' : BTree} (hi : ids t' = ids t) (hn : t'.nextId = t.nextId) : Alloc t t' 0 :=
  Alloc.of_ids (by rw [hi, List.range'_zero, List.append_nil]) hn

theorem Alloc.refl (t : BTree) : Alloc t t 0 := ⟨rfl, rfl, id, fun _ h => h⟩

theorem Alloc.trans {a b c : BTree} {j k : Nat} (h1 : Alloc a b j) (h2 : Alloc b c k) : Alloc a c (j + k) :=
  ⟨by rw [h2.len, h1.len, Nat.add_assoc], by rw [h2.next, h1.next, Nat.add_assoc], fun hf => h2.fresh (h1.fresh hf),
    fun x hx => h2.keep x (h1.keep x hx)⟩

theorem Alloc.congr {t s s' : BTree} {k : Nat} (h : Alloc t s k) (hn : s'.nodes = s.nodes) (hx : s'.nextId = s.nextId) :
    Alloc t s' k := by
  have hg : ∀ x, s'.get? x = s.get? x := fun x => by unfold BTree.get?; rw [hn]
  refine ⟨hn ▸ h.len, hx.trans h.next, fun hf => ?_, fun x hs => (hg x).symm ▸ h.keep x hs⟩
  have := h.fresh hf
  unfold Fresh at this ⊢
  rw [hn, hx]; exact this

theorem Alloc.upd {t s : BTree} {k : Nat} (h : Alloc t s k) (n : NodeId) (F : Node → Node) (hF : ∀ x, (F x).id = x.id) :
    Alloc t (s.upd n F) k :=
  h.trans (Alloc.of_ids_eq (ids_upd s n F hF) rfl)

theorem Alloc.lt {t t' : BTree} {k : Nat} (h : Alloc t t' k) (hk : 0 < k) : t.nextId < t'.nextId :=
  h.next ▸ Nat.lt_add_of_pos_right hk

theorem Fresh.news_none {t : BTree} (hf : Fresh t) {k : Nat} {x : NodeId} (hx : x ∈ List.range' t.nextId k) : t.get? x = none :=
  fresh_get? hf (List.mem_range'_1.mp hx).1

end Sop.BTree.Ins
