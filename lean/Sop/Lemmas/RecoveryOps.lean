import Sop.Lemmas.Recovery
import Sop.Lemmas.CommitFlipState
/-!
The commit's durable calls as named segments, cut where a later proof splits the run: new roots written /
reservations written / removal marks written / added nodes written / priority log written / flip / cleanup; what one
durable call changes, and which logical ids each segment writes. "Log line 12" in names (`new_after_log12`,
`noLog12_segPre`) is the line of `Step.deleteObsoleteEntries`, the first thing cleanup does.
-/
namespace Sop.Recovery
open Sop.Commit

def dsOf (w : WS) : List (Nat × Int) := (w.stores.filter (·.delta != 0)).map (fun st => (st.store, st.delta))
/-- the counts of the new outcome are those of `C01_ok_applies_count_deltas` -/
theorem countsAfter_eq_addCnts (w : WS) (s : State) : w.countsAfter s = (addCnts s (dsOf w)).cnt := rfl

def stagedOf (s : State) (fresh : List (UUID × UUID)) (w : WS) : List UUID := (reservedOf s fresh w).map (·.inactive)
def finalOf (s : State) (fresh : List (UUID × UUID)) (w : WS) : List Handle :=
  finalImgs (reservedOf s fresh w) (markedOf s w)
def unusedOf (s : State) (fresh : List (UUID × UUID)) (w : WS) : List UUID :=
  unusedIds (reservedOf s fresh w) (markedOf s w)
def deadOf (s : State) (w : WS) : List UUID := (markedOf s w).map (·.lid)
def addedHOf (w : WS) : List Handle := w.addedIds.map addedImage
def finEntry (s : State) (fresh : List (UUID × UUID)) (w : WS) : Entry :=
  ⟨.finalizeCommit, .obsolete (deadOf s w) (unusedOf s fresh w) w.obsoleteValues⟩

/-- phase 1 up to the log line of `commitNewRootNodes`: no registry call -/
def segValues (w : WS) : List DOp :=
  [.log ⟨.lockTrackedItems, .none⟩, .log ⟨.commitTrackedItemsValues, .ids w.values⟩]
  ++ (w.stores.filter (!·.values.isEmpty)).map (fun st => .blobAdd st.values)
  ++ [.log ⟨.commitNewRootNodes, .idsBlobs w.rootIds w.rootIds⟩]
def segRoot (w : WS) : List DOp := when (!w.rootIds.isEmpty) [.blobAdd w.rootIds, .regAdd (w.rootIds.map Handle.new)]
def segIntactLog : List DOp := [.log ⟨.areFetchedItemsIntact, .none⟩]
def segUpdated (s : State) (fresh : List (UUID × UUID)) (w : WS) : List DOp :=
  when (!w.updated.isEmpty) [.regUpd (reservedOf s fresh w) false, .blobAdd (stagedOf s fresh w)]
def segUpdRemLogs (s : State) (fresh : List (UUID × UUID)) (w : WS) : List DOp :=
  [.log ⟨.commitUpdatedNodes, .ids (stagedOf s fresh w)⟩, .log ⟨.commitRemovedNodes, .ids (w.removed.map (·.1))⟩]
def segRemoved (s : State) (w : WS) : List DOp := when (!w.removed.isEmpty) [.regUpd (markedOf s w) false]
def segAdded (w : WS) : List DOp :=
  [.log ⟨.commitAddedNodes, .idsBlobs w.addedIds w.addedIds⟩]
  ++ when (!w.addedIds.isEmpty) [.regAdd (addedHOf w), .blobAdd w.addedIds]
  ++ [.log ⟨.commitStoreInfo, .stores (w.stores.map (·.store))⟩]
def segCnt (w : WS) : List DOp := when (!(dsOf w).isEmpty) [.cnt (dsOf w)]
def segBeforeFinalizeLog : List DOp := [.log ⟨.beforeFinalize, .none⟩]
def segPlogAdd (s : State) (fresh : List (UUID × UUID)) (w : WS) : List DOp :=
  when (!(reservedOf s fresh w).isEmpty || !(markedOf s w).isEmpty) [.plogAdd (reservedOf s fresh w ++ markedOf s w)]
def segFinalizeLog (s : State) (fresh : List (UUID × UUID)) (w : WS) : List DOp := [.log (finEntry s fresh w)]
def segFlip (s : State) (fresh : List (UUID × UUID)) (w : WS) : List DOp :=
  when (!(finalOf s fresh w).isEmpty) [.regUpd (finalOf s fresh w) true, .plogRemove]
def segCleanupLog : List DOp := [.log ⟨.deleteObsoleteEntries, .none⟩]
def segCleanNodes (s : State) (fresh : List (UUID × UUID)) (w : WS) : List DOp :=
  when (!(unusedOf s fresh w).isEmpty) [.blobRemove (unusedOf s fresh w)] ++ [.regRemove (deadOf s w)]
def segCleanValues (w : WS) : List DOp :=
  [.log ⟨.deleteTrackedItemsValues, .none⟩]
  ++ (w.stores.filter (!·.obsoleteValues.isEmpty)).map (fun st => .blobRemove st.obsoleteValues)
/-- cleanup after its first log line, up to the removal of the log -/
def segClean (s : State) (fresh : List (UUID × UUID)) (w : WS) : List DOp := segCleanNodes s fresh w ++ segCleanValues w

/-- phase 1 up to and including the log line of `commitStoreInfo` -/
def segPhase1 (s : State) (fresh : List (UUID × UUID)) (w : WS) : List DOp :=
  segValues w ++ (segRoot w ++ (segIntactLog ++ (segUpdated s fresh w ++ (segUpdRemLogs s fresh w ++ (segRemoved s w ++ segAdded w)))))

/-- from the count update to the log line of `finalizeCommit`: no registry or blob call -/
def segTail (s : State) (fresh : List (UUID × UUID)) (w : WS) : List DOp :=
  segCnt w ++ (segBeforeFinalizeLog ++ (segPlogAdd s fresh w ++ segFinalizeLog s fresh w))

def segPre (s : State) (fresh : List (UUID × UUID)) (w : WS) : List DOp := segPhase1 s fresh w ++ segTail s fresh w

def segUptoCleanupLog (s : State) (fresh : List (UUID × UUID)) (w : WS) : List DOp :=
  segPre s fresh w ++ (segFlip s fresh w ++ segCleanupLog)

theorem segPre_append (s : State) (fresh : List (UUID × UUID)) (w : WS) (X : List DOp) :
    segPre s fresh w ++ X = segValues w ++ (segRoot w ++ (segIntactLog ++ (segUpdated s fresh w ++ (segUpdRemLogs s fresh w ++ (segRemoved s w ++
      (segAdded w ++ (segTail s fresh w ++ X))))))) := by
  simp only [segPre, segPhase1, List.append_assoc]

theorem commitOps_eq' (s : State) (fresh : List (UUID × UUID)) (w : WS) :
    commitOps s fresh w = segPre s fresh w ++ (segFlip s fresh w ++ (segCleanupLog ++ (segClean s fresh w ++ [DOp.tlogRemove]))) := by
  unfold commitOps segPre segTail segPhase1 segValues segAdded segClean segCleanNodes segCleanValues
  simp only [List.append_assoc]
  rfl

theorem commitOps_eq (s : State) (fresh : List (UUID × UUID)) (w : WS) :
    commitOps s fresh w =
      segPre s fresh w ++ (segFlip s fresh w ++ (segCleanupLog ++ (segCleanNodes s fresh w ++ (segCleanValues w ++ [.tlogRemove])))) := by
  rw [commitOps_eq']; simp only [segClean, List.append_assoc]

theorem run_append (d : DState) (a b : List DOp) : run d (a ++ b) = run (run d a) b := by
  simp [run, List.foldl_append]

@[simp] theorem run_nil (d : DState) : run d [] = d := rfl
@[simp] theorem run_cons (d : DState) (o : DOp) (l : List DOp) : run d (o :: l) = run (o.apply d) l := rfl

theorem take_append_cases {α : Type} (a b : List α) (m : Nat) :
    (a ++ b).take m = a.take m ∨ ∃ k, (a ++ b).take m = a ++ b.take (k + 1) := by
  rcases Nat.lt_or_ge a.length m with h | h
  · obtain ⟨k, rfl⟩ := Nat.exists_eq_add_of_lt h
    exact .inr ⟨k, by rw [Nat.add_assoc, List.take_length_add_append]⟩
  · exact .inl (List.take_append_of_le_length h)

theorem run_inv (P : DState → Prop) (l : List DOp) (hstep : ∀ o ∈ l, ∀ d, P d → P (o.apply d)) (d : DState) (h : P d) :
    P (run d l) :=
  List.foldlRecOn l _ h fun d hd o ho => hstep o ho d hd

theorem run_take_inv (P : DState → Prop) (l : List DOp) (hstep : ∀ o ∈ l, ∀ d, P d → P (o.apply d)) :
    ∀ (m : Nat) (d : DState), P d → P (run d (l.take m)) :=
  fun m d h => run_inv P (l.take m) (fun o ho => hstep o (List.mem_of_mem_take ho)) d h

def DOp.lids : DOp → List UUID
  | .regAdd hs => hs.map (·.lid)
  | .regUpd hs _ => hs.map (·.lid)
  | .regRemove ids => ids
  | _ => []

def DOp.dels : DOp → List UUID
  | .blobRemove ids => ids
  | _ => []

def DOp.isCnt : DOp → Bool
  | .cnt _ => true
  | _ => false

def DOp.isPlogRemove : DOp → Bool
  | .plogRemove => true
  | _ => false

def DOp.isLog (st : Step) : DOp → Bool
  | .log e => e.step == st
  | _ => false

def DOp.isTlogRemove : DOp → Bool
  | .tlogRemove => true
  | _ => false

def DOp.isPlogOp : DOp → Bool
  | .plogAdd _ => true
  | .plogRemove => true
  | _ => false

/-- what the calls made so far hold: the vocabulary of the crash windows -/
def hasCnt (p : List DOp) : Bool := p.any DOp.isCnt
def hasPlogRemove (p : List DOp) : Bool := p.any DOp.isPlogRemove
def hasLog (st : Step) (p : List DOp) : Bool := p.any (DOp.isLog st)
def hasTlogRemove (p : List DOp) : Bool := p.any DOp.isTlogRemove

theorem hasLog_append (st : Step) (a b : List DOp) : hasLog st (a ++ b) = (hasLog st a || hasLog st b) := by
  simp [hasLog, List.any_append]
theorem hasCnt_append (a b : List DOp) : hasCnt (a ++ b) = (hasCnt a || hasCnt b) := by
  simp [hasCnt, List.any_append]
theorem hasPlogRemove_append (a b : List DOp) : hasPlogRemove (a ++ b) = (hasPlogRemove a || hasPlogRemove b) := by
  simp [hasPlogRemove, List.any_append]

theorem any_take_false {p : DOp → Bool} {l : List DOp} (h : ∀ o ∈ l, p o = false) (m : Nat) : (l.take m).any p = false :=
  List.any_eq_false.mpr fun o ho => by simp [h o (List.mem_of_mem_take ho)]

theorem addCnts_reg (ds : List (Nat × Int)) (s : State) : (addCnts s ds).reg = s.reg :=
  foldl_keeps (·.reg) _ (fun _ (_, _) => rfl) ds s

theorem addCnts_blob (ds : List (Nat × Int)) (s : State) : (addCnts s ds).blob = s.blob :=
  foldl_keeps (·.blob) _ (fun _ (_, _) => rfl) ds s

theorem addCnts_tlog (ds : List (Nat × Int)) (s : State) : (addCnts s ds).tlog = s.tlog :=
  foldl_keeps (·.tlog) _ (fun _ (_, _) => rfl) ds s

theorem apply_tid (d : DState) (o : DOp) : (o.apply d).tid = d.tid := by
  cases o <;> rfl

theorem apply_reg (d : DState) (o : DOp) (k : UUID) (h : k ∉ o.lids) : (o.apply d).s.reg k = d.s.reg k := by
  cases o with
  | regAdd hs | regUpd hs _ =>
    exact State.setRegs_reg_of_not_mem _ _ _ (fun x hx e => h (e ▸ List.mem_map_of_mem (f := (·.lid)) hx))
  | regRemove ids => exact State.delRegs_reg_of_not_mem _ _ _ h
  | cnt ds => exact congrFun (addCnts_reg ds d.s) k
  | blobAdd ids => exact congrFun (State.addBlobs_reg d.s ids) k
  | blobRemove ids => exact congrFun (State.delBlobs_reg d.s ids) k
  | _ => rfl

theorem apply_blob_keep (d : DState) (o : DOp) (x : UUID) (h : x ∉ o.dels) (hb : d.s.blob x = true) :
    (o.apply d).s.blob x = true := by
  cases o with
  | regAdd hs | regUpd hs _ => exact (congrFun (State.setRegs_blob d.s hs) x).trans hb
  | regRemove ids => exact (congrFun (State.delRegs_blob d.s ids) x).trans hb
  | cnt ds => exact (congrFun (addCnts_blob ds d.s) x).trans hb
  | blobAdd ids => exact (State.addBlobs_blob d.s ids x).trans (by simp [hb])
  | blobRemove ids => exact (State.delBlobs_blob d.s ids x).trans (by simp [hb, show x ∉ ids from h])
  | _ => exact hb

theorem apply_cnt (d : DState) (o : DOp) (h : o.isCnt = false) : (o.apply d).s.cnt = d.s.cnt := by
  cases o with
  | regAdd hs | regUpd hs _ => exact State.setRegs_cnt d.s hs
  | regRemove ids => exact State.delRegs_cnt d.s ids
  | cnt ds => cases h
  | blobAdd ids => exact State.addBlobs_cnt d.s ids
  | blobRemove ids => exact State.delBlobs_cnt d.s ids
  | _ => rfl

theorem apply_plg (d : DState) (o : DOp) (h : o.isPlogOp = false) : (o.apply d).plg = d.plg := by
  cases o <;> first | rfl | simp [DOp.isPlogOp] at h

theorem run_take_log (P : Entry → Prop) (l : List DOp) (hl : ∀ e, DOp.log e ∈ l → P e) (m : Nat) (d : DState)
    (hd : ∀ e ∈ d.log, P e) : ∀ e ∈ (run d (l.take m)).log, P e := by
  refine run_take_inv (fun d => ∀ e ∈ d.log, P e) l (fun o ho d hd => ?_) m d hd
  cases o with
  | log e =>
    intro e' he'
    rcases List.mem_append.mp he' with he' | he'
    · exact hd e' he'
    · exact List.mem_singleton.mp he' ▸ hl e ho
  | tlogRemove => exact fun _ h => nomatch h
  | _ => exact hd

def logsOf (l : List DOp) : List Entry := l.filterMap (fun o => match o with | .log e => some e | _ => none)

theorem logsOf_append (a b : List DOp) : logsOf (a ++ b) = logsOf a ++ logsOf b := by
  simp [logsOf, List.filterMap_append]

theorem mem_logsOf {l : List DOp} {e : Entry} (h : e ∈ logsOf l) : DOp.log e ∈ l := by
  obtain ⟨o, ho, e1⟩ := List.mem_filterMap.mp h
  cases o <;> simp at e1
  subst e1; exact ho

theorem run_log (l : List DOp) (hno : ∀ o ∈ l, o.isTlogRemove = false) :
    ∀ d : DState, (run d l).log = d.log ++ logsOf l := by
  induction l with
  | nil => intro d; simp [logsOf]
  | cons o t ih =>
    intro d
    have ho := hno o (List.mem_cons_self ..)
    rw [run_cons, ih (fun o' ho' => hno o' (List.mem_cons_of_mem _ ho'))]
    cases o <;> simp [DOp.apply, logsOf, DOp.isTlogRemove] at ho ⊢

theorem run_reg (l : List DOp) (k : UUID) (h : ∀ o ∈ l, k ∉ o.lids) (d : DState) : (run d l).s.reg k = d.s.reg k :=
  run_inv (fun d' => d'.s.reg k = d.s.reg k) l (fun o ho d' hd => (apply_reg d' o k (h o ho)).trans hd) d rfl

theorem run_blob_keep (l : List DOp) (x : UUID) (h : ∀ o ∈ l, x ∉ o.dels) (d : DState) (hb : d.s.blob x = true) :
    (run d l).s.blob x = true :=
  run_inv (fun d' => d'.s.blob x = true) l (fun o ho d' hd => apply_blob_keep d' o x (h o ho) hd) d hb

theorem run_keeps {d : DState} {h : Handle} {x : UUID} (l : List DOp) (hl : ∀ o ∈ l, h.lid ∉ o.lids ∧ x ∉ o.dels)
    (hr : d.s.reg h.lid = some h) (hb : d.s.blob x = true) :
    (run d l).s.reg h.lid = some h ∧ (run d l).s.blob x = true :=
  ⟨(run_reg l _ (fun o ho => (hl o ho).1) d).trans hr, run_blob_keep l x (fun o ho => (hl o ho).2) d hb⟩

theorem run_cnt (l : List DOp) (h : ∀ o ∈ l, o.isCnt = false) (d : DState) : (run d l).s.cnt = d.s.cnt :=
  run_inv (fun d' => d'.s.cnt = d.s.cnt) l (fun o ho d' hd => (apply_cnt d' o (h o ho)).trans hd) d rfl

theorem run_plg (l : List DOp) (h : ∀ o ∈ l, o.isPlogOp = false) (d : DState) : (run d l).plg = d.plg :=
  run_inv (fun d' => d'.plg = d.plg) l (fun o ho d' hd => (apply_plg d' o (h o ho)).trans hd) d rfl

theorem run_tid (l : List DOp) (d : DState) : (run d l).tid = d.tid :=
  run_inv (fun d' => d'.tid = d.tid) l (fun o _ d' hd => (apply_tid d' o).trans hd) d rfl

theorem mem_when {c : Bool} {l : List DOp} {o : DOp} (h : o ∈ when c l) : o ∈ l := by
  unfold when at h
  split at h
  · exact h
  · cases h

theorem cond_of_mem_when {c : Bool} {l : List DOp} {o : DOp} (h : o ∈ when c l) : c = true := by
  cases c
  · cases h
  · rfl

theorem all_when {P : DOp → Prop} {c : Bool} {l : List DOp} (h : ∀ o ∈ l, P o) : ∀ o ∈ when c l, P o :=
  fun o ho => h o (mem_when ho)

theorem all_one {P : DOp → Prop} {a : DOp} (ha : P a) : ∀ o ∈ [a], P o :=
  fun _ ho => List.mem_singleton.mp ho ▸ ha

theorem all_two {P : DOp → Prop} {a b : DOp} (ha : P a) (hb : P b) : ∀ o ∈ [a, b], P o := by
  intro o ho
  rcases List.mem_cons.mp ho with rfl | ho
  · exact ha
  · exact all_one hb o ho

theorem when_of_nonempty {α : Type} {ids : List α} {i : α} (hi : i ∈ ids) (ops : List DOp) : when (!ids.isEmpty) ops = ops := by
  cases ids with
  | nil => cases hi
  | cons _ _ => rfl

theorem addedH_lids (w : WS) : (addedHOf w).map (·.lid) = w.addedIds := by
  simp only [addedHOf, List.map_map]
  conv => rhs; rw [← List.map_id w.addedIds]
  rfl

section
variable {s : State} {w : WS} {fresh : List (UUID × UUID)}

theorem segUpdated_frame : ∀ o ∈ segUpdated s fresh w, (∀ k ∈ o.lids, k ∈ (reservedOf s fresh w).map (·.lid)) ∧ o.dels = [] :=
  all_when (all_two ⟨fun _ hk => hk, rfl⟩ ⟨fun _ hk => (nomatch hk), rfl⟩)

theorem segUpdRemLogs_frame : ∀ o ∈ segUpdRemLogs s fresh w, o.lids = [] ∧ o.dels = [] :=
  all_two ⟨rfl, rfl⟩ ⟨rfl, rfl⟩

theorem segRemoved_frame : ∀ o ∈ segRemoved s w, (∀ k ∈ o.lids, k ∈ (markedOf s w).map (·.lid)) ∧ o.dels = [] :=
  all_when (all_one ⟨fun _ hk => hk, rfl⟩)

theorem segAdded_frame : ∀ o ∈ segAdded w, (∀ k ∈ o.lids, k ∈ w.addedIds) ∧ o.dels = [] := by
  have hlog : ∀ e, (∀ k ∈ (DOp.log e).lids, k ∈ w.addedIds) ∧ (DOp.log e).dels = [] :=
    fun _ => ⟨fun _ hk => (nomatch hk), rfl⟩
  have hadd : ∀ o ∈ [DOp.regAdd (addedHOf w), .blobAdd w.addedIds], (∀ k ∈ o.lids, k ∈ w.addedIds) ∧ o.dels = [] :=
    all_two ⟨fun k hk => addedH_lids w ▸ hk, rfl⟩ ⟨fun _ hk => (nomatch hk), rfl⟩
  intro o ho
  rcases List.mem_append.mp ho with ho | ho
  · rcases List.mem_append.mp ho with ho | ho
    · cases List.mem_singleton.mp ho
      exact hlog _
    · exact all_when hadd o ho
  · cases List.mem_singleton.mp ho
    exact hlog _

theorem segFlip_frame : ∀ o ∈ segFlip s fresh w, (∀ k ∈ o.lids, k ∈ (finalOf s fresh w).map (·.lid)) ∧ o.dels = [] :=
  all_when (all_two ⟨fun _ hk => hk, rfl⟩ ⟨fun _ hk => (nomatch hk), rfl⟩)

theorem segPhase1_noPlog : ∀ o ∈ segPhase1 s fresh w, o.isPlogOp = false := by
  simp only [segPhase1, segValues, segAdded, segIntactLog, segUpdRemLogs, List.forall_mem_append]
  exact ⟨⟨⟨all_two rfl rfl, fun o ho => by obtain ⟨st, _, rfl⟩ := List.mem_map.mp ho; rfl⟩, all_one rfl⟩,
    all_when (all_two rfl rfl), all_one rfl, all_when (all_two rfl rfl), all_two rfl rfl, all_when (all_one rfl),
    ⟨all_one rfl, all_when (all_two rfl rfl)⟩, all_one rfl⟩

/- `DOp.noConfusion` and not `nofun`, which is slow to check on a call that carries the commit's lists (here and in `segClean_ops`). -/
theorem segFlip_ops : ∀ o ∈ segFlip s fresh w, o.isTlogRemove = false ∧ ∀ e, o ≠ .log e :=
  all_when (all_two ⟨rfl, fun _ h => DOp.noConfusion h⟩ ⟨rfl, fun _ h => DOp.noConfusion h⟩)

theorem logsOf_segFlip : logsOf (segFlip s fresh w) = [] := by
  unfold segFlip when
  split <;> rfl

/-- the last line logged before the flip is that of `finalizeCommit` -/
theorem logsOf_segPre : ∃ preL, logsOf (segPre s fresh w) = preL ++ [finEntry s fresh w] :=
  ⟨logsOf (segPhase1 s fresh w) ++ (logsOf (segCnt w) ++ (logsOf segBeforeFinalizeLog ++ logsOf (segPlogAdd s fresh w))), by
    simp only [segPre, segTail, logsOf_append, segFinalizeLog, List.append_assoc]
    rfl⟩

end
end Sop.Recovery
