import Sop.Lemmas.BTreeInsertNilChild
import Sop.Lemmas.BTreeInsertLeaf
import Sop.Lemmas.BTreeInsertCascadeRoot
import Sop.Lemmas.BTreeInsertParentRoom
import Sop.Lemmas.BTreeAddKey
/-! # C17 update side, `Btree.Add` is total on well-formed trees (leaf load balancing off): the case analysis over
all branches of `node.add` / `addOnLeaf` / `promote` is exhaustive (`addTargetOf_key`: the descent ends; `path_cases`). BTreeInsertParentRoom is imported for the
build only: its stage theorem `addU_leaf_split_room` is an instance stated for itself, `addU_total` does not go through it. -/
namespace Sop.BTree.Ins
open Sop.BTree

theorem fullPath_le (key : Int) {t : BTree} {c n : NodeId} : ∀ {fuel fuel' : Nat}, fuel ≤ fuel' →
    fullPath key fuel t c n → fullPath key fuel' t c n := by
  intro fuel fuel' hle h
  obtain ⟨k, rfl⟩ := Nat.exists_eq_add_of_le hle
  induction k with
  | zero => exact h
  | succ k ih => exact fullPath_succ key _ t c n (ih (Nat.le_add_right _ _))

theorem onPath_succ (key : Int) : ∀ (fuel : Nat) (t : BTree) (m q : NodeId),
    onPath key fuel t m q → onPath key (fuel + 1) t m q
  | 0, _, _, _, h => absurd h (by simp [onPath])
  | fuel + 1, t, m, q, h => by
    unfold onPath at h ⊢
    rcases h with e | ⟨h1, h2, h3, h4⟩
    · exact Or.inl e
    · exact Or.inr ⟨h1, h2, h3, onPath_succ key fuel t _ q h4⟩

/-- below `m`, on the way to the full target leaf `n`, either some node has room and everything
    strictly below it on the path is full, or everything from `m` down is full -/
theorem path_cases (key : Int) {n : NodeId} {i : Nat} : ∀ (fuel : Nat) (t : BTree) (m : NodeId),
    addTarget key fuel t m = .leaf n i → ¬ (t.get n).count < t.sl →
    (∃ q, onPath key fuel t m q ∧ (t.get q).count < t.sl ∧
      t.childOf q (getIndexToInsertTo t (t.get q) key).1 ≠ 0 ∧
      fullPath key fuel t (t.childOf q (getIndexToInsertTo t (t.get q) key).1) n) ∨
    fullPath key fuel t m n
  | 0, _, _, h, _ => by simp [addTarget] at h
  | fuel + 1, t, m, h, hfull => by
    rcases addTarget_succ key fuel t m with ⟨h1, h2, h4, e⟩ | ⟨_, e⟩ | ⟨_, _, e⟩ | e | ⟨_, e⟩ <;> rw [e] at h
    · rcases path_cases key fuel t _ h hfull with ⟨q, hq1, hq2, hq3, hq4⟩ | hfp
      · exact Or.inl ⟨q, by unfold onPath; exact Or.inr ⟨h1, h2, h4, hq1⟩, hq2, hq3, fullPath_succ key _ t _ n hq4⟩
      · by_cases hroom : (t.get m).count < t.sl
        · exact Or.inl ⟨m, by unfold onPath; exact Or.inl rfl, hroom, h4, fullPath_succ key _ t _ n hfp⟩
        · exact Or.inr (by unfold fullPath; exact ⟨hroom, Or.inr ⟨h2, h4, hfp⟩⟩)
    · cases h
    · cases h
    · cases h
    · cases h
      exact Or.inr (by unfold fullPath; exact ⟨hfull, Or.inl rfl⟩)

/-- C17, `Add` side, complete for leaf load balancing off: on every well-formed, idle, unpanicked tree with fresh ids `Btree.Add` /
    `AddIfNotExist` either inserts the item at the lower-bound position of the in-order contents and keeps the
    tree well-formed (`AddOk`), or rejects an existing key of a unique store leaving the contents unchanged
    (`AddRejected`) -/
theorem addU_total (t : BTree) (uniq : Bool) (key : Int) (val : Nat)
    (hwf : WF t) (hok : t.panicked = false) (hidle : Idle t) (hfresh : Fresh t) (hlb : t.lb = false) :
    AddOk t key val (t.addU uniq key val) ∨ AddRejected t (t.addU uniq key val) := by
  have so := addStart_ok t uniq hwf
  cases htg : addTargetOf t uniq key with
  | dup n i => exact Or.inr (addU_dup t uniq key val n i hwf hok hidle hfresh htg)
  | nilc n i => exact Or.inl (addU_nilc t uniq key val n i hwf hok hidle hfresh htg)
  | leaf n i =>
    left
    by_cases hroom : ((addStart t uniq).1.get n).count < t.sl
    · exact addU_leaf_room t uniq key val n i hwf hok hidle hfresh htg hroom
    · by_cases hroot : ((addStart t uniq).1.get n).isRoot = true
      · exact addU_root_split t uniq key val n i hwf hok hidle hfresh htg hroom hroot
      · have hnotroot : ((addStart t uniq).1.get n).isRoot = false := by simpa using hroot
        have htg' := htg
        unfold addTargetOf at htg'
        rw [so.rootEq] at htg'
        have hroom' : ¬ ((addStart t uniq).1.get n).count < (addStart t uniq).1.sl := by rw [so.sl]; exact hroom
        rcases path_cases key _ _ _ htg' hroom' with ⟨q, hq1, hq2, hq3, hq4⟩ | hfp
        · exact addU_leaf_split_cascade t uniq key val n i q hwf hok hidle hfresh hlb htg hroom hnotroot hq1
            (by rw [← so.sl]; exact hq2) hq3 hq4
        · exact addU_leaf_split_cascade_root t uniq key val n i hwf hok hidle hfresh hlb htg hroom hnotroot hfp
  | stuck => have h := addTargetOf_key t uniq key hwf; rw [htg] at h; exact h.elim
  | fuel => have h := addTargetOf_key t uniq key hwf; rw [htg] at h; exact h.elim

/-- the same for `Btree.Add` with the store's own uniqueness flag -/
theorem addU_total_add (t : BTree) (key : Int) (val : Nat)
    (hwf : WF t) (hok : t.panicked = false) (hidle : Idle t) (hfresh : Fresh t) (hlb : t.lb = false) :
    AddOk t key val (t.add key val) ∨ AddRejected t (t.add key val) :=
  addU_total t t.unique key val hwf hok hidle hfresh hlb

end Sop.BTree.Ins
