import Sop.Lemmas.BTreeNav
/-! The cursor-moving loops of Model B (`climbRight`/`descendRight`, `climbLeft`/`descendLeft`) on a well-formed tree: from
a position `Pre`/`Gap` inside a node to the next or previous item in order (`FwdResult`, `BwdResult`). -/
namespace Sop.BTree

/-- the cursor of `t`, not yet cached, designates the slot at the position `L | R` of `t₀` -/
def RawPos (t₀ t : BTree) (L R : List Item) : Prop :=
  ∃ (f : Nat) (m : NodeId) (s : Nat), t.cur = ⟨m, (s : Int), false⟩ ∧ At t₀ f m s L R

/-- a forward walk from `L | R` ends on the head of `R`, or off the tree when `R` is empty -/
def FwdResult (t₀ : BTree) (L R : List Item) (r : BTree × Bool) : Prop :=
  HeapEq t₀ r.1 ∧ r.1.panicked = false ∧
  ((R = [] ∧ r.2 = false ∧ r.1.cur.node = 0) ∨ (r.2 = true ∧ RawPos t₀ r.1 L R))

/-- a backward walk from `L | R` ends on the last item `x` of `L` (position `L' | x :: R`), or off the tree when `L` is empty -/
def BwdResult (t₀ : BTree) (L R : List Item) (r : BTree × Bool) : Prop :=
  HeapEq t₀ r.1 ∧ r.1.panicked = false ∧
  ((L = [] ∧ r.2 = false ∧ r.1.cur.node = 0) ∨ (r.2 = true ∧ ∃ L' x, L = L' ++ [x] ∧ RawPos t₀ r.1 L' (x :: R)))

theorem cast_succ_sub_one (j : Nat) : ((j + 1 : Nat) : Int) - 1 = (j : Int) := by omega

theorem Ctx.fuel_le {t₀ t : BTree} (hw : WFR t₀) (he : HeapEq t₀ t) {f : Nat} {m p : NodeId} {pre post : List Item}
    (hctx : Ctx t₀ f m p pre post) : f ≤ t.fuel := by
  have := (hctx.wf hw).1; rw [fuel_eq he]; omega

theorem climb_step {t₀ t : BTree} (hw : WFR t₀) (he : HeapEq t₀ t) (hp : t.panicked = false) {f : Nat}
    {m pp : NodeId} {pre post : List Item} {nd pn : Node} (hg : t₀.get? m = some nd) (hroot : nd.parent ≠ 0)
    (hctx : Ctx t₀ (f + 1) nd.parent pp pre post) (hgp : t₀.get? nd.parent = some pn) {i : Nat} (hi : i ≤ pn.count)
    (hc : pn.child i = m) (hc0 : m ≠ 0) :
    ∃ t1, t.parentOf m = nd.parent ∧ t.getIndexOfChild nd.parent m = (t1, (i : Int)) ∧
      HeapEq t₀ t1 ∧ t1.panicked = false := by
  obtain ⟨hi1, he1, hp1, _⟩ := getIndexOfChild_spec hw he hctx hgp hi hc hc0 hp
  exact ⟨_, parentOf_eq he hg hroot hgp, Prod.ext rfl hi1, he1, hp1⟩

theorem Pre.toAt_pred {t : BTree} (hw : WFR t) {f m j L R} (h : Pre t f m (j + 1) L R) :
    ∃ L' x, L = L' ++ [x] ∧ At t f m j L' (x :: R) := by
  obtain ⟨p, pre, post, nd, hctx, hg, hs, rfl, rfl⟩ := h
  have hsh := hctx.nodeShape hw hg
  have hlt : j < nd.count := hs
  refine ⟨pre ++ nd.pre (A t) j ++ A t (nd.child j), nd.slot j, ?_, ⟨p, pre, post, nd, hctx, hg, Nat.le_of_lt hlt, rfl, ?_⟩, nd, hg, hlt⟩
  · rw [Node.pre_succ hsh _ hlt]; simp [List.append_assoc]
  · rw [Node.post_of_lt hsh _ hlt, Node.weave_drop_succ hsh _ hlt]; simp [List.append_assoc]

/-- climbing out of a node whose contents up to child `s` are consumed (`Gap`): the walk ends on the next separator
    above, or at the end of the tree. A context at depth `d` has fuel index `f = length + 1 - d`, so `length + 2 ≤ fuel + f`
    says the loop's fuel covers the way up to the root. -/
theorem climbRight_spec {t₀ : BTree} (hw : WFR t₀) (fuel : Nat) : ∀ (t : BTree) (f : Nat) (m : NodeId) (s : Nat)
    (L R : List Item), HeapEq t₀ t → t.panicked = false → Gap t₀ f m s L R → t₀.nodes.length + 2 ≤ fuel + f →
    FwdResult t₀ L R (climbRight fuel t m (s : Int)) := by
  induction fuel with
  | zero =>
    intro t f m s L R he hp hgap hfuel
    obtain ⟨p, pre, post, nd, hctx, _⟩ := hgap
    -- a context has `f ≤ length + 1`, so no fuel left contradicts `length + 2 ≤ 0 + f`
    exact absurd (Nat.le_trans hfuel (by rw [Nat.zero_add]; exact (hctx.wf hw).1)) (Nat.not_succ_le_self _)
  | succ fuel ih =>
    intro t f m s L R he hp hgap hfuel
    obtain ⟨p, pre, post, nd, hctx, hg, hs, hL, hR⟩ := id hgap
    obtain ⟨hsh, hpar, hne, hm0, f', hf'⟩ := hctx.shape hw hg
    obtain ⟨hcore, _⟩ := he.node hg
    have hcnt : (t.get m).count = nd.count := core_eq_count hcore
    rw [climbRight]
    simp only [hm0, if_false, hcnt]
    by_cases hlt : s < nd.count
    · have : ((s : Int) < (nd.count : Int)) := Int.ofNat_lt.mpr hlt
      simp only [this, if_true]
      exact ⟨he.setCur _ _, hp, Or.inr ⟨rfl, f, m, s, rfl, hgap, nd, hg, hlt⟩⟩
    · have hs' : s = nd.count := Nat.le_antisymm hs (Nat.not_lt.mp hlt)
      have : ¬ ((s : Int) < (nd.count : Int)) := fun h => hlt (Int.ofNat_lt.mp h)
      simp only [this, if_false, core_eq_isRoot hcore]
      by_cases hroot : nd.parent = 0
      · simp only [Node.isRoot, hroot, beq_self_eq_true, if_true]
        exact ⟨he.setCur _ _, hp, Or.inl ⟨hgap.root_end hw hg hs' hroot, rfl, rfl⟩⟩
      · simp only [Node.isRoot, beq_eq_false_iff_ne.mpr hroot, Bool.false_eq_true, if_false]
        obtain ⟨pn, i, hgp, hi, hc, hc0, hgap', pp, pre', post', hctx'⟩ := hgap.up hw hg hs' rfl hroot
        obtain ⟨t1, hpo, hgi, he1, hp1⟩ := climb_step hw he hp hg hroot hctx' hgp hi hc hc0
        rw [hpo]
        simp only [hroot, if_false, hgi]
        exact ih t1 (f + 1) nd.parent i L R he1 hp1 hgap' (by rwa [Nat.add_assoc, Nat.add_comm 1 f] at hfuel)

/-- going down from just before child `s` (`Pre`): the walk ends on the first item of that subtree, or climbs if the
    child is nil. A leaf is only ever entered at slot 0 and, not being the root, holds an item: the last hypothesis. -/
theorem descendRight_spec {t₀ : BTree} (hw : WFR t₀) (fuel : Nat) : ∀ (t : BTree) (f : Nat) (m : NodeId) (nd : Node) (s : Nat)
    (L R : List Item), HeapEq t₀ t → t.panicked = false → t₀.get? m = some nd → Pre t₀ f m s L R → f ≤ fuel →
    (nd.hasChildren = false → s = 0 ∧ 1 ≤ nd.count) →
    FwdResult t₀ L R (descendRight fuel t m s) := by
  induction fuel with
  | zero =>
    intro t f m nd s L R he hp hg hpre hfuel hleaf
    obtain ⟨p, pre, post, nd', hctx, _⟩ := hpre
    exact absurd (hctx.fuel_pos hw) (Nat.not_lt.mpr hfuel)
  | succ fuel ih =>
    intro t f m nd s L R he hp hg hpre hfuel hleaf
    obtain ⟨p, pre, post, nd', hctx, hg', hs, hL, hR⟩ := id hpre
    rw [hg] at hg'; cases hg'
    obtain ⟨hsh, hpar, hne, hm0, f', hf'⟩ := hctx.shape hw hg
    subst hf'
    obtain ⟨hcore, _⟩ := he.node hg
    rw [descendRight]
    simp only [hm0, if_false, core_eq_hasChildren hcore, core_eq_child hcore]
    cases hch : nd.hasChildren with
    | true =>
      simp only [if_true]
      by_cases hc : nd.child s = 0
      · simp only [hc, beq_self_eq_true, if_true]
        have hgap : Gap t₀ (f' + 1) m s L R := hpre.toGap hg hc
        exact climbRight_spec hw _ t (f' + 1) m s L R he hp hgap (fuel_climb he _)
      · simp only [beq_eq_false_iff_ne.mpr hc, Bool.false_eq_true, if_false]
        obtain ⟨cn, hgc⟩ := hctx.kid_some hw hg hs hc
        rw [childOf_eq he hg hc hgc]
        have hdown := hpre.down hw hg hc
        exact ih t f' (nd.child s) cn 0 L R he hp hgc hdown (Nat.le_of_succ_le_succ hfuel)
          (fun _ => ⟨rfl, ((Ctx.child hctx hg hs rfl hc).nonempty hw hgc).resolve_left hm0⟩)
    | false =>
      simp only [Bool.false_eq_true, if_false]
      obtain ⟨hs0, hc1⟩ := hleaf hch
      subst hs0
      have hgap : Gap t₀ (f' + 1) m 0 L R := hpre.toGap hg (leaf_child_zero hch _)
      exact ⟨he.setCur _ _, hp, Or.inr ⟨rfl, f' + 1, m, 0, rfl, hgap, nd, hg, hc1⟩⟩

theorem moveToNext_spec {t₀ t : BTree} (hw : WFR t₀) (he : HeapEq t₀ t) (hp : t.panicked = false)
    {f : Nat} {m : NodeId} {s : Nat} {L R : List Item} {x : Item} (hat : At t₀ f m s L (x :: R))
    (hcur : t.cur.idx = (s : Int)) : FwdResult t₀ (L ++ [x]) R (t.moveToNext m) := by
  have hpre := hat.toPre_succ hw
  obtain ⟨p, pre, post, nd, hctx, hg, hs, hL, hR⟩ := id hpre
  obtain ⟨hsh, hpar, hne, hm0, f', hf'⟩ := hctx.shape hw hg
  obtain ⟨hcore, _⟩ := he.node hg
  unfold BTree.moveToNext
  simp only [hcur, core_eq_hasChildren hcore]
  cases hch : nd.hasChildren with
  | true =>
    simp only [if_true]
    simp only [show ¬ ((s : Int) + 1 < 0) by omega, if_false, Int.toNat_natCast_add_one]
    exact descendRight_spec hw _ t f m nd (s + 1) _ R he hp hg hpre (hctx.fuel_le hw he) (fun hl => by rw [hch] at hl; cases hl)
  | false =>
    simp only [Bool.false_eq_true, if_false]
    have hgap : Gap t₀ f m (s + 1) (L ++ [x]) R :=
      hpre.toGap hg (leaf_child_zero hch _)
    have := climbRight_spec hw t.fuel t f m (s + 1) _ R he hp hgap (fuel_climb he _)
    simpa using this

/-- mirror image of `climbRight_spec`: leaving a node of which nothing before child `s` is consumed (`Pre`) -/
theorem climbLeft_spec {t₀ : BTree} (hw : WFR t₀) (fuel : Nat) : ∀ (t : BTree) (f : Nat) (m : NodeId) (s : Nat)
    (L R : List Item), HeapEq t₀ t → t.panicked = false → Pre t₀ f m s L R → t₀.nodes.length + 2 ≤ fuel + f →
    BwdResult t₀ L R (climbLeft fuel t m ((s : Int) - 1)) := by
  induction fuel with
  | zero =>
    intro t f m s L R he hp hpre hfuel
    obtain ⟨p, pre, post, nd, hctx, _⟩ := hpre
    exact absurd (Nat.le_trans hfuel (by rw [Nat.zero_add]; exact (hctx.wf hw).1)) (Nat.not_succ_le_self _)
  | succ fuel ih =>
    intro t f m s L R he hp hpre hfuel
    obtain ⟨p, pre, post, nd, hctx, hg, hs, hL, hR⟩ := id hpre
    obtain ⟨hsh, hpar, hne, hm0, f', hf'⟩ := hctx.shape hw hg
    obtain ⟨hcore, _⟩ := he.node hg
    rw [climbLeft]
    cases s with
    | succ j =>
      rw [cast_succ_sub_one, if_pos (Int.natCast_nonneg j)]
      obtain ⟨L', x, hLx, hat⟩ := hpre.toAt_pred hw
      exact ⟨he.setCur _ _, hp, Or.inr ⟨rfl, L', x, hLx, f, m, j, rfl, hat⟩⟩
    | zero =>
      have : ¬ (((0 : Nat) : Int) - 1 ≥ 0) := by decide
      simp only [this, if_false, core_eq_isRoot hcore]
      by_cases hroot : nd.parent = 0
      · simp only [Node.isRoot, hroot, beq_self_eq_true, if_true]
        exact ⟨he.setCur _ _, hp, Or.inl ⟨hpre.root_start hw hg hroot, rfl, rfl⟩⟩
      · simp only [Node.isRoot, beq_eq_false_iff_ne.mpr hroot, Bool.false_eq_true, if_false]
        obtain ⟨pn, i, hgp, hi, hc, hc0, hpre', pp, pre', post', hctx'⟩ := hpre.up hw hg rfl hroot
        obtain ⟨t1, hpo, hgi, he1, hp1⟩ := climb_step hw he hp hg hroot hctx' hgp hi hc hc0
        rw [hpo]
        simp only [hroot, if_false, hgi]
        exact ih t1 (f + 1) nd.parent i L R he1 hp1 hpre' (by rwa [Nat.add_assoc, Nat.add_comm 1 f] at hfuel)

/-- mirror image of `descendRight_spec`: a leaf is only ever entered past its last slot -/
theorem descendLeft_spec {t₀ : BTree} (hw : WFR t₀) (fuel : Nat) : ∀ (t : BTree) (f : Nat) (m : NodeId) (nd : Node) (s : Nat)
    (L R : List Item), HeapEq t₀ t → t.panicked = false → t₀.get? m = some nd → Gap t₀ f m s L R → f ≤ fuel →
    (nd.hasChildren = false → s = nd.count ∧ 1 ≤ nd.count) →
    BwdResult t₀ L R (descendLeft fuel t m (s : Int)) := by
  induction fuel with
  | zero =>
    intro t f m nd s L R he hp hg hgap hfuel hleaf
    obtain ⟨p, pre, post, nd', hctx, _⟩ := hgap
    exact absurd (hctx.fuel_pos hw) (Nat.not_lt.mpr hfuel)
  | succ fuel ih =>
    intro t f m nd s L R he hp hg hgap hfuel hleaf
    obtain ⟨p, pre, post, nd', hctx, hg', hs, hL, hR⟩ := id hgap
    rw [hg] at hg'; cases hg'
    obtain ⟨hsh, hpar, hne, hm0, f', hf'⟩ := hctx.shape hw hg
    subst hf'
    obtain ⟨hcore, _⟩ := he.node hg
    rw [descendLeft]
    simp only [core_eq_hasChildren hcore, core_eq_child hcore]
    cases hch : nd.hasChildren with
    | true =>
      simp only [if_true]
      have : ¬ ((s : Int) < 0) := Int.not_lt.mpr (Int.natCast_nonneg s)
      simp only [this, if_false, Int.toNat_natCast]
      by_cases hc : nd.child s = 0
      · simp only [hc, beq_self_eq_true, if_true]
        have hpre : Pre t₀ (f' + 1) m s L R := hgap.toPre hg hc
        exact climbLeft_spec hw _ t (f' + 1) m s L R he hp hpre (fuel_climb he _)
      · simp only [beq_eq_false_iff_ne.mpr hc, Bool.false_eq_true, if_false]
        obtain ⟨cn, hgc, hdown⟩ := hgap.down hw hg hc
        rw [childOf_eq he hg hc hgc]
        simp only [hc, if_false]
        obtain ⟨hcc, _⟩ := he.node hgc
        rw [core_eq_count hcc]
        exact ih t f' (nd.child s) cn cn.count L R he hp hgc hdown (Nat.le_of_succ_le_succ hfuel)
          (fun _ => ⟨rfl, ((Ctx.child hctx hg hs rfl hc).nonempty hw hgc).resolve_left hm0⟩)
    | false =>
      simp only [Bool.false_eq_true, if_false]
      obtain ⟨hs0, hc1⟩ := hleaf hch
      have hpre : Pre t₀ (f' + 1) m s L R := hgap.toPre hg (leaf_child_zero hch _)
      obtain ⟨j, rfl⟩ := Nat.exists_eq_add_one_of_ne_zero (Nat.ne_of_gt (hs0 ▸ hc1))
      obtain ⟨L', x, hLx, hat⟩ := hpre.toAt_pred hw
      rw [cast_succ_sub_one]
      exact ⟨he.setCur _ _, hp, Or.inr ⟨rfl, L', x, hLx, f' + 1, m, j, rfl, hat⟩⟩

theorem moveToPrevious_spec {t₀ t : BTree} (hw : WFR t₀) (he : HeapEq t₀ t) (hp : t.panicked = false)
    {f : Nat} {m : NodeId} {s : Nat} {L R : List Item} (hat : At t₀ f m s L R)
    (hcur : t.cur.idx = (s : Int)) : BwdResult t₀ L R (t.moveToPrevious m) := by
  have hgap := hat.gap
  obtain ⟨p, pre, post, nd, hctx, hg, hs, hL, hR⟩ := id hgap
  obtain ⟨hsh, hpar, hne, hm0, f', hf'⟩ := hctx.shape hw hg
  obtain ⟨hcore, _⟩ := he.node hg
  unfold BTree.moveToPrevious
  simp only [hcur, core_eq_hasChildren hcore]
  cases hch : nd.hasChildren with
  | true =>
    simp only [if_true]
    exact descendLeft_spec hw _ t f m nd s L R he hp hg hgap (hctx.fuel_le hw he) (fun hl => by rw [hch] at hl; cases hl)
  | false =>
    simp only [Bool.false_eq_true, if_false]
    have hpre : Pre t₀ f m s L R :=
      hgap.toPre hg (leaf_child_zero hch _)
    exact climbLeft_spec hw t.fuel t f m s L R he hp hpre (fuel_climb he _)

theorem moveToFirst_spec {t₀ : BTree} (hw : WFR t₀) (fuel : Nat) : ∀ (t : BTree) (f : Nat) (m : NodeId)
    (L R : List Item), HeapEq t₀ t → t.panicked = false → Pre t₀ f m 0 L R → f ≤ fuel → t₀.abs ≠ [] →
    FwdResult t₀ L R (moveToFirstAux fuel t m) := by
  induction fuel with
  | zero =>
    intro t f m L R he hp hpre hfuel hR
    obtain ⟨p, pre, post, nd, hctx, _⟩ := hpre
    exact absurd (hctx.fuel_pos hw) (Nat.not_lt.mpr hfuel)
  | succ fuel ih =>
    intro t f m L R he hp hpre hfuel hne
    obtain ⟨p, pre, post, nd, hctx, hg, hs, hL, hR⟩ := id hpre
    obtain ⟨hsh, hpar, _, hm0, f', hf'⟩ := hctx.shape hw hg
    subst hf'
    obtain ⟨hcore, _⟩ := he.node hg
    have hcount : nd.child 0 = 0 → 1 ≤ nd.count := hctx.count_pos hw hne hg
    have hfin : nd.child 0 = 0 → FwdResult t₀ L R (t.setCur m 0, true) := by
      intro hc0
      have hgap : Gap t₀ (f' + 1) m 0 L R := hpre.toGap hg hc0
      exact ⟨he.setCur _ _, hp, Or.inr ⟨rfl, f' + 1, m, 0, rfl, hgap, nd, hg, hcount hc0⟩⟩
    rw [moveToFirstAux]
    simp only [core_eq_hasChildren hcore, core_eq_child hcore]
    cases hch : nd.hasChildren with
    | true =>
      simp only [if_true]
      by_cases hc : nd.child 0 = 0
      · simp only [hc, beq_self_eq_true, if_true]
        exact hfin hc
      · simp only [beq_eq_false_iff_ne.mpr hc, Bool.false_eq_true, if_false]
        obtain ⟨cn, hgc⟩ := hctx.kid_some hw hg hs hc
        obtain ⟨_, hsome⟩ := he.node hgc
        have : (t.get? (nd.child 0)).isNone = false := by rw [← Option.not_isSome, hsome]; rfl
        simp only [this, Bool.false_eq_true, if_false]
        exact ih t f' (nd.child 0) L R he hp (hpre.down hw hg hc) (Nat.le_of_succ_le_succ hfuel) hne
    | false =>
      simp only [Bool.false_eq_true, if_false]
      exact hfin (leaf_child_zero hch _)

theorem moveToLast_spec {t₀ : BTree} (hw : WFR t₀) (fuel : Nat) : ∀ (t : BTree) (f : Nat) (m : NodeId) (nd : Node)
    (L R : List Item), HeapEq t₀ t → t.panicked = false → t₀.get? m = some nd → Gap t₀ f m nd.count L R → f ≤ fuel →
    t₀.abs ≠ [] → BwdResult t₀ L R (moveToLastAux fuel t m) := by
  induction fuel with
  | zero =>
    intro t f m nd L R he hp hg hgap hfuel hne
    obtain ⟨p, pre, post, nd', hctx, _⟩ := hgap
    exact absurd (hctx.fuel_pos hw) (Nat.not_lt.mpr hfuel)
  | succ fuel ih =>
    intro t f m nd L R he hp hg hgap hfuel hne
    obtain ⟨p, pre, post, nd', hctx, hg', hs, hL, hR⟩ := id hgap
    rw [hg] at hg'; cases hg'
    obtain ⟨hsh, hpar, _, hm0, f', hf'⟩ := hctx.shape hw hg
    subst hf'
    obtain ⟨hcore, _⟩ := he.node hg
    have hcnt : (t.get m).count = nd.count := core_eq_count hcore
    have hcount : nd.child nd.count = 0 → 1 ≤ nd.count := by
      intro hc0
      by_cases hz : nd.count = 0
      · rw [hz] at hc0; exact hctx.count_pos hw hne hg hc0
      · exact Nat.pos_of_ne_zero hz
    have hfin : nd.child nd.count = 0 → BwdResult t₀ L R (t.setCur m ((nd.count : Int) - 1), m != 0) := by
      intro hc0
      have hpre : Pre t₀ (f' + 1) m nd.count L R := hgap.toPre hg hc0
      have h1 := hcount hc0
      obtain ⟨j, hj⟩ := Nat.exists_eq_add_one_of_ne_zero (Nat.ne_of_gt h1)
      rw [hj] at hpre ⊢
      obtain ⟨L', x, hLx, hat⟩ := hpre.toAt_pred hw
      rw [cast_succ_sub_one]
      exact ⟨he.setCur _ _, hp, Or.inr ⟨by simpa using hm0, L', x, hLx, f' + 1, m, j, rfl, hat⟩⟩
    rw [moveToLastAux]
    simp only [core_eq_hasChildren hcore, core_eq_child hcore, hcnt]
    cases hch : nd.hasChildren with
    | true =>
      simp only [if_true]
      by_cases hc : nd.child nd.count = 0
      · simp only [hc, beq_self_eq_true, if_true]
        exact hfin hc
      · simp only [beq_eq_false_iff_ne.mpr hc, Bool.false_eq_true, if_false]
        obtain ⟨cn, hgc, hdown⟩ := hgap.down hw hg hc
        obtain ⟨_, hsome⟩ := he.node hgc
        have : (t.get? (nd.child nd.count)).isNone = false := by rw [← Option.not_isSome, hsome]; rfl
        simp only [this, Bool.false_eq_true, if_false]
        exact ih t f' (nd.child nd.count) cn L R he hp hgc hdown (Nat.le_of_succ_le_succ hfuel) hne
    | false =>
      simp only [Bool.false_eq_true, if_false]
      exact hfin (leaf_child_zero hch _)

end Sop.BTree
