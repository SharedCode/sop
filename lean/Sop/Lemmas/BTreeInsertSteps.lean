import Sop.Lemmas.BTreeInsert
/-! # C17 update side, `Btree.Add`: the promote cascade, pure part.
A split leaves two subtrees and a separator for the parent `g` to take up: `Split`, without bounds. `Pending` is its
reading under whatever bounds the old subtree had; it occurs only as the field `PState.pend` of the loop state
(BTreeInsertPromote): a step proves a `Split` and stores `Split.pending`, the next reads it back with `Pending.split`.
From `g` it looks like an over-full node (`Virt`, `virt`): its children are subtrees (`Kids`), its contents those of `g`
with the item at its place; nothing is said of bounds.
The over-full node is built once, from a run of two kids that need not be stored (`virt_of`): for a leaf, whose kids are
all nil, the item arriving is itself the separator between two nil kids (`virt_leaf`).
Either `g` has room and takes the separator (`room_step`), or the over-full node is cut in the middle
(`CutAt`, `cut_close`) into `g` and a fresh sibling, which is a `Split` one level up (`split_step`), or, `g` being the
root, into two fresh nodes under it (`root_split_step`). -/
namespace Sop.BTree.Ins
open Sop.BTree

/-- what two re-parenting passes (the nodes of `A` to `a`, then those of `B` to `b`) leave stored at `y` -/
abbrev reparent2 (t : BTree) (A : List NodeId) (a : NodeId) (B : List NodeId) (b : NodeId) (y : NodeId) : Option Node :=
  ((t.get? y).map (fun n => if y ≠ 0 ∧ y ∈ A then { n with parent := a } else n)).map
    (fun n => if y ≠ 0 ∧ y ∈ B then { n with parent := b } else n)

theorem reparent_fst (o : Option Node) {c1 c2 : Prop} [Decidable c1] [Decidable c2] {a b : NodeId} (h1 : c1) (h2 : ¬ c2) :
    (o.map (fun n => if c1 then { n with parent := a } else n)).map (fun n => if c2 then { n with parent := b } else n) =
      o.map (fun n => { n with parent := a }) := by
  cases o <;> simp only [Option.map_none, Option.map_some, if_pos h1, if_neg h2]

theorem reparent_snd (o : Option Node) {c1 c2 : Prop} [Decidable c1] [Decidable c2] {a b : NodeId} (h1 : ¬ c1) (h2 : c2) :
    (o.map (fun n => if c1 then { n with parent := a } else n)).map (fun n => if c2 then { n with parent := b } else n) =
      o.map (fun n => { n with parent := b }) := by
  cases o <;> simp only [Option.map_none, Option.map_some, if_neg h1, if_pos h2]

theorem reparent_none (o : Option Node) {c1 c2 : Prop} [Decidable c1] [Decidable c2] {a b : NodeId} (h1 : ¬ c1) (h2 : ¬ c2) :
    (o.map (fun n => if c1 then { n with parent := a } else n)).map (fun n => if c2 then { n with parent := b } else n) = o := by
  cases o <;> simp only [Option.map_none, Option.map_some, if_neg h1, if_neg h2]

theorem reparent_comm {t : BTree} {A B : List NodeId} {a b y : NodeId} (h : ¬ ((y ≠ 0 ∧ y ∈ A) ∧ (y ≠ 0 ∧ y ∈ B))) :
    reparent2 t A a B b y = reparent2 t B b A a y := by
  unfold reparent2
  by_cases h1 : y ≠ 0 ∧ y ∈ A
  · rw [reparent_fst _ h1 (fun h2 => h ⟨h1, h2⟩), reparent_snd _ (fun h2 => h ⟨h1, h2⟩) h1]
  · by_cases h2 : y ≠ 0 ∧ y ∈ B
    · rw [reparent_snd _ h1 h2, reparent_fst _ h2 h1]
    · rw [reparent_none _ h1 h2, reparent_none _ h2 h1]

theorem reparent2_nil {t : BTree} {A B : List NodeId} (hA : ∀ c ∈ A, c = 0) (hB : ∀ c ∈ B, c = 0) (a b y : NodeId) :
    reparent2 t A a B b y = t.get? y :=
  reparent_none _ (fun h => h.1 (hA y h.2)) (fun h => h.1 (hB y h.2))

theorem updParent_foldl_fields (p : NodeId) : ∀ (l : List NodeId) (t : BTree),
    shell (l.foldl (fun t c => if c = 0 then t else t.upd c (fun y => { y with parent := p })) t) = shell t ∧
    (l.foldl (fun t c => if c = 0 then t else t.upd c (fun y => { y with parent := p })) t).nodes.length = t.nodes.length ∧
    (Fresh t → Fresh (l.foldl (fun t c => if c = 0 then t else t.upd c (fun y => { y with parent := p })) t)) := fun l t => by
  obtain ⟨ns, h1, h2⟩ := updParent_foldl_nodes p l t
  rw [h2]
  have hi : ids ({ t with nodes := ns } : BTree) = ids t := h1
  exact ⟨rfl, by rw [← ids_length, hi, ids_length], fun hf => (fresh_iff _).mpr (hi ▸ (fresh_iff t).mp hf)⟩

theorem ucp_fields (t : BTree) (p : NodeId) (ks : Array NodeId) :
    shell (t.updateChildrenParent p ks) = shell t ∧
    (t.updateChildrenParent p ks).nodes.length = t.nodes.length ∧
    (Fresh t → Fresh (t.updateChildrenParent p ks)) := by
  unfold BTree.updateChildrenParent
  rw [← Array.foldl_toList]
  exact updParent_foldl_fields p ks.toList t

/-- no user in the development -/
theorem KidsOk.takeSucc {P : NodeId → Option Int → Option Int → Prop} :
    ∀ (k : Nat) (cs : List NodeId) (is : List Item) (lo hi : Option Int), cs.length = is.length + 1 → k < is.length →
      KidsOk P lo hi cs is → KidsOk P lo (some (is.getD k {}).key) (cs.take (k + 1)) (is.take k)
  | _, [], _, _, _, hl, _, _ => by simp at hl
  | _, c :: cs, [], _, _, _, hk, _ => by simp at hk
  | 0, c :: cs, x :: is, lo, hi, _, _, h => by
    show KidsOk P lo (some x.key) [c] []
    exact ⟨h.1, rfl⟩
  | k + 1, c :: cs, x :: is, lo, hi, hl, hk, h => by
    show KidsOk P lo (some (is.getD k {}).key) (c :: cs.take (k + 1)) (x :: is.take k)
    have hk' : k < is.length := by simpa using hk
    have hmem : is.getD k {} ∈ is := by rw [getD_of_lt _ _ _ hk']; exact List.getElem_mem hk'
    have hge := ((itemsOk_good _ _ _ (KidsOk.itemsOk _ _ _ _ (by simpa using hl) h.2.2.2.2)).2 _ hmem).1
    exact ⟨h.1, h.2.1, OLe_some_of_le (hge _ rfl), h.2.2.2.1,
      KidsOk.takeSucc k cs is (some x.key) hi (by simpa using hl) hk' h.2.2.2.2⟩

theorem weave_halves (g : NodeId → List Item) : ∀ (k : Nat) (cs : List NodeId) (is : List Item),
    cs.length = is.length + 1 → k < is.length →
    weave g cs is = weave g (cs.take (k + 1)) (is.take k) ++ is.getD k {} :: weave g (cs.drop (k + 1)) (is.drop (k + 1))
  | _, [], _, hl, _ => by simp at hl
  | _, c :: cs, [], _, hk => by simp at hk
  | 0, c :: cs, x :: is, _, _ => by simp [weave]
  | k + 1, c :: cs, x :: is, hl, hk => by
    show weave g (c :: cs) (x :: is) = weave g (c :: cs.take (k + 1)) (x :: is.take k) ++
      is.getD k {} :: weave g (cs.drop (k + 1)) (is.drop (k + 1))
    simp only [weave]
    rw [weave_halves g k cs is (by simpa using hl) (by simpa using hk)]
    simp [List.append_assoc]

/-- no user in the development -/
theorem mem_kid_reach {t : BTree} {f : Nat} {g : NodeId} {lo hi : Option Int} {K : List NodeId} {X : List Item}
    (h : KidsOk (fun x l h => WFNode t f x g l h) lo hi K X) {x : NodeId} (hx : x ∈ K) (hx0 : x ≠ 0) :
    x ∈ reach t f x :=
  h.kids.self_mem hx hx0

theorem kid_pos_unique {t : BTree} {f : Nat} {g : NodeId} {K : List NodeId} (h : Kids t f g K)
    (hnd : (K.flatMap (reach t f)).Nodup)
    {j1 j2 : Nat} (h1 : j1 < K.length) (h2 : j2 < K.length) (he : K.getD j1 0 = K.getD j2 0) (h0 : K.getD j1 0 ≠ 0) :
    j1 = j2 := by
  by_cases hj : j1 = j2
  · exact hj
  · exfalso
    have hs := h.self_mem (getD_mem K j1 0 h1) h0
    exact reach_disjoint hnd h1 h2 hj hs (he ▸ hs)

/-- in `Tk` the subtree `c` (child `idx` of `g` in `T`, at fuel `f`) has been split into `c` and the new `r`
    with separator `sep`; `g` itself has not been told yet -/
structure Pending (T Tk : BTree) (item : Item) (g c r : NodeId) (sep : Item) (f : Nat) (news : List NodeId) : Prop where
  sl : Tk.sl = T.sl
  frame : ∀ x, (T.get? x).isSome → x ∉ reach T f c → Tk.get? x = T.get? x
  newsNone : ∀ x ∈ news, T.get? x = none
  newsNodup : news.Nodup
  reach : (reach Tk f c ++ reach Tk f r).Perm (reach T f c ++ news)
  wf : ∀ l h, WFNode T f c g l h → LeO l item.key → OLe item.key h →
    WFNode Tk f c g l (some sep.key) ∧ WFNode Tk f r g (some sep.key) h ∧ LeO l sep.key ∧ OLe sep.key h ∧ sep.id ≠ 0
  abs : ∀ l h, WFNode T f c g l h → LeO l item.key → OLe item.key h →
    ∃ L R, absNode T f c = L ++ R ∧ absNode Tk f c ++ sep :: absNode Tk f r = L ++ item :: R ∧
      (∀ x ∈ L, x.key < item.key) ∧ (∀ x ∈ R, item.key ≤ x.key)

/-- the same without bounds, and what a split proves: in `Tk` the subtree `c` of `T` has become the two subtrees `c` and
    `r` under `g`, and their contents around `sep` are those of `c` with the item at its place. `Pending` is its reading
    under whatever bounds `c` had (`Split.pending`, `Pending.split`) -/
structure Split (T Tk : BTree) (item : Item) (g c r : NodeId) (sep : Item) (f : Nat) (news : List NodeId) : Prop where
  sl : Tk.sl = T.sl
  frame : ∀ x, (T.get? x).isSome → x ∉ reach T f c → Tk.get? x = T.get? x
  newsNone : ∀ x ∈ news, T.get? x = none
  newsNodup : news.Nodup
  reach : (reach Tk f c ++ reach Tk f r).Perm (reach T f c ++ news)
  left : SNode Tk f c g
  right : SNode Tk f r g
  abs : Inserted item (absNode T f c) (absNode Tk f c ++ sep :: absNode Tk f r)

/-- the order facts `Pending` asks for, for whatever bounds the old subtree had, follow from the old subtree's order and
    the place of `item` -/
theorem Split.pending {T Tk : BTree} {item : Item} {g c r : NodeId} {sep : Item} {f : Nat} {news : List NodeId}
    (h : Split T Tk item g c r sep f news) (hid : item.id ≠ 0) : Pending T Tk item g c r sep f news := by
  refine ⟨h.sl, h.frame, h.newsNone, h.newsNodup, h.reach, fun l hi hw hl hh => ?_, fun _ _ _ _ _ => h.abs⟩
  obtain ⟨L, R, hA, hA', hLb, hRb⟩ := h.abs
  have hg := wfNode_good T f c g l hi hw
  rw [hA] at hg
  have hg' := good_insert_mid hg hLb hRb hl hh hid
  rw [← hA'] at hg'
  obtain ⟨h1, ⟨h2, h3, h4⟩, h5⟩ := good_split hg'
  exact ⟨h.left.wfNode h1, h.right.wfNode h5, h2, h3, h4⟩

theorem Pending.split {T Tk : BTree} {item : Item} {g c r : NodeId} {sep : Item} {f : Nat} {news : List NodeId}
    (h : Pending T Tk item g c r sep f news) (hw : WFNode T f c g none none) : Split T Tk item g c r sep f news := by
  obtain ⟨w1, w2, -⟩ := h.wf none none hw (leO_none _) (oLe_none _)
  exact ⟨h.sl, h.frame, h.newsNone, h.newsNodup, h.reach, w1.snode, w2.snode, h.abs none none hw (leO_none _) (oLe_none _)⟩

/-- `g` is an inner node of `T` on the key's path (seen without bounds), and `c ≠ 0` is its child at the key's
    position `idx` -/
structure AtInner (T : BTree) (key : Int) (g gg c : NodeId) (f : Nat) (gnd : Node) (cs : Array NodeId) (idx : Nat) :
    Prop where
  wf : WFNode T (f + 1) g gg none none
  nodup : (reach T (f + 1) g).Nodup
  get : T.get? g = some gnd
  children : gnd.children = some cs
  idxEq : idx = (getIndexToInsertTo T gnd key).1
  child : gnd.child idx = c
  c0 : c ≠ 0

/-- what the child `c` of an `AtInner` is to its parent `g`: the one entry of the children array that holds it, outside
    its own subtree, a subtree itself (`key` occurs in no field: the parameters are `AtInner`'s) -/
structure ChildAt (T : BTree) (key : Int) (g gg c : NodeId) (f : Nat) (gnd : Node) (cs : Array NodeId) (idx : Nat) :
    Prop where
  get : T.get? g = some gnd
  children : gnd.children = some cs
  idxLe : idx ≤ gnd.count
  at_idx : cs.getD idx 0 = c
  only_idx : ∀ j, cs.getD j 0 = c → j = idx
  shape : NodeShape T gnd
  parent : gnd.parent = gg
  g0 : g ≠ 0
  gNot : g ∉ reach T f c
  nodup : (reach T f c).Nodup
  wf : WFNode T f c g none none

theorem child_facts {T : BTree} {key : Int} {g gg c : NodeId} {f : Nat} {gnd : Node}
    {cs : Array NodeId} {idx : Nat} (a : AtInner T key g gg c f gnd cs idx) :
    ChildAt T key g gg c f gnd cs idx := by
  obtain ⟨hW, hN, hgg, hcs, hidx, hchild, hc0⟩ := id a
  have hg0 := hW.ne_zero
  have hgp := hW.parent_eq hgg
  have hgs := hW.shape hgg
  obtain ⟨hidx', -, -⟩ := hW.key_cut hgg key
  rw [← hidx] at hidx'
  have hlt : idx < gnd.kids.length := Node.kids_length hgs ▸ Nat.lt_succ_of_le hidx'
  have hcI : gnd.kids.getD idx 0 = c := (Node.kids_getD hgs hidx').trans hchild
  have hcmem : c ∈ gnd.kids := hcI ▸ getD_mem _ _ _ hlt
  have hwn := hW.kid_mem hgg hcmem hc0
  have hN' := List.nodup_cons.mp (hW.reach_kids hgg ▸ hN)
  refine ⟨hgg, hcs, hidx', by simpa [Node.child, hcs] using hchild, ?_, hgs, hgp, hg0,
    fun hh => hN'.1 (List.mem_flatMap.mpr ⟨c, hcmem, hh⟩), hcI ▸ reach_child_nodup hN'.2 hlt, hwn⟩
  intro j hj
  have hcj : gnd.child j = c := by simp [Node.child, hcs, hj]
  by_cases hjc : j ≤ gnd.count
  · by_cases hji : j = idx
    · exact hji
    · exfalso
      have hjl : j < gnd.kids.length := by rw [Node.kids_length hgs]; exact Nat.lt_succ_of_le hjc
      have hkj : gnd.kids.getD j 0 = c := by rw [Node.kids_getD hgs hjc]; exact hcj
      have h1 : c ∈ reach T f (gnd.kids.getD idx 0) := by rw [hcI]; exact self_mem_reach hwn
      have h2' : c ∈ reach T f (gnd.kids.getD j 0) := by rw [hkj]; exact self_mem_reach hwn
      exact reach_disjoint hN'.2 hlt hjl (Ne.symm hji) h1 h2'
  · exfalso
    have := child_zero_of_gt hgs (Nat.lt_of_not_le hjc)
    rw [hcj] at this; exact hc0 this

def kidsIns (nd : Node) (idx : Nat) (r : NodeId) : List NodeId := nd.kids.take (idx + 1) ++ r :: nd.kids.drop (idx + 1)
def itemsIns (nd : Node) (idx : Nat) (sep : Item) : List Item := nd.items.take idx ++ sep :: nd.items.drop idx

theorem kidsIns_length {t : BTree} {nd : Node} (hs : NodeShape t nd) {idx : Nat} (hidx : idx ≤ nd.count) (r : NodeId) :
    (kidsIns nd idx r).length = nd.count + 2 := by
  have := Node.kids_length hs
  unfold kidsIns; simp; omega

theorem itemsIns_length {t : BTree} {nd : Node} (hs : NodeShape t nd) {idx : Nat} (hidx : idx ≤ nd.count) (sep : Item) :
    (itemsIns nd idx sep).length = nd.count + 1 := by
  have := Node.items_length hs
  unfold itemsIns; simp; omega

theorem kidsIns_leaf {nd : Node} (hch : nd.children = none) (i : Nat) : ∀ c ∈ kidsIns nd i 0, c = 0 := by
  intro c hc
  unfold kidsIns Node.kids at hc
  rw [hch] at hc
  rcases List.mem_append.mp hc with h | h
  · exact List.eq_of_mem_replicate (List.mem_of_mem_take h)
  · rcases List.mem_cons.mp h with h | h
    · exact h
    · exact List.eq_of_mem_replicate (List.mem_of_mem_drop h)

/-- seen from the inner node `g` of `T` (whose parent is `gg`), a split pending at one of its children is an over-full
    node in `Tk`, with children `kidsIns gnd idx r` and separators `itemsIns gnd idx sep`: its children are subtrees
    (`kids`), and its contents are those of `g` with the item at its place (`abs`) -/
structure Virt (T Tk : BTree) (item : Item) (g gg r : NodeId) (sep : Item) (f : Nat) (news : List NodeId)
    (gnd : Node) (idx : Nat) : Prop where
  sl : Tk.sl = T.sl
  g0 : g ≠ 0
  shape : NodeShape T gnd
  parent : gnd.parent = gg
  reachT : reach T (f + 1) g = g :: gnd.kids.flatMap (reach T f)
  getG : Tk.get? g = some gnd
  idxLe : idx ≤ gnd.count
  kids : Kids Tk f g (kidsIns gnd idx r)
  perm : ((kidsIns gnd idx r).flatMap (reach Tk f)).Perm (gnd.kids.flatMap (reach T f) ++ news)
  abs : Inserted item (absNode T (f + 1) g) (weave (absNode Tk f) (kidsIns gnd idx r) (itemsIns gnd idx sep))
  frame : ∀ x, (T.get? x).isSome → x ∉ reach T (f + 1) g → Tk.get? x = T.get? x
  gNot : g ∉ (kidsIns gnd idx r).flatMap (reach Tk f)
  nodup : ((kidsIns gnd idx r).flatMap (reach Tk f)).Nodup
  newsNone : ∀ x ∈ news, T.get? x = none

section
variable {T Tk : BTree} {item : Item} {g gg r : NodeId} {sep : Item} {f : Nat} {news : List NodeId}
  {gnd : Node} {idx : Nat}

theorem Virt.mem_flat (hv : Virt T Tk item g gg r sep f news gnd idx) {y : NodeId}
    (hy : y ∈ kidsIns gnd idx r) (hy0 : y ≠ 0) : y ∈ (kidsIns gnd idx r).flatMap (reach Tk f) :=
  List.mem_flatMap.mpr ⟨y, hy, hv.kids.self_mem hy hy0⟩

theorem Virt.g_not_kid (hv : Virt T Tk item g gg r sep f news gnd idx) :
    g ∉ kidsIns gnd idx r :=
  fun h => hv.gNot (hv.mem_flat h hv.g0)

theorem Virt.kid_old_or_new (hv : Virt T Tk item g gg r sep f news gnd idx) {y : NodeId}
    (hy : y ∈ kidsIns gnd idx r) (hy0 : y ≠ 0) : y ∈ reach T (f + 1) g ∨ y ∈ news := by
  rcases List.mem_append.mp (hv.perm.mem_iff.mp (hv.mem_flat hy hy0)) with h | h
  · left; rw [hv.reachT]; exact List.mem_cons_of_mem _ h
  · right; exact h

/-- The over-full node, from a run of two kids around `sep` in the place of the kid at the key's position. The two need
    not be stored nodes: for a leaf both are nil and `sep` is the item itself (`virt_leaf`). -/
theorem virt_of (hW : WFNode T (f + 1) g gg none none) (hN : (reach T (f + 1) g).Nodup) (hgg : T.get? g = some gnd)
    (hidx : idx = (getIndexToInsertTo T gnd item.key).1) (hsl : Tk.sl = T.sl)
    (hfr : ∀ x, (T.get? x).isSome → x ∉ reach T f (gnd.child idx) → Tk.get? x = T.get? x)
    (hK : Kids Tk f g [gnd.child idx, r])
    (hreach : (reach Tk f (gnd.child idx) ++ reach Tk f r).Perm (reach T f (gnd.child idx) ++ news))
    (habs : Inserted item (absNode T f (gnd.child idx)) (absNode Tk f (gnd.child idx) ++ sep :: absNode Tk f r))
    (hnone : ∀ x ∈ news, T.get? x = none) (hnodup : news.Nodup) : Virt T Tk item g gg r sep f news gnd idx := by
  have hs := hW.shape hgg
  have hreachT := hW.reach_kids hgg
  have hN' := List.nodup_cons.mp (hreachT ▸ hN)
  -- where the key cuts `g`
  obtain ⟨hle, hpre, hpost⟩ := hW.key_cut hgg item.key
  rw [← hidx] at hle hpre hpost
  have hlt : idx < gnd.kids.length := Node.kids_length hs ▸ Nat.lt_succ_of_le hle
  have hcI : gnd.kids.getD idx 0 = gnd.child idx := Node.kids_getD hs hle
  have hcmem : gnd.child idx ∈ gnd.kids := hcI ▸ getD_mem _ _ _ hlt
  have hsub : ∀ x, x ∈ reach T f (gnd.child idx) → x ∈ reach T (f + 1) g := fun x hx => by
    rw [hreachT]; exact List.mem_cons_of_mem _ (List.mem_flatMap.mpr ⟨_, hcmem, hx⟩)
  obtain ⟨hk, hA, hR⟩ := hW.splice_kids hN hgg hle (Nat.le_refl f) hsl (fun k hk _ hkc => hfr k hk hkc)
    (K := [gnd.child idx, r]) (X := [sep]) rfl hK
  have hKI : kidsIns gnd idx r = gnd.kids.take idx ++ [gnd.child idx, r] ++ gnd.kids.drop (idx + 1) := by
    unfold kidsIns; rw [insert_eq_splice gnd.kids 0 r hlt, hcI]
  have hXI : itemsIns gnd idx sep = gnd.items.take idx ++ [sep] ++ gnd.items.drop idx := by
    unfold itemsIns; rw [List.append_assoc]; rfl
  obtain ⟨hAg, hRg⟩ := hW.split_kid hgg hle
  have hflatT : gnd.kids.flatMap (reach T f) = (gnd.kids.take idx).flatMap (reach T f) ++ reach T f (gnd.child idx) ++
      (gnd.kids.drop (idx + 1)).flatMap (reach T f) := List.tail_eq_of_cons_eq (hreachT.symm.trans hRg)
  have hperm : ((kidsIns gnd idx r).flatMap (reach Tk f)).Perm (gnd.kids.flatMap (reach T f) ++ news) := by
    rw [hKI, hR, hflatT]
    simp only [List.flatMap_cons, List.flatMap_nil, List.append_nil, List.append_assoc]
    refine List.Perm.append_left _ ?_
    rw [← List.append_assoc, ← List.append_assoc (reach T f (gnd.child idx))]
    exact (List.Perm.append_right _ hreach).trans (by
      rw [List.append_assoc, List.append_assoc]; exact List.Perm.append_left _ List.perm_append_comm)
  refine ⟨hsl, hW.ne_zero, hs, hW.parent_eq hgg, hreachT, ?_, hle, hKI ▸ hk, hperm, ?_,
    fun x hs' hx => hfr x hs' (fun hh => hx (hsub x hh)), fun hh => ?_, hperm.nodup_iff.mpr ?_, hnone⟩
  · rw [hfr g (by rw [hgg]; rfl) (fun hh => hN'.1 (List.mem_flatMap.mpr ⟨_, hcmem, hh⟩))]; exact hgg
  · rw [hKI, hXI, hA, hAg]
    simp only [weave, List.append_nil]
    exact habs.between hpre hpost
  · rcases List.mem_append.mp (hperm.mem_iff.mp hh) with h1 | h1
    · exact hN'.1 h1
    · have := hnone g h1
      rw [hgg] at this; cases this
  · rw [List.nodup_append]
    refine ⟨hN'.2, hnodup, fun a ha b hb e => ?_⟩
    obtain ⟨x, _, hx⟩ := List.mem_flatMap.mp ha
    have h1 := mem_reach_isSome T _ _ a hx
    rw [e, hnone b hb] at h1
    cases h1

theorem virt {c : NodeId} {cs : Array NodeId} (a : AtInner T item.key g gg c f gnd cs idx)
    (hP : Split T Tk item g c r sep f news) : Virt T Tk item g gg r sep f news gnd idx := by
  obtain ⟨hW, hN, hgg, -, hidx, rfl, -⟩ := id a
  exact virt_of hW hN hgg hidx hP.sl hP.frame (fun x hx => by
      rcases List.mem_cons.mp hx with rfl | hx
      · exact Or.inr hP.left
      · exact Or.inr (List.mem_singleton.mp hx ▸ hP.right)) hP.reach hP.abs hP.newsNone hP.newsNodup

/-- The item arriving at the leaf `n` is a split pending from a nil kid: seen from `n`, an over-full node of `T` itself
    with nil kids only and the item among the separators. -/
theorem virt_leaf {n p : NodeId} {i : Nat} (hW : WFNode T (f + 1) n p none none)
    (hleaf : (T.get n).hasChildren = false) (hi : i = (getIndexToInsertTo T (T.get n) item.key).1) :
    ∃ nd, T.get? n = some nd ∧ nd.children = none ∧ Virt T T item n p 0 item f [] nd i := by
  obtain ⟨hn, nd, hg, -⟩ := id hW
  rw [get_of_get? hg] at hleaf hi
  have hch : nd.children = none := by
    cases hc : nd.children with
    | none => rfl
    | some cs => simp [Node.hasChildren, hc] at hleaf
  have hR : reach T (f + 1) n = [n] := by rw [reach_succ_kidArr hn hg]; simp [Node.kidArr, hch]
  have h0 : nd.child i = 0 := by simp [Node.child, hch]
  refine ⟨nd, hg, hch, virt_of hW (by rw [hR]; exact List.nodup_cons.mpr ⟨List.not_mem_nil, List.nodup_nil⟩) hg hi rfl
    (fun _ _ _ => rfl) (fun x hx => ?_) ?_ ?_ (fun _ h => nomatch h) List.nodup_nil⟩
  · rw [h0] at hx; exact Or.inl (by simpa using hx)
  · rw [h0, reach_zero]
  · rw [h0, absNode_zero]; exact ⟨[], [], rfl, rfl, fun _ h => absurd h List.not_mem_nil, fun _ h => absurd h List.not_mem_nil⟩

/-- the virtual node becomes real: `g` receives the separator and the new child; nothing else changes -/
theorem room_step {T' : BTree} {gnd' : Node}
    (hv : Virt T Tk item g gg r sep f news gnd idx) (hsl' : T'.sl = T.sl)
    (hother : ∀ x, x ≠ g → T'.get? x = Tk.get? x) (hgg' : T'.get? g = some gnd')
    (hG : InnerRec T' gnd' gg (itemsIns gnd idx sep) (kidsIns gnd idx r)) :
    Grown T T' item 0 news (f + 1) g gg := by
  obtain ⟨k1, k2⟩ := hv.kids.frame (hsl'.trans hv.sl.symm)
    (fun x hx y hy => hother y (fun e => hv.gNot (e ▸ List.mem_flatMap.mpr ⟨x, hx, hy⟩)))
  obtain ⟨hS', hA', hR'⟩ := inner_snode hv.g0 hgg' hG k1
  refine ⟨hS', ?_, ?_⟩
  · show (reach T' (f + 1) g).Perm _
    rw [hR', hv.reachT, List.cons_append, flatMap_congr' _ (fun c hc => (k2 c hc).2)]
    exact List.Perm.cons _ hv.perm
  · show Inserted item _ (absNode T' (f + 1) g)
    rw [hA', weave_congr _ _ (fun c hc => (k2 c hc).1)]
    exact hv.abs

theorem kid_half_iff {t : BTree} {f : Nat} {g : NodeId} {K : List NodeId} (h : Kids t f g K)
    (hnd : (K.flatMap (reach t f)).Nodup) {j : Nat} (hj : j < K.length) (h0 : K.getD j 0 ≠ 0) (k : Nat) :
    (K.getD j 0 ∈ K.take k ↔ j < k) ∧ (K.getD j 0 ∈ K.drop k ↔ k ≤ j) := by
  have hpos : ∀ i (hi : i < K.length), K[i] = K.getD j 0 → i = j := fun i hi e =>
    (kid_pos_unique h hnd hj hi (by rw [getD_of_lt _ _ _ hi, e]) h0).symm
  constructor
  · rw [List.mem_take_iff_getElem]
    constructor
    · rintro ⟨i, hi, e⟩
      have := hpos i (by omega) e
      omega
    · intro hjk
      exact ⟨j, by omega, (getD_of_lt _ _ _ hj).symm⟩
  · rw [List.mem_drop_iff_getElem]
    constructor
    · rintro ⟨i, hi, e⟩
      have := hpos (k + i) (by omega) e
      omega
    · intro hkj
      exact ⟨j - k, by omega, by rw [getD_of_lt _ _ _ hj]; congr 1; omega⟩

/-- the children `K` and separators `X` of an over-full node `g` are cut after child `m`; child `j` is
    re-parented to `pL` or `pR` according to its half and nothing else below `g` changes -/
theorem split_kids {Tk T' : BTree} {f : Nat} {g pL pR : NodeId} {K : List NodeId}
    {X : List Item} {m : Nat} (hsl : T'.sl = Tk.sl) (hg0 : g ≠ 0)
    (hV1 : Kids Tk f g K) (hVnd : (K.flatMap (reach Tk f)).Nodup)
    (hlen : K.length = X.length + 1) (hm : m < X.length)
    (hkid : ∀ j, j < K.length → K.getD j 0 ≠ 0 →
      T'.get? (K.getD j 0) = (Tk.get? (K.getD j 0)).map (fun n => { n with parent := if j ≤ m then pL else pR }))
    (hrest : ∀ y ∈ K.flatMap (reach Tk f), y ∉ K → T'.get? y = Tk.get? y) :
    Kids T' f pL (K.take (m + 1)) ∧ Kids T' f pR (K.drop (m + 1)) ∧
    weave (absNode T' f) (K.take (m + 1)) (X.take m) ++ X.getD m {} :: weave (absNode T' f) (K.drop (m + 1)) (X.drop (m + 1)) =
      weave (absNode Tk f) K X ∧
    (K.take (m + 1)).flatMap (reach T' f) ++ (K.drop (m + 1)).flatMap (reach T' f) = K.flatMap (reach Tk f) := by
  obtain ⟨hpos, hmem⟩ := Kids.reparent hsl hg0 hV1 hVnd (fun j => if j ≤ m then pL else pR) hkid hrest
  refine ⟨fun x hx => ?_, fun x hx => ?_, ?_, ?_⟩
  · obtain ⟨j, hj, rfl⟩ := List.mem_take_iff_getElem.mp hx
    have hj' := Nat.lt_min.mp hj
    have := hpos j hj'.2
    rwa [if_pos (Nat.le_of_lt_succ hj'.1), getD_of_lt _ _ _ hj'.2] at this
  · obtain ⟨j, hj, rfl⟩ := List.mem_drop_iff_getElem.mp hx
    have hj' : m + 1 + j < K.length := Nat.add_comm j (m + 1) ▸ hj
    have := hpos (m + 1 + j) hj'
    rwa [if_neg (by omega), getD_of_lt _ _ _ hj'] at this
  · rw [weave_congr _ _ (fun x hx => (hmem x (List.mem_of_mem_take hx)).1),
      weave_congr _ _ (fun x hx => (hmem x (List.mem_of_mem_drop hx)).1)]
    exact (weave_halves _ m K X hlen hm).symm
  · rw [← List.flatMap_append, List.take_append_drop]
    exact flatMap_congr' _ (fun x hx => (hmem x hx).2)

theorem kids_disjoint {t : BTree} {f : Nat} {g : NodeId} {K : List NodeId} (h : Kids t f g K)
    (hnd : (K.flatMap (reach t f)).Nodup) (k : Nat) {y : NodeId} :
    ¬ ((y ≠ 0 ∧ y ∈ K.take k) ∧ (y ≠ 0 ∧ y ∈ K.drop k)) := by
  rintro ⟨⟨hy0, ht⟩, _, hd⟩
  obtain ⟨j, hj, rfl⟩ := List.mem_iff_getElem.mp (List.mem_of_mem_take ht)
  rw [← getD_of_lt _ _ 0 hj] at hy0 ht hd
  obtain ⟨h1, h2⟩ := kid_half_iff h hnd hj hy0 k
  have := h1.mp ht
  have := h2.mp hd
  omega

/-- `T'` is `Tk` with the first `m + 1` children of `g` re-parented to `pL` and the others to `pR`, wherever `Tk` stores
    a node other than `g`: what `T'` stores at the children and below them -/
theorem cut_kid_lookups {Tk T' : BTree} {f : Nat} {g pL pR : NodeId} {K : List NodeId} {m : Nat}
    (hV1 : Kids Tk f g K) (hVnd : (K.flatMap (reach Tk f)).Nodup) (hVg : g ∉ K.flatMap (reach Tk f))
    (hother : ∀ y, (Tk.get? y).isSome → y ≠ g → T'.get? y = reparent2 Tk (K.take (m + 1)) pL (K.drop (m + 1)) pR y) :
    (∀ j, j < K.length → K.getD j 0 ≠ 0 →
      T'.get? (K.getD j 0) = (Tk.get? (K.getD j 0)).map (fun n => { n with parent := if j ≤ m then pL else pR })) ∧
    (∀ y ∈ K.flatMap (reach Tk f), y ∉ K → T'.get? y = Tk.get? y) := by
  refine ⟨fun j hj hj0 => ?_, fun y hy hyK => ?_⟩
  · have hjm : K.getD j 0 ∈ K := getD_mem _ _ _ hj
    have hself := hV1.self_mem hjm hj0
    obtain ⟨ht, hd⟩ := kid_half_iff hV1 hVnd hj hj0 (m + 1)
    rw [hother _ (mem_reach_isSome Tk f _ _ hself) (fun e => hVg (e ▸ List.mem_flatMap.mpr ⟨_, hjm, hself⟩))]
    by_cases hle : j ≤ m
    · rw [if_pos hle]
      exact reparent_fst _ ⟨hj0, ht.mpr (by omega)⟩ (fun h => absurd (hd.mp h.2) (by omega))
    · rw [if_neg hle]
      exact reparent_snd _ (fun h => absurd (ht.mp h.2) (by omega)) ⟨hj0, hd.mpr (by omega)⟩
  · obtain ⟨x, _, hx⟩ := List.mem_flatMap.mp hy
    rw [hother y (mem_reach_isSome Tk f x _ hx) (fun e => hVg (e ▸ hy))]
    exact reparent_none _ (fun h => hyK (List.mem_of_mem_take h.2)) (fun h => hyK (List.mem_of_mem_drop h.2))

/-- what a split stores: the kids `K` with separators `X` under `g` in `Tk` are cut after kid `m`; in `T'` the records at `pL`
    and `pR` (children of `p`) hold the two halves, the kids are re-parented to them, nothing else but `g` changes -/
structure CutAt (Tk T' : BTree) (g p pL pR : NodeId) (K : List NodeId) (X : List Item) (m : Nat) : Prop where
  sl : T'.sl = Tk.sl
  left : ∃ nd, T'.get? pL = some nd ∧ InnerRec T' nd p (X.take m) (K.take (m + 1))
  right : ∃ nd, T'.get? pR = some nd ∧ InnerRec T' nd p (X.drop (m + 1)) (K.drop (m + 1))
  other : ∀ y, (Tk.get? y).isSome → y ≠ g → T'.get? y = reparent2 Tk (K.take (m + 1)) pL (K.drop (m + 1)) pR y

theorem CutAt.congr {Tk0 Tk T' : BTree} {g p pL pR : NodeId} {K : List NodeId} {X : List Item} {m : Nat}
    (hget : ∀ x, Tk0.get? x = Tk.get? x) (hsl : Tk0.sl = Tk.sl) (h : CutAt Tk0 T' g p pL pR K X m) :
    CutAt Tk T' g p pL pR K X m :=
  ⟨h.sl.trans hsl, h.left, h.right, fun y hs hy => by
    have := h.other y (by rw [hget]; exact hs) hy
    simpa only [reparent2, hget] using this⟩

/-- the two halves of a cut run are subtrees under `p`: together they visit `pL`, `pR` and what the run visited, and their
    contents around the middle separator are the run's -/
theorem cut_close {Tk T' : BTree} {f : Nat} {g p pL pR : NodeId} {K : List NodeId} {X : List Item} {m : Nat}
    (hk : Kids Tk f g K) (hnd : (K.flatMap (reach Tk f)).Nodup) (hg : g ∉ K.flatMap (reach Tk f)) (hg0 : g ≠ 0)
    (hlen : K.length = X.length + 1) (hm : m < X.length) (hL0 : pL ≠ 0) (hR0 : pR ≠ 0)
    (hc : CutAt Tk T' g p pL pR K X m) :
    SNode T' (f + 1) pL p ∧ SNode T' (f + 1) pR p ∧
    (reach T' (f + 1) pL ++ reach T' (f + 1) pR).Perm (pL :: pR :: K.flatMap (reach Tk f)) ∧
    absNode T' (f + 1) pL ++ X.getD m {} :: absNode T' (f + 1) pR = weave (absNode Tk f) K X := by
  obtain ⟨gL, hgL, hL⟩ := hc.left
  obtain ⟨gR, hgR, hR⟩ := hc.right
  obtain ⟨hkid, hrest⟩ := cut_kid_lookups hk hnd hg hc.other
  obtain ⟨hKL, hKR, hweave, hflat⟩ := split_kids hc.sl hg0 hk hnd hlen hm hkid hrest
  obtain ⟨hSL, hAL, hRL⟩ := inner_snode hL0 hgL hL hKL
  obtain ⟨hSR, hAR, hRR⟩ := inner_snode hR0 hgR hR hKR
  refine ⟨hSL, hSR, ?_, by rw [hAL, hAR]; exact hweave⟩
  rw [hRL, hRR, ← hflat]
  simp only [List.cons_append]
  exact List.Perm.cons _ List.perm_middle

/-- `T'` is `Tk` with the lower children of the virtual node re-parented to `pL` and the upper ones to `pR`, wherever `Tk`
    stores a node other than `g`: outside the subtree of `g` it is `T`. -/
theorem Virt.cut_lookups {T' : BTree} {pL pR : NodeId} {m : Nat} (hv : Virt T Tk item g gg r sep f news gnd idx)
    (hother : ∀ y, (Tk.get? y).isSome → y ≠ g → T'.get? y =
      reparent2 Tk ((kidsIns gnd idx r).take (m + 1)) pL ((kidsIns gnd idx r).drop (m + 1)) pR y) :
    ∀ x, (T.get? x).isSome → x ∉ reach T (f + 1) g → T'.get? x = T.get? x := by
  intro x hs hx
  have hxK : ¬ (x ≠ 0 ∧ x ∈ kidsIns gnd idx r) := fun h =>
    (hv.kid_old_or_new h.2 h.1).elim hx (fun h1 => by rw [hv.newsNone x h1] at hs; simp at hs)
  have hxT := hv.frame x hs hx
  rw [hother x (by rw [hxT]; exact hs) (fun e => hx (by rw [e, hv.reachT]; exact List.mem_cons_self)), ← hxT]
  exact reparent_none _ (fun h => hxK ⟨h.1, List.mem_of_mem_take h.2⟩) (fun h => hxK ⟨h.1, List.mem_of_mem_drop h.2⟩)

/-- pure part of an inner split: the over-full virtual node `g` is cut at the middle item into `g` (lower half) and
    the fresh `r'` (upper half) -/
theorem split_step {T' : BTree} {r' : NodeId}
    (hv : Virt T Tk item g gg r sep f news gnd idx) (hfull : gnd.count = T.sl) (hr'0 : r' ≠ 0)
    (hc : CutAt Tk T' g gg g r' (kidsIns gnd idx r) (itemsIns gnd idx sep) (T.sl / 2))
    (hnone : ∀ x ∈ news ++ [r'], T.get? x = none) (hnd : (news ++ [r']).Nodup) :
    Split T T' item gg g r' ((itemsIns gnd idx sep).getD (T.sl / 2) {}) (f + 1) (news ++ [r']) := by
  obtain ⟨hSL, hSR, hperm, habs⟩ := cut_close hv.kids hv.nodup hv.gNot hv.g0
    (by rw [kidsIns_length hv.shape hv.idxLe, itemsIns_length hv.shape hv.idxLe])
    (by rw [itemsIns_length hv.shape hv.idxLe, hfull]; omega) hv.g0 hr'0 hc
  refine ⟨hc.sl.trans hv.sl, hv.cut_lookups hc.other, hnone, hnd, ?_, hSL, hSR, habs ▸ hv.abs⟩
  rw [hv.reachT]
  refine hperm.trans (List.Perm.cons g ((List.Perm.cons r' hv.perm).trans ?_))
  show (r' :: (gnd.kids.flatMap (reach T f) ++ news)).Perm (gnd.kids.flatMap (reach T f) ++ (news ++ [r']))
  rw [← List.append_assoc]
  exact (List.perm_append_singleton r' _).symm

/-- pure part of the root split inside `promote`: the over-full virtual root `g` keeps only the
    middle item; its lower and upper halves go to the fresh nodes `l'` and `r'`, whose children are re-parented -/
theorem root_split_step {T Tk T' : BTree} {item : Item} {g gg r l' r' : NodeId} {sep : Item} {f : Nat} {news : List NodeId}
    {gnd gN : Node} {idx : Nat}
    (hv : Virt T Tk item g gg r sep f news gnd idx) (hfull : gnd.count = T.sl) (hl'0 : l' ≠ 0) (hr'0 : r' ≠ 0)
    (hgN : T'.get? g = some gN) (hNd : InnerRec T' gN gg [(itemsIns gnd idx sep).getD (T.sl / 2) {}] [l', r'])
    (hc : CutAt Tk T' g g l' r' (kidsIns gnd idx r) (itemsIns gnd idx sep) (T.sl / 2)) :
    Grown T T' item 1 (news ++ [l', r']) (f + 1) g gg := by
  obtain ⟨hSL, hSR, hperm, habs⟩ := cut_close hv.kids hv.nodup hv.gNot hv.g0
    (by rw [kidsIns_length hv.shape hv.idxLe, itemsIns_length hv.shape hv.idxLe])
    (by rw [itemsIns_length hv.shape hv.idxLe, hfull]; omega) hl'0 hr'0 hc
  obtain ⟨hSN, hAN, hRN⟩ := inner_snode hv.g0 hgN hNd (fun c hc => by
    rcases List.mem_cons.mp hc with rfl | hc
    · exact Or.inr hSL
    · exact Or.inr (List.mem_singleton.mp hc ▸ hSR))
  refine ⟨hSN, ?_, ?_⟩
  · show (reach T' (f + 1 + 1) g).Perm _
    rw [hRN, hv.reachT]
    simp only [List.flatMap_cons, List.flatMap_nil, List.append_nil, List.cons_append]
    refine List.Perm.cons g (hperm.trans ((List.Perm.cons l' (List.Perm.cons r' hv.perm)).trans ?_))
    rw [← List.append_assoc]
    exact List.perm_append_comm (l₁ := [l', r'])
  · show Inserted item _ (absNode T' (f + 1 + 1) g)
    rw [hAN]
    simp only [weave]
    rw [List.append_nil, habs]
    exact hv.abs

end

end Sop.BTree.Ins
