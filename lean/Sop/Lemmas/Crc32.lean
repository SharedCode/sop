import Sop.Model.BlockCow
/-! CRC-32 detects every single-byte change. On 32-bit values `crcBit` is injective: the reflected polynomial `0xEDB88320`
has bit 31 set, so bit 31 of `crcBit c` is the parity of `c` and the other bits give `c / 2` back. Hence `crcByte` is
injective in the state and in the byte, and the folds over `pre ++ x :: suf` and `pre ++ y :: suf` part at the byte and stay apart. -/
namespace Sop.BlockCow
open Sop.Handle

theorem xor_cancel_right (a b k : Nat) (h : a ^^^ k = b ^^^ k) : a = b := by
  have h' : (a ^^^ k) ^^^ k = (b ^^^ k) ^^^ k := by rw [h]
  simpa [Nat.xor_assoc, Nat.xor_self, Nat.xor_zero] using h'

theorem xor_cancel_left (k a b : Nat) (h : k ^^^ a = k ^^^ b) : a = b := by
  rw [Nat.xor_comm k a, Nat.xor_comm k b] at h
  exact xor_cancel_right a b k h

theorem crcPoly_lt : crcPoly < 2^32 := by decide

theorem crcPoly_bit31 : crcPoly.testBit 31 = true := by decide

theorem crcBit_lt (c : Nat) (h : c < 2^32) : crcBit c < 2^32 := by
  unfold crcBit
  split
  · exact Nat.xor_lt_two_pow (by omega) crcPoly_lt
  · omega

theorem xor_poly_ge (d : Nat) (hd : d < 2^31) : 2^31 ≤ d ^^^ crcPoly := by
  apply Nat.ge_two_pow_of_testBit
  rw [Nat.testBit_xor, Nat.testBit_lt_two_pow hd, crcPoly_bit31]
  rfl

def crcBitInv (d : Nat) : Nat := if 2^31 ≤ d then ((d ^^^ crcPoly) * 2 + 1) else d * 2

theorem crcBitInv_crcBit (c : Nat) (h : c < 2^32) : crcBitInv (crcBit c) = c := by
  have h2 : c / 2 < 2^31 := by omega
  unfold crcBit
  split
  · rename_i hodd
    have hge := xor_poly_ge (c / 2) h2
    unfold crcBitInv
    rw [if_pos hge, Nat.xor_assoc, Nat.xor_self, Nat.xor_zero]
    omega
  · rename_i heven
    unfold crcBitInv
    rw [if_neg (by omega)]
    omega

theorem crcBit_inj (a b : Nat) (ha : a < 2^32) (hb : b < 2^32) (h : crcBit a = crcBit b) : a = b := by
  rw [← crcBitInv_crcBit a ha, ← crcBitInv_crcBit b hb, h]

theorem byte_lt32 (x : Nat) (hx : x < 256) : x < 2^32 := by omega

structure InjBelow (N : Nat) (f : Nat → Nat) : Prop where
  lt : ∀ c, c < N → f c < N
  inj : ∀ a b, a < N → b < N → f a = f b → a = b

theorem InjBelow.comp {N : Nat} {f g : Nat → Nat} (hf : InjBelow N f) (hg : InjBelow N g) : InjBelow N (fun c => f (g c)) :=
  ⟨fun c hc => hf.lt _ (hg.lt c hc), fun a b ha hb e => hg.inj a b ha hb (hf.inj _ _ (hg.lt a ha) (hg.lt b hb) e)⟩

theorem injBelow_crcBit : InjBelow (2^32) crcBit := ⟨crcBit_lt, crcBit_inj⟩

/-- the eight bit steps of one byte -/
theorem crcBit8 :
    InjBelow (2^32) fun c => crcBit (crcBit (crcBit (crcBit (crcBit (crcBit (crcBit (crcBit c))))))) :=
  have two := injBelow_crcBit.comp injBelow_crcBit
  have four := two.comp two
  four.comp four

theorem crcByte_lt (c x : Nat) (hc : c < 2^32) (hx : x < 256) : crcByte c x < 2^32 :=
  crcBit8.lt _ (Nat.xor_lt_two_pow hc (byte_lt32 x hx))

theorem crcByte_inj_state (a b x : Nat) (ha : a < 2^32) (hb : b < 2^32) (hx : x < 256)
    (h : crcByte a x = crcByte b x) : a = b := by
  unfold crcByte at h
  have hx' := byte_lt32 x hx
  exact xor_cancel_right a b x
    (crcBit8.inj _ _ (Nat.xor_lt_two_pow ha hx') (Nat.xor_lt_two_pow hb hx') h)

theorem crcByte_inj_byte (c x y : Nat) (hc : c < 2^32) (hx : x < 256) (hy : y < 256)
    (h : crcByte c x = crcByte c y) : x = y := by
  unfold crcByte at h
  exact xor_cancel_left c x y
    (crcBit8.inj _ _ (Nat.xor_lt_two_pow hc (byte_lt32 x hx)) (Nat.xor_lt_two_pow hc (byte_lt32 y hy)) h)

theorem bytesOk_cons {b : Nat} {l : List Nat} (h : bytesOk (b :: l)) : b < 256 ∧ bytesOk l :=
  ⟨h b (List.mem_cons_self ..), fun c hc => h c (List.mem_cons_of_mem _ hc)⟩

theorem foldl_crcByte (bs : List Nat) (hb : bytesOk bs) : ∀ s t, s < 2^32 → t < 2^32 →
    bs.foldl crcByte s < 2^32 ∧ (bs.foldl crcByte s = bs.foldl crcByte t → s = t) := by
  induction bs with
  | nil => exact fun _ _ hs _ => ⟨hs, id⟩
  | cons b l ih =>
    intro s t hs ht
    have ⟨hb0, hl⟩ := bytesOk_cons hb
    have h := ih hl (crcByte s b) (crcByte t b) (crcByte_lt s b hs hb0) (crcByte_lt t b ht hb0)
    rw [List.foldl_cons, List.foldl_cons]
    exact ⟨h.1, fun e => crcByte_inj_state s t b hs ht hb0 (h.2 e)⟩

theorem crcRaw_lt (bs : List Nat) (hb : bytesOk bs) : crcRaw bs < 2^32 := by
  unfold crcRaw
  exact (foldl_crcByte bs hb 0xFFFFFFFF 0xFFFFFFFF (by decide) (by decide)).1

/-- no user in the development -/
theorem crc32_lt (bs : List Nat) (hb : bytesOk bs) : crc32 bs < 2^32 := by
  unfold crc32
  exact Nat.xor_lt_two_pow (crcRaw_lt bs hb) (by decide)

theorem crcRaw_single_byte (pre suf : List Nat) (x y : Nat) (hpre : bytesOk pre) (hsuf : bytesOk suf)
    (hx : x < 256) (hy : y < 256) (hxy : x ≠ y) : crcRaw (pre ++ x :: suf) ≠ crcRaw (pre ++ y :: suf) := by
  intro h
  unfold crcRaw at h
  rw [List.foldl_append, List.foldl_append, List.foldl_cons, List.foldl_cons] at h
  have hs : pre.foldl crcByte 0xFFFFFFFF < 2^32 := (foldl_crcByte pre hpre 0xFFFFFFFF 0xFFFFFFFF (by decide) (by decide)).1
  have h1 := (foldl_crcByte suf hsuf _ _ (crcByte_lt _ x hs hx) (crcByte_lt _ y hs hy)).2 h
  exact hxy (crcByte_inj_byte _ x y hs hx hy h1)

theorem crc32_single_byte (pre suf : List Nat) (x y : Nat) (hpre : bytesOk pre) (hsuf : bytesOk suf)
    (hx : x < 256) (hy : y < 256) (hxy : x ≠ y) : crc32 (pre ++ x :: suf) ≠ crc32 (pre ++ y :: suf) := by
  intro h
  unfold crc32 at h
  exact crcRaw_single_byte pre suf x y hpre hsuf hx hy hxy (xor_cancel_right _ _ _ h)

end Sop.BlockCow
