import Sop.Lemmas.RecoveryOps
/-! The expired-log walk in normal form, while cleanup has logged nothing: one line, the whole walk, the rollback. -/
namespace Sop.Recovery
open Sop.Commit

/-- What undoing one log line does to the data while cleanup has logged nothing; `undoLids`: the removed nodes whose
marks it clears. `entryEff` applies the three in this order; the images written for `undoLids` are read (`undoOf`) from
the state BEFORE the deletions, as the code reads them before it writes. -/
structure Undo where
  dels : List UUID := []
  unreg : List UUID := []
  undoLids : List UUID := []

/-- what the walk does with a line when it undoes it: read off the payload alone -/
def Entry.undoAll (e : Entry) : Undo :=
  match e.step, e.p with
  | .commitAddedNodes, .idsBlobs lids blobs => { dels := blobs, unreg := lids }
  | .commitRemovedNodes, .ids lids => { undoLids := lids }
  | .commitUpdatedNodes, .ids staged => { dels := staged }
  | .commitNewRootNodes, .idsBlobs _ blobs => { dels := blobs }
  | .commitTrackedItemsValues, .ids vals => { dels := vals }
  | _, _ => {}

/-- whether it undoes it: `transactionLog.rollback`'s comparison of the line's step with the last step logged -/
def Entry.undone (last : Nat) (e : Entry) : Bool :=
  match e.step, e.p with
  | .commitAddedNodes, .idsBlobs lids _ => last > Step.commitAddedNodes.ord && !lids.isEmpty
  | .commitRemovedNodes, .ids lids => last > Step.commitRemovedNodes.ord && !lids.isEmpty
  | .commitUpdatedNodes, .ids staged => last ≥ Step.commitUpdatedNodes.ord && !staged.isEmpty
  | .commitNewRootNodes, .idsBlobs lids _ => last > Step.commitNewRootNodes.ord && !lids.isEmpty
  | .commitTrackedItemsValues, .ids vals => last ≥ Step.commitTrackedItemsValues.ord && !vals.isEmpty
  | _, _ => false

def Entry.undo (last : Nat) (e : Entry) : Undo := if e.undone last then e.undoAll else {}

theorem Entry.undo_cases (last : Nat) (e : Entry) : e.undo last = e.undoAll ∨ e.undo last = {} := by
  unfold Entry.undo
  split
  · exact .inl rfl
  · exact .inr rfl

theorem Entry.undo_sub (last : Nat) (e : Entry) :
    (∀ x ∈ (e.undo last).dels, x ∈ e.undoAll.dels) ∧ ∀ x ∈ (e.undo last).unreg, x ∈ e.undoAll.unreg := by
  rcases e.undo_cases last with c | c <;> rw [c]
  · exact ⟨fun _ h => h, fun _ h => h⟩
  · exact ⟨fun _ h => (nomatch h), fun _ h => (nomatch h)⟩

def undoOf (s : State) (lids : List UUID) : List Handle :=
  ((lids.filterMap s.reg).filter (fun h => h.deleted || h.wip > 0)).map
    (fun h => { h with deleted := false, wip := if h.bothInUse then 1 else 0 })

def entryEff (last : Nat) (e : Entry) (s : State) : State :=
  ((s.delBlobs (e.undo last).dels).delRegs (e.undo last).unreg).setRegs (undoOf s (e.undo last).undoLids)

theorem walkEntry_nf (last : Nat) (hl : last < Step.deleteObsoleteEntries.ord) (e : Entry) (hc : e.step ≠ .createStore)
    (x : DState × List Ev) :
    (walkEntry last e x).1 = false ∧ (walkEntry last e x).2.1 = { x.1 with s := entryEff last e x.1.s } := by
  obtain ⟨step, p⟩ := e
  unfold walkEntry entryEff Entry.undo Entry.undone Entry.undoAll
  dsimp only
  split
  · exact absurd rfl hc
  · have h13 : (last == Step.deleteTrackedItemsValues.ord) = false :=
      beq_false_of_ne (Nat.ne_of_lt (Nat.lt_trans hl (by decide)))
    simp only [h13, Nat.not_le_of_lt hl, Bool.false_and, Bool.false_eq_true, ↓reduceIte, true_and]
    rfl
  · dsimp only
    split <;> exact ⟨rfl, rfl⟩
  · dsimp only
    split <;> exact ⟨rfl, rfl⟩
  · dsimp only
    split <;> exact ⟨rfl, rfl⟩
  · dsimp only
    split <;> exact ⟨rfl, rfl⟩
  · dsimp only
    split <;> exact ⟨rfl, rfl⟩
  · dsimp only
    split <;> exact ⟨rfl, rfl⟩
  -- the catch-all arm of `walkEntry`: none of its eight patterns matches, so none of `Entry.undone`'s five does
  next h1 h2 h3 h4 h5 h6 h7 h8 =>
    split
    · exact (h4 _ _ rfl rfl).elim
    · exact (h5 _ rfl rfl).elim
    · exact (h6 _ rfl rfl).elim
    · exact (h7 _ _ rfl rfl).elim
    · exact (h8 _ rfl rfl).elim
    · exact ⟨rfl, rfl⟩

def walkState (last : Nat) : List Entry → State → State
  | [], s => s
  | e :: rest, s => walkState last rest (entryEff last e s)

theorem walkState_inv (P : State → Prop) (last : Nat) (l : List Entry) (h : ∀ e ∈ l, ∀ s, P s → P (entryEff last e s)) :
    ∀ s, P s → P (walkState last l s) := by
  induction l with
  | nil => exact fun _ hs => hs
  | cons e rest ih =>
    exact fun s hs => ih (fun e' he' => h e' (List.mem_cons_of_mem _ he')) _ (h e (List.mem_cons_self ..) s hs)

theorem walk_nf (last : Nat) (hl : last < Step.deleteObsoleteEntries.ord) (l : List Entry)
    (hc : ∀ e ∈ l, e.step ≠ .createStore) :
    ∀ x : DState × List Ev,
      (walk last l x).1 = { x.1 with s := setTlog (walkState last l x.1.s) x.1.tid false, log := [] } := by
  induction l with
  | nil => intro x; simp [walk, removeLog, emit, walkState]
  | cons e rest ih =>
    intro x
    obtain ⟨h1, h2⟩ := walkEntry_nf last hl e (hc e (List.mem_cons_self ..)) x
    unfold walk
    generalize hw : walkEntry last e x = r at h1 h2
    obtain ⟨b, x'⟩ := r
    simp only at h1 h2
    subst h1
    simp only
    rw [ih (fun e' he' => hc e' (List.mem_cons_of_mem _ he')) x', h2]
    rfl

def SameData (a b : State) : Prop := a.reg = b.reg ∧ a.blob = b.blob ∧ a.cnt = b.cnt

theorem SameData.rfl' (a : State) : SameData a a := ⟨rfl, rfl, rfl⟩

def lastOrd (log : List Entry) : Nat :=
  match log.getLast? with
  | some l => l.step.ord
  | none => 0

theorem expiredRollback_nf (x : DState × List Ev) (hl : lastOrd x.1.log < Step.deleteObsoleteEntries.ord)
    (hc : ∀ e ∈ x.1.log, e.step ≠ .createStore) :
    SameData (expiredRollback x).1.s (walkState (lastOrd x.1.log) x.1.log.reverse x.1.s)
    ∨ (x.1.s.tlog x.1.tid = false ∧ (expiredRollback x).1 = x.1) := by
  unfold expiredRollback
  by_cases ht : x.1.s.tlog x.1.tid = true
  · left
    simp only [ht, Bool.not_true, Bool.false_eq_true, ↓reduceIte]
    cases hg : x.1.log.getLast? with
    | none =>
      have : x.1.log = [] := by simpa using hg
      simp [removeLog, emit, this, walkState, SameData, setTlog]
    | some l =>
      have hlo : lastOrd x.1.log = l.step.ord := by simp [lastOrd, hg]
      simp only
      rw [hlo] at hl ⊢
      rw [walk_nf _ hl _ (fun e he => hc e (by simpa using he))]
      simp [SameData, setTlog]
  · have ht : x.1.s.tlog x.1.tid = false := by simpa using ht
    exact .inr ⟨ht, congrArg (·.1) (expiredRollback_no_log x ht)⟩

end Sop.Recovery
