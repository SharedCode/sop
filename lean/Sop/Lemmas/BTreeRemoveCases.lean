import Sop.Lemmas.BTreeRemoveCollapse
/-! Remove side of Model B (C17): `removeItemOnNodeWithNilChild` in every branch (`rnc_drops`) and `RemoveCurrentItem`
in every branch (`removeCurrent_ok`). -/
namespace Sop.BTree.Rem
open Sop.BTree


theorem rnc_none (t : BTree) (n : NodeId) (i : Nat) (h : (t.get n).children.isSome = false ∨
    ((t.get n).child i ≠ 0 ∧ (t.get n).child (i + 1) ≠ 0)) : t.removeItemOnNodeWithNilChild n i = none := by
  unfold BTree.removeItemOnNodeWithNilChild
  simp only
  rw [if_pos]
  rcases h with h | ⟨h1, h2⟩
  · simp [Node.hasChildren, h]
  · simp [h1, h2]

theorem rncTail_stay (t : BTree) (n : NodeId) (nd : Node) (i : Nat) (h : 1 < nd.count) :
    rncTail t n nd i = some (t, .ok true) := by
  unfold rncTail
  simp only [show ¬ (nd.count - 1 = 0) by omega, false_and, if_false]

theorem rncTail_unlink (t : BTree) (n : NodeId) (nd : Node) (i : Nat) (hone : nd.count = 1)
    (hK : (rncKids nd i).getD 0 0 = 0) : rncTail t n nd i = some (t.unlink n, .ok true) := by
  unfold rncTail
  simp only
  rw [if_neg (by rw [hK]; simp), if_pos (by omega)]

theorem rncTail_promote (t U : BTree) (n : NodeId) (nd : Node) (i : Nat) (hone : nd.count = 1)
    (hK : (rncKids nd i).getD 0 0 ≠ 0) (hpar : nd.parent ≠ 0) (hU : t.promoteSingleChild n = some U) :
    rncTail t n nd i = some (U, .ok true) := by
  unfold rncTail
  simp only
  rw [if_pos ⟨by omega, hK⟩, if_neg (by simp [Node.isRoot, hpar]), hU]

theorem rnc_stay_drops (t : BTree) (hws : WFs t) (n : NodeId) (nd : Node) (i : Nat)
    (hin : n ∈ reach t (t.nodes.length + 1) t.root) (hg : t.get? n = some nd) (hch : nd.children.isSome = true)
    (hi : i < nd.count) (hnil : nd.child i = 0 ∨ nd.child (i + 1) = 0) (hne : nd.parent = 0 ∨ 1 < nd.count) :
    Drops t (nd.slot i) (t.upd n (rncUpd nd i)) := by
  obtain ⟨hs, _⟩ := wfs_node_facts hws hin hg
  obtain ⟨cs, hcs⟩ := Option.isSome_iff_exists.mp hch
  have hidp := rncUpd_id nd i
  obtain ⟨hj, hz⟩ := nilPos_spec hs hi hnil
  exact upd_drops t hws n _ hidp (nd.slot i) hin
    (rnc_local t _ n nd (rncNode nd i) i (nilPos nd i) rfl
      (fun k hk => get?_upd_ne t _ hidp hk) hg
      (get?_upd_some hidp hg)
      rfl (rncNode_shape hs hcs hi) (hne.imp id (fun h => by simp [rncNode]; omega)) hi hj hz (rncNode_items hs hi)
      (rncNode_kids hs hcs hi))


theorem rnc_survivor {t : BTree} {nd : Node} {cs : Array NodeId} (hs : NodeShape t nd) (hcs : nd.children = some cs)
    (hone : nd.count = 1) (hnil : nd.child 0 = 0 ∨ nd.child (0 + 1) = 0) :
    ∃ c, (rncKids nd 0).getD 0 0 = c ∧ (nd.kids = [c, 0] ∨ nd.kids = [0, c]) := by
  have hkk := kids_two hs hone
  rw [rncKids_getD0 hs hcs (by omega), hkk]
  by_cases h0 : nd.child 0 = 0
  · have hp : nilPos nd 0 = 0 := by simp [nilPos, h0]
    rw [hp, h0]
    exact ⟨nd.child 1, rfl, Or.inr rfl⟩
  · have h1 : nd.child 1 = 0 := hnil.resolve_left h0
    have hp : nilPos nd 0 = 1 := by simp [nilPos, h0]
    rw [hp, h1]
    exact ⟨nd.child 0, rfl, Or.inl rfl⟩

/-- `removeItemOnNodeWithNilChild` on a reachable inner node one of whose children next to slot `i` is nil: the call
    succeeds and takes exactly item `i` out. The node stays if it keeps an item or is a root without a live child; a
    one-item node with no live child is unlinked; with one live child, that child takes its place
    (`promoteSingleChildAsParentChild`), or, at the root, the root takes over the child's content. -/
theorem rnc_drops (t : BTree) (hws : WFs t) (n : NodeId) (nd : Node) (i : Nat)
    (hin : n ∈ reach t (t.nodes.length + 1) t.root) (hg : t.get? n = some nd) (hch : nd.children.isSome = true)
    (hi : i < nd.count) (hnil : nd.child i = 0 ∨ nd.child (i + 1) = 0) :
    ∃ U, t.removeItemOnNodeWithNilChild n i = some (U, .ok true) ∧ Drops t (nd.slot i) U := by
  obtain ⟨hs, hpar⟩ := wfs_node_facts hws hin hg
  obtain ⟨cs, hcs⟩ := Option.isSome_iff_exists.mp hch
  rw [rnc_eq t n i nd (get_of_get? hg) hch hnil hi]
  by_cases hmany : 1 < nd.count
  · exact ⟨_, rncTail_stay _ n nd i hmany, rnc_stay_drops t hws n nd i hin hg hch hi hnil (Or.inr hmany)⟩
  · have hone : nd.count = 1 := by omega
    obtain rfl : i = 0 := by omega
    obtain ⟨c, hK, hnk⟩ := rnc_survivor hs hcs hone hnil
    by_cases hroot : n = t.root
    · by_cases hc0 : c = 0
      · subst hc0
        refine ⟨_, ?_, rnc_stay_drops t hws n nd 0 hin hg hch hi hnil (Or.inl (hpar hroot))⟩
        rw [rncTail_unlink _ n nd 0 hone hK, unlink_root]
        rw [get_of_get? (get?_upd_some (rncUpd_id nd 0) hg), rncUpd_parent]
        exact hpar hroot
      · exact rnc_collapse_drops t hws n c nd hroot.symm hg hch hone hK hnk hc0
    · by_cases hc0 : c = 0
      · subst hc0
        exact ⟨_, rncTail_unlink _ n nd 0 hone hK,
          unlink_drops t hws n nd (rncUpd nd 0) (rncUpd_id nd 0) (rncUpd_parent nd 0 nd) (rncUpd_ion nd 0 nd) hin hg hroot hone
            (hnk.elim id id)⟩
      · obtain ⟨U, hU, hd⟩ := promote_drops t hws n c nd (rncUpd nd 0) (rncUpd_id nd 0) (rncUpd_parent nd 0 nd) (rncUpd_ion nd 0 nd)
          ((child_rncNode nd 0 0).trans hK) hin hg hroot hone hnk hc0
        exact ⟨U, rncTail_promote _ U n nd 0 hone (by rw [hK]; exact hc0) (parent_ne_zero hws hin hg hroot) hU, hd⟩

theorem removeCurrent_of_rnc (t : BTree) (hwf : WF t) (hc : CursorOn t)
    (hch : (t.get t.cur.node).children.isSome = true) (t' : BTree)
    (h : t.removeItemOnNodeWithNilChild t.cur.node t.cur.idx.toNat = some (t', .ok true)) :
    t.removeCurrent = ({ t'.setCur 0 0 with count := t'.count - 1 }, .ok true) := by
  obtain ⟨nd, hg, hcn, hid, hget, hi, hneg⟩ := hc.node
  have hlive := cur_live hwf hc hg
  rw [hget] at hch
  unfold BTree.removeCurrent
  rw [hcn]
  simp only [hneg, if_false, hlive, Node.hasChildren, hch, if_true, hid, h]

/-- The cursor's slot is on an inner node one of whose two neighbouring children is nil: `RemoveCurrentItem` hands the
    slot to `removeItemOnNodeWithNilChild`, and whatever that does to the node (`rnc_drops`), exactly the cursor's item
    leaves the contents. -/
theorem removeCurrent_nilchild_ok (t : BTree) (hwf : WF t) (hp : t.panicked = false) (hc : CursorOn t)
    (hch : (t.get t.cur.node).children.isSome = true)
    (hnil : (t.get t.cur.node).child t.cur.idx.toNat = 0 ∨ (t.get t.cur.node).child (t.cur.idx.toNat + 1) = 0) :
    Removed t t.removeCurrent (TakesOut t.abs t.curItem) := by
  obtain ⟨nd, hg, hcn, hid, hget, hi, hneg⟩ := hc.node
  have hroot := root_ne_zero_of_reach hc.1
  have hch' := hch
  rw [hget] at hnil hch'
  obtain ⟨U, hrnc, hd⟩ := rnc_drops t (WF.wfs hwf hroot) t.cur.node nd t.cur.idx.toNat hc.1 hg hch' hi hnil
  rw [curItem_of_get hget]
  exact hd.finish (WF.count_eq hwf hroot) hp (removeCurrent_of_rnc t hwf hc hch U hrnc)

/-- the tree after the copy-up of the successor path -/
def succTree (t : BTree) (m : NodeId) (s : Item) : BTree :=
  (t.setCur m 0).upd t.cur.node (fun x => x.setSlot t.cur.idx.toNat s)

theorem succTree_count (t : BTree) (m : NodeId) (s : Item) : (succTree t m s).count = t.count := rfl

theorem succTree_get? (t : BTree) (m : NodeId) (s : Item) {k : NodeId} (hk : k ≠ t.cur.node) :
    (succTree t m s).get? k = t.get? k :=
  get?_upd_ne _ _ (fun _ => rfl) hk

/-- where the successor path stands once the successor's item (slot 0 of `m`, record `mn`) is copied over the cursor's:
    the intermediate tree is well-formed and has that item twice where `t` had the cursor's item followed by it -/
structure SuccSetup (t : BTree) (m : NodeId) (mn : Node) : Prop where
  move : t.moveToNext t.cur.node = (t.setCur m 0, true)
  get : t.get? m = some mn
  ne_cur : m ≠ t.cur.node
  count : 0 < mn.count
  child0 : mn.child 0 = 0
  ne_root : m ≠ t.root
  ne_zero : m ≠ 0
  wfs : WFs (succTree t m (mn.slot 0))
  get' : (succTree t m (mn.slot 0)).get? m = some mn
  mem : m ∈ reach (succTree t m (mn.slot 0)) ((succTree t m (mn.slot 0)).nodes.length + 1) (succTree t m (mn.slot 0)).root
  abs : ∃ L R, t.abs = L ++ t.curItem :: mn.slot 0 :: R ∧ (succTree t m (mn.slot 0)).abs = L ++ mn.slot 0 :: mn.slot 0 :: R

theorem succ_setup (t : BTree) (hwf : WF t) (hc : CursorOn t)
    (hch : (t.get t.cur.node).children.isSome = true) (hr : (t.get t.cur.node).child (t.cur.idx.toNat + 1) ≠ 0) :
    ∃ m mn, SuccSetup t m mn := by
  obtain ⟨nd, hg, hcn, hid, hget, hi, hneg⟩ := hc.node
  have hroot := root_ne_zero_of_reach hc.1
  have hws := WF.wfs hwf hroot
  obtain ⟨m, mn, hmv, hmr, hgm, hmc, hmz, hmp, hmn, hmin⟩ := moveToNext_inner t hws hc hch hr
  rw [hget] at hch hr hmin
  have hidp : ∀ x : Node, (x.setSlot t.cur.idx.toNat (mn.slot 0)).id = x.id := fun _ => rfl
  have hlive : (mn.slot 0).id ≠ 0 :=
    let ⟨_, _, _, _, _, hwm, _, _⟩ := reach_facts hws.toWFR hmr
    slot_live hwm hgm hmc
  obtain ⟨hws1, hsp1, hreach1⟩ := wfs_of_ctx t (t.upd t.cur.node (fun x => x.setSlot t.cur.idx.toNat (mn.slot 0)))
    t.cur.node [nd.slot t.cur.idx.toNat, mn.slot 0] [mn.slot 0, mn.slot 0] hws hc.1 rfl rfl (by simp)
    (fun k hk => get?_upd_ne t _ hidp hk)
    (succ_local t t.cur.node t.cur.idx.toNat (mn.slot 0) nd _ hg hi rfl hr hmin)
    (KeysFrom.twice _ hlive)
  obtain ⟨hws2, habs2, hreach2⟩ :=
    WFs.congr hws1 (t' := succTree t m (mn.slot 0)) rfl rfl (by simp [succTree]) (fun k => rfl)
  have hg2 : (succTree t m (mn.slot 0)).get? m = some mn := (succTree_get? t m _ hmn).trans hgm
  obtain ⟨L, R, e1, e2⟩ := splice_two hsp1
  have hnr : m ≠ t.root := fun h => hmp ((wfs_node_facts hws hmr hgm).2 h)
  exact ⟨m, mn,
    { move := hmv, get := hgm, ne_cur := hmn, count := hmc, child0 := hmz, ne_root := hnr
      ne_zero := reach_ne_zero _ _ _ _ hmr, wfs := hws2, get' := hg2
      mem := by rw [hreach2, hreach1]; exact hmr
      abs := ⟨L, R, by rw [curItem_of_get hget]; exact e1, by rw [habs2]; exact e2⟩ }⟩

theorem removeCurrent_succ_eq (t : BTree) (hwf : WF t) (hc : CursorOn t)
    (hch : (t.get t.cur.node).children.isSome = true)
    (hl : (t.get t.cur.node).child t.cur.idx.toNat ≠ 0) (hr : (t.get t.cur.node).child (t.cur.idx.toNat + 1) ≠ 0)
    (m : NodeId) (mn : Node) (hmv : t.moveToNext t.cur.node = (t.setCur m 0, true)) (hgm : t.get? m = some mn)
    (u : BTree)
    (hu : (succTree t m (mn.slot 0)).removeItemOnNodeWithNilChild m 0 = some (u, .ok true) ∨
      ((succTree t m (mn.slot 0)).removeItemOnNodeWithNilChild m 0 = none ∧
        (succTree t m (mn.slot 0)).fixVacatedSlot m = u)) :
    t.removeCurrent = ({ u.setCur 0 0 with count := u.count - 1 }, .ok true) := by
  obtain ⟨nd, hg, hcn, hid, hget, hi, hneg⟩ := hc.node
  have hlive := cur_live hwf hc hg
  have hidm := get?_id hgm
  have hnone1 : t.removeItemOnNodeWithNilChild t.cur.node t.cur.idx.toNat = none := rnc_none t _ _ (Or.inr ⟨hl, hr⟩)
  unfold succTree at hu
  rw [hget] at hch
  unfold BTree.removeCurrent
  rw [hcn]
  simp only [hneg, if_false, hlive, Node.hasChildren, hch, if_true, hid, hnone1, hmv, Bool.not_true, Bool.false_eq_true]
  have hgs : (t.setCur m 0).get? (t.setCur m 0).cur.node = some mn := hgm
  rw [hgs]
  simp only
  have hidx : (t.setCur m 0).cur.idx = 0 := rfl
  rw [hidx]
  rcases hu with hrnc | ⟨hnone, hfix⟩
  · simp only [Int.lt_irrefl, if_false, Int.toNat_zero, hidm, hrnc]
  · simp only [Int.lt_irrefl, if_false, Int.toNat_zero, hidm, hnone, hfix]
    rfl


/-- the successor's node loses its slot 0: through `removeItemOnNodeWithNilChild` when it is an inner node (its child 0
    is nil), through `fixVacatedSlot` when it is a leaf. The disjunction is the inner `match` of `RemoveCurrentItem`'s
    successor branch: `some (u, .ok true)`, or `none` and then `fixVacatedSlot`; `removeCurrent_succ_eq` consumes it. -/
theorem succ_slot_drops (t : BTree) (hws : WFs t) (hc : CursorOn t) (hidx : t.cur.idx = 0) (mn : Node)
    (hg : t.get? t.cur.node = some mn) (hz : mn.child 0 = 0) :
    ∃ u, (t.removeItemOnNodeWithNilChild t.cur.node 0 = some (u, .ok true) ∨
        (t.removeItemOnNodeWithNilChild t.cur.node 0 = none ∧ t.fixVacatedSlot t.cur.node = u)) ∧
      Drops t (mn.slot 0) u := by
  have hget := get_of_get? hg
  have hcnt : 0 < mn.count := by have := hc.2.2; rw [hget, hidx] at this; omega
  cases hch : mn.children.isSome with
  | true =>
    obtain ⟨u, h1, h2⟩ := rnc_drops t hws _ mn 0 hc.1 hg hch hcnt (Or.inl hz)
    exact ⟨u, Or.inl h1, h2⟩
  | false =>
    have hleaf : mn.children = none := by simpa using hch
    refine ⟨_, Or.inr ⟨rnc_none t _ _ (Or.inl (by rw [hget]; exact hch)), rfl⟩, ?_⟩
    have h := fixVacatedSlot_leaf_drops t hws hc (by rw [hget]; exact hleaf)
    rwa [curItem_of_get hget, hidx] at h

/-- closing the successor path from the tree `u` that lost one occurrence of the successor item. No user in the
    development (`removeCurrent_succ_ok` closes through `Drops.finish` and `Removed.imp`). -/
theorem succ_finish (t u : BTree) (s : Item) (hwf : WF t) (hroot : t.root ≠ 0) (hp : t.panicked = false) (hwsu : WFs u)
    (hpan : u.panicked = t.panicked) (hcnt : u.count = t.count)
    (L R L2 R2 : List Item) (e1 : t.abs = L ++ t.curItem :: s :: R) (e2 : L ++ s :: s :: R = L2 ++ s :: R2)
    (e3 : u.abs = L2 ++ R2) :
    WF ({ u.setCur 0 0 with count := u.count - 1 } : BTree) ∧ ({ u.setCur 0 0 with count := u.count - 1 } : BTree).panicked = false ∧
    ({ u.setCur 0 0 with count := u.count - 1 } : BTree).cur = { node := 0, idx := 0, cached := false } ∧
    ({ u.setCur 0 0 with count := u.count - 1 } : BTree).count = t.count - 1 ∧
    ∃ L s R, t.abs = L ++ t.curItem :: s :: R ∧
      ∃ L2 R2, L ++ s :: s :: R = L2 ++ s :: R2 ∧ ({ u.setCur 0 0 with count := u.count - 1 } : BTree).abs = L2 ++ R2 := by
  obtain ⟨hws4, habs4, _⟩ :=
    WFs.congr hwsu (t' := { u.setCur 0 0 with count := u.count - 1 }) rfl rfl rfl (fun k => rfl)
  refine ⟨hws4.toWF ?_, hpan.trans hp, rfl, congrArg (· - 1) hcnt, L, s, R, e1, L2, R2, e2, habs4.trans e3⟩
  show u.count - 1 = _
  rw [habs4, e3, hcnt, WF.count_eq hwf hroot, e1]
  have := congrArg List.length e2
  simp only [List.length_append, List.length_cons] at this ⊢
  omega

/-- Both neighbouring children of the cursor's slot are live: `RemoveCurrentItem` copies the in-order successor `s` (slot 0
    of the leftmost node below child `idx + 1`) over the cursor's item and then removes `s` from its node. The contents go
    from `L ++ x :: s :: R` through `L ++ s :: s :: R` to that list with one occurrence of `s` removed. -/
theorem removeCurrent_succ_ok (t : BTree) (hwf : WF t) (hp : t.panicked = false) (hc : CursorOn t)
    (hch : (t.get t.cur.node).children.isSome = true)
    (hl : (t.get t.cur.node).child t.cur.idx.toNat ≠ 0) (hr : (t.get t.cur.node).child (t.cur.idx.toNat + 1) ≠ 0) :
    Removed t t.removeCurrent (TakesOutVia t.abs t.curItem) := by
  have hroot := root_ne_zero_of_reach hc.1
  obtain ⟨m, mn, hs⟩ := succ_setup t hwf hc hch hr
  obtain ⟨L, R, e1, e2⟩ := hs.abs
  have hc2 : CursorOn (succTree t m (mn.slot 0)) :=
    ⟨hs.mem, Int.le_refl _, by show (0 : Int) < ((BTree.get _ m).count : Int); rw [get_of_get? hs.get']; have := hs.count; omega⟩
  obtain ⟨u, hu, hd⟩ := succ_slot_drops _ hs.wfs hc2 rfl mn hs.get' hs.child0
  have hcount : (succTree t m (mn.slot 0)).count = ((succTree t m (mn.slot 0)).abs.length : Int) := by
    rw [succTree_count, e2, WF.count_eq hwf hroot, e1]
    simp
  have h : Removed (succTree t m (mn.slot 0)) t.removeCurrent (TakesOut (succTree t m (mn.slot 0)).abs (mn.slot 0)) :=
    hd.finish hcount hp (removeCurrent_succ_eq t hwf hc hch hl hr m mn hs.move hs.get u hu)
  exact h.imp (succTree_count t m _) (fun v ⟨L2, R2, e3, e4⟩ => ⟨L, mn.slot 0, R, e1, L2, R2, by rw [← e2]; exact e3, e4⟩)

theorem twostep_perm {x : Item} {a u : List Item} (h : TakesOutVia a x u) :
    ∃ L R, a = L ++ x :: R ∧ (L ++ R).Perm u := by
  obtain ⟨L, s, R, e1, L2, R2, e2, e3⟩ := h
  refine ⟨L, s :: R, e1, ?_⟩
  rw [e3]
  have h1 : (L ++ s :: s :: R).Perm (s :: (L ++ s :: R)) := List.perm_middle
  have h2 : (L2 ++ s :: R2).Perm (s :: (L2 ++ R2)) := List.perm_middle
  rw [e2] at h1
  exact (h1.symm.trans h2).cons_inv

theorem removeCurrent_cases (t : BTree) (hwf : WF t) (hp : t.panicked = false) (hc : CursorOn t) :
    Removed t t.removeCurrent (fun u => TakesOut t.abs t.curItem u ∨ TakesOutVia t.abs t.curItem u) := by
  cases hch : (t.get t.cur.node).children.isSome with
  | false =>
    have h : Removed t t.removeCurrent (TakesOut t.abs t.curItem) := removeCurrent_leaf_ok t hwf hp hc (by simpa using hch)
    exact h.imp rfl (fun _ => Or.inl)
  | true =>
    by_cases hnil : (t.get t.cur.node).child t.cur.idx.toNat = 0 ∨ (t.get t.cur.node).child (t.cur.idx.toNat + 1) = 0
    · exact (removeCurrent_nilchild_ok t hwf hp hc hch hnil).imp rfl (fun _ => Or.inl)
    · exact (removeCurrent_succ_ok t hwf hp hc hch (fun h => hnil (Or.inl h)) (fun h => hnil (Or.inr h))).imp rfl
        (fun _ => Or.inr)

/-- `RemoveCurrentItem` in every branch: on a well-formed tree whose cursor designates an occupied slot of a reachable
    node, the call answers `true`, does not panic, leaves a well-formed tree with the cursor reset and `Count`
    decremented, and the in-order contents are the old ones minus the cursor's item (as a multiset). -/
theorem removeCurrent_ok (t : BTree) (hwf : WF t) (hp : t.panicked = false) (hc : CursorOn t) :
    Removed t t.removeCurrent (fun u => ∃ L R, t.abs = L ++ t.curItem :: R ∧ (L ++ R).Perm u) :=
  (removeCurrent_cases t hwf hp hc).imp rfl
    (fun _ h => h.elim (fun ⟨L, R, e1, e2⟩ => ⟨L, R, e1, by rw [e2]⟩) twostep_perm)

theorem removeCurrent_succ_leaf_perm (t : BTree) (hwf : WF t) (hp : t.panicked = false) (hc : CursorOn t)
    (hch : (t.get t.cur.node).children.isSome = true)
    (hl : (t.get t.cur.node).child t.cur.idx.toNat ≠ 0) (hr : (t.get t.cur.node).child (t.cur.idx.toNat + 1) ≠ 0)
    (hsucc : (t.get (t.moveToNext t.cur.node).1.cur.node).children = none) :
    ∃ L R, t.abs = L ++ t.curItem :: R ∧ (L ++ R).Perm t.removeCurrent.1.abs :=
  (removeCurrent_ok t hwf hp hc).contents

theorem removeCurrent_none (t : BTree) (h : t.curNode? = none) : t.removeCurrent = (t, .ok false) := by
  unfold BTree.removeCurrent; rw [h]

theorem updateCurrent_none (t : BTree) (key : Int) (val : Option Nat) (h : t.curNode? = none) :
    t.updateCurrent key val = (t, .ok false) := by
  unfold BTree.updateCurrent; rw [h]

theorem updateCurrentValue_none (t : BTree) (v : Nat) (h : t.curNode? = none) :
    t.updateCurrentValue v = (t, .ok false) := by
  unfold BTree.updateCurrentValue; rw [h]

/-- non-vacuity: a three-level tree (slot length 2) with the cursor on an inner slot whose successor sits in a leaf;
    `demoTree_ok` checks only that it is well-formed, not panicked, and that the cursor is on an inner node -/
def demoTree : BTree :=
  ((BTree.new 2 true false true).run [.add 4 1, .add 2 2, .add 6 3, .add 1 4, .add 8 5, .add 9 6, .add 3 7, .add 5 8,
    .find 4 false])

theorem demoTree_ok : checkWF demoTree = true ∧ demoTree.panicked = false ∧ CursorOn demoTree ∧
    (demoTree.get demoTree.cur.node).children.isSome = true := by decide +kernel

end Sop.BTree.Rem
