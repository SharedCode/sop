import Sop.Model.ValuePlacement
import Sop.Lemmas.Assoc
import Sop.Lemmas.Basics
/-! # Specification of C19 and the invariants of the two kinds of store

Stores that are not actively persisted: `InlineRel` (values stay inline), `NInv` (a skipped commit lost nothing).
A store with `IsValueDataActivelyPersisted` (`AInv`): `tracker.Add`/`Update` write the value blob AT ONCE (before commit),
an update of an item whose value already lives in a blob gives the item a NEW id and a new blob, an update of an item
whose value is inline overwrites the blob of the item's own id, `Rollback` deletes the blobs of all tracked
adds/updates, and a skipped commit deletes the blobs queued by removes.  What keeps the committed tree readable
through all of that is (1) id freshness (`ReadsBack`): every id in the committed and the working tree is below the id
counter and identifies its slot item, (2) the blob frame (`Safe.frame`): a working item that carries the id of a
committed item whose value lives in its blob IS that item (so nothing overwrites that blob), (3) tracker entries
(`TrackerOK`): an `add` entry is keyed by an id no committed item has and has already given its value away; no tracked
item carries the id of a committed blob-held item (so `Rollback` does not delete that blob).  The three together are
`Safe`; what a skipped commit finds is told by the history's flags (`Quiet`).  Levels: `WInv` (`Safe ∧ Quiet` of the open
transaction), `WorkInv` (paired with the specification's), `AInv` (the run invariant); for the other stores `TreeOK` and
`NInv`, `NAWork`, `NAInv`. -/
namespace Sop.C19
open Sop.ValuePlacement

abbrev Spec := List (Int × Val)

structure SpecSt where
  committed : Spec := []
  work : Option Spec := none
deriving Repr, Inhabited

def SpecSt.apply (s : SpecSt) : Op → SpecSt
  | .begin => { s with work := some s.committed }
  | .add k v => match s.work with | some w => { s with work := some ((k, v) :: w) } | none => s
  | .update k v => match s.work with
    | some w => { s with work := some (w.map (fun e => if e.1 == k then (e.1, v) else e)) }
    | none => s
  | .remove k _ => match s.work with | some w => { s with work := some (w.filter (fun e => e.1 != k)) } | none => s
  | .commit => match s.work with | some w => { committed := w, work := none } | none => s
  | .rollback => { s with work := none }

def specRun (ops : List Op) : SpecSt := ops.foldl SpecSt.apply {}

/-- what the cold reader sees: per slot item its key and the value it reads (`none` = unreadable / zero value) -/
def view (b : Blobs) (slots : List Item) : List (Int × Option Val) := slots.map (fun it => (it.key, readItem b it))

def specView (s : Spec) : List (Int × Option Val) := s.map (fun e => (e.1, some e.2))

def hasK (s : Spec) (k : Int) : Bool := s.any (fun e => e.1 == k)

/-- the histories the B-tree layer can produce (C17): one open transaction at a time; add only an absent key;
update/remove only a present key -/
def legalFrom (s : SpecSt) : List Op → Bool
  | [] => true
  | op :: rest =>
    (match op, s.work with
      | .begin, none => true
      | .add k _, some w => !hasK w k
      | .update k _, some w => hasK w k
      | .remove k _, some w => hasK w k
      | .commit, some _ => true
      | .rollback, some _ => true
      | _, _ => false) && legalFrom (s.apply op) rest

abbrev Legal (ops : List Op) : Prop := legalFrom {} ops = true

def opLegal (s : SpecSt) (op : Op) : Bool :=
  match op, s.work with
  | .begin, none => true
  | .add k _, some w => !hasK w k
  | .update k _, some w => hasK w k
  | .remove k _, some w => hasK w k
  | .commit, some _ => true
  | .rollback, some _ => true
  | _, _ => false

theorem legalFrom_cons (s : SpecSt) (op : Op) (rest : List Op) :
    legalFrom s (op :: rest) = (opLegal s op && legalFrom (s.apply op) rest) := rfl

theorem legalFrom_append (ops : List Op) (op : Op) : ∀ (sp : SpecSt),
    legalFrom sp (ops ++ [op]) = (legalFrom sp ops && opLegal (ops.foldl SpecSt.apply sp) op) := by
  induction ops with
  | nil => intro sp; simp [legalFrom_cons, legalFrom]
  | cons o rest ih => intro sp; simp [legalFrom_cons, ih, Bool.and_assoc]

theorem opLegal_idle {sp : SpecSt} {op : Op} (h : sp.work = none) (hl : opLegal sp op = true) : op = .begin := by
  cases op <;> simp [opLegal, h] at hl ⊢

/-- no commit of the history is skipped: the tracker holds an item at each -/
def commitsTracked (s : St) : List Op → Bool
  | [] => true
  | .commit :: rest =>
    (match s.work with | some w => !w.tracker.items.isEmpty | none => true) && commitsTracked (s.apply .commit) rest
  | op :: rest => commitsTracked (s.apply op) rest

theorem commitsTracked_tail {s : St} {op : Op} {rest : List Op} (h : commitsTracked s (op :: rest) = true) :
    commitsTracked (s.apply op) rest = true := by
  cases op with
  | commit => simp only [commitsTracked, Bool.and_eq_true] at h; exact h.2
  | _ => exact h

theorem commitsTracked_head {s : St} {w : Txn} {rest : List Op} (h : commitsTracked s (.commit :: rest) = true)
    (hw : s.work = some w) : w.tracker.items ≠ [] := by
  intro hn
  simp [commitsTracked, hw, hn] at h

theorem set_tracked (t : Tracker) (u : Nat) (ci : CItem) : (t.set u ci).items ≠ [] := by
  unfold Tracker.set
  split
  · rename_i h
    intro hn
    rw [List.map_eq_nil_iff] at hn
    rw [hn] at h
    cases h
  · exact List.append_ne_nil_of_right_ne_nil _ (List.cons_ne_nil _ _)

theorem active_remove_untracked (pl : Placement) (h : pl.active = true) (t : Tracker) (it : Item) :
    (trackerRemove pl false t it).items = t.items := by
  simp [trackerRemove, h]

theorem manageTail_tracked (t : Tracker) (u : Nat) (a : Action) (it : Item) (n : Nat) :
    (manageTail t u a it n).t.items ≠ [] := by
  unfold manageTail
  split <;> exact set_tracked _ _ _

theorem manage_tracked (t : Tracker) (u : Nat) (ci : CItem) (n : Nat) (h : t.items ≠ []) :
    (manage t u ci n).t.items ≠ [] := by
  unfold manage
  split
  · have key : ∀ (t1 : Tracker) (c : CItem), t1.items ≠ [] →
        (if (t1.lookup u).isSome then t1.set u c else t1).items ≠ [] := by
      intro t1 c h1
      split
      · exact set_tracked _ _ _
      · exact h1
    apply key
    split <;> exact h
  · split <;> exact manageTail_tracked _ _ _ _ _
  · exact manageTail_tracked _ _ _ _ _
  · exact h

theorem activelyPersist_tracked (pl : Placement) (t : Tracker) (u : Nat) (ci : CItem) (b : Blobs) (n : Nat)
    (h : t.items ≠ []) : (activelyPersist pl t u ci b n).1.t.items ≠ [] := by
  unfold activelyPersist
  split
  · exact manage_tracked _ _ _ _ h
  · exact h

theorem trackerAdd_tracked (pl : Placement) (t : Tracker) (it : Item) (b : Blobs) (n : Nat) :
    (trackerAdd pl t it b n).t.items ≠ [] :=
  activelyPersist_tracked _ _ _ _ _ _ (set_tracked _ _ _)

theorem trackerUpdate_tracked (pl : Placement) (t : Tracker) (it : Item) (b : Blobs) (n : Nat) :
    (trackerUpdate pl t it b n).t.items ≠ [] := by
  unfold trackerUpdate
  split
  · rename_i c hc
    split
    · exact activelyPersist_tracked _ _ _ _ _ _ fun hn => by simp [Tracker.lookup, hn] at hc
    · exact activelyPersist_tracked _ _ _ _ _ _ (set_tracked _ _ _)
  · exact activelyPersist_tracked _ _ _ _ _ _ (set_tracked _ _ _)

theorem get_put_same (b : Blobs) (id : Nat) (x : Val) : (b.put id x).get? id = some x := by
  simp [Blobs.put, Blobs.get?]

theorem find_key {slots : List Item} {k : Int} {it : Item} (h : findKey slots k = some it) : it.key = k := by
  have := List.find?_some h
  simpa using this

theorem get?_isLookup : Assoc.IsLookup Blobs.get? := ⟨fun _ => rfl, fun _ _ _ => rfl⟩

theorem get_erase_ne (b : Blobs) (i j : Nat) (h : j ≠ i) : (b.erase i).get? j = b.get? j :=
  (Assoc.look_filter get?_isLookup (fun e => by simp) b j).trans (if_neg h)

theorem get_put_ne (b : Blobs) (i j : Nat) (x : Val) (h : j ≠ i) : (b.put i x).get? j = b.get? j :=
  (if_neg (fun h' => h h'.symm)).trans (get_erase_ne b i j h)

theorem get_eraseAll_notin (ids : List Nat) : ∀ (b : Blobs) (j : Nat), j ∉ ids → (b.eraseAll ids).get? j = b.get? j := by
  induction ids with
  | nil => intro b j _; rfl
  | cons i rest ih =>
    intro b j hj
    simp only [List.mem_cons, not_or] at hj
    show (Blobs.eraseAll (b.erase i) rest).get? j = b.get? j
    rw [ih _ _ hj.2, get_erase_ne _ _ _ hj.1]

theorem eraseAll_nil (b : Blobs) : b.eraseAll [] = b := rfl

theorem readItem_congr {b b' : Blobs} {it : Item}
    (h : it.val = none → it.vnf = true → b'.get? it.id = b.get? it.id) : readItem b' it = readItem b it := by
  unfold readItem
  cases hv : it.val with
  | some x => rfl
  | none =>
    cases hf : it.vnf with
    | false => rfl
    | true => simp [h hv hf]

theorem view_congr {b b' : Blobs} {slots : List Item}
    (h : ∀ x ∈ slots, x.val = none → x.vnf = true → b'.get? x.id = b.get? x.id) : view b' slots = view b slots := by
  unfold view
  apply List.map_congr_left
  intro it hit
  rw [readItem_congr (h it hit)]

theorem vnf_of_reads {b : Blobs} {slots : List Item} {sp : Spec} (h : view b slots = specView sp) {x : Item}
    (hx : x ∈ slots) (hv : x.val = none) : x.vnf = true := by
  have : (x.key, readItem b x) ∈ specView sp := by
    rw [← h]; exact List.mem_map_of_mem (f := fun it => (it.key, readItem b it)) hx
  obtain ⟨e, _, he⟩ := List.mem_map.1 this
  have hr : readItem b x = some e.2 := (congrArg Prod.snd he).symm
  unfold readItem at hr
  rw [hv] at hr
  cases hf : x.vnf with
  | true => rfl
  | false => simp [hf] at hr

/-! `view b slots` and `kv slots` (the inline values, below) are both `slots.map (fun it => (it.key, f it))`; what follows
holds for every `f`. -/

theorem hasKey_eq_hasK {f : Item → Option Val} {slots : List Item} {sw : Spec}
    (h : slots.map (fun it => (it.key, f it)) = specView sw) (k : Int) : hasKey slots k = hasK sw k := by
  have := congrArg (fun l => l.any (fun e => e.1 == k)) h
  simp only [specView, List.any_map, Function.comp_def] at this
  exact this

theorem findKey_of_hasK {f : Item → Option Val} {slots : List Item} {sw : Spec} {k : Int}
    (h : slots.map (fun it => (it.key, f it)) = specView sw) (hk : hasK sw k = true) :
    ∃ slot, findKey slots k = some slot ∧ slot ∈ slots ∧ slot.key = k := by
  obtain ⟨it, hit, hik⟩ := List.any_eq_true.1 ((hasKey_eq_hasK h k).trans hk)
  cases hf : findKey slots k with
  | none => exact absurd hik (List.find?_eq_none.1 hf it hit)
  | some slot => exact ⟨slot, rfl, List.mem_of_find?_eq_some hf, find_key hf⟩

theorem keys_ne_of_not_hasK {f : Item → Option Val} {slots : List Item} {sw : Spec} {k : Int}
    (h : slots.map (fun it => (it.key, f it)) = specView sw) (hk : hasK sw k = false) : ∀ y ∈ slots, y.key ≠ k := by
  intro y hy hyk
  have : hasKey slots k = true := List.any_eq_true.2 ⟨y, hy, by simp [hyk]⟩
  rw [hasKey_eq_hasK h k, hk] at this
  cases this

/-- `keys_ne_of_not_hasK` at `view`; no user in the development -/
theorem not_hasKey_of_not_hasK {b : Blobs} {slots : List Item} {sw : Spec} {k : Int} (h : view b slots = specView sw)
    (hk : hasK sw k = false) : ∀ y ∈ slots, y.key ≠ k :=
  keys_ne_of_not_hasK h hk

theorem specView_update (sw : Spec) (k : Int) (x : Val) :
    specView (sw.map (fun e => if e.1 == k then (e.1, x) else e))
      = (specView sw).map (fun e => if e.1 == k then (e.1, some x) else e) := by
  simp only [specView, List.map_map]
  apply List.map_congr_left
  intro e _
  by_cases h : e.1 = k <;> simp [h]

theorem specView_filter (sw : Spec) (k : Int) :
    specView (sw.filter (fun e => e.1 != k)) = (specView sw).filter (fun e => e.1 != k) :=
  (List.filter_map (f := fun e : Int × Val => (e.1, some e.2)) (p := fun e => e.1 != k) (l := sw)).symm

theorem proj_update {f f' : Item → Option Val} {k : Int} {x : Val} {ni : Item} {slots : List Item} {sw : Spec}
    (hk : ni.key = k) (hr : f' ni = some x) (h : slots.map (fun it => (it.key, f it)) = specView sw)
    (hf : ∀ y ∈ slots, y.key ≠ k → f' y = f y) :
    (slots.map (fun it => if it.key == k then ni else it)).map (fun it => (it.key, f' it))
      = specView (sw.map (fun e => if e.1 == k then (e.1, x) else e)) := by
  rw [specView_update, ← h, List.map_map, List.map_map]
  apply List.map_congr_left
  intro y hy
  by_cases hyk : y.key = k
  · simp [hyk, hk, hr]
  · simp [hyk, hf y hy hyk]

theorem proj_filter {f : Item → Option Val} {k : Int} {slots : List Item} {sw : Spec}
    (h : slots.map (fun it => (it.key, f it)) = specView sw) :
    (slots.filter (fun it => it.key != k)).map (fun it => (it.key, f it))
      = specView (sw.filter (fun e => e.1 != k)) := by
  rw [specView_filter, ← h]
  exact (List.filter_map (f := fun it : Item => (it.key, f it)) (p := fun e => e.1 != k) (l := slots)).symm

theorem mem_map_upd {slots : List Item} {k : Int} {ni z : Item}
    (h : z ∈ slots.map (fun it => if it.key == k then ni else it)) : z = ni ∨ (z ∈ slots ∧ z.key ≠ k) := by
  obtain ⟨y, hy, hyz⟩ := List.mem_map.1 h
  by_cases hk : y.key = k
  · left; simp [hk] at hyz; exact hyz.symm
  · right; simp [hk] at hyz; subst hyz; exact ⟨hy, hk⟩

def InjOn {α : Type} (g : Item → α) (l : List Item) : Prop := ∀ x ∈ l, ∀ y ∈ l, g x = g y → x = y

theorem InjOn.cons {α : Type} {g : Item → α} {l : List Item} {a : Item} (h : InjOn g l) (ha : ∀ y ∈ l, g y ≠ g a) :
    InjOn g (a :: l) := by
  intro z1 hz1 z2 hz2 hEq
  rcases List.mem_cons.1 hz1 with h1 | h1 <;> rcases List.mem_cons.1 hz2 with h2 | h2
  · rw [h1, h2]
  · rw [h1] at hEq; exact absurd hEq.symm (ha z2 h2)
  · rw [h2] at hEq; exact absurd hEq (ha z1 h1)
  · exact h z1 h1 z2 h2 hEq

theorem InjOn.filter {α : Type} {g : Item → α} {l : List Item} (h : InjOn g l) (p : Item → Bool) : InjOn g (l.filter p) :=
  fun z1 hz1 z2 hz2 => h z1 (List.mem_filter.1 hz1).1 z2 (List.mem_filter.1 hz2).1

theorem InjOn.update {α : Type} {g : Item → α} {l : List Item} {k : Int} {ni : Item} (h : InjOn g l)
    (hne : ∀ y ∈ l, y.key ≠ k → g y ≠ g ni) : InjOn g (l.map (fun it => if it.key == k then ni else it)) := by
  intro z1 hz1 z2 hz2 hEq
  rcases mem_map_upd hz1 with h1 | h1 <;> rcases mem_map_upd hz2 with h2 | h2
  · rw [h1, h2]
  · rw [h1] at hEq; exact absurd hEq.symm (hne z2 h2.1 h2.2)
  · rw [h2] at hEq; exact absurd hEq (hne z1 h1.1 h1.2)
  · exact h z1 h1.1 z2 h2.1 hEq


theorem mem_set {t : Tracker} {u : Nat} {ci : CItem} {e : Nat × CItem} (h : e ∈ (t.set u ci).items) :
    e = (u, ci) ∨ (e ∈ t.items ∧ e.1 ≠ u) := by
  unfold Tracker.set at h
  split at h
  · obtain ⟨e0, he0, hee⟩ := List.mem_map.1 h
    by_cases hk : e0.1 = u
    · left; simp [hk] at hee; exact hee.symm
    · right; simp [hk] at hee; subst hee; exact ⟨he0, hk⟩
  · rename_i hany
    rcases List.mem_append.1 h with h1 | h1
    · exact Or.inr ⟨h1, fun he => hany (List.any_eq_true.2 ⟨e, h1, by simp [he]⟩)⟩
    · left; simpa using h1

theorem set_forDel (t : Tracker) (u : Nat) (ci : CItem) : (t.set u ci).forDel = t.forDel := by
  unfold Tracker.set; split <;> rfl

theorem set_items_forDel (t : Tracker) (f : List Nat) (u : Nat) (ci : CItem) :
    (Tracker.set { t with forDel := f } u ci).items = (t.set u ci).items := by
  unfold Tracker.set; simp only; split <;> rfl

theorem mem_of_lookup {t : Tracker} {u : Nat} {c : CItem} (h : t.lookup u = some c) : (u, c) ∈ t.items := by
  obtain ⟨e, hf, rfl⟩ := Option.map_eq_some_iff.1 h
  have hk : e.1 = u := by simpa using List.find?_some hf
  rw [← hk]
  exact List.mem_of_find?_eq_some hf

theorem lookup_nil {t : Tracker} (h : t.items = []) (i : Nat) : t.lookup i = none := by
  simp [Tracker.lookup, h]

theorem lookup_set (t : Tracker) (u v : Nat) (ci : CItem) :
    (t.set u ci).lookup v = if v = u then some ci else t.lookup v := by
  unfold Tracker.set Tracker.lookup
  split
  · rename_i hany
    -- the map keeps every entry's id, so it commutes with the search
    have hp : ((fun e : Nat × CItem => e.1 == v) ∘ fun e => if e.1 == u then (u, ci) else e) = fun e => e.1 == v := by
      funext e; by_cases h : e.1 = u <;> simp [h]
    simp only [List.find?_map, hp]
    cases hf : t.items.find? (fun e => e.1 == v) with
    | none =>
      have hvu : v ≠ u := by
        intro h; subst h
        obtain ⟨e, he, hk⟩ := List.any_eq_true.1 hany
        exact List.find?_eq_none.1 hf e he hk
      simp [hvu]
    | some e =>
      have hk : e.1 = v := by simpa using List.find?_some hf
      by_cases hvu : v = u <;> simp [hk, hvu]
  · rename_i hany
    by_cases hvu : v = u
    · subst hvu
      have hn : t.items.find? (fun e => e.1 == v) = none :=
        List.find?_eq_none.2 fun e he hk => hany (List.any_eq_true.2 ⟨e, he, hk⟩)
      simp [List.find?_append, hn]
    · have : ¬ u = v := fun h => hvu h.symm
      simp [List.find?_append, hvu, this]

theorem lookup_del (t : Tracker) (u v : Nat) : (t.del u).lookup v = if v = u then none else t.lookup v := by
  unfold Tracker.del Tracker.lookup
  by_cases hvu : v = u
  · rw [if_pos hvu, Assoc.find?_filter_drop fun e _ he => by rw [beq_iff_eq.1 he, hvu]; exact bne_self_eq_false u]
    rfl
  · rw [if_neg hvu, Assoc.find?_filter_keep fun e _ he => by rw [beq_iff_eq.1 he]; exact bne_iff_ne.2 hvu]

theorem lookup_del_self (t : Tracker) (u : Nat) : (t.del u).lookup u = none := by
  rw [lookup_del, if_pos rfl]

/-- `phase1Commit` returns at once: only `cleanup` runs -/
theorem commit_skipped_eq (s : St) (w : Txn) (h : w.tracker.items = []) :
    s.commit w =
      { s with blobs := if s.place.inNode then s.blobs else s.blobs.eraseAll w.tracker.forDel, work := none } := by
  unfold St.commit
  rw [h]
  rfl

/-- `Transaction.Commit` when something is tracked, with the pattern-matching `let` spelt out -/
theorem commit_installs_eq (s : St) (w : Txn) (h : w.tracker.items ≠ []) :
    s.commit w =
      (let t0 : Tracker := if s.place.inNode then w.tracker else { w.tracker with forDel := [] }
       let r := if !s.place.inNode && !s.place.active then commitValues t0 s.blobs s.nid else (t0, s.blobs, s.nid)
       { s with slots := w.slots, count := w.count, nid := r.2.2,
                blobs := if s.place.inNode then r.2.1 else r.2.1.eraseAll r.1.forDel, work := none }) := by
  unfold St.commit
  rw [List.isEmpty_eq_false_iff.2 h]
  rfl

theorem commit_installs_active (s : St) (w : Txn) (hact : s.place.active = true) (h : w.tracker.items ≠ []) :
    s.commit w = { s with slots := w.slots, count := w.count, work := none } := by
  rw [commit_installs_eq s w h]
  cases hin : s.place.inNode
  · simp only [hact, Bool.not_true, Bool.and_false, Bool.false_eq_true, if_false]
    rfl
  · simp only [hact, Bool.not_true, Bool.and_false, Bool.false_eq_true, if_false, if_true]

/-! `commit_skipped_eq` and `commit_installs_eq` field by field; no user in the development. -/

theorem commit_skipped (s : St) (w : Txn) (h : w.tracker.items = []) :
    (s.commit w).slots = s.slots ∧ (s.commit w).count = s.count ∧ (s.commit w).work = none ∧ (s.commit w).nid = s.nid ∧
    (s.commit w).blobs = (if s.place.inNode then s.blobs else s.blobs.eraseAll w.tracker.forDel) := by
  rw [commit_skipped_eq s w h]; exact ⟨rfl, rfl, rfl, rfl, rfl⟩

theorem commit_installs (s : St) (w : Txn) (h : w.tracker.items ≠ []) :
    (s.commit w).slots = w.slots ∧ (s.commit w).count = w.count ∧ (s.commit w).work = none := by
  rw [commit_installs_eq s w h]; exact ⟨rfl, rfl, rfl⟩

theorem apply_config (s : St) (op : Op) :
    (s.apply op).place = s.place ∧ (s.apply op).trackRemoves = s.trackRemoves ∧
    (s.apply op).legacyRemove = s.legacyRemove := by
  cases s with | mk pl sl c b n work tr lr =>
  cases work with
  | none => cases op <;> exact ⟨rfl, rfl, rfl⟩
  | some w =>
    cases op with
    | update k x =>
      simp only [St.apply]
      unfold St.update
      split <;> exact ⟨rfl, rfl, rfl⟩
    | rollback =>
      simp only [St.apply]
      unfold St.rollback
      split <;> exact ⟨rfl, rfl, rfl⟩
    | commit =>
      simp only [St.apply]
      by_cases h : w.tracker.items = []
      · rw [commit_skipped_eq _ w h]; exact ⟨rfl, rfl, rfl⟩
      · rw [commit_installs_eq _ w h]; exact ⟨rfl, rfl, rfl⟩
    | _ => exact ⟨rfl, rfl, rfl⟩

theorem rollback_proj (s : St) (w : Txn) :
    (s.rollback w).slots = s.slots ∧ (s.rollback w).nid = s.nid ∧ (s.rollback w).work = none ∧
    ((s.rollback w).blobs = s.blobs ∨
     (s.rollback w).blobs = s.blobs.eraseAll
       ((w.tracker.items.filter (fun e => e.2.action = .add || e.2.action = .update)).map (fun e => e.2.item.id))) := by
  unfold St.rollback; split <;> simp

theorem legal_open {P : Op → St → SpecSt → Prop} {s : St} {sp : SpecSt} {w : Txn} {sw : Spec}
    (hsw : s.work = some w) (hpw : sp.work = some sw) {op : Op} (hl : opLegal sp op = true)
    (add : ∀ k x, hasK sw k = false → P (.add k x) (s.add w k x) { sp with work := some ((k, x) :: sw) })
    (update : ∀ k x, hasK sw k = true →
      P (.update k x) (s.update w k x) { sp with work := some (sw.map (fun e => if e.1 == k then (e.1, x) else e)) })
    (remove : ∀ k via, hasK sw k = true →
      P (.remove k via) (s.remove w k via) { sp with work := some (sw.filter (fun e => e.1 != k)) })
    (commit : P .commit (s.commit w) { committed := sw, work := none })
    (rollback : P .rollback (s.rollback w) { sp with work := none }) :
    P op (s.apply op) (sp.apply op) := by
  cases op with
  | begin => simp [opLegal, hpw] at hl
  | add k x =>
    simp only [St.apply, hsw, SpecSt.apply, hpw]
    exact add k x (by simpa [opLegal, hpw] using hl)
  | update k x =>
    simp only [St.apply, hsw, SpecSt.apply, hpw]
    exact update k x (by simpa [opLegal, hpw] using hl)
  | remove k via =>
    simp only [St.apply, hsw, SpecSt.apply, hpw]
    exact remove k via (by simpa [opLegal, hpw] using hl)
  | commit => simp only [St.apply, hsw, SpecSt.apply, hpw]; exact commit
  | rollback => simp only [St.apply, hsw, SpecSt.apply]; exact rollback

/-- id freshness: a cold reader of `slots` over the blob store `b` sees `sp`, and the ids are below the counter `n` and
identify the items -/
structure ReadsBack (b : Blobs) (n : Nat) (slots : List Item) (sp : Spec) : Prop where
  reads : view b slots = specView sp
  idlt : ∀ x ∈ slots, x.id < n
  idinj : InjOn (·.id) slots

theorem ReadsBack.put_fresh {b : Blobs} {n n' i : Nat} {slots : List Item} {sp : Spec} (h : ReadsBack b n slots sp) (x : Val)
    (hi : n ≤ i) (hn : n ≤ n') : ReadsBack (b.put i x) n' slots sp :=
  ⟨(view_congr fun z hz _ _ => get_put_ne _ _ _ _ (Nat.ne_of_lt (Nat.lt_of_lt_of_le (h.idlt z hz) hi))).trans h.reads,
    fun z hz => Nat.lt_of_lt_of_le (h.idlt z hz) hn, h.idinj⟩

/-- what `Rollback` and a later `tracker.Update` need of a tracker entry, given the committed tree `C` -/
def EntryOK (C : List Item) (e : Nat × CItem) : Prop :=
  (e.2.action = .add → e.2.item.val = none ∧ ∀ c ∈ C, c.id ≠ e.1) ∧
  (∀ c ∈ C, c.val = none → c.id ≠ e.2.item.id)

def TrackerOK (C : List Item) (t : Tracker) : Prop := ∀ e ∈ t.items, EntryOK C e

theorem trackerOK_set {C : List Item} {t : Tracker} {u : Nat} {ci : CItem} (h : TrackerOK C t) (he : EntryOK C (u, ci)) :
    TrackerOK C (t.set u ci) := by
  intro e hm
  rcases mem_set hm with h1 | h1
  · rw [h1]; exact he
  · exact h e h1.1

theorem trackerOK_set_set {C : List Item} {t : Tracker} {u : Nat} {ci ci' : CItem} (h : TrackerOK C t) (he : EntryOK C (u, ci')) :
    TrackerOK C ((t.set u ci).set u ci') := by
  intro e hm
  rcases mem_set hm with h1 | h1
  · rw [h1]; exact he
  · rcases mem_set h1.1 with h2 | h2
    · exact absurd (by rw [h2]) h1.2
    · exact h e h2.1

theorem trackerOK_items {C : List Item} {t t' : Tracker} (h : TrackerOK C t) (he : t'.items = t.items) : TrackerOK C t' := by
  intro e hm; rw [he] at hm; exact h e hm

theorem trackerAdd_active (pl : Placement) (h : pl.active = true) (t : Tracker) (it : Item) (b : Blobs) (n : Nat) (x : Val)
    (hv : it.val = some x) :
    trackerAdd pl t it b n =
      { t := (t.set it.id ⟨.add, it⟩).set it.id ⟨.add, { it with val := none, vnf := true }⟩,
        item := { it with val := none, vnf := true }, blobs := b.put it.id x, nid := n, persisted := true } := by
  simp [trackerAdd, activelyPersist, h, manage, manageTail, hv, putOpt]

theorem trackerUpdate_active_added (pl : Placement) (h : pl.active = true) (t : Tracker) (it : Item) (b : Blobs) (n : Nat)
    (c : CItem) (hc : t.lookup it.id = some c) (ha : c.action = .add) (hv : c.item.val = none) :
    trackerUpdate pl t it b n =
      { t := t.set it.id ⟨.add, c.item⟩, item := it, blobs := b, nid := n, persisted := false } := by
  simp [trackerUpdate, hc, ha, activelyPersist, h, manage, manageTail, hv, putOpt]

def hasAdd (t : Tracker) (i : Nat) : Bool :=
  match t.lookup i with
  | some c => decide (c.action = .add)
  | none => false

theorem hasAdd_true {t : Tracker} {i : Nat} (h : hasAdd t i = true) : ∃ c, t.lookup i = some c ∧ c.action = .add := by
  unfold hasAdd at h
  split at h
  · exact ⟨_, ‹_›, of_decide_eq_true h⟩
  · cases h

theorem hasAdd_false {t : Tracker} {i : Nat} {c : CItem} (h : hasAdd t i = false) (hc : t.lookup i = some c) :
    c.action ≠ .add := by
  simp only [hasAdd, hc] at h
  exact of_decide_eq_false h

theorem trackerUpdate_not_added (pl : Placement) (t : Tracker) (it : Item) (b : Blobs) (n : Nat) (hna : hasAdd t it.id = false) :
    trackerUpdate pl t it b n =
      (let p := activelyPersist pl (t.set it.id ⟨.update, it⟩) it.id ⟨.update, it⟩ b n
       { t := p.1.t, item := p.1.item, blobs := p.2.1, nid := p.1.nid, persisted := p.2.2 }) := by
  unfold trackerUpdate
  split
  · rename_i c hc
    rw [if_neg (hasAdd_false hna hc)]
  · rfl

theorem trackerUpdate_active_inline (pl : Placement) (h : pl.active = true) (t : Tracker) (it : Item) (b : Blobs) (n : Nat)
    (x : Val) (hv : it.val = some x) (hna : hasAdd t it.id = false) (hf : it.vnf = false) :
    trackerUpdate pl t it b n =
      { t := (t.set it.id ⟨.update, it⟩).set it.id ⟨.update, { it with val := none, vnf := true }⟩,
        item := { it with val := none, vnf := true }, blobs := b.put it.id x, nid := n, persisted := true } := by
  rw [trackerUpdate_not_added pl t it b n hna]
  simp [activelyPersist, h, manage, manageTail, hv, hf, putOpt]

theorem trackerUpdate_active_blob (pl : Placement) (h : pl.active = true) (t : Tracker) (it : Item) (b : Blobs) (n : Nat)
    (x : Val) (hv : it.val = some x) (hna : hasAdd t it.id = false) (hf : it.vnf = true) :
    trackerUpdate pl t it b n =
      { t := Tracker.set { t.set it.id ⟨.update, it⟩ with forDel := (t.set it.id ⟨.update, it⟩).forDel ++ [it.id] } it.id
               ⟨.update, ⟨n, it.key, none, true⟩⟩,
        item := ⟨n, it.key, none, true⟩, blobs := b.put n x, nid := n + 1, persisted := true } := by
  rw [trackerUpdate_not_added pl t it b n hna]
  simp [activelyPersist, h, manage, manageTail, hv, hf, putOpt]

/-- blob safety of an open transaction of an actively persisted store: working tree `W` (specification: `sw`) and tracker
`t` over the committed tree `C` -/
structure Safe (b : Blobs) (n : Nat) (C W : List Item) (t : Tracker) (sw : Spec) : Prop where
  good : ReadsBack b n W sw
  frame : ∀ x ∈ W, ∀ c ∈ C, c.val = none → x.id = c.id → x = c
  tok : TrackerOK C t

/-- the slot of key `k` becomes `ni`; `b'`, `n'`, `t'` are the blob store, the id counter and the tracker after the call -/
theorem Safe.replace {b b' : Blobs} {n n' : Nat} {C W : List Item} {t t' : Tracker} {spc sw : Spec} {k : Int} {x : Val}
    {ni : Item} (hC : ReadsBack b n C spc) (hW : Safe b n C W t sw) (hn : n ≤ n')
    (hk : ni.key = k) (hid : ni.id < n') (hr : readItem b' ni = some x)
    (hfr : ∀ z, z.val = none → z.vnf = true → (z ∈ C ∨ (z ∈ W ∧ z.key ≠ k)) → b'.get? z.id = b.get? z.id)
    (hne : ∀ y ∈ W, y.key ≠ k → y.id ≠ ni.id)
    (hfc : ∀ c ∈ C, c.val = none → ni.id ≠ c.id) (htok : TrackerOK C t') :
    ReadsBack b' n' C spc ∧
    Safe b' n' C (W.map (fun it => if it.key == k then ni else it)) t' (sw.map (fun e => if e.1 == k then (e.1, x) else e)) := by
  refine ⟨⟨?_, fun z hz => Nat.lt_of_lt_of_le (hC.idlt z hz) hn, hC.idinj⟩, ⟨?_, ?_, hW.good.idinj.update hne⟩, ?_, htok⟩
  · rw [view_congr (fun z hz hv hf => hfr z hv hf (Or.inl hz))]; exact hC.reads
  · exact proj_update hk hr hW.good.reads
      (fun y hy hyk => readItem_congr (fun hv hf => hfr y hv hf (Or.inr ⟨hy, hyk⟩)))
  · intro z hz
    rcases mem_map_upd hz with h1 | h1
    · rw [h1]; exact hid
    · exact Nat.lt_of_lt_of_le (hW.good.idlt z h1.1) hn
  · intro z hz c hc hcv hEq
    rcases mem_map_upd hz with h1 | h1
    · rw [h1] at hEq; exact absurd hEq (hfc c hc hcv)
    · exact hW.frame z h1.1 c hc hcv hEq

theorem update_step {pl : Placement} {b : Blobs} {n : Nat} {C W : List Item} {t : Tracker} {spc sw : Spec} {slot : Item}
    (k : Int) (x : Val) (hact : pl.active = true) (hC : ReadsBack b n C spc) (hW : Safe b n C W t sw)
    (hmem : slot ∈ W) (hkey : slot.key = k) :
    ReadsBack (trackerUpdate pl t { slot with val := some x } b n).blobs
      (trackerUpdate pl t { slot with val := some x } b n).nid C spc ∧
    Safe (trackerUpdate pl t { slot with val := some x } b n).blobs (trackerUpdate pl t { slot with val := some x } b n).nid C
      (W.map (fun it => if it.key == k then (trackerUpdate pl t { slot with val := some x } b n).item else it))
      (trackerUpdate pl t { slot with val := some x } b n).t (sw.map (fun e => if e.1 == k then (e.1, x) else e)) := by
  generalize hcall : trackerUpdate pl t { slot with val := some x } b n = r
  have hslotlt := hW.good.idlt slot hmem
  have hsame : ∀ y ∈ W, y.key ≠ k → y.id ≠ slot.id :=
    fun y hy hyk hEq => hyk (by rw [hW.good.idinj y hy slot hmem hEq]; exact hkey)
  cases hna : hasAdd t slot.id with
  | true =>
    -- update of an item added by this transaction: the slot gets the value inline, no blob is written
    obtain ⟨c, hc, ha⟩ := hasAdd_true hna
    have hE := hW.tok _ (mem_of_lookup hc)
    rw [trackerUpdate_active_added _ hact _ { slot with val := some x } _ _ c hc ha (hE.1 ha).1] at hcall
    subst hcall
    exact hW.replace hC (Nat.le_refl _) hkey hslotlt rfl (fun _ _ _ _ => rfl) hsame
      (fun c' hc' _ hEq => (hE.1 ha).2 c' hc' hEq.symm) (trackerOK_set hW.tok ⟨fun _ => hE.1 ha, hE.2⟩)
  | false =>
    cases hvnf : slot.vnf with
    | false =>
      -- the slot held its value inline: the blob of the same id is (over)written
      rw [trackerUpdate_active_inline _ hact _ { slot with val := some x } _ _ x rfl hna hvnf] at hcall
      subst hcall
      have hnotdep : ∀ c ∈ C, c.val = none → c.id ≠ slot.id := by
        intro c hc hcv hEq
        have : slot = c := hW.frame slot hmem c hc hcv hEq.symm
        have := vnf_of_reads hC.reads hc hcv
        rw [← ‹slot = c›, hvnf] at this; cases this
      exact hW.replace hC (Nat.le_refl _) hkey hslotlt
        (by simp [readItem, get_put_same])
        (by intro z hzv hzf hz; apply get_put_ne
            rcases hz with hz | hz
            · exact hnotdep z hz hzv
            · exact hsame z hz.1 hz.2)
        hsame (fun c' hc' hcv hEq => hnotdep c' hc' hcv hEq.symm)
        (trackerOK_set_set hW.tok ⟨(fun h => by cases h), fun c hc hcv => hnotdep c hc hcv⟩)
    | true =>
      -- the slot's value lived in its blob: a fresh id and a fresh blob
      rw [trackerUpdate_active_blob _ hact _ { slot with val := some x } _ _ x rfl hna hvnf] at hcall
      subst hcall
      exact hW.replace hC (Nat.le_succ _) hkey (Nat.lt_succ_self _)
        (by simp [readItem, get_put_same])
        (by intro z hzv hzf hz; apply get_put_ne
            rcases hz with hz | hz
            · exact Nat.ne_of_lt (hC.idlt z hz)
            · exact Nat.ne_of_lt (hW.good.idlt z hz.1))
        (fun y hy _ => Nat.ne_of_lt (hW.good.idlt y hy))
        (fun c' hc' _ hEq => absurd hEq.symm (Nat.ne_of_lt (hC.idlt c' hc')))
        (trackerOK_items (trackerOK_set_set hW.tok ⟨(fun h => by cases h), fun c hc hcv => Nat.ne_of_lt (hC.idlt c hc)⟩)
          (set_items_forDel _ _ _ _))

theorem add_step {pl : Placement} {b : Blobs} {n : Nat} {C W : List Item} {t : Tracker} {spc sw : Spec}
    (k : Int) (x : Val) (hact : pl.active = true) (hC : ReadsBack b n C spc) (hW : Safe b n C W t sw) :
    ReadsBack (trackerAdd pl t ⟨n, k, some x, false⟩ b (n + 1)).blobs (trackerAdd pl t ⟨n, k, some x, false⟩ b (n + 1)).nid C spc ∧
    Safe (trackerAdd pl t ⟨n, k, some x, false⟩ b (n + 1)).blobs (trackerAdd pl t ⟨n, k, some x, false⟩ b (n + 1)).nid C
      (⟨n, k, some x, false⟩ :: W) (trackerAdd pl t ⟨n, k, some x, false⟩ b (n + 1)).t ((k, x) :: sw) := by
  rw [trackerAdd_active pl hact t ⟨n, k, some x, false⟩ b (n + 1) x rfl]
  have gW := hW.good.put_fresh x (Nat.le_refl n) (Nat.le_succ n)
  refine ⟨hC.put_fresh x (Nat.le_refl n) (Nat.le_succ n), ⟨congrArg ((k, some x) :: ·) gW.reads, ?_,
    hW.good.idinj.cons (fun y hy => Nat.ne_of_lt (hW.good.idlt y hy))⟩, ?_, ?_⟩
  · intro z hz
    rcases List.mem_cons.1 hz with h1 | h1
    · rw [h1]; exact Nat.lt_succ_self _
    · exact gW.idlt z h1
  · intro z hz c hc hcv hEq
    rcases List.mem_cons.1 hz with h1 | h1
    · rw [h1] at hEq; exact absurd hEq.symm (Nat.ne_of_lt (hC.idlt c hc))
    · exact hW.frame z h1 c hc hcv hEq
  · exact trackerOK_set_set hW.tok ⟨fun _ => ⟨rfl, fun c hc => Nat.ne_of_lt (hC.idlt c hc)⟩,
      fun c hc _ => Nat.ne_of_lt (hC.idlt c hc)⟩

/-- what the flags say of an open transaction of an actively persisted store (`wrote`/`removed`: it has issued an
add/update, a remove): adds and updates track, removes do not -/
structure Quiet (C W : List Item) (t : Tracker) (wrote removed : Bool) : Prop where
  tracked : t.items.isEmpty = !wrote
  same : wrote = false → removed = false → W = C ∧ t.forDel = []
  /-- strictly shorter once something was removed: that is what a removes-only commit loses -/
  short : wrote = false → removed = true → W.length < C.length

theorem Quiet.wrote {C W : List Item} {t : Tracker} (h : t.items ≠ []) (removed : Bool) : Quiet C W t true removed :=
  ⟨List.isEmpty_eq_false_iff.2 h, nofun, nofun⟩

/-- the slot of key `k` leaves the working tree; the tracker's items stay as they are (`active_remove_untracked`) -/
theorem remove_step {b : Blobs} {n : Nat} {C W : List Item} {t t' : Tracker} {sw : Spec} {wrote removed : Bool} {k : Int}
    {slot : Item} (hS : Safe b n C W t sw) (hQ : Quiet C W t wrote removed) (hmem : slot ∈ W) (hkey : slot.key = k)
    (ht : t'.items = t.items) :
    Safe b n C (W.filter (fun it => it.key != k)) t' (sw.filter (fun e => e.1 != k)) ∧
    Quiet C (W.filter (fun it => it.key != k)) t' wrote true := by
  have hlen : wrote = false → W.length ≤ C.length := fun hw => by
    cases removed with
    | false => rw [(hQ.same hw rfl).1]; exact Nat.le_refl _
    | true => exact Nat.le_of_lt (hQ.short hw rfl)
  exact ⟨⟨⟨proj_filter hS.good.reads, fun z hz => hS.good.idlt z (List.mem_filter.1 hz).1, hS.good.idinj.filter _⟩,
      fun z hz => hS.frame z (List.mem_filter.1 hz).1, trackerOK_items hS.tok ht⟩,
    ⟨ht ▸ hQ.tracked, nofun, fun hw _ =>
      Nat.lt_of_lt_of_le (List.length_filter_lt_length_iff_exists.2 ⟨slot, hmem, by simp [hkey]⟩) (hlen hw)⟩⟩

/-- an open transaction `w` (specification: `sw`) of an actively persisted store -/
structure WInv (s : St) (w : Txn) (sw : Spec) (wrote removed : Bool) : Prop where
  safe : Safe s.blobs s.nid s.slots w.slots w.tracker sw
  quiet : Quiet s.slots w.slots w.tracker wrote removed

theorem WInv.items_nil {s : St} {w : Txn} {sw : Spec} {removed : Bool} (h : WInv s w sw false removed) : w.tracker.items = [] :=
  List.isEmpty_iff.1 h.quiet.tracked

def WorkInv (s : St) (sp : SpecSt) (wrote removed : Bool) : Prop :=
  Paired (fun w sw => WInv s w sw wrote removed) s.work sp.work

structure AInv (s : St) (sp : SpecSt) (f : Bool × Bool) : Prop where
  act : s.place.active = true
  ntr : s.trackRemoves = false
  good : ReadsBack s.blobs s.nid s.slots sp.committed
  work : WorkInv s sp f.1 f.2

def flagStep (f : Bool × Bool) : Op → Bool × Bool
  | .add _ _ => (true, f.2)
  | .update _ _ => (true, f.2)
  | .remove _ _ => (f.1, true)
  | _ => (false, false)

/-- no committed transaction consists of removes only -/
def noRemoveOnlyFrom (f : Bool × Bool) : List Op → Bool
  | [] => true
  | op :: rest => (match op with | .commit => f.1 || !f.2 | _ => true) && noRemoveOnlyFrom (flagStep f op) rest

abbrev NoRemoveOnlyCommit (ops : List Op) : Prop := noRemoveOnlyFrom (false, false) ops = true

def commitOK (f : Bool × Bool) (op : Op) : Prop := op = .commit → (f.1 || !f.2) = true

theorem noRemoveOnlyFrom_cons {f : Bool × Bool} {op : Op} {rest : List Op} :
    noRemoveOnlyFrom f (op :: rest) = true ↔ commitOK f op ∧ noRemoveOnlyFrom (flagStep f op) rest = true := by
  show ((match op with | .commit => f.1 || !f.2 | _ => true) && noRemoveOnlyFrom (flagStep f op) rest) = true ↔ _
  rw [Bool.and_eq_true]
  refine and_congr_left' ?_
  cases op with
  | commit => exact ⟨fun h _ => h, fun h => h rfl⟩
  | _ => exact ⟨fun _ => nofun, fun _ => rfl⟩

theorem step_ainv {s : St} {sp : SpecSt} {f : Bool × Bool} (op : Op) (hi : AInv s sp f)
    (hl : opLegal sp op = true) (hok : commitOK f op) : AInv (s.apply op) (sp.apply op) (flagStep f op) := by
  obtain ⟨hact, hntr, hC, hwk⟩ := hi
  obtain ⟨hpl, htr, _⟩ := apply_config s op
  suffices h : ReadsBack (s.apply op).blobs (s.apply op).nid (s.apply op).slots (sp.apply op).committed ∧
      WorkInv (s.apply op) (sp.apply op) (flagStep f op).1 (flagStep f op).2 from
    ⟨by rw [hpl]; exact hact, htr.trans hntr, h.1, h.2⟩
  rcases hwk.cases with ⟨hsw, hpw⟩ | ⟨w, sw, hsw, hpw, hW⟩
  · cases opLegal_idle hpw hl
    exact ⟨hC, Paired.some (x := { slots := s.slots, count := s.count }) rfl rfl
      ⟨⟨hC, fun x hx c hc _ hEq => hC.idinj x hx c hc hEq, fun e he => by cases he⟩,
        ⟨rfl, fun _ _ => ⟨rfl, rfl⟩, nofun⟩⟩⟩
  · refine legal_open (P := fun op s' sp' => commitOK f op →
        ReadsBack s'.blobs s'.nid s'.slots sp'.committed ∧ WorkInv s' sp' (flagStep f op).1 (flagStep f op).2)
      hsw hpw hl ?_ ?_ ?_ ?_ ?_ hok
    · intro k x _ _
      obtain ⟨h1, h2⟩ := add_step k x hact hC hW.safe
      exact ⟨h1, Paired.some rfl rfl ⟨h2, .wrote (trackerAdd_tracked _ _ _ _ _) _⟩⟩
    · intro k x hk _
      obtain ⟨slot, hf, hmem, hkey⟩ := findKey_of_hasK hW.safe.good.reads hk
      obtain ⟨h1, h2⟩ := update_step k x hact hC hW.safe hmem hkey
      simp only [St.update, hf]
      exact ⟨h1, Paired.some rfl rfl ⟨h2, .wrote (trackerUpdate_tracked _ _ _ _ _) _⟩⟩
    · intro k via hk _
      obtain ⟨slot, _, hmem, hkey⟩ := findKey_of_hasK hW.safe.good.reads hk
      simp only [St.remove]
      generalize (if s.legacyRemove = true then via else k) = handedKey
      -- whichever item is handed over, the tracker's items stay as they are
      have hitems : (match findKey w.slots handedKey with
          | none => w.tracker
          | some handed => trackerRemove s.place s.trackRemoves w.tracker handed).items = w.tracker.items := by
        split
        · rfl
        · rw [hntr]; exact active_remove_untracked _ hact _ _
      obtain ⟨h1, h2⟩ := remove_step hW.safe hW.quiet hmem hkey hitems
      exact ⟨hC, Paired.some rfl rfl ⟨h1, h2⟩⟩
    · intro hok
      by_cases hne : w.tracker.items = []
      · -- skipped: by the flags the transaction did nothing at all
        have hwf : f.1 = false := by
          have := hW.quiet.tracked
          rw [hne] at this
          simpa using this
        have hrf : f.2 = false := by simpa [hwf] using hok rfl
        obtain ⟨e1, e2⟩ := hW.quiet.same hwf hrf
        rw [commit_skipped_eq s w hne]
        refine ⟨?_, Paired.none rfl rfl⟩
        show ReadsBack (if s.place.inNode then s.blobs else s.blobs.eraseAll w.tracker.forDel) s.nid s.slots sw
        rw [e2, eraseAll_nil, ite_self, ← e1]
        exact hW.safe.good
      · rw [commit_installs_active s w hact hne]
        exact ⟨hW.safe.good, Paired.none rfl rfl⟩
    · intro _
      obtain ⟨p1, p2, p3, p4⟩ := rollback_proj s w
      refine ⟨?_, Paired.none p3 rfl⟩
      rw [p1, p2]
      rcases p4 with p4 | p4
      · rw [p4]; exact hC
      · -- no tracked item carries the id of a committed item whose value lives in its blob
        rw [p4]
        refine ⟨?_, hC.idlt, hC.idinj⟩
        rw [view_congr]
        · exact hC.reads
        · intro c hc hcv _
          apply get_eraseAll_notin
          intro hmem
          obtain ⟨e, he, hee⟩ := List.mem_map.1 hmem
          exact (hW.safe.tok e (List.mem_filter.1 he).1).2 c hc hcv hee.symm

theorem run_ainv (ops : List Op) : ∀ (s : St) (sp : SpecSt) (f : Bool × Bool), AInv s sp f →
    legalFrom sp ops = true → noRemoveOnlyFrom f ops = true →
    AInv (ops.foldl St.apply s) (ops.foldl SpecSt.apply sp) (ops.foldl flagStep f) := by
  induction ops with
  | nil => intro s sp f hi _ _; exact hi
  | cons op rest ih =>
    intro s sp f hi hl hok
    rw [legalFrom_cons, Bool.and_eq_true] at hl
    rw [noRemoveOnlyFrom_cons] at hok
    exact ih _ _ _ (step_ainv op hi hl.1 hok.1) hl.2 hok.2

theorem ainv_init (pl : Placement) (ha : pl.active = true) : AInv { place := pl } {} (false, false) :=
  ⟨ha, rfl, ⟨rfl, (fun _ h => by cases h), (fun _ h => by cases h)⟩, trivial⟩

theorem noRemoveOnlyFrom_append_commit (ops : List Op) : ∀ (f : Bool × Bool),
    noRemoveOnlyFrom f (ops ++ [.commit]) = true ↔
      noRemoveOnlyFrom f ops = true ∧ commitOK (ops.foldl flagStep f) .commit := by
  induction ops with
  | nil =>
    intro f
    rw [List.nil_append, noRemoveOnlyFrom_cons]
    exact ⟨fun h => ⟨rfl, h.1⟩, fun h => ⟨h.2, rfl⟩⟩
  | cons o rest ih =>
    intro f
    rw [List.cons_append, noRemoveOnlyFrom_cons, noRemoveOnlyFrom_cons, ih, and_assoc]
    rfl

theorem flags_of_not_commitOK {f : Bool × Bool} (h : ¬ commitOK f .commit) : f = (false, true) := by
  obtain ⟨a, b⟩ := f
  cases a
  · cases b
    · exact absurd (fun _ => rfl) h
    · rfl
  · exact absurd (fun _ => rfl) h

theorem view_length (b : Blobs) (slots : List Item) : (view b slots).length = slots.length := by simp [view]
theorem specView_length (sp : Spec) : (specView sp).length = sp.length := by simp [specView]

/-- nothing tracked means nothing written (`Quiet.tracked`) -/
theorem commitOK_of_tracked {s : St} {sp : SpecSt} {f : Bool × Bool} {op : Op} {rest : List Op} (hi : AInv s sp f)
    (hl : opLegal sp op = true) (hct : commitsTracked s (op :: rest) = true) : commitOK f op := by
  intro h; subst h
  rcases hi.work.cases with ⟨_, hpw⟩ | ⟨w, sw, hsw, _, hW⟩
  · cases opLegal_idle hpw hl
  · cases hf : f.1 with
    | true => rfl
    | false => rw [hf] at hW; exact absurd hW.items_nil (commitsTracked_head hct hsw)

theorem commitsTracked_noRemoveOnly (ops : List Op) : ∀ (s : St) (sp : SpecSt) (f : Bool × Bool), AInv s sp f →
    legalFrom sp ops = true → commitsTracked s ops = true → noRemoveOnlyFrom f ops = true := by
  induction ops with
  | nil => intro _ _ _ _ _ _; rfl
  | cons op rest ih =>
    intro s sp f hi hl hct
    rw [legalFrom_cons, Bool.and_eq_true] at hl
    have hok := commitOK_of_tracked hi hl.1 hct
    exact noRemoveOnlyFrom_cons.2 ⟨hok, ih _ _ _ (step_ainv op hi hl.1 hok) hl.2 (commitsTracked_tail hct)⟩

def OnlyAdds (t : Tracker) : Prop := ∀ i c, t.lookup i = some c → c.action = .add

theorem trackerAdd_nonactive (pl : Placement) (h : pl.active = false) (t : Tracker) (it : Item) (b : Blobs) (n : Nat) :
    trackerAdd pl t it b n = { t := t.set it.id ⟨.add, it⟩, item := it, blobs := b, nid := n, persisted := false } := by
  simp [trackerAdd, activelyPersist, h]

theorem trackerUpdate_nonactive (pl : Placement) (h : pl.active = false) (t : Tracker) (it : Item) (b : Blobs) (n : Nat) :
    trackerUpdate pl t it b n =
      { t := if hasAdd t it.id then t else t.set it.id ⟨.update, it⟩, item := it, blobs := b, nid := n, persisted := false } := by
  unfold trackerUpdate hasAdd
  split
  · rename_i c hc
    by_cases ha : c.action = .add <;> simp [activelyPersist, h, ha, hc]
  · rename_i hc
    simp [activelyPersist, h, hc]

theorem trackerRemove_nonactive (pl : Placement) (h : pl.active = false) (fx : Bool) (t : Tracker) (it : Item) :
    trackerRemove pl fx t it = if hasAdd t it.id then t.del it.id else t.set it.id ⟨.remove, it⟩ := by
  unfold trackerRemove hasAdd
  simp only [h, Bool.false_and, Bool.false_eq_true, if_false]
  cases hc : t.lookup it.id with
  | none => simp
  | some c => by_cases ha : c.action = .add <;> simp [ha]

def kv (slots : List Item) : List (Int × Option Val) := slots.map (fun it => (it.key, it.val))

theorem view_eq_kv_of_spec {slots : List Item} {sp : Spec} (h : kv slots = specView sp) (b : Blobs) :
    view b slots = specView sp := by
  rw [← h]
  unfold view kv
  apply List.map_congr_left
  intro it hit
  have : (it.key, it.val) ∈ specView sp := by rw [← h]; exact List.mem_map_of_mem hit
  obtain ⟨e, _, he⟩ := List.mem_map.1 this
  have hv : it.val = some e.2 := (congrArg Prod.snd he).symm
  simp [readItem, hv]

/-- every slot holds its value inline, whatever the tracker does with its own copy later, so `view` is `kv` -/
structure InlineRel (s : St) (sp : SpecSt) : Prop where
  committed : kv s.slots = specView sp.committed
  work : Paired (fun w sw => kv w.slots = specView sw) s.work sp.work

theorem map_upd_absent {sw : Spec} {k : Int} (x : Val) (h : hasK sw k = false) :
    sw.map (fun e => if e.1 == k then (e.1, x) else e) = sw := by
  conv => rhs; rw [← List.map_id sw]
  apply List.map_congr_left
  intro e he
  rw [if_neg (List.any_eq_false.1 h e he)]
  rfl

/-- every operation keeps `InlineRel`; a skipped commit installs nothing while the specification commits, so there the
working tree must be the committed one (`run_rel`: no commit is skipped; `step_nainv`: `ninv_skip`) -/
theorem step_rel (s : St) (sp : SpecSt) (op : Op) (hna : s.place.active = false) (hr : InlineRel s sp)
    (hskip : op = .commit → ∀ w, s.work = some w → w.tracker.items = [] → w.slots = s.slots) :
    InlineRel (s.apply op) (sp.apply op) := by
  obtain ⟨hcom, hw⟩ := hr
  rcases hw.cases with ⟨hsw, hpw⟩ | ⟨w, sw, hsw, hpw, hw⟩
  · -- no transaction is open: everything but `begin` is refused
    cases op <;> simp only [St.apply, SpecSt.apply, hsw, hpw]
    case begin => exact ⟨hcom, hcom⟩
    case rollback => exact ⟨hcom, Paired.none hsw rfl⟩
    all_goals exact ⟨hcom, Paired.none hsw hpw⟩
  · cases op with
    | begin => exact ⟨hcom, hcom⟩
    | add k x =>
      simp only [St.apply, hsw, SpecSt.apply, hpw]
      exact ⟨hcom, congrArg ((k, some x) :: ·) hw⟩
    | update k x =>
      simp only [St.apply, hsw, SpecSt.apply, hpw, St.update]
      split
      · rename_i hf
        have hk : hasK sw k = false := by
          rw [← hasKey_eq_hasK hw k]
          exact List.any_eq_false.2 (List.find?_eq_none.1 hf)
        exact ⟨hcom, Paired.some hsw rfl (by rw [map_upd_absent x hk]; exact hw)⟩
      · rename_i slot hf
        have hkey : slot.key = k := find_key hf
        rw [trackerUpdate_nonactive _ hna]
        exact ⟨hcom, proj_update (f := (·.val)) (f' := (·.val)) (ni := { slot with val := some x }) hkey rfl hw
          (fun _ _ _ => rfl)⟩
    | remove k via =>
      simp only [St.apply, hsw, SpecSt.apply, hpw]
      exact ⟨hcom, proj_filter hw⟩
    | commit =>
      simp only [St.apply, hsw, SpecSt.apply, hpw]
      by_cases hne : w.tracker.items = []
      · rw [commit_skipped_eq s w hne]
        exact ⟨hskip rfl w hsw hne ▸ hw, Paired.none rfl rfl⟩
      · rw [commit_installs_eq s w hne]
        exact ⟨hw, Paired.none rfl rfl⟩
    | rollback =>
      obtain ⟨r1, _, r3, _⟩ := rollback_proj s w
      simp only [St.apply, hsw, SpecSt.apply]
      exact ⟨by rw [r1]; exact hcom, Paired.none r3 rfl⟩

theorem run_rel (ops : List Op) : ∀ (s : St) (sp : SpecSt), s.place.active = false → InlineRel s sp →
    commitsTracked s ops = true → InlineRel (ops.foldl St.apply s) (ops.foldl SpecSt.apply sp) := by
  induction ops with
  | nil => intro s sp _ hr _; exact hr
  | cons op rest ih =>
    intro s sp hna hr hct
    refine ih _ _ (by rw [(apply_config s op).1]; exact hna) (step_rel s sp op hna hr ?_) (commitsTracked_tail hct)
    intro hop w hw he
    subst hop
    exact absurd he (commitsTracked_head hct hw)

structure TreeOK (slots : List Item) (n : Nat) : Prop where
  idlt : ∀ x ∈ slots, x.id < n
  idinj : InjOn (·.id) slots
  keyinj : InjOn (·.key) slots

/-- a store that is not actively persisted: as long as the tracker holds `add` entries only, the working tree minus
the items tracked as added IS the committed tree.  An entry that is not an `add` never leaves the tracker (`del` is
reached through `add` entries only), so a tracker holding one is never empty, its commit is not skipped, and the
invariant need say nothing there. -/
structure NInv (C W : List Item) (t : Tracker) (n : Nat) : Prop where
  tree : TreeOK W n
  tracked_lt : ∀ i c, t.lookup i = some c → i < n
  minus_adds : OnlyAdds t → W.filter (fun x => !hasAdd t x.id) = C

theorem TreeOK.mono {slots : List Item} {n n' : Nat} (h : TreeOK slots n) (hn : n ≤ n') : TreeOK slots n' :=
  ⟨fun x hx => Nat.lt_of_lt_of_le (h.idlt x hx) hn, h.idinj, h.keyinj⟩

theorem not_onlyAdds_set (t : Tracker) (u : Nat) (ci : CItem) (h : ci.action ≠ .add) : ¬ OnlyAdds (t.set u ci) :=
  fun hc => h (hc u ci (by rw [lookup_set, if_pos rfl]))

theorem ninv_begin {C : List Item} {n : Nat} (h : TreeOK C n) : NInv C C {} n := by
  refine ⟨h, fun i c hl => by simp [Tracker.lookup] at hl, fun _ => ?_⟩
  apply List.filter_eq_self.2
  intro a _
  simp [hasAdd, Tracker.lookup]

theorem ninv_add {C W : List Item} {t : Tracker} {n : Nat} (k : Int) (x : Val) (h : NInv C W t n)
    (hk : ∀ y ∈ W, y.key ≠ k) :
    NInv C (⟨n, k, some x, false⟩ :: W) (t.set n ⟨.add, ⟨n, k, some x, false⟩⟩) (n + 1) := by
  refine ⟨⟨?_, h.tree.idinj.cons (fun y hy => Nat.ne_of_lt (h.tree.idlt y hy)), h.tree.keyinj.cons hk⟩, ?_, ?_⟩
  · intro z hz
    rcases List.mem_cons.1 hz with h1 | h1
    · rw [h1]; exact Nat.lt_succ_self _
    · exact Nat.lt_succ_of_lt (h.tree.idlt z h1)
  · intro i c hl
    by_cases hi : i = n
    · rw [hi]; exact Nat.lt_succ_self _
    · rw [lookup_set, if_neg hi] at hl; exact Nat.lt_succ_of_lt (h.tracked_lt i c hl)
  · intro hc
    have hc' : OnlyAdds t := by
      intro i c hl
      have hi : i ≠ n := Nat.ne_of_lt (h.tracked_lt i c hl)
      exact hc i c (by rw [lookup_set, if_neg hi]; exact hl)
    rw [List.filter_cons_of_neg (by simp [hasAdd, lookup_set])]
    rw [← h.minus_adds hc']
    apply List.filter_congr
    intro z hz
    simp only [hasAdd, lookup_set, if_neg (Nat.ne_of_lt (h.tree.idlt z hz))]

theorem ninv_update {C W : List Item} {t : Tracker} {n : Nat} (k : Int) (x : Val) (slot : Item) (h : NInv C W t n)
    (hmem : slot ∈ W) (hkey : slot.key = k) :
    NInv C (W.map (fun it => if it.key == k then { slot with val := some x } else it))
      (if hasAdd t slot.id then t else t.set slot.id ⟨.update, { slot with val := some x }⟩) n := by
  refine ⟨⟨?_, ?_, ?_⟩, ?_, ?_⟩
  · intro z hz
    rcases mem_map_upd hz with h1 | h1
    · rw [h1]; exact h.tree.idlt slot hmem
    · exact h.tree.idlt z h1.1
  · exact h.tree.idinj.update
      (fun y hy hyk hEq => hyk (by rw [h.tree.idinj y hy slot hmem hEq]; exact hkey))
  · exact h.tree.keyinj.update (fun y _ hyk hEq => hyk (hEq.trans hkey))
  · intro i c hl
    split at hl
    · exact h.tracked_lt i c hl
    · by_cases hi : i = slot.id
      · rw [hi]; exact h.tree.idlt slot hmem
      · rw [lookup_set, if_neg hi] at hl; exact h.tracked_lt i c hl
  · intro hc
    cases hA : hasAdd t slot.id with
    | true =>
      simp only [hA, if_true] at hc ⊢
      -- the slot updated is tracked as added: filtered out before and after
      have hslot : ∀ z ∈ W, z.key = k → z = slot := fun z hz hzk => h.tree.keyinj z hz slot hmem (hzk.trans hkey.symm)
      rw [← h.minus_adds hc, List.filter_map]
      have e : W.filter ((fun z => !hasAdd t z.id) ∘ fun it => if it.key == k then { slot with val := some x } else it)
          = W.filter (fun z => !hasAdd t z.id) := by
        apply List.filter_congr
        intro z hz
        by_cases hzk : z.key = k
        · simp [hslot z hz hzk, hkey]
        · simp [hzk]
      rw [e]
      conv => rhs; rw [← List.map_id (W.filter _)]
      apply List.map_congr_left
      intro z hz
      obtain ⟨hzW, hzp⟩ := List.mem_filter.1 hz
      by_cases hzk : z.key = k
      · rw [hslot z hzW hzk, hA] at hzp; cases hzp
      · simp [hzk]
    | false =>
      simp only [hA] at hc
      exact absurd hc (not_onlyAdds_set _ _ _ (by simp))

theorem ninv_remove {C W : List Item} {t : Tracker} {n : Nat} (k : Int) (slot : Item) (h : NInv C W t n)
    (hmem : slot ∈ W) (hkey : slot.key = k) :
    NInv C (W.filter (fun it => it.key != k))
      (if hasAdd t slot.id then t.del slot.id else t.set slot.id ⟨.remove, slot⟩) n := by
  refine ⟨⟨fun z hz => h.tree.idlt z (List.mem_filter.1 hz).1, h.tree.idinj.filter _, h.tree.keyinj.filter _⟩, ?_, ?_⟩
  · intro i c hl
    by_cases hi : i = slot.id
    · rw [hi]; exact h.tree.idlt slot hmem
    · split at hl
      · rw [lookup_del, if_neg hi] at hl; exact h.tracked_lt i c hl
      · rw [lookup_set, if_neg hi] at hl; exact h.tracked_lt i c hl
  · intro hc
    cases hA : hasAdd t slot.id with
    | false =>
      simp only [hA] at hc
      exact absurd hc (not_onlyAdds_set _ _ _ (by simp))
    | true =>
      simp only [hA, if_true] at hc ⊢
      have hc' : OnlyAdds t := by
        intro i c hl
        by_cases hi : i = slot.id
        · rw [hi] at hl
          simp only [hasAdd, hl] at hA
          simpa using hA
        · exact hc i c (by rw [lookup_del, if_neg hi]; exact hl)
      -- the item removed was tracked as added; the other items keep their entries
      rw [← h.minus_adds hc', List.filter_filter]
      apply List.filter_congr
      intro z hz
      by_cases hzk : z.key = k
      · have : z = slot := h.tree.keyinj z hz slot hmem (hzk.trans hkey.symm)
        simp [this, hkey, hA]
      · have hne : z.id ≠ slot.id := fun hEq => hzk (by rw [h.tree.idinj z hz slot hmem hEq]; exact hkey)
        simp [hasAdd, lookup_del, if_neg hne, hzk]

theorem ninv_skip {C W : List Item} {t : Tracker} {n : Nat} (h : NInv C W t n) (he : t.items = []) : W = C := by
  have hc : OnlyAdds t := by
    intro i c hl
    rw [lookup_nil he] at hl; cases hl
  rw [← h.minus_adds hc]
  symm
  apply List.filter_eq_self.2
  intro a _
  simp [hasAdd, lookup_nil he]

theorem manageTail_nid (t : Tracker) (u : Nat) (a : Action) (it : Item) (n : Nat) : (manageTail t u a it n).nid = n := by
  unfold manageTail; split <;> rfl

theorem manage_nid_ge (t : Tracker) (u : Nat) (ci : CItem) (n : Nat) : n ≤ (manage t u ci n).nid := by
  unfold manage
  split
  · exact Nat.le_refl _
  · split
    · rw [manageTail_nid]; exact Nat.le_succ _
    · rw [manageTail_nid]; exact Nat.le_refl _
  · rw [manageTail_nid]; exact Nat.le_refl _
  · exact Nat.le_refl _

theorem commitValues_nid_ge (t : Tracker) (b : Blobs) (n : Nat) : n ≤ (commitValues t b n).2.2 := by
  unfold commitValues
  generalize t.items = l
  generalize hacc : (t, b, n) = acc
  have hn : n ≤ acc.2.2 := by rw [← hacc]; exact Nat.le_refl n
  clear hacc
  induction l generalizing acc with
  | nil => exact hn
  | cons e l ih =>
    rw [List.foldl_cons]
    apply ih
    split
    · exact Nat.le_trans hn (manage_nid_ge _ _ _ _)
    · exact hn

theorem commit_nid_ge (s : St) (w : Txn) : s.nid ≤ (s.commit w).nid := by
  by_cases h : w.tracker.items = []
  · rw [commit_skipped_eq s w h]; exact Nat.le_refl _
  · rw [commit_installs_eq s w h]
    dsimp only
    split
    · exact commitValues_nid_ge _ _ _
    · exact Nat.le_refl _

def NAWork (s : St) : Prop :=
  match s.work with
  | some w => NInv s.slots w.slots w.tracker s.nid
  | none => True

structure NAInv (s : St) (sp : SpecSt) : Prop where
  rel : InlineRel s sp
  tree : TreeOK s.slots s.nid
  work : NAWork s

theorem step_nainv (s : St) (sp : SpecSt) (op : Op) (hna : s.place.active = false) (hi : NAInv s sp)
    (hl : opLegal sp op = true) (hleg : s.legacyRemove = false) :
    NAInv (s.apply op) (sp.apply op) := by
  obtain ⟨hrel, htree, hwork⟩ := hi
  unfold NAWork at hwork
  suffices h : TreeOK (s.apply op).slots (s.apply op).nid ∧ NAWork (s.apply op) from
    ⟨step_rel s sp op hna hrel fun _ w hw he => by rw [hw] at hwork; exact ninv_skip hwork he, h.1, h.2⟩
  rcases hrel.work.cases with ⟨hsw, hpw⟩ | ⟨w, sw, hsw, hpw, hw⟩
  · cases opLegal_idle hpw hl
    exact ⟨htree, ninv_begin htree⟩
  · simp only [hsw] at hwork
    refine legal_open (P := fun _ s' _ => TreeOK s'.slots s'.nid ∧ NAWork s') hsw hpw hl ?_ ?_ ?_ ?_ ?_
    · intro k x hk
      simp only [NAWork, St.add, trackerAdd_nonactive _ hna]
      exact ⟨htree.mono (Nat.le_succ _), ninv_add k x hwork (keys_ne_of_not_hasK hw hk)⟩
    · intro k x hk
      obtain ⟨slot, hf, hmem, hkey⟩ := findKey_of_hasK hw hk
      simp only [NAWork, St.update, hf, trackerUpdate_nonactive _ hna]
      exact ⟨htree, ninv_update k x slot hwork hmem hkey⟩
    · intro k via hk
      obtain ⟨slot, hf, hmem, hkey⟩ := findKey_of_hasK hw hk
      simp only [NAWork, St.remove, hleg, Bool.false_eq_true, if_false, hf, trackerRemove_nonactive _ hna]
      exact ⟨htree, ninv_remove k slot hwork hmem hkey⟩
    · by_cases hne : w.tracker.items = []
      · rw [commit_skipped_eq s w hne]
        exact ⟨htree, trivial⟩
      · have hnid := commit_nid_ge s w
        rw [commit_installs_eq s w hne] at hnid ⊢
        exact ⟨hwork.tree.mono hnid, trivial⟩
    · obtain ⟨p1, p2, p3, _⟩ := rollback_proj s w
      refine ⟨by rw [p1, p2]; exact htree, ?_⟩
      simp only [NAWork, p3]

theorem run_nainv (ops : List Op) : ∀ (s : St) (sp : SpecSt), s.place.active = false → s.legacyRemove = false → NAInv s sp →
    legalFrom sp ops = true →
    NAInv (ops.foldl St.apply s) (ops.foldl SpecSt.apply sp) := by
  induction ops with
  | nil => intro s sp _ _ hi _; exact hi
  | cons op rest ih =>
    intro s sp hna hleg hi hl
    rw [legalFrom_cons, Bool.and_eq_true] at hl
    obtain ⟨hp, _, hlr⟩ := apply_config s op
    exact ih _ _ (by rw [hp]; exact hna) (hlr.trans hleg) (step_nainv s sp op hna hi hl.1 hleg) hl.2

end Sop.C19
