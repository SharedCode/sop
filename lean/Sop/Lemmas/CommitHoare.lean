import Sop.Lemmas.Commit
/-!
A small Hoare logic for Model P's monad `M` (state = the running transaction, errors keep the state): triples with
a normal and an exceptional postcondition, and one rule per primitive of the model (`call`, `attempt`, `modify`, …).

The rules for a backend call, from the one proved about `call`'s body to its weakenings:
* `Triple.callFull` — every exit knows why it was taken (stop point, the backend's own error, `failBefore`, `failAfter`
  with the fault's class and position) and the call counter is the real one. The others are corollaries.
* `Triple.call'` — the counter forgotten; exits: ok / stopped (`stopAt.isSome`) / no effect / effect under a `failAfter`
  fault of that class. For invariants that must know a run was not stopped or which fault fired.
* `Triple.call` — exits: ok / no effect (any `halted`) / effect. For invariants that only look at the effect.

`Keeps I E m` / `Preserves I m` (the invariant before and after) have rules for the primitives that cannot touch a run
(`pure`, `bind`, `get`, `getS`, `forIn`, `whenM`, `fail`, `attempt`); for `modify` and `call` the invariant has to be known
(`Triple.modify`, the call rules above, `Reads.call` in CommitFootprint).

At the end, the shape of each composite function of the model — `rollback`, `cleanup`, `phase2`, `phase1` — as a rule with one
assertion per stage and an arbitrary exceptional postcondition: the walks of the invariants are its instances (the footprints of
`cleanup`, `phase2`, `phase1` in CommitFootprint are walked on their own).
-/
namespace Sop.Commit

def Triple (P : Run → Prop) (m : M α) (Q : α → Run → Prop) (E : Run → Prop) : Prop :=
  ∀ r, P r → match m r with | .ok (a, r') => Q a r' | .error r' => E r'

theorem Triple.pure {P : Run → Prop} {Q : α → Run → Prop} {E : Run → Prop} (a : α) (h : ∀ r, P r → Q a r) :
    Triple P (Pure.pure a : M α) Q E := fun r hr => h r hr

theorem Triple.bind {P : Run → Prop} {Q1 : α → Run → Prop} {Q : β → Run → Prop} {E : Run → Prop}
    {m : M α} {f : α → M β} (hm : Triple P m Q1 E) (hf : ∀ a, Triple (Q1 a) (f a) Q E) :
    Triple P (m >>= f) Q E := by
  intro r hr
  have h1 := hm r hr
  show match (M.bind m f) r with | .ok (a, r') => Q a r' | .error r' => E r'
  unfold M.bind
  cases hmr : m r with
  | error r' => rw [hmr] at h1; exact h1
  | ok p => obtain ⟨a, r'⟩ := p; rw [hmr] at h1; exact hf a r' h1

theorem Triple.bindFact {P Q1 : Run → Prop} {Q : β → Run → Prop} {E : Run → Prop} {m : M α} {f : α → M β} (F : α → Prop)
    (hm : Triple P m (fun a r => Q1 r ∧ F a) E) (hf : ∀ a, F a → Triple Q1 (f a) Q E) : Triple P (m >>= f) Q E :=
  Triple.bind hm (fun a r hr => hf a hr.2 r hr.1)

theorem Triple.conseq {P P' : Run → Prop} {Q Q' : α → Run → Prop} {E E' : Run → Prop} {m : M α}
    (h : Triple P' m Q' E') (hp : ∀ r, P r → P' r) (hq : ∀ a r, Q' a r → Q a r) (he : ∀ r, E' r → E r) :
    Triple P m Q E := by
  intro r hr
  have := h r (hp r hr)
  cases hm : m r with
  | error r' => rw [hm] at this; exact he _ this
  | ok p => obtain ⟨a, r'⟩ := p; rw [hm] at this; exact hq _ _ this

theorem Triple.ite {P : Run → Prop} {Q : α → Run → Prop} {E : Run → Prop} {c : Prop} [Decidable c] {a b : M α}
    (ha : c → Triple P a Q E) (hb : ¬ c → Triple P b Q E) : Triple P (if c then a else b) Q E :=
  ite_ind (Triple P · Q E) ha hb

theorem Triple.get {P : Run → Prop} {Q : Run → Run → Prop} {E : Run → Prop} (h : ∀ r, P r → Q r r) :
    Triple P get Q E := fun r hr => h r hr

theorem Triple.getS {P : Run → Prop} {Q : State → Run → Prop} {E : Run → Prop} (h : ∀ r, P r → Q r.s r) :
    Triple P getS Q E := fun r hr => h r hr

theorem Triple.modify {P : Run → Prop} {Q : Unit → Run → Prop} {E : Run → Prop} (f : Run → Run)
    (h : ∀ r, P r → Q () (f r)) : Triple P (modify f) Q E := fun r hr => h r hr

theorem Triple.fail {P : Run → Prop} {Q : α → Run → Prop} {E : Run → Prop} (h : ∀ r, P r → E r) :
    Triple P (fail : M α) Q E := fun r hr => h r hr

theorem Triple.callFull {P : Run → Prop} {Q : Unit → Run → Prop} {E : Run → Prop}
    (cls : Cls) (args : Args) (eff : State → State) (res : Args) (nat : State → Bool)
    (hok : ∀ r tr, P r → Q () { r with occs := (bumpOcc r.occs cls).1, trace := tr, s := eff r.s })
    (hstop : ∀ r occs, P r → r.stopAt.isSome → E { r with occs := occs, halted := true })
    (hnat : ∀ r tr, P r → nat r.s = true → E { r with occs := (bumpOcc r.occs cls).1, trace := tr })
    (hbefore : ∀ r tr f, P r → r.fault = some f → f.cls = cls → f.kind = .failBefore → f.occ = (bumpOcc r.occs cls).2 →
      E { r with occs := (bumpOcc r.occs cls).1, trace := tr })
    (hafter : ∀ r tr f, P r → r.fault = some f → f.cls = cls → f.kind = .failAfter → f.occ = (bumpOcc r.occs cls).2 →
      E { r with occs := (bumpOcc r.occs cls).1, trace := tr, s := eff r.s }) :
    Triple P (Sop.Commit.call cls args eff res nat) Q E := by
  intro r hr
  unfold Sop.Commit.call
  simp only
  by_cases hs : (r.stopAt == some (cls, (bumpOcc r.occs cls).2)) = true
  · simp only [hs, ↓reduceIte]
    refine hstop r _ hr ?_
    cases h : r.stopAt with
    | none => rw [h] at hs; simp at hs
    | some _ => rfl
  · simp only [hs]
    cases hf : faultHit r.fault cls (bumpOcc r.occs cls).2 with
    | none =>
      by_cases hn : nat r.s = true
      · simp only [hn, ↓reduceIte]
        exact hnat r _ hr hn
      · simp only [hn]
        exact hok r _ hr
    | some k =>
      have key : ∃ f, r.fault = some f ∧ f.cls = cls ∧ f.kind = k ∧ f.occ = (bumpOcc r.occs cls).2 := by
        unfold faultHit at hf
        cases hfa : r.fault with
        | none => rw [hfa] at hf; simp at hf
        | some f =>
          rw [hfa] at hf
          simp only at hf
          split at hf
          · rename_i hc
            simp only [Bool.and_eq_true, beq_iff_eq] at hc
            exact ⟨f, rfl, hc.1, Option.some.inj hf, hc.2⟩
          · cases hf
      obtain ⟨f, hfa, h1, h2, h3⟩ := key
      cases k with
      | failBefore => exact hbefore r _ f hr hfa h1 h2 h3
      | failAfter => exact hafter r _ f hr hfa h1 h2 h3

theorem Triple.call' {P : Run → Prop} {Q : Unit → Run → Prop} {E : Run → Prop}
    (cls : Cls) (args : Args) (eff : State → State) (res : Args) (nat : State → Bool)
    (hok : ∀ r occs tr, P r → Q () { r with occs := occs, trace := tr, s := eff r.s })
    (hstop : ∀ r occs, P r → r.stopAt.isSome → E { r with occs := occs, halted := true })
    (hbefore : ∀ r occs tr, P r → E { r with occs := occs, trace := tr })
    (hafter : ∀ r occs tr, P r → (∃ f, r.fault = some f ∧ f.cls = cls ∧ f.kind = .failAfter) →
      E { r with occs := occs, trace := tr, s := eff r.s }) :
    Triple P (Sop.Commit.call cls args eff res nat) Q E :=
  Triple.callFull cls args eff res nat (fun r tr hr => hok r _ tr hr) hstop (fun r tr hr _ => hbefore r _ tr hr)
    (fun r tr _ hr _ _ _ _ => hbefore r _ tr hr) (fun r tr f hr hf hc hk _ => hafter r _ tr hr ⟨f, hf, hc, hk⟩)

theorem Triple.call {P : Run → Prop} {Q : Unit → Run → Prop} {E : Run → Prop}
    (cls : Cls) (args : Args) (eff : State → State) (res : Args) (nat : State → Bool)
    (hok : ∀ r occs tr, P r → Q () { r with occs := occs, trace := tr, s := eff r.s })
    (hbefore : ∀ r occs tr hl, P r → E { r with occs := occs, trace := tr, halted := hl })
    (hafter : ∀ r occs tr, P r → E { r with occs := occs, trace := tr, s := eff r.s }) :
    Triple P (call cls args eff res nat) Q E :=
  Triple.call' cls args eff res nat hok (fun r occs hr _ => hbefore r occs r.trace true hr)
    (fun r occs tr hr => hbefore r occs tr r.halted hr) (fun r occs tr hr _ => hafter r occs tr hr)

theorem Triple.call_dropE {P : Run → Prop} {Q : Unit → Run → Prop} {cls : Cls} {args : Args} {eff : State → State} {res : Args}
    {nat : State → Bool} (hok : ∀ r occs tr, P r → Q () { r with occs := occs, trace := tr, s := eff r.s }) :
    Triple P (Sop.Commit.call cls args eff res nat) Q (fun _ => True) :=
  Triple.call cls args eff res nat hok (fun _ _ _ _ _ => trivial) (fun _ _ _ _ => trivial)

theorem Triple.attempt' {P : Run → Prop} {Q : Bool → Run → Prop} {E : Run → Prop} {m : M Unit}
    (h : Triple P m (fun _ => Q true) (Q false)) (hE : ∀ r, Q false r → r.halted = true → E r) :
    Triple P (Sop.Commit.attempt m) Q E := by
  intro r hr
  have := h r hr
  unfold Sop.Commit.attempt
  cases hm : m r with
  | error r' =>
    rw [hm] at this
    by_cases hh : r'.halted = true
    · simp only [hh, ↓reduceIte]; exact hE _ this hh
    · simp only [hh]; exact this
  | ok p => obtain ⟨a, r'⟩ := p; rw [hm] at this; exact this

theorem Triple.attempt {P : Run → Prop} {Q : Bool → Run → Prop} {E : Run → Prop} {m : M Unit}
    (h : Triple P m (fun _ => Q true) (Q false)) (hE : ∀ r, Q false r → E r) : Triple P (attempt m) Q E :=
  Triple.attempt' h (fun r hq _ => hE r hq)

theorem Triple.forIn_mem {I : Run → Prop} {E : Run → Prop} (xs : List β) (f : β → Unit → M (ForInStep Unit))
    (hf : ∀ x ∈ xs, Triple I (f x ()) (fun _ => I) E) : Triple I (ForIn.forIn xs () f) (fun _ => I) E := by
  induction xs with
  | nil => intro r h; exact h
  | cons x t ih =>
    rw [List.forIn_cons]
    apply Triple.bind (hf x (List.mem_cons_self ..))
    intro st
    cases st with
    | done b => exact Triple.pure b (fun r h => h)
    | yield b => exact ih (fun y hy => hf y (List.mem_cons_of_mem _ hy))

theorem Triple.triv {P : Run → Prop} {m : M α} : Triple P m (fun _ _ => True) (fun _ => True) := by
  intro r _
  cases m r with
  | error r' => trivial
  | ok p => trivial

theorem Triple.and {P1 P2 : Run → Prop} {Q1 Q2 : α → Run → Prop} {E1 E2 : Run → Prop} {m : M α}
    (h1 : Triple P1 m Q1 E1) (h2 : Triple P2 m Q2 E2) :
    Triple (fun r => P1 r ∧ P2 r) m (fun a r => Q1 a r ∧ Q2 a r) (fun r => E1 r ∧ E2 r) := by
  intro r hr
  have a := h1 r hr.1
  have b := h2 r hr.2
  cases hm : m r with
  | error r' => rw [hm] at a b; exact ⟨a, b⟩
  | ok p => obtain ⟨x, r'⟩ := p; rw [hm] at a b; exact ⟨a, b⟩

theorem Triple.dropE {P : Run → Prop} {Q : α → Run → Prop} {E : Run → Prop} {m : M α} (h : Triple P m Q E) :
    Triple P m Q (fun _ => True) := Triple.conseq h (fun _ h => h) (fun _ _ h => h) (fun _ _ => trivial)

theorem Triple.mapE {P : Run → Prop} {Q : α → Run → Prop} {E E' : Run → Prop} {m : M α}
    (h : Triple P m Q E') (he : ∀ r, E' r → E r) : Triple P m Q E :=
  Triple.conseq h (fun _ h => h) (fun _ _ h => h) he

theorem Triple.fail_bind {P : Run → Prop} {Q : β → Run → Prop} {E : Run → Prop} (f : α → M β) (h : ∀ r, P r → E r) :
    Triple P (Sop.Commit.fail >>= f) Q E :=
  Triple.bind (Q1 := fun _ _ => False) (Triple.fail h) (fun _ _ h => h.elim)

theorem Triple.or {P1 P2 : Run → Prop} {Q : α → Run → Prop} {E : Run → Prop} {m : M α}
    (h1 : Triple P1 m Q E) (h2 : Triple P2 m Q E) : Triple (fun r => P1 r ∨ P2 r) m Q E :=
  fun r hr => hr.elim (h1 r) (h2 r)

theorem Triple.of_ok {P : Run → Prop} {Q : α → Run → Prop} {E : Run → Prop} {m : M α} {r r' : Run} {a : α}
    (h : Triple P m Q E) (hp : P r) (e : m r = .ok (a, r')) : Q a r' := by
  have := h r hp
  rw [e] at this
  exact this

theorem Triple.of_error {P : Run → Prop} {Q : α → Run → Prop} {E : Run → Prop} {m : M α} {r r' : Run}
    (h : Triple P m Q E) (hp : P r) (e : m r = .error r') : E r' := by
  have := h r hp
  rw [e] at this
  exact this

/-- to prove a triple, fix the run it starts from -/
theorem Triple.start {P : Run → Prop} {Q : α → Run → Prop} {E : Run → Prop} {m : M α}
    (h : ∀ r0, P r0 → Triple (fun r => r = r0) m Q E) : Triple P m Q E := fun r hr => h r hr r rfl

theorem Triple.weakOk {P Q E : Run → Prop} {m : M α} {c : α → Prop} (h : Triple P m (fun _ => Q) E) :
    Triple P m (fun a r => c a → Q r) E := Triple.conseq h (fun _ h => h) (fun _ _ h _ => h) fun _ h => h

abbrev Keeps (I E : Run → Prop) (m : M α) : Prop := Triple I m (fun _ => I) E

abbrev Preserves (I : Run → Prop) (m : M α) : Prop := Triple I m (fun _ => I) I

section
variable {I E : Run → Prop}

theorem Keeps.pure (a : α) : Keeps I E (Pure.pure a : M α) := Triple.pure a (fun _ h => h)
theorem Keeps.bind {m : M α} {f : α → M β} (hm : Keeps I E m) (hf : ∀ a, Keeps I E (f a)) : Keeps I E (m >>= f) :=
  Triple.bind hm hf
theorem Keeps.void {m : M α} {a : β} (hm : Keeps I E m) : Keeps I E (m >>= fun _ => Pure.pure a) :=
  Keeps.bind hm (fun _ => Keeps.pure a)
theorem Keeps.get : Keeps I E get := Triple.get (fun _ h => h)
theorem Keeps.getS : Keeps I E getS := Triple.getS (fun _ h => h)
theorem Keeps.forIn (xs : List β) (f : β → Unit → M (ForInStep Unit)) (hf : ∀ x, Keeps I E (f x ())) :
    Keeps I E (forIn xs () f) := Triple.forIn_mem xs f fun x _ => hf x
theorem Keeps.whenM (c : Bool) {m : M Unit} (h : Keeps I E m) : Keeps I E (whenM c m) :=
  Triple.ite (fun _ => h) (fun _ => Keeps.pure _)

theorem Preserves.fail : Preserves I (fail : M α) := Triple.fail (fun _ h => h)
theorem Preserves.attempt {m : M Unit} (h : Preserves I m) : Preserves I (attempt m) := Triple.attempt h (fun _ h => h)

end

/-- the same assertion whatever a Boolean result says, for a rule that asks for one assertion per answer -/
theorem Triple.bothArms {P Q E : Run → Prop} {m : M Bool} (h : Triple P m (fun _ => Q) E) :
    Triple P m (fun ok r => if ok then Q r else Q r) E :=
  Triple.conseq h (fun _ h => h) (fun ok _ h => by cases ok <;> exact h) fun _ h => h

theorem Triple.attempt_true {P Q' E : Run → Prop} {m : M Unit} (h : Triple P m (fun _ => Q') (fun _ => False)) :
    Triple P (Sop.Commit.attempt m) (fun ok r => ok = true ∧ Q' r) E :=
  Triple.attempt (Q := fun b r => b = true ∧ Q' r) (Triple.conseq h (fun _ h => h) (fun _ _ h => ⟨rfl, h⟩) (fun _ h => h.elim))
    (fun _ h => by cases h.1)

theorem Triple.attempt_nr {P Q' E : Run → Prop} {m : M Unit} (h : Triple P m (fun _ => Q') (fun _ => False)) :
    Triple P (Sop.Commit.attempt m) (fun _ => Q') E :=
  Triple.conseq (Triple.attempt_true h) (fun _ h => h) (fun _ _ h => h.2) (fun _ h => h)

/-- a first invariant that rules out raising, a second one beside it -/
theorem Triple.andNR {P1 P2 : Run → Prop} {E E2 : Run → Prop} {m : M α}
    (h1 : Triple P1 m (fun _ => P1) (fun _ => False)) (h2 : Triple P2 m (fun _ => P2) E2) :
    Triple (fun r => P1 r ∧ P2 r) m (fun _ r => P1 r ∧ P2 r) E :=
  Triple.mapE (Triple.and h1 h2) (fun _ h => h.1.elim)

/-- an invariant indexed by the elements processed so far (the body always yields) -/
theorem Triple.forIn_acc_mem {β : Type} {I : List β → Run → Prop} {E : Run → Prop} (f : β → Unit → M (ForInStep Unit)) :
    ∀ (xs done : List β), (∀ (done : List β), ∀ x ∈ xs,
        Triple (I done) (f x ()) (fun st r => st = ForInStep.yield () ∧ I (done ++ [x]) r) E) →
      Triple (I done) (ForIn.forIn xs () f) (fun _ => I (done ++ xs)) E := by
  intro xs
  induction xs with
  | nil => intro done _; rw [List.append_nil]; intro r h; exact h
  | cons x t ih =>
    intro done hf
    rw [List.forIn_cons, show done ++ x :: t = (done ++ [x]) ++ t by simp]
    refine Triple.bind (hf done x List.mem_cons_self) (fun st r hr => ?_)
    obtain ⟨rfl, h⟩ := hr
    exact ih (done ++ [x]) (fun d y hy => hf d y (List.mem_cons_of_mem _ hy)) r h

/-- The shape of `rollback`, from the run `r0` it is called in (whose committed state decides which undo steps run and whose
transaction id names the two log entries): `A` up to `rollbackUpdated`, `U` after it (or where it is skipped), `K` after the node
keys are released, `Q` once the committed state is forgotten; `E` where it raises. Each undo step is asked for only under its
guard. -/
theorem rollback_rule {A U K Q E : Run → Prop} (w : WS) (v : Bool) (r0 : Run) (h0 : A r0)
    (hfail : r0.cs.ord > Step.finalizeCommit.ord → E r0)
    (hplog : r0.cs.ord ≥ Step.beforeFinalize.ord →
      Keeps A E (attempt (call .plogRemove .none (fun s => { s with plog := fun k => if k = r0.tid then false else s.plog k }))))
    (hstores : r0.cs.ord > Step.commitStoreInfo.ord → Keeps A E (rollbackStores w))
    (hadded : r0.cs.ord > Step.commitAddedNodes.ord → Keeps A E (rollbackAdded w))
    (hremoved : r0.cs.ord > Step.commitRemovedNodes.ord → Keeps A E (rollbackRemoved w))
    (hupdated : r0.cs.ord > Step.commitUpdatedNodes.ord → Triple A (rollbackUpdated w) (fun _ => U) E)
    (hskip : ¬ r0.cs.ord > Step.commitUpdatedNodes.ord → ∀ r, A r → U r)
    (hkeys : Triple U unlockNodesKeys (fun _ => K) E)
    (hroots : r0.cs.ord > Step.commitNewRootNodes.ord → Keeps K E (rollbackNewRoots w))
    (hvalues : v = true → r0.cs.ord ≥ Step.commitTrackedItemsValues.ord → Keeps K E (rollbackValues w))
    (hitems : r0.cs.ord ≥ Step.lockTrackedItems.ord → Keeps K E (attempt (unlockItems w)))
    (hcreated : r0.cs.ord ≥ Step.createStore.ord → Keeps K E (removeCreatedStores w))
    (htlog : Keeps K E (attempt (call .tlogRemove .none (fun s => { s with tlog := fun k => if k = r0.tid then false else s.tlog k })
      .none (fun s => !s.tlog r0.tid))))
    (hend : Triple K (modify fun r => { r with cs := .unknown }) (fun _ => Q) E) :
    Triple (· = r0) (rollback w v) (fun _ => Q) E := by
  have guarded : ∀ {P : Run → Prop} {g : Prop} [Decidable g] {m : M Unit}, (g → Keeps P E m) → Keeps P E (whenM (decide g) m) :=
    fun h => Triple.ite (fun hc => h (of_decide_eq_true hc)) fun _ => Keeps.pure _
  refine Triple.bindFact (· = r0) (Q1 := (· = r0)) (Triple.get fun _ e => ⟨e, e⟩) fun r e => ?_
  subst e
  refine Triple.bind (Q1 := fun _ => A) (Triple.ite (fun hc => Triple.fail fun _ e => e ▸ hfail (of_decide_eq_true hc))
    fun _ => Triple.pure _ fun _ e => e ▸ h0) fun _ => ?_
  refine Triple.bind (guarded fun h => Keeps.void (hplog h)) fun _ => Triple.bind (guarded hstores) fun _ => ?_
  refine Triple.bind (guarded hadded) fun _ => Triple.bind (guarded hremoved) fun _ => ?_
  refine Triple.bind (Q1 := fun _ => U) (Triple.ite (fun hc => hupdated (of_decide_eq_true hc))
    fun hc => Triple.pure _ (hskip fun h => hc (decide_eq_true h))) fun _ => ?_
  refine Triple.bind hkeys fun _ => Triple.bind (guarded hroots) fun _ => ?_
  refine Triple.bind (Triple.ite (fun hc => hvalues (Bool.and_eq_true _ _ ▸ hc).1 (of_decide_eq_true (Bool.and_eq_true _ _ ▸ hc).2))
    fun _ => Keeps.pure _) fun _ => ?_
  refine Triple.bind (guarded fun h => Keeps.void (hitems h)) fun _ => Triple.bind (guarded hcreated) fun _ => ?_
  exact Triple.bind htlog fun _ => hend

/-- The shape of `cleanup`, from the run `r0` it is called in (it reads the two lists and the transaction id there): `A1` after the
first log line, `A2` after the unused blobs are deleted (or there were none), `A3` after the removed nodes' registry entries are,
`L done` inside the loop after the stores `done`, `Q` at the end and where a log line fails (cleanup then returns); `E` where it
raises. Every deletion is only attempted. -/
theorem cleanup_rule {A1 A2 A3 Q E : Run → Prop} {L : List StoreWS → Run → Prop} (w : WS) (r0 : Run)
    (hlog1 : Triple (· = r0) (attempt (logStep .deleteObsoleteEntries)) (fun ok r => if ok then A1 r else Q r) E)
    (hunused : unusedIds r0.reserved r0.removedH ≠ [] →
      Triple A1 (attempt (call .blobRemove (.ids (unusedIds r0.reserved r0.removedH))
        (fun s => s.delBlobs (unusedIds r0.reserved r0.removedH)))) (fun _ => A2) E)
    (hnone : unusedIds r0.reserved r0.removedH = [] → ∀ r, A1 r → A2 r)
    (hdead : Triple A2 (attempt (call .regRemove (.ids (r0.removedH.map (·.lid))) (fun s => s.delRegs (r0.removedH.map (·.lid)))))
      (fun _ => A3) E)
    (hlog2 : Triple A3 (attempt (logStep .deleteTrackedItemsValues)) (fun ok r => if ok then L [] r else Q r) E)
    (hobs : ∀ done, ∀ st ∈ w.stores, st.obsoleteValues ≠ [] →
      Triple (L done) (attempt (call .blobRemove (.ids st.obsoleteValues) (fun s => s.delBlobs st.obsoleteValues)))
        (fun _ => L (done ++ [st])) E)
    (hskip : ∀ done, ∀ st ∈ w.stores, st.obsoleteValues = [] → ∀ r, L done r → L (done ++ [st]) r)
    (htlog : Triple (L w.stores) (attempt (call .tlogRemove .none
        (fun s => { s with tlog := fun k => if k = r0.tid then false else s.tlog k }) .none (fun s => !s.tlog r0.tid)))
      (fun _ => Q) E) :
    Triple (· = r0) (cleanup w) (fun _ => Q) E := by
  refine Triple.bindFact (fun r => r = r0) (Triple.get fun r h => ⟨h, h⟩) fun r e => ?_
  subst e
  refine Triple.bind hlog1 fun ok => ?_
  cases ok with
  | false => exact Triple.ite (fun _ => Triple.pure _ fun _ h => h) fun h => absurd rfl h
  | true =>
    refine Triple.ite (fun h => by cases h) fun _ => ?_
    extract_lets flipped unused dead rest
    have hrest : ∀ u, Triple A2 (rest u) (fun _ => Q) E := fun _ =>
      Triple.bind hdead fun _ => Triple.bind hlog2 fun ok => by
        cases ok with
        | false => exact Triple.ite (fun _ => Triple.pure _ fun _ h => h) fun h => absurd rfl h
        | true =>
          refine Triple.ite (fun h => by cases h) fun _ => ?_
          refine Triple.bind (Triple.forIn_acc_mem (I := L) _ w.stores [] fun done st hst => ?_) fun _ => Triple.bind htlog fun _ =>
            Triple.pure _ fun _ h => h
          exact Triple.ite
            (fun hne => Triple.bind (hobs done st hst fun e => by rw [e] at hne; cases hne) fun _ => Triple.pure _ fun _ h => ⟨rfl, h⟩)
            fun he => Triple.pure _ fun r h => ⟨rfl, hskip done st hst (List.isEmpty_iff.mp (by simpa using he)) r h⟩
    exact Triple.ite (fun hne => Triple.bind (hunused fun e => by rw [show unused = [] from e] at hne; cases hne) fun _ => hrest ())
      fun he => Triple.conseq (hrest ()) (hnone (show unused = [] from List.isEmpty_iff.mp (by simpa using he))) (fun _ _ h => h) fun _ h => h

/-- The shape of `phase2`, from the run `r0` it is called in: `A1` after the first log line (`Aout` where that line fails: the
node keys are released and phase 2 raises), `B1` after the flip write, `B2` after the priority log is removed (or there was
nothing to flip), `B3` after the node keys, `B4` after the item locks are released, `Q` after the cleanup; `E` where it raises.
The flip is the one call that is not merely attempted. -/
theorem phase2_rule {A1 Aout B1 B2 B3 B4 Q E : Run → Prop} (w : WS) (r0 : Run)
    (hlog : Triple (· = r0) (attempt (logStep .finalizeCommit)) (fun ok r => if ok then A1 r else Aout r) E)
    (hout : Triple Aout unlockNodesKeys (fun _ => E) E)
    (hflip : finalImgs r0.reserved r0.removedH ≠ [] →
      Triple A1 (call .regUpdateNoLocks (.aon (finalImgs r0.reserved r0.removedH))
        (fun s => s.setRegs (finalImgs r0.reserved r0.removedH))) (fun _ => B1) E)
    (hplog : finalImgs r0.reserved r0.removedH ≠ [] →
      Triple B1 (attempt (call .plogRemove .none (fun s => { s with plog := fun k => if k = r0.tid then false else s.plog k })))
        (fun _ => B2) E)
    (hnone : finalImgs r0.reserved r0.removedH = [] → ∀ r, A1 r → B2 r)
    (hkeys : Triple B2 unlockNodesKeys (fun _ => B3) E) (hitems : Triple B3 (attempt (unlockItems w)) (fun _ => B4) E)
    (hclean : Triple B4 (cleanup w) (fun _ => Q) E) :
    Triple (· = r0) (phase2 w) (fun _ => Q) E := by
  refine Triple.bindFact (fun r => r = r0) (Triple.get fun r h => ⟨h, h⟩) fun r e => ?_
  subst e
  refine Triple.bind hlog fun okLog => ?_
  cases okLog with
  | false => exact Triple.ite (fun _ => Triple.bind hout fun _ => Triple.fail_bind _ fun _ h => h) fun h => absurd rfl h
  | true =>
    refine Triple.ite (fun h => by cases h) fun _ => ?_
    extract_lets final rest
    have hrest : ∀ u, Triple B2 (rest u) (fun _ => Q) E := fun _ =>
      Triple.bind hkeys fun _ => Triple.bind hitems fun _ => hclean
    exact Triple.ite
      (fun hne => have hne' : final ≠ [] := fun e => by rw [e] at hne; cases hne
        Triple.bind (hflip hne') fun _ => Triple.bind (hplog hne') fun _ => hrest ())
      fun he => Triple.conseq (hrest ()) (hnone (show final = [] from List.isEmpty_iff.mp (by simpa using he))) (fun _ _ h => h)
        fun _ h => h

/-- The shape of `conflictRound`: it raises at once when the retry cap is reached (`hfail`), otherwise after the live rollback, with
`conflicted` set. -/
theorem conflictRound_rule {P E : Run → Prop} {Q1 Q : Unit → Run → Prop} (w : WS) (n : Nat) (hfail : ∀ r, P r → E r)
    (hrb : Triple P (rollback w false) Q1 E) (hE : ∀ r, Q1 () r → E { r with conflicted := true }) : Triple P (conflictRound w n) Q E :=
  Triple.bind (Q1 := fun _ => P) (Keeps.whenM _ (Triple.fail hfail)) fun _ => Triple.bind hrb fun _ =>
    Triple.bind (Q1 := fun _ => E) (Triple.modify _ hE) fun _ => Triple.fail fun _ h => h

/-- The shape of `phase1`, every exit: `A` up to the first log line, `A0` up to the key merge, `A'` up to the body of the commit
loop, `B` after a successful body and `Bc` after one that reported a conflict, `C` at the end; `E` wherever it raises (a write
set without tracked items commits nothing). A round that gives up raises with `conflicted` set: after the node keys are released
(`G`), or after the live rollback of a conflict round (`Q1`); a conflict round at the retry cap raises as it stands (`hBc`). -/
theorem phase1_rule {A A0 A' G B Bc C E : Run → Prop} {Q1 : Unit → Run → Prop} (w : WS) (n : Nat)
    (hlog : Triple A (logStep .lockTrackedItems) (fun _ => A0) E) (hlock : Keeps A0 E (lockItems w))
    (hmerge : Triple A0 (mergeNodesKeys w) (fun _ => A') E) (hnodes : Keeps A' E lockNodes)
    (hgive : ∀ ids, Triple A' (attempt (unlockKeys ids)) (fun _ => G) E) (hgiven : ∀ r, G r → E { r with conflicted := true })
    (hbody : Triple A' (phase1Body w) (fun ok r => if ok then B r else Bc r) E)
    (hBc : ∀ r, Bc r → E r) (hrb : Triple Bc (rollback w false) Q1 E) (hrolled : ∀ r, Q1 () r → E { r with conflicted := true })
    (hfin : Triple B (finishPhase1 w) (fun _ => C) E) :
    Triple A (phase1 w n) (fun _ r => if w.hasTracked then C r else A r) E := by
  refine Triple.ite (fun hnt => Triple.pure _ fun r h => ?_) fun ht => ?_
  · rw [if_neg (by simpa using hnt)]; exact h
  refine Triple.bind hlog fun _ => Triple.bind hlock fun _ => Triple.bind hmerge fun _ => Triple.bind hnodes fun _ =>
    Triple.ite (fun _ => Triple.bind (Q1 := fun _ => A') Keeps.get fun _ => Triple.bind (hgive _) fun _ =>
      Triple.bind (Q1 := fun _ => E) (Triple.modify _ hgiven) fun _ => Triple.fail fun _ h => h)
    fun _ => Triple.bind hbody fun ok => Triple.ite (fun hno => ?_) fun hok => ?_
  · have e : ok = false := by simpa using hno
    subst e
    exact conflictRound_rule w n hBc hrb hrolled
  · have e : ok = true := by simpa using hok
    subst e
    exact Triple.conseq hfin (fun _ h => h) (fun _ _ h => by rw [if_pos (by simpa using ht)]; exact h) fun _ h => h

/-- `phase1_rule` for the successful end only -/
theorem phase1_ok {A A' B C : Run → Prop} (w : WS) (n : Nat)
    (hlog : Keeps A (fun _ => True) (logStep .lockTrackedItems)) (hlock : Keeps A (fun _ => True) (lockItems w))
    (hmerge : Triple A (mergeNodesKeys w) (fun _ => A') (fun _ => True)) (hnodes : Keeps A' (fun _ => True) lockNodes)
    (hbody : Triple A' (phase1Body w) (fun ok r => ok = true → B r) (fun _ => True))
    (hfin : Triple B (finishPhase1 w) (fun _ => C) (fun _ => True)) :
    Triple A (phase1 w n) (fun _ r => if w.hasTracked then C r else A r) (fun _ => True) :=
  phase1_rule (G := fun _ => True) (Bc := fun _ => True) (Q1 := fun _ _ => True) w n hlog hlock hmerge hnodes (fun _ => Triple.triv)
    (fun _ _ => trivial) (Triple.conseq hbody (fun _ h => h) (fun ok _ h => by cases ok; exact trivial; exact h rfl) fun _ h => h)
    (fun _ _ => trivial) Triple.triv (fun _ _ => trivial) hfin

end Sop.Commit
