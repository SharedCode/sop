import Sop.Lemmas.BTreeInsertPromote
/-! # C17 update side, `Btree.Add`: the promote cascade that ends at an ancestor with room.
The last promote step (`room_final`), induction up the path of full nodes (`up`), the frame shared by both cascade
theorems (`splitCtx`, `addOk_of_promoted`) and `addU_leaf_split_cascade`. -/
namespace Sop.BTree.Ins
open Sop.BTree

/-- what the cascade theorems need of the promote loop's end state beside the subtree it rebuilt: the ids handed out, the
    untouched fields, no action pending -/
structure CascadeOut (T Tfin : BTree) (saved : Bool) (news : List NodeId) : Prop where
  newsEq : news = List.range' T.nextId (Tfin.nodes.length - T.nodes.length)
  newsNone : ∀ x ∈ news, T.get? x = none
  newsNodup : news.Nodup
  len : Tfin.nodes.length = T.nodes.length + news.length
  sl : Tfin.sl = T.sl
  prom : Tfin.promTarget = 0
  ok : Tfin.panicked = false
  fresh : Fresh Tfin
  base : SameBase T Tfin
  uniq : Tfin.unique = saved
  nextId : T.nextId < Tfin.nextId
  keep : ∀ x, (T.get? x).isSome → (Tfin.get? x).isSome

/-- the pending split reaches a node `g` with room: `promote` inserts the separator and the new child, and the loop stops -/
theorem room_final {T Tk : BTree} {saved : Bool} {item : Item} {g gg c r : NodeId} {sep : Item} {f : Nat}
    {news : List NodeId} {idx : Nat} {gnd : Node} {cs : Array NodeId}
    (hS : PState T Tk saved item g c r sep f news idx) (a : AtInner T item.key g gg c f gnd cs idx)
    (hroom : gnd.count < T.sl) (hfreshT : Fresh T) :
    Grown T (pstep Tk) item 0 news (f + 1) g gg ∧
    (∀ x, (T.get? x).isSome → x ∉ reach T (f + 1) g → (pstep Tk).get? x = T.get? x) ∧
    CascadeOut T (pstep Tk) saved news := by
  obtain ⟨hW, -, -, hcs, -, hchild, -⟩ := id a
  have hP := hS.pend
  have hv := hS.virt a
  have h0 := hS.cleared
  rw [hS.pstep_eq]
  generalize clearProm Tk = Tk0 at h0 ⊢
  have hcssz : cs.size = T.sl + 1 := (hv.shape.2.2.2.2 cs hcs).1
  rw [promoteStep_room (t := Tk0) (g := g) (idx := idx) ((h0.get g).trans hv.getG) hcs (by rw [h0.sl]; exact hroom) hv.idxLe
    (by rw [h0.sl]; exact hcssz)]
  obtain ⟨T', hT'⟩ : ∃ T', T' = Tk0.upd g (promoteRoom Tk0 gnd cs idx) := ⟨_, rfl⟩
  rw [← hT']
  have hFid : ∀ x : Node, (promoteRoom Tk0 gnd cs idx x).id = x.id := fun _ => rfl
  have hsl' : T'.sl = T.sl := by rw [hT']; exact h0.sl
  have hother : ∀ x, x ≠ g → T'.get? x = Tk.get? x := by
    intro x hx; rw [hT', get?_upd_ne _ _ hFid hx, h0.get]
  have hgg' : T'.get? g = some (promoteRoom Tk0 gnd cs idx gnd) := by
    rw [hT', get?_upd_eq _ _ _ hFid, h0.get, hv.getG]; rfl
  have hci : cs.getD idx 0 = c := by rw [← hchild]; simp [Node.child, hcs]
  have hG := promoteRoom_facts (T' := T') (Tm := Tk0) hv.shape hcs hroom hv.idxLe (hci.trans h0.tpc0.symm) hsl'
  rw [h0.tempParent, h0.tpc1, hv.parent] at hG
  have al : Alloc T T' news.length := hT' ▸ h0.alloc.upd g _ hFid
  refine ⟨room_step (gnd' := promoteRoom Tk0 gnd cs idx gnd) hv hsl' hother hgg' hG, fun x hs hx => ?_,
    by rw [al.len, Nat.add_sub_cancel_left]; exact hS.newsEq, hS.pend.newsNone, hS.pend.newsNodup, al.len, hsl',
    hT' ▸ h0.promTarget, hT' ▸ h0.ok, al.fresh hfreshT, hT' ▸ h0.base, hT' ▸ h0.uniq, al.lt hS.news1, al.keep⟩
  rw [hother x (fun e => hx (by rw [e]; exact self_mem_reach hW)), hv.frame x hs hx]

theorem promoteLoop_succ (k : Nat) (t : BTree) (h1 : t.promTarget ≠ 0) (h2 : t.panicked = false) :
    promoteLoop (k + 1) t = promoteLoop k (pstep t) := by
  rw [promoteLoop]
  have : ¬ (t.promTarget = 0 ∨ t.panicked = true) := by rw [h2]; simp [h1]
  rw [if_neg this]
  rfl

/-- `k` rounds of `Btree.promote`: the states the induction up the path goes through -/
def iter : Nat → BTree → BTree
  | 0, t => t
  | k + 1, t => pstep (iter k t)

theorem promoteLoop_iter : ∀ (k m : Nat) (t : BTree),
    (∀ j, j < k → (iter j t).promTarget ≠ 0 ∧ (iter j t).panicked = false) →
    promoteLoop (k + m) t = promoteLoop m (iter k t)
  | 0, m, t, _ => by rw [Nat.zero_add]; rfl
  | k + 1, m, t, h => by
    rw [Nat.add_right_comm, Nat.add_assoc, promoteLoop_iter k (m + 1) t (fun j hj => h j (Nat.lt_succ_of_lt hj)),
      promoteLoop_succ _ _ (h k (Nat.lt_succ_self k)).1 (h k (Nat.lt_succ_self k)).2]
    rfl

/-- every node the descent for `key` passes from `c` down to `n` is full: the stretch the cascade splits -/
def fullPath (key : Int) : Nat → BTree → NodeId → NodeId → Prop
  | 0, _, _, _ => False
  | fuel + 1, t, c, n =>
    ¬ (t.get c).count < t.sl ∧
    (c = n ∨ ((t.get c).hasChildren = true ∧ t.childOf c (getIndexToInsertTo t (t.get c) key).1 ≠ 0 ∧
      fullPath key fuel t (t.childOf c (getIndexToInsertTo t (t.get c) key).1) n))

theorem fullPath_succ (key : Int) : ∀ (fuel : Nat) (t : BTree) (c n : NodeId),
    fullPath key fuel t c n → fullPath key (fuel + 1) t c n
  | 0, _, _, _, h => absurd h (by simp [fullPath])
  | fuel + 1, t, c, n, h => by
    unfold fullPath at h ⊢
    refine ⟨h.1, ?_⟩
    rcases h.2 with e | ⟨h1, h2, h3⟩
    · exact Or.inl e
    · exact Or.inr ⟨h1, h2, fullPath_succ key fuel t _ n h3⟩

/-- if every node from `c` (the child of `g` the key selects) down to the target leaf `n` is full, then after the leaf split
    and as many splitting promote steps as there are inner nodes on that path the split is pending at `g` -/
theorem up_iter {T : BTree} (saved : Bool) {item : Item} {n : NodeId} {i : Nat}
    (hfreshT : Fresh T) (hsl2 : 2 ≤ T.sl ∧ T.sl % 2 = 0) (hid : item.id ≠ 0) (hok : T.panicked = false)
    (hleafn : (T.get n).hasChildren = false) (hieq : i = (getIndexToInsertTo T (T.get n) item.key).1) :
    ∀ (f : Nat) (g gg c : NodeId) (fuel : Nat) (gnd : Node) (cs : Array NodeId) (idx : Nat),
      AtInner T item.key g gg c f gnd cs idx → f ≤ fuel → fullPath item.key fuel T c n →
      ∃ k r sep news, k ≤ f ∧
        PState T (iter k ({ leafSplit T n item i with unique := saved } : BTree)) saved item g c r sep f news idx ∧
        (∀ j, j < k → (iter j ({ leafSplit T n item i with unique := saved } : BTree)).promTarget ≠ 0 ∧
          (iter j ({ leafSplit T n item i with unique := saved } : BTree)).panicked = false) ∧
        ({ leafSplit T n item i with unique := saved } : BTree).nodes.length = T.nodes.length + 1 := by
  intro f
  induction f with
  | zero =>
    intro g gg c fuel gnd cs idx a _ _
    have hw := (child_facts a).wf
    exact absurd hw (by simp [WFNode])
  | succ f ih =>
    intro g gg c fuel gnd cs idx a hf hfp
    obtain ⟨fuel, rfl⟩ : ∃ k, fuel = k + 1 := ⟨fuel - 1, (Nat.sub_add_cancel (Nat.le_trans (Nat.succ_pos f) hf)).symm⟩
    have hc := child_facts a
    have hwc := hc.wf
    have hwc' := hwc
    obtain ⟨hcn0, cnd, hgc, hcpar, hcsh, _, hcb⟩ := hwc
    have hgetc := get_of_get? hgc
    unfold fullPath at hfp
    rw [hgetc] at hfp
    obtain ⟨hfullc, hcase⟩ := hfp
    have hcfull : cnd.count = T.sl := Nat.le_antisymm hcsh.2.1 (Nat.le_of_not_lt hfullc)
    rcases hcase with e | ⟨hcch, hc'0, hrec⟩
    · -- the child is the target leaf
      subst e
      rw [hgetc] at hleafn hieq
      have hcleaf : cnd.children = none := by
        cases hc : cnd.children with
        | none => rfl
        | some cs => simp [Node.hasChildren, hc] at hleafn
      rw [hcleaf] at hcb
      have hlp := leaf_pstate saved hc.get hgc hcpar hcn0 hc.shape hcsh hc.children hc.idxLe hc.at_idx hc.only_idx hcfull
        hcleaf hieq (hieq ▸ (insIdx_spec T cnd item.key hcsh (itemsOk_good _ _ _ hcb).1).1) hfreshT hsl2 hid hok f
      exact ⟨0, _, _, _, Nat.zero_le _, hlp, fun j hj => absurd hj (Nat.not_lt_zero j), hlp.len⟩
    · -- the child is a full inner node: recurse, then one splitting step
      obtain ⟨hce, hce0, ccs, hccs⟩ := childOf_inner hgc hc'0
      rw [hce] at hrec
      have ac : AtInner T item.key c g (cnd.child (getIndexToInsertTo T cnd item.key).1) f cnd ccs _ :=
        ⟨hwc', hc.nodup, hgc, hccs, rfl, rfl, hce0⟩
      obtain ⟨k, r, sep, news, hkf, hS, hrun, hlen0⟩ := ih c g _ fuel cnd ccs _ ac (Nat.le_of_succ_le_succ hf) hrec
      have hstep := inner_step hS ac hcfull hc hfreshT hsl2 hid
      refine ⟨k + 1, _, _, _, Nat.succ_le_succ hkf, hstep, fun j hj => ?_, hlen0⟩
      rcases Nat.lt_succ_iff_lt_or_eq.mp hj with hjk | rfl
      · exact hrun j hjk
      · exact ⟨by rw [hS.promTarget]; exact a.c0, hS.ok⟩

/-- the same with the iterates hidden: started with `f + m` rounds of fuel after the leaf split, the promote loop reaches
    a state `Tk` in which the split is pending at `g` with `j + m` rounds left -/
theorem up {T : BTree} (saved : Bool) {item : Item} {n : NodeId} {i : Nat}
    (hfreshT : Fresh T) (hsl2 : 2 ≤ T.sl ∧ T.sl % 2 = 0) (hid : item.id ≠ 0) (hok : T.panicked = false)
    (hleafn : (T.get n).hasChildren = false) (hieq : i = (getIndexToInsertTo T (T.get n) item.key).1) :
    ∀ (f : Nat) (g gg c : NodeId) (fuel : Nat) (gnd : Node) (cs : Array NodeId) (idx : Nat),
      AtInner T item.key g gg c f gnd cs idx → f ≤ fuel → fullPath item.key fuel T c n →
      ∃ Tk r sep news j, PState T Tk saved item g c r sep f news idx ∧
        (∀ m, promoteLoop (f + m) ({ leafSplit T n item i with unique := saved } : BTree) = promoteLoop (j + m) Tk) ∧
        ({ leafSplit T n item i with unique := saved } : BTree).nodes.length = T.nodes.length + 1 := by
  intro f g gg c fuel gnd cs idx a hf hfp
  obtain ⟨k, r, sep, news, hk, hS, hrun, hlen⟩ := up_iter saved hfreshT hsl2 hid hok hleafn hieq f g gg c fuel gnd cs
    idx a hf hfp
  refine ⟨_, r, sep, news, f - k, hS, fun m => ?_, hlen⟩
  rw [← promoteLoop_iter k (f - k + m) _ hrun, ← Nat.add_assoc, Nat.add_sub_cancel' hk]

theorem promoteLoop_one {t : BTree} {g : NodeId} (hg : t.promTarget = g) (hg0 : g ≠ 0) (hok : t.panicked = false)
    (hdone : (({ t with promTarget := 0, promIdx := 0 } : BTree).promoteStep g t.promIdx).promTarget = 0) (k : Nat) :
    promoteLoop (k + 2) t = ({ t with promTarget := 0, promIdx := 0 } : BTree).promoteStep g t.promIdx := by
  rw [promoteLoop]
  have h1 : ¬ (t.promTarget = 0 ∨ t.panicked = true) := by rw [hg, hok]; simp [hg0]
  rw [if_neg h1]
  simp only [hg]
  rw [promoteLoop, if_pos (Or.inl hdone)]

/-- the state `Add` ends in after a non-root leaf split: the promote loop run from the leaf split's state -/
def promoted (T : BTree) (saved : Bool) (n : NodeId) (item : Item) (i : Nat) : BTree :=
  promoteLoop (({ leafSplit T n item i with unique := saved } : BTree).fuel + 2)
    ({ leafSplit T n item i with unique := saved } : BTree)

/-- the promote loop comes to a state `Tk` with the split pending at `q`, and if the step at `q` clears the promote
    action, that step's result is the end -/
theorem promoted_at {T : BTree} (saved : Bool) {item : Item} {q n : NodeId} {i idx : Nat} {gnd : Node} {cs : Array NodeId}
    (hfreshT : Fresh T) (hsl2 : 2 ≤ T.sl ∧ T.sl % 2 = 0) (hid : item.id ≠ 0) (hok : T.panicked = false)
    (hleafn : (T.get n).hasChildren = false) (hieq : i = (getIndexToInsertTo T (T.get n) item.key).1)
    {f : Nat} {p c : NodeId} (a : AtInner T item.key q p c f gnd cs idx)
    (hfp : fullPath item.key T.fuel T c n) (hfl : f + 1 ≤ T.nodes.length + 1) :
    ∃ Tk r sep news, PState T Tk saved item q c r sep f news idx ∧
      ((pstep Tk).promTarget = 0 → promoted T saved n item i = pstep Tk) := by
  obtain ⟨Tk, r, sep, news, j, hS, hloop, hlen0⟩ := up saved hfreshT hsl2 hid hok hleafn hieq f q p c
    T.fuel gnd cs idx a (by unfold BTree.fuel; omega) hfp
  refine ⟨Tk, r, sep, news, hS, fun hdone => ?_⟩
  unfold promoted
  generalize ({ leafSplit T n item i with unique := saved } : BTree) = T0 at *
  have hle : f ≤ T0.fuel := by unfold BTree.fuel; omega
  rw [← Nat.add_sub_cancel' hle, Nat.add_assoc f, hloop, ← Nat.add_assoc j,
    promoteLoop_one (g := Tk.promTarget) rfl (hS.promTarget ▸ a.wf.1) hS.ok hdone]
  rfl

theorem cascade_at {T : BTree} (saved : Bool) {item : Item} {q n : NodeId} {i idx : Nat} {gnd : Node} {cs : Array NodeId}
    (hfreshT : Fresh T) (hsl2 : 2 ≤ T.sl ∧ T.sl % 2 = 0) (hid : item.id ≠ 0) (hok : T.panicked = false)
    (hleafn : (T.get n).hasChildren = false) (hieq : i = (getIndexToInsertTo T (T.get n) item.key).1)
    (hgq : T.get? q = some gnd) (hcs : gnd.children = some cs) (hidx : idx = (getIndexToInsertTo T gnd item.key).1)
    (hc0 : gnd.child idx ≠ 0) (hroom : gnd.count < T.sl) (hfp : fullPath item.key T.fuel T (gnd.child idx) n)
    {f : Nat} {p : NodeId} (hW : WFNode T f q p none none) (hfl : f ≤ T.nodes.length + 1) (hN : (reach T f q).Nodup) :
    Grown T (promoted T saved n item i) item 0
      (List.range' T.nextId ((promoted T saved n item i).nodes.length - T.nodes.length)) f q p ∧
    (∀ x, (T.get? x).isSome → x ∉ reach T f q → (promoted T saved n item i).get? x = T.get? x) ∧
    CascadeOut T (promoted T saved n item i) saved
      (List.range' T.nextId ((promoted T saved n item i).nodes.length - T.nodes.length)) := by
  obtain ⟨f, rfl⟩ := hW.fuel_pos
  have a : AtInner T item.key q p (gnd.child idx) f gnd cs idx := ⟨hW, hN, hgq, hcs, hidx, rfl, hc0⟩
  obtain ⟨Tk, r, sep, news, hS, hlast⟩ := promoted_at saved hfreshT hsl2 hid hok hleafn hieq a hfp hfl
  obtain ⟨hwf, hframe, hout⟩ := room_final hS a hroom hfreshT
  rw [hlast hout.prom, hout.len, Nat.add_sub_cancel_left, ← hS.newsEq]
  exact ⟨hwf, hframe, hout⟩

theorem getIndexOfChild_distSrc (t : BTree) (p c : NodeId) : (t.getIndexOfChild p c).1.distSrc = t.distSrc := by
  unfold BTree.getIndexOfChild
  simp only
  split
  · rfl
  · split
    · rfl
    · split <;> rfl

theorem leafSplit_distSrc (T : BTree) (n : NodeId) (item : Item) (i : Nat) : (leafSplit T n item i).distSrc = T.distSrc := by
  show ((leafSplitPre T n item i).getIndexOfChild (T.get n).parent n).1.distSrc = _
  rw [getIndexOfChild_distSrc]; rfl

/-- what both cascade theorems read off the start state when the descent ends in a non-root leaf (`splitCtx`) -/
structure SplitCtx (T : BTree) (key : Int) (n : NodeId) (i : Nat) : Prop where
  sl2 : 2 ≤ T.sl ∧ T.sl % 2 = 0
  wfRoot : WFNode T (T.nodes.length + 1) T.root 0 none none
  nodup : (reach T (T.nodes.length + 1) T.root).Nodup
  leaf : (T.get n).hasChildren = false
  idx : i = (getIndexToInsertTo T (T.get n) key).1
  n0 : n ≠ 0
  nroot : n ≠ T.root
  psome : (T.get? (T.get n).parent).isSome
  above : ∃ g, onPath key T.fuel T T.root g ∧ T.childOf g (getIndexToInsertTo T (T.get g) key).1 = n ∧ (T.get n).parent = g

theorem splitCtx (t : BTree) (uniq : Bool) (key : Int) (n : NodeId) (i : Nat) (hwf : WF t)
    (htgt : addTargetOf t uniq key = .leaf n i) (hnotroot : ((addStart t uniq).1.get n).isRoot = false) :
    SplitCtx (addStart t uniq).1 key n i := by
  have so := addStart_ok t uniq hwf
  unfold addTargetOf at htgt
  rw [so.rootEq] at htgt
  have hw := so.wf
  have hroot := so.root
  generalize (addStart t uniq).1 = T at *
  have hwT := hw
  unfold WF at hw
  rw [if_neg hroot] at hw
  obtain ⟨hsl2, hW, hN, hL, hC⟩ := hw
  obtain ⟨hleaf, hi⟩ := target_leaf key _ _ _ htgt
  have hnroot : n ≠ T.root := by
    intro e
    obtain ⟨_, rd, hgr, hpr, _⟩ := hW
    rw [e, get_of_get? hgr] at hnotroot
    simp [Node.isRoot, hpr] at hnotroot
  obtain ⟨g0, hpath0, hg0ch, hchildOf0, hn0⟩ := target_parent key _ _ _ htgt hnroot
  -- the leaf's parent is the node `g0` above `n` on the path
  have hch0 := hchildOf0
  obtain ⟨fq, pq, -, hWg, hNg⟩ := onPath_wf hwT hroot hpath0
  obtain ⟨f, rfl⟩ := hWg.fuel_pos
  obtain ⟨gnd0, hgg0⟩ : ∃ gnd0, T.get? g0 = some gnd0 := hWg.2.imp fun _ h => h.1
  rw [get_of_get? hgg0] at hchildOf0
  obtain ⟨hce, -, cs0, hcs0⟩ := childOf_inner hgg0 (by rw [hchildOf0]; exact hn0)
  rw [hchildOf0] at hce
  have hwn := (child_facts ⟨hWg, hNg, hgg0, hcs0, rfl, hce.symm, hn0⟩).wf
  obtain ⟨f, rfl⟩ := hwn.fuel_pos
  obtain ⟨_, nd, hgn, hnp, _⟩ := hwn
  have hpar : (T.get n).parent = g0 := by rw [get_of_get? hgn]; exact hnp
  exact ⟨hsl2, hW, hN, hleaf, hi, hn0, hnroot, by rw [hpar, hgg0]; rfl, g0, hpath0, hch0, hpar⟩

theorem addFinish_promote (saved : Bool) {S : BTree} (h : S.distSrc = 0) :
    addFinish saved (S, true) =
      ({ promoteLoop (({ S with unique := saved } : BTree).fuel + 2) { S with unique := saved } with
          count := (promoteLoop (({ S with unique := saved } : BTree).fuel + 2) { S with unique := saved }).count + 1 }, true) := by
  unfold addFinish
  simp only [Bool.not_true, Bool.false_eq_true, if_false]
  rw [distributeLoop_idle (t := { S with unique := saved }) h]

/-- `Add` whose descent ends in a full non-root leaf (load balancing off) is the leaf split followed by the promote
    loop (`promoted`): `AddOk` from a contract at ANY node `q` of the key path and the loop's outcome `CascadeOut` -/
theorem addOk_of_promoted (t : BTree) (uniq : Bool) (key : Int) (val : Nat) (n : NodeId) (i : Nat) {q : NodeId} {d k : Nat}
    (hwf : WF t) (hidle : Idle t) (hfresh : Fresh t) (hlb : t.lb = false)
    (htgt : addTargetOf t uniq key = .leaf n i)
    (hfull : ¬ ((addStart t uniq).1.get n).count < t.sl)
    (hnotroot : ((addStart t uniq).1.get n).isRoot = false)
    (hq : onPath key (addStart t uniq).1.fuel (addStart t uniq).1 (addStart t uniq).1.root q)
    (hloc : LocalOk (addStart t uniq).1 (promoted (addStart t uniq).1 t.unique n ⟨t.nextId, key, val⟩ i) q
      ⟨t.nextId, key, val⟩ d k)
    (hout : CascadeOut (addStart t uniq).1 (promoted (addStart t uniq).1 t.unique n ⟨t.nextId, key, val⟩ i) t.unique
      (List.range' (addStart t uniq).1.nextId k)) :
    AddOk t key val (t.addU uniq key val) := by
  have so := addStart_ok t uniq hwf
  have hc := splitCtx t uniq key n i hwf htgt hnotroot
  rw [addU_eq, htgt, so.saved]
  simp only [Target.apply]
  rw [addOnLeaf_leafSplit (by rw [so.sl]; exact hfull) hnotroot (by rw [so.lb]; exact hlb) hc.psome]
  have hd0 : (leafSplit (addStart t uniq).1 n ⟨t.nextId, key, val⟩ i).distSrc = 0 := by
    rw [leafSplit_distSrc, so.idle.1]; exact hidle.1
  rw [addFinish_promote t.unique hd0]
  change AddOk t key val ({ promoted (addStart t uniq).1 t.unique n ⟨t.nextId, key, val⟩ i with
    count := (promoted (addStart t uniq).1 t.unique n ⟨t.nextId, key, val⟩ i).count + 1 }, true)
  generalize promoted (addStart t uniq).1 t.unique n ⟨t.nextId, key, val⟩ i = T' at *
  have hb := hout.base
  have hasm := assembleG (T' := T') (n := q) t.unique so.wf so.root (so.fresh hfresh) hloc hb.root
    (by rw [hout.len, List.length_range']) hb.count hq
  have heq : ({ T' with unique := t.unique, count := T'.count + 1 } : BTree) = { T' with count := T'.count + 1 } := by
    rw [← hout.uniq]
  rw [heq, so.abs] at hasm
  obtain ⟨hWF, habs⟩ := hasm
  exact ⟨rfl, hWF, hout.ok, ⟨hb.distSrc.trans (so.idle.1.trans hidle.1), hout.prom⟩, hout.fresh,
    show T'.count + 1 = t.count + 1 by rw [hb.count, so.count], habs,
    ⟨hout.sl.trans so.sl, hout.uniq, hb.lb.trans so.lb, hb.fixFast.trans so.fix.1, hb.fixErr.trans so.fix.2.1,
      hb.fixId.trans so.fix.2.2⟩,
    Nat.lt_trans so.nextId hout.nextId, hb.cur.trans so.cur, fun x hx => hout.keep x (so.keep x hx)⟩

/-- the cascade ending at an ancestor with room: the descent ends in a full non-root leaf `n`; `q` is a
    node on the path that has room, and every node on the path strictly between `q` and `n`, and `n` itself, is
    full (leaf load balancing off).  The leaf is split, `promote` splits every full inner node on the way up and
    finally inserts into `q`. -/
theorem addU_leaf_split_cascade (t : BTree) (uniq : Bool) (key : Int) (val : Nat) (n : NodeId) (i : Nat) (q : NodeId)
    (hwf : WF t) (hok : t.panicked = false) (hidle : Idle t) (hfresh : Fresh t) (hlb : t.lb = false)
    (htgt : addTargetOf t uniq key = .leaf n i)
    (hfull : ¬ ((addStart t uniq).1.get n).count < t.sl)
    (hnotroot : ((addStart t uniq).1.get n).isRoot = false)
    (hq : onPath key (addStart t uniq).1.fuel (addStart t uniq).1 (addStart t uniq).1.root q)
    (hroom : ((addStart t uniq).1.get q).count < t.sl)
    (hqc : (addStart t uniq).1.childOf q (getIndexToInsertTo (addStart t uniq).1 ((addStart t uniq).1.get q) key).1 ≠ 0)
    (hfp : fullPath key (addStart t uniq).1.fuel (addStart t uniq).1
      ((addStart t uniq).1.childOf q (getIndexToInsertTo (addStart t uniq).1 ((addStart t uniq).1.get q) key).1) n) :
    AddOk t key val (t.addU uniq key val) := by
  have so := addStart_ok t uniq hwf
  have hc := splitCtx t uniq key n i hwf htgt hnotroot
  rw [← so.sl] at hroom
  obtain ⟨fq, pq, hfqle, hWq, hNq⟩ := onPath_wf so.wf so.root hq
  obtain ⟨gnd, hgq⟩ : ∃ gnd, (addStart t uniq).1.get? q = some gnd := by
    obtain ⟨f, rfl⟩ := hWq.fuel_pos
    exact hWq.2.imp fun _ h => h.1
  rw [get_of_get? hgq] at hroom hqc hfp
  obtain ⟨hce, hc0, cs, hcs⟩ := childOf_inner hgq hqc
  rw [hce] at hfp
  -- the cascade seen from `q`, however `q` is entered
  have entered := fun {f : Nat} {p : NodeId} => cascade_at t.unique (item := ⟨t.nextId, key, val⟩)
    (q := q) (n := n) (i := i) (f := f) (p := p) (so.fresh hfresh) hc.sl2 (Nat.ne_of_gt hfresh.1)
    (so.ok.trans hok) hc.leaf hc.idx hgq hcs rfl hc0 hroom hfp
  have hout := (entered hWq hfqle hNq).2.2
  exact addOk_of_promoted t uniq key val n i (d := 0) hwf hidle hfresh hlb htgt hfull hnotroot hq
    { sl := hout.sl, live := Nat.ne_of_gt hfresh.1, frame := fun _ _ hw hfl hnd => (entered hw hfl hnd).2.1,
      wf := fun _ _ hw hfl hnd => (entered hw hfl hnd).1 } hout

/-- `onPath` and `fullPath` are decidable, so that `exCascade_hyps` can evaluate them -/
instance onPathDec (key : Int) : ∀ (fuel : Nat) (t : BTree) (m q : NodeId), Decidable (onPath key fuel t m q)
  | 0, _, _, _ => isFalse (fun h => h)
  | fuel + 1, t, m, q => by
    unfold onPath
    have := onPathDec key fuel t (t.childOf m (getIndexToInsertTo t (t.get m) key).1) q
    exact inferInstance

instance fullPathDec (key : Int) : ∀ (fuel : Nat) (t : BTree) (c n : NodeId), Decidable (fullPath key fuel t c n)
  | 0, _, _, _ => isFalse (fun h => h)
  | fuel + 1, t, c, n => by
    unfold fullPath
    have := fullPathDec key fuel t (t.childOf c (getIndexToInsertTo t (t.get c) key).1) n
    exact inferInstance

/-- slot length 2, keys 1..10 added in order; `Add 11` ends in the
    full leaf 17 whose parent 14 is full too; the root 2 has room: the leaf and its parent are split -/
def exCascade : BTree :=
  (BTree.new 2 false false true).run [.add 1 1, .add 2 2, .add 3 3, .add 4 4, .add 5 5, .add 6 6, .add 7 7, .add 8 8,
    .add 9 9, .add 10 10]

/-- non-vacuity of `addU_leaf_split_cascade` -/
theorem exCascade_hyps : WF exCascade ∧ exCascade.panicked = false ∧ Idle exCascade ∧ Fresh exCascade ∧
    exCascade.lb = false ∧ addTargetOf exCascade false 11 = .leaf 17 2 ∧
    ¬ ((addStart exCascade false).1.get 17).count < exCascade.sl ∧
    ((addStart exCascade false).1.get 17).isRoot = false ∧
    onPath 11 (addStart exCascade false).1.fuel (addStart exCascade false).1 (addStart exCascade false).1.root 2 ∧
    ((addStart exCascade false).1.get 2).count < exCascade.sl ∧
    (addStart exCascade false).1.childOf 2
      (getIndexToInsertTo (addStart exCascade false).1 ((addStart exCascade false).1.get 2) 11).1 ≠ 0 ∧
    fullPath 11 (addStart exCascade false).1.fuel (addStart exCascade false).1
      ((addStart exCascade false).1.childOf 2
        (getIndexToInsertTo (addStart exCascade false).1 ((addStart exCascade false).1.get 2) 11).1) 17 := by
  refine ⟨checkWF_sound _ (by decide +kernel), ?_⟩
  unfold Idle Fresh
  decide +kernel

end Sop.BTree.Ins
