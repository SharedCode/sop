import Sop.Lemmas.MergeProgress
/-!
Writers with pairwise disjoint keys in the REPAIRED commit loop (`step true`): the merge replay never
takes an error exit, a writer never conflicts with lock records (its own included), every other
writer's install leaves its items alone, and an install writes exactly the writer's changes.
-/
namespace Sop.Merge

/-- an action without its lock identity (`lockId`, `owner`) and `storeVer`: what a merge replay and `lockTracked` keep -/
def core (t : Tr) : Nat × Act × Nat × Nat × Nat := (t.key, t.act, t.val, t.id, t.verInDB)

theorem valid_core {db : DB} {a b : Tr} (h : core a = core b) : valid db a = valid db b := by
  simp [core] at h
  obtain ⟨hk, ha, _, hi, hv⟩ := h
  unfold valid
  rw [ha, hk, hi, hv]

theorem restamp_core (t : Tr) : core (restamp t) = core t := by
  unfold restamp core; split <;> rfl

theorem map_restamp_core (ts : List Tr) : (ts.map restamp).map core = ts.map core := by
  simp [List.map_map, Function.comp_def, restamp_core]

theorem keys_of_core {a b : List Tr} (h : a.map core = b.map core) : a.map (·.key) = b.map (·.key) := by
  have := congrArg (List.map (·.1)) h
  simpa [List.map_map, Function.comp_def, core] using this

theorem mem_of_core {a b : List Tr} (h : a.map core = b.map core) {t : Tr} (ht : t ∈ a) : ∃ t' ∈ b, core t' = core t := by
  have : core t ∈ a.map core := List.mem_map_of_mem ht
  rw [h] at this
  obtain ⟨t', ht', hc⟩ := List.mem_map.mp this
  exact ⟨t', ht', hc⟩

theorem eff_core {a b : Tr} (h : core a = core b) : eff a = eff b := by
  simp [core] at h
  obtain ⟨_, ha, hv, _, _⟩ := h
  funext old
  unfold eff
  rw [ha, hv]

theorem key_core {a b : Tr} (h : core a = core b) : a.key = b.key := by
  simp [core] at h; exact h.1

theorem lockFind_mem {ls : List LockRec} {k : Nat} {l : LockRec} (h : lockFind ls k = some l) : l ∈ ls ∧ l.key = k := by
  induction ls with
  | nil => simp [lockFind] at h
  | cons x r ih =>
    by_cases hx : x.key = k
    · simp [lockFind, hx] at h; subst h; exact ⟨by simp, hx⟩
    · simp [lockFind, hx] at h; exact ⟨List.mem_cons_of_mem _ (ih h).1, (ih h).2⟩

theorem lockSet_core : ∀ (ts : List Tr) (ls : List LockRec), (lockSet ls ts).2.map core = ts.map core
  | [], _ => rfl
  | t :: r, ls => by
    by_cases h : t.act = .add ∨ (lockFind ls t.key).isSome
    · rw [lockSet_cons_skip h, List.map_cons, List.map_cons, lockSet_core r ls]
    · rw [lockSet_cons_new h, List.map_cons, List.map_cons, lockSet_core r _]; rfl

theorem lockSet_preserves : ∀ (ts : List Tr) (ls : List LockRec) (t : Tr), t ∈ ts →
    ∃ t' ∈ (lockSet ls ts).2, t'.key = t.key ∧ t'.lockId = t.lockId ∧ t'.act = t.act ∧ (t.owner = true → t'.owner = true)
  | x :: r, ls, t, ht => by
    by_cases h : x.act = .add ∨ (lockFind ls x.key).isSome
    · rw [lockSet_cons_skip h]
      rcases List.mem_cons.mp ht with rfl | ht'
      · exact ⟨t, List.mem_cons_self, rfl, rfl, rfl, id⟩
      · obtain ⟨t', h1, h2⟩ := lockSet_preserves r ls t ht'
        exact ⟨t', List.mem_cons_of_mem _ h1, h2⟩
    · rw [lockSet_cons_new h]
      rcases List.mem_cons.mp ht with rfl | ht'
      · exact ⟨_, List.mem_cons_self, rfl, rfl, rfl, fun _ => rfl⟩
      · obtain ⟨t', h1, h2⟩ := lockSet_preserves r _ t ht'
        exact ⟨t', List.mem_cons_of_mem _ h1, h2⟩

theorem lockSet_records : ∀ (ts : List Tr) (ls : List LockRec) (l : LockRec), l ∈ (lockSet ls ts).1 →
    l ∈ ls ∨ ∃ t' ∈ (lockSet ls ts).2, t'.key = l.key ∧ t'.lockId = l.lockId ∧ t'.act ≠ .add ∧ t'.owner = true
  | [], _, _, hl => Or.inl hl
  | x :: r, ls, l, hl => by
    by_cases h : x.act = .add ∨ (lockFind ls x.key).isSome
    · rw [lockSet_cons_skip h] at hl ⊢
      exact (lockSet_records r ls l hl).imp id fun ⟨t', h1, h2⟩ => ⟨t', List.mem_cons_of_mem _ h1, h2⟩
    · rw [lockSet_cons_new h] at hl ⊢
      rcases lockSet_records r _ l hl with h' | ⟨t', h1, h2⟩
      · rcases List.mem_cons.mp h' with rfl | h'
        · exact Or.inr ⟨_, List.mem_cons_self, rfl, rfl, fun ha => h (Or.inl ha), rfl⟩
        · exact Or.inl h'
      · exact Or.inr ⟨t', List.mem_cons_of_mem _ h1, h2⟩

theorem mem_unlockTracked {ls : List LockRec} {ts : List Tr} {l : LockRec} (h : l ∈ unlockTracked ls ts) :
    l ∈ ls ∧ ∀ t ∈ ts, t.act ≠ .add → t.owner = true → t.key ≠ l.key := by
  obtain ⟨h1, h2⟩ := List.mem_filter.mp h
  refine ⟨h1, fun t ht ha ho hk => ?_⟩
  have : (ts.any fun t => t.act ≠ .add && t.owner && t.key = l.key) = true :=
    List.any_eq_true.mpr ⟨t, ht, by simp [ha, ho, hk]⟩
  rw [this] at h2; cases h2

/-- C04's input: `n` writers, the store they start from, and the actions each of them commits -/
structure Setting where
  n : Nat
  db0 : DB
  spec : Nat → List Tr

/-- C04's premise: the writers' keys are pairwise disjoint and every action is valid for `db0` -/
structure Setting.OK (S : Setting) : Prop where
  nodup : ∀ i, i < S.n → ((S.spec i).map (·.key)).Nodup
  disjoint : ∀ i j, i < S.n → j < S.n → i ≠ j → ∀ k, k ∈ (S.spec i).map (·.key) → k ∉ (S.spec j).map (·.key)
  valid0 : ∀ i, i < S.n → ∀ t ∈ S.spec i, valid S.db0 t = true

/-- the record is the one an active writer published for a tracked item it owns -/
def Owns (w : Writer) (l : LockRec) : Prop :=
  active w ∧ ∃ t ∈ w.tracked, t.key = l.key ∧ t.lockId = l.lockId ∧ t.act ≠ .add ∧ t.owner = true

def LocksOwned (n : Nat) (locks : List LockRec) (ws : Nat → Writer) : Prop :=
  ∀ l ∈ locks, ∃ i, i < n ∧ active (ws i) ∧ ∃ t ∈ (ws i).tracked, t.key = l.key ∧ t.lockId = l.lockId ∧ t.act ≠ .add ∧ t.owner = true

theorem locksOwned_iff {n : Nat} {locks : List LockRec} {ws : Nat → Writer} :
    LocksOwned n locks ws ↔ ∀ l ∈ locks, ∃ i, i < n ∧ Owns (ws i) l := Iff.rfl

/-- every writer still carries its spec (up to lock identity); its keys are as in `db0` until it installs and carry its
    changes afterwards; nobody has failed except, as far as this invariant knows, by retry exhaustion (`Prog` excludes that) -/
structure Disj (S : Setting) (s : State) : Prop where
  untouched : ∀ i, i < S.n → (s.ws i).installed = false → ∀ t ∈ S.spec i, find s.db t.key = find S.db0 t.key
  tracked_core : ∀ i, i < S.n → (s.ws i).tracked.map core = (S.spec i).map core
  pending_core : ∀ i, i < S.n → (s.ws i).pending.map core = (S.spec i).map core
  results : ∀ i, i < S.n → ∀ r, (s.ws i).pc = .done r → (r = .ok ∧ (s.ws i).installed = true) ∨ r = .errRetries
  nofault : ∀ i, i < S.n → (s.ws i).fault = .none
  locks : LocksOwned S.n s.itemLocks s.ws
  uniq : UniqueKeys s.db
  written : ∀ i, i < S.n → (s.ws i).installed = true → ∀ t ∈ S.spec i, valAt s.db t.key = eff t (valAt S.db0 t.key)
  foreign : ∀ k, (∀ i, i < S.n → k ∉ (S.spec i).map (·.key)) → find s.db k = find S.db0 k

section
variable {S : Setting} (hS : S.OK) {s : State} {i : Nat}
include hS

theorem valid_of_core (h : Disj S s) (hi : i < S.n) (hni : (s.ws i).installed = false) {l : List Tr}
    (hc : l.map core = (S.spec i).map core) : (l.map (·.key)).Nodup ∧ ∀ t ∈ l, valid s.db t = true := by
  refine ⟨keys_of_core hc ▸ hS.nodup i hi, fun t ht => ?_⟩
  obtain ⟨t', ht', hc'⟩ := mem_of_core hc ht
  rw [← valid_core hc', valid_congr (h.untouched i hi hni t' ht')]
  exact hS.valid0 i hi t' ht'

/-- a writer never conflicts with the published lock records: they are its own or on other keys -/
theorem no_lock_conflict {s : State} (h : Disj S s) {i : Nat} (hi : i < S.n) :
    ((s.ws i).tracked.map restamp).any (lockConflict s.itemLocks) = false := by
  rw [List.any_eq_false]
  intro t ht
  obtain ⟨t0, ht0, rfl⟩ := List.mem_map.mp ht
  unfold lockConflict
  rw [restamp_act]
  split
  · simp
  · rw [restamp_key]
    cases hf : lockFind s.itemLocks t0.key with
    | none => simp
    | some l =>
      obtain ⟨hl, hk⟩ := lockFind_mem hf
      obtain ⟨j, hj, _, t2, ht2, hk2, hid2, _, _⟩ := h.locks l hl
      -- the record's owner tracks this key, so it is writer `i`, and the record is that of `t0` itself
      have hkeys {j : Nat} (hj : j < S.n) {t : Tr} (ht : t ∈ (s.ws j).tracked) : t.key ∈ (S.spec j).map (·.key) :=
        keys_of_core (h.tracked_core j hj) ▸ List.mem_map_of_mem ht
      have hji : j = i := Classical.byContradiction fun hne =>
        hS.disjoint j i hj hi hne _ (hkeys hj ht2) (hk2 ▸ hk ▸ hkeys hi ht0)
      subst hji
      have : t2 = t0 := inj_of_nodup_map (keys_of_core (h.tracked_core j hj) ▸ hS.nodup j hj) ht2 ht0 (hk2.trans hk)
      subst this
      simp [restamp_lockId, hid2]

end

section
variable {n : Nat} {locks locks' : List LockRec} {ws : Nat → Writer} {i : Nat} {w : Writer}

theorem locks_setW
    (h : LocksOwned n locks ws) (hold : ∀ l ∈ locks', (l ∈ locks ∧ (Owns (ws i) l → Owns w l)) ∨ (i < n ∧ Owns w l)) :
    LocksOwned n locks' (fun j => if j = i then w else ws j) := by
  refine locksOwned_iff.mpr fun l hl => ?_
  rcases hold l hl with ⟨hl', hkeep⟩ | ⟨hi, hw⟩
  · obtain ⟨j, hj, hown⟩ := locksOwned_iff.mp h l hl'
    exact ⟨j, hj, ite_ind (Owns · l) (fun hji => hkeep (hji ▸ hown)) fun _ => hown⟩
  · exact ⟨i, hi, ite_ind (Owns · l) (fun _ => hw) fun h => absurd rfl h⟩

theorem locks_same
    (h : LocksOwned n locks ws) (hsub : ∀ l ∈ locks', l ∈ locks)
    (ht : w.tracked = (ws i).tracked) (hact : active (ws i) → active w) :
    LocksOwned n locks' (fun j => if j = i then w else ws j) :=
  locks_setW h fun l hl => Or.inl ⟨hsub l hl, fun ⟨ha, hown⟩ => ⟨hact ha, ht ▸ hown⟩⟩

theorem locks_finish {r : Res}
    (h : LocksOwned n locks ws) (ht : w.tracked = (ws i).tracked) :
    LocksOwned n (unlockTracked locks w.tracked) (fun j => if j = i then { w with pc := .done r, nodeKeys := [] } else ws j) :=
  locks_setW h fun _ hl =>
    have ⟨hl1, hl2⟩ := mem_unlockTracked hl
    Or.inl ⟨hl1, fun ⟨_, t, htm, hk, _, hadd, hown⟩ => absurd hk (hl2 t (ht ▸ htm) hadd hown)⟩

theorem locks_refetch (hi : i < n)
    (h : LocksOwned n locks ws) (hw : active w)
    (ht : w.tracked = (lockSet locks ((ws i).tracked.map restamp)).2) :
    LocksOwned n (lockSet locks ((ws i).tracked.map restamp)).1 (fun j => if j = i then w else ws j) := by
  refine locks_setW h fun l hl => ?_
  rcases lockSet_records _ _ l hl with hold | hnew
  · refine Or.inl ⟨hold, fun ⟨_, t, htm, hk, hid, hadd, hown⟩ => ⟨hw, ?_⟩⟩
    obtain ⟨t', ht', hk', hid', hact', hown'⟩ := lockSet_preserves _ locks _ (List.mem_map_of_mem (f := restamp) htm)
    exact ⟨t', ht ▸ ht', hk'.trans ((restamp_key t).trans hk), hid'.trans ((restamp_lockId t).trans hid),
      by rw [hact', restamp_act]; exact hadd, hown' ((restamp_owner t).trans hown)⟩
  · exact Or.inr ⟨hi, hw, ht ▸ hnew⟩

end

structure DisjW (S : Setting) (db : DB) (i : Nat) (w : Writer) : Prop where
  untouched : w.installed = false → ∀ t ∈ S.spec i, find db t.key = find S.db0 t.key
  tracked_core : w.tracked.map core = (S.spec i).map core
  pending_core : w.pending.map core = (S.spec i).map core
  results : ∀ r, w.pc = .done r → (r = .ok ∧ w.installed = true) ∨ r = .errRetries
  nofault : w.fault = .none
  written : w.installed = true → ∀ t ∈ S.spec i, valAt db t.key = eff t (valAt S.db0 t.key)

theorem Disj.writer {S : Setting} {s : State} (h : Disj S s) {i : Nat} (hi : i < S.n) : DisjW S s.db i (s.ws i) :=
  ⟨h.untouched i hi, h.tracked_core i hi, h.pending_core i hi, h.results i hi, h.nofault i hi, h.written i hi⟩

theorem Disj.of_writers {S : Setting} {s : State} (h : ∀ i, i < S.n → DisjW S s.db i (s.ws i))
    (hl : LocksOwned S.n s.itemLocks s.ws) (hu : UniqueKeys s.db)
    (hf : ∀ k, (∀ i, i < S.n → k ∉ (S.spec i).map (·.key)) → find s.db k = find S.db0 k) : Disj S s :=
  ⟨fun i hi => (h i hi).untouched, fun i hi => (h i hi).tracked_core, fun i hi => (h i hi).pending_core,
   fun i hi => (h i hi).results, fun i hi => (h i hi).nofault, hl, hu, fun i hi => (h i hi).written, hf⟩

/-- `w` carries the work of `w0`: the same actions up to lock identity, the same fault, installed iff `w0` is -/
structure SameWork (w0 w : Writer) : Prop where
  installed : w.installed = w0.installed
  tracked : w.tracked.map core = w0.tracked.map core
  pending : w.pending.map core = w0.pending.map core
  fault : w.fault = w0.fault

theorem DisjW.of_same {S : Setting} {db : DB} {i : Nat} {w0 w : Writer} (hw : DisjW S db i w0) (same : SameWork w0 w)
    (hres : ∀ r, w.pc = .done r → r = .errRetries) : DisjW S db i w :=
  ⟨same.installed ▸ hw.untouched, same.tracked ▸ hw.tracked_core, same.pending ▸ hw.pending_core,
   fun r hr => Or.inr (hres r hr), same.fault ▸ hw.nofault, same.installed ▸ hw.written⟩

theorem Disj.replace {S : Setting} {s s' : State} {i : Nat} {w : Writer} (h : Disj S s)
    (hdb : s'.db = s.db) (hws : s'.ws = fun j => if j = i then w else s.ws j) (same : SameWork (s.ws i) w)
    (hres : ∀ r, w.pc = .done r → r = .errRetries) (hl : LocksOwned S.n s'.itemLocks s'.ws) : Disj S s' := by
  refine Disj.of_writers ?_ hl (hdb ▸ h.uniq) (hdb ▸ h.foreign)
  rw [hws, hdb]
  exact forall_setW (P := fun j w => j < S.n → DisjW S s.db j w) s.ws w (fun hi => (h.writer hi).of_same same hres)
    fun j _ hj => h.writer hj

/-- `Disj.replace` with `SameWork` written out; no user in the development -/
theorem Disj.update {S : Setting} {s s' : State} (h : Disj S s) (i : Nat) (w : Writer)
    (hdb : s'.db = s.db) (hws : s'.ws = fun j => if j = i then w else s.ws j)
    (hinst : w.installed = (s.ws i).installed)
    (htc : w.tracked.map core = (s.ws i).tracked.map core)
    (hpc : w.pending.map core = (s.ws i).pending.map core)
    (hres : ∀ r, w.pc = .done r → r = .errRetries)
    (hf : w.fault = (s.ws i).fault)
    (hl : LocksOwned S.n s'.itemLocks s'.ws) : Disj S s' :=
  h.replace hdb hws ⟨hinst, htc, hpc, hf⟩ hres hl

/-- under `Prog` nobody ends by retry exhaustion, so whoever has finished has committed and installed -/
theorem Disj.done_ok {S : Setting} {s : State} {n : Nat} (h : Disj S s) (hp : Prog n s) {i : Nat} (hi : i < S.n) {r : Res}
    (hr : (s.ws i).pc = .done r) : r = .ok ∧ (s.ws i).installed = true :=
  (h.results i hi r hr).resolve_right fun e => hp.no_retries i (e ▸ hr)

/-- a state in which every writer has called `Commit` and nobody has installed -/
theorem disj_of_fresh {S : Setting} {s : State} (hdb : s.db = S.db0) (hu : UniqueKeys S.db0)
    (hl : LocksOwned S.n s.itemLocks s.ws)
    (h : ∀ i, i < S.n → (s.ws i).pc = .atLock ∧ (s.ws i).installed = false ∧ (s.ws i).fault = .none ∧
      (s.ws i).tracked.map core = (S.spec i).map core ∧ (s.ws i).pending.map core = (S.spec i).map core) : Disj S s := by
  refine Disj.of_writers (fun i hi => ?_) hl (hdb ▸ hu) fun _ _ => by rw [hdb]
  obtain ⟨hpc, hin, hf, ht, hp⟩ := h i hi
  exact ⟨fun _ _ _ => by rw [hdb], ht, hp, fun r hr => (by rw [hpc] at hr; cases hr), hf, fun hi => (by rw [hin] at hi; cases hi)⟩

theorem Disj.relock {S : Setting} {s : State} {i : Nat} (h : Disj S s) {pl : List (Nat × Nat)} (pc : Pc) (nr : Bool)
    (hpc : ∀ r, pc ≠ .done r) :
    Disj S ({ s with pageLocks := pl }.setW i { s.ws i with pc := pc, needsRefetch := nr }) :=
  h.replace rfl rfl ⟨rfl, rfl, rfl, rfl⟩ (fun r hr => absurd hr (hpc r)) (locks_same h.locks (fun _ hl => hl) rfl fun _ => hpc)

theorem effectiveFault_none {w : Writer} (h : w.fault = .none) : effectiveFault w = .none :=
  (effectiveFault_eq w).elim id (·.trans h)

section
variable {S : Setting} (hS : S.OK) {s : State} {i : Nat}
include hS

theorem Disj.install {s s' : State} (h : Disj S s) {i : Nat} (hi : i < S.n) (w : Writer)
    (hdb : s'.db = applyAll s.db (s.ws i).pending)
    (hws : s'.ws = fun j => if j = i then { w with pc := .done .ok, nodeKeys := [] } else s.ws j)
    (hil : s'.itemLocks = unlockTracked s.itemLocks w.tracked)
    (hins : w.installed = true) (ht : w.tracked = (s.ws i).tracked) (hp : w.pending = (s.ws i).pending)
    (hf : w.fault = (s.ws i).fault) (hni : (s.ws i).installed = false) : Disj S s' := by
  obtain ⟨hpn, hpv⟩ := valid_of_core hS h hi hni (h.pending_core i hi)
  have hwi := h.writer hi
  have hother {k : Nat} (hk : k ∉ (S.spec i).map (·.key)) : find s'.db k = find s.db k := by
    rw [hdb, find_applyAll_ne]; rwa [keys_of_core (h.pending_core i hi)]
  refine Disj.of_writers ?_ ?_ (hdb ▸ uniqueKeys_applyAll h.uniq hpn hpv) fun k hk => (hother (hk i hi)).trans (h.foreign k hk)
  · rw [hws]
    refine forall_setW (P := fun j w => j < S.n → DisjW S s'.db j w) s.ws _ (fun _ => ?_) fun j hji hj => ?_
    · refine ⟨fun hfalse => absurd (hins ▸ hfalse) nofun, ht ▸ hwi.tracked_core, hp ▸ hwi.pending_core,
        fun r hr => Or.inl ⟨(Pc.done.inj hr).symm, hins⟩, hf ▸ hwi.nofault, fun _ t htj => ?_⟩
      obtain ⟨t', ht', hc⟩ := mem_of_core (h.pending_core i hi).symm htj
      have := valAt_applyAll_own h.uniq hpn hpv t' ht'
      rw [key_core hc] at this
      rw [hdb, this, eff_core hc]
      unfold valAt
      rw [h.untouched i hi hni t htj]
    · have hw := h.writer hj
      have hkeys {t : Tr} (htj : t ∈ S.spec j) : find s'.db t.key = find s.db t.key :=
        hother (hS.disjoint j i hj hi hji _ (List.mem_map_of_mem htj))
      exact ⟨fun hn t htj => (hkeys htj).trans (hw.untouched hn t htj), hw.tracked_core, hw.pending_core, hw.results, hw.nofault,
        fun hin t htj => by unfold valAt; rw [hkeys htj]; exact hw.written hin t htj⟩
  · rw [hws, hil]; exact locks_finish h.locks ht

theorem commitPhase_disj (h : Disj S s) (hi : i < S.n)
    (hni : (s.ws i).installed = false) (locks : List (Nat × Nat)) : Disj S (commitPhase { s with pageLocks := locks } i (s.ws i)) := by
  unfold commitPhase; simp only
  refine ite_ind (Disj S) (fun _ => ?_) fun _ => ?_
  · rw [effectiveFault_none (w := { s.ws i with passes := (s.ws i).passes + 1 }) (h.nofault i hi)]
    exact Disj.install hS h hi _ (hdb := rfl) (hws := rfl) (hil := rfl) (hins := rfl) (ht := rfl) (hp := rfl) (hf := rfl) (hni := hni)
  · refine ite_ind (Disj S) (fun _ => ?_) fun _ => ?_
    · exact h.replace rfl rfl ⟨rfl, rfl, rfl, rfl⟩ (fun r hr => (Pc.done.inj hr).symm) (locks_finish h.locks rfl)
    · exact h.replace rfl rfl ⟨rfl, rfl, rfl, rfl⟩ nofun
        (locks_same h.locks (fun l hl => (mem_unlockTracked hl).1) rfl fun _ _ => nofun)

theorem refetch_disj (h : Disj S s) (hi : i < S.n)
    (hni : (s.ws i).installed = false) (locks : List (Nat × Nat)) (adv : List (Nat × PAct)) :
    Disj S (refetch true { s with pageLocks := locks } i (s.ws i) adv) := by
  obtain ⟨hn, hv⟩ := valid_of_core hS h hi hni (h.tracked_core i hi)
  obtain ⟨r, hr, hp, ht, hnl⟩ := replay_ok (n := s.nextLock) hn hv
  have hlt : lockTracked s.itemLocks r.tracked = some (lockSet s.itemLocks ((s.ws i).tracked.map restamp)) := by
    unfold lockTracked; rw [ht, no_lock_conflict hS h hi]; rfl
  unfold refetch
  simp only [hr, hlt]
  refine h.replace rfl rfl { installed := rfl, fault := rfl, tracked := ?_, pending := ?_ } nofun (locks_refetch hi h.locks nofun rfl)
  · exact (lockSet_core _ _).trans (map_restamp_core _)
  · show r.pending.map core = _
    rw [hp, map_restamp_core, h.tracked_core i hi, h.pending_core i hi]

theorem step_disj {n' : Nat} (h : Disj S s) (hp : Prog n' s) (hi : i < S.n) (adv : List (Nat × PAct)) :
    Disj S (step true s i adv) := by
  unfold step; simp only
  cases hpc : (s.ws i).pc with
  | done r => exact h
  | atLock =>
    refine ite_ind (Disj S) (fun _ => ?_) fun _ => ?_
    · exact h.relock _ _ nofun
    · exact h.relock _ _ nofun
  | atHold =>
    have hni := not_installed_of_active hp fun r => by rw [hpc]; nofun
    exact ite_ind (Disj S) (fun _ => refetch_disj hS h hi hni s.pageLocks adv) fun _ => commitPhase_disj hS h hi hni s.pageLocks
  | atDual =>
    have hni := not_installed_of_active hp fun r => by rw [hpc]; nofun
    refine ite_ind (Disj S) (fun _ => commitPhase_disj hS h hi hni _) fun _ => ?_
    exact h.relock _ _ nofun

theorem run_disj : ∀ (sched : List (Nat × List (Nat × PAct))) {s : State},
    Disj S s → Prog S.n s → schedBelow S.n sched → Disj S (run true s sched) ∧ Prog S.n (run true s sched) := by
  intro sched
  induction sched with
  | nil => intro s h hp _; exact ⟨h, hp⟩
  | cons e rest ih =>
    intro s h hp hb
    obtain ⟨i, adv⟩ := e
    have hi : i < S.n := hb (i, adv) (by simp)
    exact ih (step_disj hS h hp hi adv) (step_prog hp hi adv) (fun e he => hb e (by simp [he]))

end

end Sop.Merge
