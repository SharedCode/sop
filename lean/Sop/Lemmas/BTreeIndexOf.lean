import Sop.Lemmas.BTreeHeap
/-! `getIndexOfChild`: what the call answers and what it does to the tree, once for the read, insert and remove side. -/
namespace Sop.BTree

namespace Rem
/-- the rescan from `i` finds a position of `cn.id` between `i` and any known one -/
theorem scan_spec (pn cn : Node) (cs : Array NodeId) (hid : cn.id ≠ 0) (j : Nat) (hj : j ≤ pn.slots.size)
    (hcj : cs.getD j 0 = cn.id) : ∀ (fuel i : Nat), i ≤ j → j - i < fuel →
      i ≤ BTree.getIndexOfChild.scan pn cn cs fuel i ∧ BTree.getIndexOfChild.scan pn cn cs fuel i ≤ j ∧
        cs.getD (BTree.getIndexOfChild.scan pn cn cs fuel i) 0 = cn.id := by
  intro fuel
  induction fuel with
  | zero => intro i _ h; omega
  | succ fuel ih =>
    intro k hk h
    rw [BTree.getIndexOfChild.scan, if_pos (Nat.le_trans hk hj)]
    by_cases hke : cs.getD k 0 = cn.id
    · simp only [hke, beq_eq_false_iff_ne.mpr hid, Bool.false_eq_true, if_false, beq_self_eq_true, if_true]
      exact ⟨Nat.le_refl _, hk, trivial⟩
    · have hlt : k < j := Nat.lt_of_le_of_ne hk (fun e => hke (e ▸ hcj))
      have hrec := ih (k + 1) hlt (by omega)
      have hrec' := And.intro (Nat.le_trans (Nat.le_succ k) hrec.1) hrec.2
      by_cases hkz : cs.getD k 0 = 0
      · simp only [hkz, beq_self_eq_true, if_true]; exact hrec'
      · simp only [beq_eq_false_iff_ne.mpr hkz, beq_eq_false_iff_ne.mpr hke, Bool.false_eq_true, if_false]; exact hrec'
end Rem

theorem getIndexOfChild_eq {t : BTree} {p c : NodeId} {pn cn : Node} {cs : Array NodeId}
    (hgp : t.get? p = some pn) (hgc : t.get? c = some cn) (hcs : pn.children = some cs) (hc0 : c ≠ 0)
    (hion : -1 ≤ cn.ion ∧ cn.ion < (cs.size : Int)) {j : Nat} (hj : j ≤ pn.slots.size) (hcj : cs.getD j 0 = c) :
    ∃ i : Nat, cs.getD i 0 = c ∧ (t.getIndexOfChild p c = (t, (i : Int)) ∨
      t.getIndexOfChild p c = (t.upd c (fun x => { x with ion := (i : Int) }), (i : Int))) := by
  have hcid : cn.id = c := get?_id hgc
  unfold BTree.getIndexOfChild
  simp only [get_of_get? hgp, get_of_get? hgc, hcs, Int.not_le.mpr hion.2, if_false]
  split
  · obtain ⟨_, _, h2⟩ := Rem.scan_spec pn cn cs (hcid ▸ hc0) j hj (hcid ▸ hcj) (pn.slots.size + 2) 0 (Nat.zero_le _)
      (by omega)
    exact ⟨_, hcid ▸ h2, Or.inr rfl⟩
  · rename_i hmemo
    simp only [Bool.or_eq_true, beq_iff_eq, bne_iff_ne, ne_eq, not_or, Decidable.not_not] at hmemo
    have h0 : 0 ≤ cn.ion := by have := hmemo.1; omega
    refine ⟨cn.ion.toNat, by rw [← hcid]; exact hmemo.2.symm, Or.inl ?_⟩
    rw [Int.toNat_of_nonneg h0]

end Sop.BTree
