import Sop.Lemmas.BTreeInsertCascade
/-! # C17 update side, `Btree.Add`: the promote cascade that reaches a full ROOT.
What `promoteStep`'s `isRoot` branch stores where (`rootInnerSplit_spec`), the last step (`root_final`, on the pure
`root_split_step` of BTreeInsertSteps) and the theorem `addU_leaf_split_cascade_root`. -/
namespace Sop.BTree.Ins
open Sop.BTree

/-- the two nodes `node.promote` creates when it splits the root: `leftNode` is created first (node.go:955) and so
    has the lower id, the other way round from `addOnLeaf`'s root-leaf split (`leftHalf`, `rightHalf`) -/
def rootLeft (t : BTree) (g : NodeId) (temp : Array Item) (tc : Array NodeId) : Node :=
  { id := t.nextId, parent := g, slots := goCopy (zeros t.sl) 0 temp 0 (t.sl / 2), count := t.sl / 2,
    children := some (goCopy (zeroIds (t.sl + 1)) 0 tc 0 (t.sl / 2 + 1)), ion := -1 }

def rootRight (t : BTree) (g : NodeId) (temp : Array Item) (tc : Array NodeId) : Node :=
  { id := t.nextId + 1, parent := g, slots := goCopy (zeros t.sl) 0 temp (t.sl / 2 + 1) (t.sl / 2 + 1 + t.sl / 2),
    count := t.sl / 2,
    children := some (goCopy (zeroIds (t.sl + 1)) 0 tc (t.sl / 2 + 1) (t.sl / 2 + 1 + t.sl / 2 + 1)), ion := -1 }

/-- a splitting `promote` step on the root, after the children were re-parented -/
def rootInnerU (t : BTree) (g : NodeId) (gnd : Node) (cs : Array NodeId) (idx : Nat) : BTree :=
  (({ t with nextId := t.nextId + 1 + 1 } : BTree).updateChildrenParent t.nextId
      ((rootLeft t g (innerTemp t gnd idx) (innerTc t gnd cs idx)).children.getD #[])).updateChildrenParent (t.nextId + 1)
      ((rootRight t g (innerTemp t gnd idx) (innerTc t gnd cs idx)).children.getD #[])

def rootInnerSplit (t : BTree) (g : NodeId) (gnd : Node) (cs : Array NodeId) (idx : Nat) : BTree :=
  (((rootInnerU t g gnd cs idx).upd g
      (rootRec (rootInnerU t g gnd cs idx).sl t.nextId (t.nextId + 1) ((innerTemp t gnd idx).getD (t.sl / 2) {}))).put
      (rootLeft t g (innerTemp t gnd idx) (innerTc t gnd cs idx))).put
      (rootRight t g (innerTemp t gnd idx) (innerTc t gnd cs idx))

theorem promoteStep_rootSplit {t : BTree} {g : NodeId} {gnd : Node} {cs : Array NodeId} {idx : Nat}
    (hg : t.get? g = some gnd) (hcs : gnd.children = some cs) (hfull : ¬ gnd.count < t.sl) (hidx : idx ≤ t.sl)
    (hr : gnd.isRoot = true) :
    t.promoteStep g (idx : Int) = rootInnerSplit t g gnd cs idx := by
  unfold BTree.promoteStep
  simp only [get_of_get? hg, hcs]
  have h1 : ¬ ((idx : Int) < 0) := by omega
  have h2 : ¬ idx > t.sl := by omega
  simp only [h1, if_false, hfull, Int.toNat_natCast, h2, hr, if_true]
  unfold rootInnerSplit rootInnerU rootLeft rootRight rootRec innerTemp innerTc BTree.newNode BTree.newId
  simp only []


theorem rootInnerU_get? (t : BTree) (g : NodeId) (gnd : Node) (cs : Array NodeId) (idx : Nat) (y : NodeId) :
    (rootInnerU t g gnd cs idx).get? y =
      reparent2 t ((goCopy (zeroIds (t.sl + 1)) 0 (innerTc t gnd cs idx) 0 (t.sl / 2 + 1)).toList) t.nextId ((goCopy (zeroIds (t.sl + 1)) 0 (innerTc t gnd cs idx) (t.sl / 2 + 1) (t.sl / 2 + 1 + t.sl / 2 + 1)).toList) (t.nextId + 1) y := by
  unfold rootInnerU
  rw [updateChildrenParent_get?, updateChildrenParent_get?]
  rfl

theorem shell_rootInnerU (t : BTree) (g : NodeId) (gnd : Node) (cs : Array NodeId) (idx : Nat) :
    shell (rootInnerU t g gnd cs idx) = shell { t with nextId := t.nextId + 1 + 1 } := by
  unfold rootInnerU
  rw [shell_updateChildrenParent, shell_updateChildrenParent]

theorem ids_rootInnerU (t : BTree) (g : NodeId) (gnd : Node) (cs : Array NodeId) (idx : Nat) :
    ids (rootInnerU t g gnd cs idx) = ids t := by
  unfold rootInnerU
  rw [ids_updateChildrenParent, ids_updateChildrenParent]
  rfl

theorem rootInnerSplit_get? (t : BTree) (g : NodeId) (gnd : Node) (cs : Array NodeId) (idx : Nat) (y : NodeId) :
    (rootInnerSplit t g gnd cs idx).get? y =
      if t.nextId + 1 = y then some (rootRight t g (innerTemp t gnd idx) (innerTc t gnd cs idx))
      else if t.nextId = y then some (rootLeft t g (innerTemp t gnd idx) (innerTc t gnd cs idx))
      else ((rootInnerU t g gnd cs idx).get? y).map (fun n => if y = g then
        rootRec (rootInnerU t g gnd cs idx).sl t.nextId (t.nextId + 1) ((innerTemp t gnd idx).getD (t.sl / 2) {}) n else n) := by
  unfold rootInnerSplit
  rw [get?_put, get?_put, get?_upd _ g y (rootRec _ _ _ _) (fun _ => rfl)]
  rfl

theorem shell_rootInnerSplit (t : BTree) (g : NodeId) (gnd : Node) (cs : Array NodeId) (idx : Nat) :
    shell (rootInnerSplit t g gnd cs idx) = shell { t with nextId := t.nextId + 1 + 1 } := by
  unfold rootInnerSplit
  rw [shell_put, shell_put, shell_upd]
  exact shell_rootInnerU t g gnd cs idx

theorem rootInnerSplit_alloc {t : BTree} (hfr : Fresh t) (g : NodeId) (gnd : Node) (cs : Array NodeId) (idx : Nat) :
    Alloc t (rootInnerSplit t g gnd cs idx) 2 := by
  refine Alloc.of_ids ?_ (shell_fields (shell_rootInnerSplit t g gnd cs idx)).2.1
  unfold rootInnerSplit
  have hL : (rootLeft t g (innerTemp t gnd idx) (innerTc t gnd cs idx)).id = t.nextId := rfl
  have hR : (rootRight t g (innerTemp t gnd idx) (innerTc t gnd cs idx)).id = t.nextId + 1 := rfl
  have hF : ∀ x, (rootRec (rootInnerU t g gnd cs idx).sl t.nextId (t.nextId + 1) ((innerTemp t gnd idx).getD (t.sl / 2) {}) x).id = x.id :=
    fun _ => rfl
  generalize rootLeft t g (innerTemp t gnd idx) (innerTc t gnd cs idx) = L at hL
  generalize rootRight t g (innerTemp t gnd idx) (innerTc t gnd cs idx) = R at hR
  generalize rootRec (rootInnerU t g gnd cs idx).sl t.nextId (t.nextId + 1) ((innerTemp t gnd idx).getD (t.sl / 2) {}) = F at hF
  have h1 : ids ((rootInnerU t g gnd cs idx).upd g F) = ids t := (ids_upd _ g F hF).trans (ids_rootInnerU t g gnd cs idx)
  have h2 : ids (((rootInnerU t g gnd cs idx).upd g F).put L) = ids t ++ [t.nextId] := by
    rw [ids_put _ _ (by rw [h1, hL]; exact fresh_not_mem hfr (Nat.le_refl _)), h1, hL]
  rw [ids_put _ _ (by
    rw [h2, hR, List.mem_append, List.mem_singleton]
    exact fun h => h.elim (fresh_not_mem hfr (Nat.le_succ _)) (Nat.ne_of_gt (Nat.lt_succ_self _))), h2, hR, List.append_assoc]
  exact List.Perm.refl _

/-- `promote` on the full ROOT `g`, which is not among its own over-full children: what the step stores where -/
theorem rootInnerSplit_spec {t : BTree} {g : NodeId} {gnd : Node} {cs : Array NodeId} {idx : Nat}
    (hfr : Fresh t) (hsl2 : 2 ≤ t.sl ∧ t.sl % 2 = 0)
    (hgk : t.get? g = some gnd) (hgs : NodeShape t gnd) (hgp : gnd.parent = 0) (hcs : gnd.children = some cs)
    (hfull : gnd.count = t.sl) (hidxle : idx ≤ gnd.count) (hci : cs.getD idx 0 = t.tpc0)
    (hgK : g ∉ kidsIns gnd idx t.tpc1) :
    ∃ gN,
      (t.promoteStep g (idx : Int)).get? g = some gN ∧
      InnerRec (t.promoteStep g (idx : Int)) gN 0 [(itemsIns gnd idx t.tempParent).getD (t.sl / 2) {}] [t.nextId, t.nextId + 1] ∧
      CutAt t (t.promoteStep g (idx : Int)) g g t.nextId (t.nextId + 1) (kidsIns gnd idx t.tpc1)
        (itemsIns gnd idx t.tempParent) (t.sl / 2) ∧
      shell (t.promoteStep g (idx : Int)) = shell { t with nextId := t.nextId + 1 + 1 } ∧
      Alloc t (t.promoteStep g (idx : Int)) 2 := by
  have hl'k : t.get? t.nextId = none := fresh_get? hfr (Nat.le_refl _)
  have hr'k : t.get? (t.nextId + 1) = none := fresh_get? hfr (Nat.le_succ _)
  have hgl' : g ≠ t.nextId := by intro e; rw [e, hl'k] at hgk; cases hgk
  have hgr' : g ≠ t.nextId + 1 := by intro e; rw [e, hr'k] at hgk; cases hgk
  have hisr : gnd.isRoot = true := by simp [Node.isRoot, hgp]
  rw [promoteStep_rootSplit hgk hcs (hfull ▸ Nat.lt_irrefl _) (hfull ▸ hidxle) hisr]
  have hsl' : (rootInnerSplit t g gnd cs idx).sl = t.sl := (shell_fields (shell_rootInnerSplit t g gnd cs idx)).1
  have hUsl : (rootInnerU t g gnd cs idx).sl = t.sl := (shell_fields (shell_rootInnerU t g gnd cs idx)).1
  obtain ⟨hL, hR, b1, b2⟩ := half_recs (ndL := rootLeft t g (innerTemp t gnd idx) (innerTc t gnd cs idx))
    (ndR := rootRight t g (innerTemp t gnd idx) (innerTc t gnd cs idx)) hsl2 (innerTemp_toList hgs hfull hidxle)
    (innerTc_toList hgs hcs hfull hidxle hci) (hfull ▸ itemsIns_length hgs hidxle _) (hfull ▸ kidsIns_length hgs hidxle _)
    rfl rfl rfl (ion_unset _) rfl rfl rfl (ion_unset _)
  have hLA := fun y => b1 ▸ mem_pad_iff _ _ y
  have hRA := fun y => b2 ▸ mem_pad_iff _ _ y
  have hUg : (rootInnerU t g gnd cs idx).get? g = some gnd := by
    rw [rootInnerU_get?, reparent2, hgk]
    simp only [Option.map_some, hLA g, hRA g,
      if_neg (fun h : g ≠ 0 ∧ g ∈ (kidsIns gnd idx t.tpc1).take (t.sl / 2 + 1) => hgK (List.mem_of_mem_take h.2)),
      if_neg (fun h : g ≠ 0 ∧ g ∈ (kidsIns gnd idx t.tpc1).drop (t.sl / 2 + 1) => hgK (List.mem_of_mem_drop h.2))]
  have hmid : (innerTemp t gnd idx).getD (t.sl / 2) {} = (itemsIns gnd idx t.tempParent).getD (t.sl / 2) {} := by
    rw [← (innerTemp_toList hgs hfull hidxle)]; simp [Array.getD_eq_getD_getElem?, List.getD_eq_getElem?_getD]
  have hN := rootRec_rec (t' := t) hgs t.nextId (t.nextId + 1) ((innerTemp t gnd idx).getD (t.sl / 2) {}) hsl2.1 rfl
  rw [hmid, hgp] at hN
  refine ⟨_, ?_, hN.congr hsl', ⟨hsl', ⟨_, ?_, hL.congr hsl'⟩, ⟨_, ?_, hR.congr hsl'⟩, fun y hs hyg => ?_⟩,
    shell_rootInnerSplit t g gnd cs idx, rootInnerSplit_alloc hfr g gnd cs idx⟩
  · rw [rootInnerSplit_get?, if_neg (Ne.symm hgr'), if_neg (Ne.symm hgl'), hUg, hUsl, hmid]
    simp
  · rw [rootInnerSplit_get?, if_neg (Nat.ne_of_gt (Nat.lt_succ_self _)), if_pos rfl]
  · rw [rootInnerSplit_get?, if_pos rfl]
  · have hyl : t.nextId ≠ y := fun e => by rw [← e, hl'k] at hs; cases hs
    have hyr : t.nextId + 1 ≠ y := fun e => by rw [← e, hr'k] at hs; cases hs
    rw [rootInnerSplit_get?, if_neg hyr, if_neg hyl, rootInnerU_get?]
    unfold reparent2
    cases t.get? y with
    | none => rfl
    | some n => simp only [Option.map_some, if_neg hyg, hLA y, hRA y]

/-- `CascadeOut` as the root step leaves it (at least one new id; `toCascade`) -/
structure RootOut (T T' : BTree) (saved : Bool) (news : List NodeId) : Prop where
  newsEq : news = List.range' T.nextId news.length
  newsNone : ∀ x ∈ news, T.get? x = none
  newsNodup : news.Nodup
  len : T'.nodes.length = T.nodes.length + news.length
  sl : T'.sl = T.sl
  prom : T'.promTarget = 0
  ok : T'.panicked = false
  fresh : Fresh T'
  base : SameBase T T'
  uniq : T'.unique = saved
  nextId : T.nextId < T'.nextId
  keep : ∀ x, (T.get? x).isSome → (T'.get? x).isSome
  news1 : 1 ≤ news.length

theorem root_final {T Tk : BTree} {saved : Bool} {item : Item} {g gg c r : NodeId} {sep : Item} {f : Nat}
    {news : List NodeId} {idx : Nat} {gnd : Node} {cs : Array NodeId}
    (hS : PState T Tk saved item g c r sep f news idx) (a : AtInner T item.key g gg c f gnd cs idx)
    (hfull : gnd.count = T.sl) (hgg0 : gg = 0) (hfreshT : Fresh T) (hsl2 : 2 ≤ T.sl ∧ T.sl % 2 = 0) :
    Grown T (pstep Tk) item 1 (news ++ [Tk.nextId, Tk.nextId + 1]) (f + 1) g gg ∧
    (∀ x, (T.get? x).isSome → x ∉ reach T (f + 1) g → (pstep Tk).get? x = T.get? x) ∧
    RootOut T (pstep Tk) saved (news ++ [Tk.nextId, Tk.nextId + 1]) := by
  obtain ⟨-, -, -, hcs, -, hchild, -⟩ := id a
  have hv := hS.virt a
  have hl'0 : Tk.nextId ≠ 0 := Nat.ne_of_gt hS.fresh.1
  have h0 := hS.cleared
  rw [hS.pstep_eq]
  generalize clearProm Tk = Tk0 at h0 ⊢
  obtain ⟨gN, hgN, hNd, hc, hsh, hal'⟩ :=
    rootInnerSplit_spec (t := Tk0) (g := g) (idx := idx) h0.fresh (h0.sl ▸ hsl2)
      ((h0.get g).trans hv.getG) (nodeShape_congr h0.sl hv.shape) (hv.parent.trans hgg0) hcs (hfull.trans h0.sl.symm) hv.idxLe
      (by rw [h0.tpc0, ← hchild]; simp [Node.child, hcs]) (h0.tpc1 ▸ hv.g_not_kid)
  generalize Tk0.promoteStep g (idx : Int) = T' at *
  simp only [h0.next, h0.tpc1, h0.tempParent, h0.sl] at hc hNd
  replace hc := hc.congr h0.get (h0.sl.trans hv.sl.symm)
  obtain ⟨s1, s2, s3, s4, s5, _, _, _, _⟩ := shell_fields hsh
  have hsl' : T'.sl = T.sl := s1.trans h0.sl
  obtain ⟨n1, n2, n3⟩ := hS.news_fresh hfreshT 2
  have al : Alloc T T' (news.length + 2) := h0.alloc.trans hal'
  exact ⟨root_split_step hv hfull hl'0 (Nat.succ_ne_zero _) hgN (by rw [hgg0]; exact hNd) hc,
    hv.cut_lookups hc.other, n3, n1, n2, by rw [List.length_append]; exact al.len, hsl', s5.trans h0.promTarget,
    s3.trans h0.ok, al.fresh hfreshT,
    h0.base.trans (SameBase.trans (by exact SameBase.refl Tk0) (SameBase.of_shell hsh)), s4.trans h0.uniq,
    al.lt (Nat.succ_pos _), al.keep, by simp⟩

theorem RootOut.toCascade {T T' : BTree} {saved : Bool} {news : List NodeId} (h : RootOut T T' saved news) :
    CascadeOut T T' saved news :=
  ⟨by rw [h.len, Nat.add_sub_cancel_left]; exact h.newsEq, h.newsNone, h.newsNodup, h.len, h.sl, h.prom, h.ok, h.fresh,
    h.base, h.uniq, h.nextId, h.keep⟩

theorem cascade_root_at {T : BTree} (saved : Bool) {item : Item} {q n : NodeId} {i idx : Nat} {gnd : Node} {cs : Array NodeId}
    (hfreshT : Fresh T) (hsl2 : 2 ≤ T.sl ∧ T.sl % 2 = 0) (hid : item.id ≠ 0) (hok : T.panicked = false)
    (hleafn : (T.get n).hasChildren = false) (hieq : i = (getIndexToInsertTo T (T.get n) item.key).1)
    (hgq : T.get? q = some gnd) (hcs : gnd.children = some cs) (hidx : idx = (getIndexToInsertTo T gnd item.key).1)
    (hc0 : gnd.child idx ≠ 0) (hfull : gnd.count = T.sl) (hfp : fullPath item.key T.fuel T (gnd.child idx) n)
    (hp0 : gnd.parent = 0)
    {f : Nat} {p : NodeId} (hW : WFNode T f q p none none) (hfl : f ≤ T.nodes.length + 1) (hN : (reach T f q).Nodup) :
    Grown T (promoted T saved n item i) item 1
      (List.range' T.nextId ((promoted T saved n item i).nodes.length - T.nodes.length)) f q p ∧
    (∀ x, (T.get? x).isSome → x ∉ reach T f q → (promoted T saved n item i).get? x = T.get? x) ∧
    RootOut T (promoted T saved n item i) saved
      (List.range' T.nextId ((promoted T saved n item i).nodes.length - T.nodes.length)) := by
  obtain ⟨f, rfl⟩ := hW.fuel_pos
  have hp0' : p = 0 := by
    obtain ⟨_, g1, hg1, hp1, _⟩ := hW
    rw [hgq] at hg1; cases hg1; rw [← hp1, hp0]
  have a : AtInner T item.key q p (gnd.child idx) f gnd cs idx := ⟨hW, hN, hgq, hcs, hidx, rfl, hc0⟩
  obtain ⟨Tk, r, sep, news, hS, hlast⟩ := promoted_at saved hfreshT hsl2 hid hok hleafn hieq a hfp hfl
  obtain ⟨hwf, hframe, hout⟩ := root_final hS a hfull hp0' hfreshT hsl2
  rw [hlast hout.prom, hout.len, Nat.add_sub_cancel_left, ← hout.newsEq]
  exact ⟨hwf, hframe, hout⟩

/-- the cascade that splits the root: the descent ends in a full non-root leaf `n` and every node on the
    path from the root down to `n` is full (leaf load balancing off): the leaf is split, `promote` splits every
    inner node on the way up and finally the root, in place -/
theorem addU_leaf_split_cascade_root (t : BTree) (uniq : Bool) (key : Int) (val : Nat) (n : NodeId) (i : Nat)
    (hwf : WF t) (hok : t.panicked = false) (hidle : Idle t) (hfresh : Fresh t) (hlb : t.lb = false)
    (htgt : addTargetOf t uniq key = .leaf n i)
    (hfull : ¬ ((addStart t uniq).1.get n).count < t.sl)
    (hnotroot : ((addStart t uniq).1.get n).isRoot = false)
    (hfp : fullPath key (addStart t uniq).1.fuel (addStart t uniq).1 (addStart t uniq).1.root n) :
    AddOk t key val (t.addU uniq key val) := by
  have so := addStart_ok t uniq hwf
  have hc := splitCtx t uniq key n i hwf htgt hnotroot
  have hW := hc.wfRoot
  obtain ⟨hr0, gnd, hgq, hgp, hgs, _⟩ := hW
  have hfuelT : (addStart t uniq).1.fuel = ((addStart t uniq).1.nodes.length + 2) + 1 := by unfold BTree.fuel; omega
  rw [hfuelT] at hfp
  unfold fullPath at hfp
  rw [get_of_get? hgq] at hfp
  obtain ⟨hrfull, hcase⟩ := hfp
  rcases hcase with e | ⟨hqch, hqc, hfp'⟩
  · exact absurd e.symm hc.nroot
  obtain ⟨hce, hc0, cs, hcs⟩ := childOf_inner hgq hqc
  rw [hce] at hfp'
  -- the cascade seen from the root, however the root is entered
  have entered := fun {f : Nat} {p : NodeId} => cascade_root_at t.unique (item := ⟨t.nextId, key, val⟩)
    (q := (addStart t uniq).1.root) (n := n) (i := i) (f := f) (p := p) (so.fresh hfresh) hc.sl2
    (Nat.ne_of_gt hfresh.1) (so.ok.trans hok) hc.leaf hc.idx hgq hcs rfl hc0 (by have := hgs.2.1; omega)
    (by rw [hfuelT]; exact fullPath_succ _ _ _ _ _ hfp') hgp
  have hout := (entered hc.wfRoot (Nat.le_refl _) hc.nodup).2.2
  exact addOk_of_promoted t uniq key val n i (d := 1) hwf hidle hfresh hlb htgt hfull hnotroot
    (by rw [hfuelT]; unfold onPath; left; rfl)
    { sl := hout.sl, live := Nat.ne_of_gt hfresh.1, frame := fun _ _ hw hfl hnd => (entered hw hfl hnd).2.1,
      wf := fun _ _ hw hfl hnd => (entered hw hfl hnd).1 }
    hout.toCascade

/-- slot length 2, keys 1..6 added in order; `Add 7` ends in the
    full leaf 9 whose parent, the root 2, is full too: leaf and root are split, the tree grows by one level -/
def exRootCascade : BTree :=
  (BTree.new 2 false false true).run [.add 1 1, .add 2 2, .add 3 3, .add 4 4, .add 5 5, .add 6 6]

/-- non-vacuity of `addU_leaf_split_cascade_root` -/
theorem exRootCascade_hyps : WF exRootCascade ∧ exRootCascade.panicked = false ∧ Idle exRootCascade ∧ Fresh exRootCascade ∧
    exRootCascade.lb = false ∧ addTargetOf exRootCascade false 7 = .leaf 9 2 ∧
    ¬ ((addStart exRootCascade false).1.get 9).count < exRootCascade.sl ∧
    ((addStart exRootCascade false).1.get 9).isRoot = false ∧
    fullPath 7 (addStart exRootCascade false).1.fuel (addStart exRootCascade false).1
      (addStart exRootCascade false).1.root 9 := by
  refine ⟨checkWF_sound _ (by decide +kernel), ?_⟩
  unfold Idle Fresh
  decide +kernel

end Sop.BTree.Ins
