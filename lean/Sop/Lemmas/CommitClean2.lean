import Sop.Lemmas.CommitClean1
/-!
C07 "no blockage", the committed state (`logger.committedState`): `logger.log` sets it, the end of `rollback` resets
it, nothing else writes it, and it alone decides which undo steps the live rollback runs. Invariants that read
nothing else (`CFrame`), bounds on it (`CsLe`, `CsGe`), and the decidable descriptions of where phase 1 stopped
(`pastUpdated`: the live rollback will run `rollbackUpdatedNodes`; `earlyB`: no reservation has been written).
-/
namespace Sop.Commit

/-- `logger.log st`: the committed state is `st` from its first instruction on -/
theorem cs_logStep_set {P : Run → Prop} (st : Step) :
    Triple P (logStep st) (fun _ r => r.cs = st) (fun r => r.cs = st) :=
  Triple.bind (Q1 := fun _ r => r.cs = st) (Triple.modify _ (fun _ _ => rfl)) (fun _ =>
    (Foot.bind (ch := [.tlog]) .get fun _ => .call fun r => .set .tlog).keeps (Reads.eq .cs st))

class CFrame (I : Run → Prop) : Prop where
  frame : ∀ r r' : Run, I r → r'.cs = r.cs → I r'

theorem Reads.cframe {I : Run → Prop} [CFrame I] : Reads [.cs] I := fun _ r r' d a h => CFrame.frame r r' h (a.same .cs (d _ (by decide)))

instance (c : Step) : CFrame (fun r => r.cs = c) where
  frame r r' h e := by rw [e]; exact h

section
set_option linter.unusedSectionVars false
variable {I : Run → Prop} [cf : CFrame I]
include cf

/-- where the live rollback raises, the committed state is still the one it was entered with (only its last step writes it) -/
theorem cf_rollback (w : WS) (v : Bool) : Triple I (rollback w v) (fun _ _ => True) I :=
  Triple.start fun r0 h0 => Triple.conseq (foot_rollback_raises w v r0) (fun _ e => e ▸ Agree.refl _) (fun _ _ _ => trivial)
    fun r' a => CFrame.frame r0 r' h0 (a.same .cs (by decide))

-- the rules of `CFrame` and two functions that keep such an invariant (as `Foot.keeps` with `Reads.cframe` shows); no user in the development
theorem Cf.getS : Preserves I getS := Triple.getS (fun _ h => h)
theorem Cf.modify (f : Run → Run) (h : ∀ r, (f r).cs = r.cs) : Preserves I (modify f) :=
  Triple.modify f (fun r hr => CFrame.frame r _ hr (h r))
theorem Cf.attempt {m : M Unit} (h : Preserves I m) : Preserves I (attempt m) := Triple.attempt h (fun _ h => h)

theorem cf_unlockKeys (ids : List UUID) : Preserves I (unlockKeys ids) := (foot_unlockKeys ids).keeps Reads.cframe
theorem cf_dropNodeCache (ids : List UUID) : Preserves I (dropNodeCache ids) := (foot_dropNodeCache ids).keeps Reads.cframe

end

def CsLe (n : Nat) (r : Run) : Prop := r.cs.ord ≤ n
def CsGe (n : Nat) (r : Run) : Prop := n ≤ r.cs.ord

instance (n : Nat) : CFrame (CsLe n) where
  frame r r' h e := by unfold CsLe at *; rw [e]; exact h
instance (n : Nat) : CFrame (CsGe n) where
  frame r r' h e := by unfold CsGe at *; rw [e]; exact h
abbrev UpdatedLogged : Run → Prop := CsGe Step.commitUpdatedNodes.ord
/-- the committed state is `areFetchedItemsIntact` at the latest: `commitUpdatedNodes` has not been logged -/
abbrev UpdatedNotLogged : Run → Prop := CsLe Step.areFetchedItemsIntact.ord

theorem csge_logStep {P : Run → Prop} (n : Nat) (st : Step) (h : n ≤ st.ord) :
    Triple P (logStep st) (fun _ => CsGe n) (CsGe n) :=
  Triple.conseq (cs_logStep_set (P := P) st) (fun _ h => h) (fun _ r e => by unfold CsGe; rw [e]; exact h)
    (fun r e => by unfold CsGe; rw [e]; exact h)

theorem csge_finishPhase1 (w : WS) (n : Nat) (hn : n ≤ Step.commitStoreInfo.ord) {P : Run → Prop} :
    Triple P (finishPhase1 w) (fun _ => CsGe n) (CsGe n) := by
  unfold finishPhase1
  refine Triple.bind (csge_logStep n _ hn) (fun _ => ?_)
  refine Triple.bind ((foot_commitStores w).keeps Reads.cframe) (fun _ => ?_)
  refine Triple.bind (csge_logStep n _ (Nat.le_trans hn (by decide))) (fun _ => ?_)
  refine Foot.keeps (ch := [.plog, .nodeLock]) (.bind .get fun r => ?_) Reads.cframe
  refine .bind (.whenM _ (.call fun r => .set .plog)) fun _ => ?_
  refine .bind ((foot_checkItems w).mono (by decide)) fun _ => .bind .get fun r => .whenM _ ?_
  exact .bind (.attempt (.callId)) fun ok => .whenM _ (.call fun r => .set .nodeLock)

/-- the committed state at which phase 1 stopped lies past `commitUpdatedNodes`: the live rollback will run
`rollbackUpdatedNodes` -/
def pastUpdated (st : Step) : Bool :=
  decide (Step.commitUpdatedNodes.ord < st.ord) && decide (st.ord ≤ Step.finalizeCommit.ord)

theorem pastUpdated_iff {st : Step} :
    pastUpdated st = true ↔ Step.commitUpdatedNodes.ord < st.ord ∧ st.ord ≤ Step.finalizeCommit.ord := by
  simp [pastUpdated]

/-- the faults that can fire at committed state `areFetchedItemsIntact` (number 5 in `Step.ord`, hence the name) without
a reservation having been written -/
def safe5 : Option Fault → Bool
  | none => true
  | some f => f.cls == .tlogAdd || f.cls == .regGet || (f.cls == .regUpdateNoLocks && f.kind == .failBefore)

/-- phase 1 stopped before the reservation write of `commitUpdatedNodes` took effect -/
def earlyB (r : Run) : Bool :=
  decide (r.cs.ord ≤ Step.commitNewRootNodes.ord) || (r.cs == .areFetchedItemsIntact && safe5 r.fault)

theorem earlyB_le {r : Run} (he : earlyB r = true) : UpdatedNotLogged r := by
  show r.cs.ord ≤ Step.areFetchedItemsIntact.ord
  unfold earlyB at he
  simp only [Bool.or_eq_true, decide_eq_true_eq, Bool.and_eq_true, beq_iff_eq] at he
  rcases he with h | ⟨h, _⟩
  · exact Nat.le_trans h (by decide)
  · rw [h]; decide

end Sop.Commit
