import Sop.Lemmas.CommitPhase1
/-!
What a SUCCESSFUL phase 1 leaves behind (`Staged`): every handle in the transaction's `reserved` list is the image
now in the registry, its new blob is stored under the reserved (inactive) id, and the lists are tied to the write
set. This is the precondition of the phase-2 flip.
-/
namespace Sop.Commit

structure Staged (s0 : State) (w : WS) (fresh0 : List (UUID × UUID)) (r : Run) : Prop where
  rinv : RInv s0 w fresh0 r
  res : ∀ h ∈ r.reserved, r.s.reg h.lid = some h ∧ r.s.blob h.inactive = true
  resAct : ∀ h ∈ r.reserved, OldAct s0 h
  resFresh : ∀ h ∈ r.reserved, h.inactive = 0 ∨ ∃ p ∈ fresh0, p.2 = h.inactive
  resSub : (r.reserved.map (·.lid)).Sublist (w.updated.map (·.1))
  remAct : ∀ g ∈ r.removedH, OldAct s0 g
  remSub : ∀ g ∈ r.removedH, g.lid ∈ w.removed.map (·.1)
  /-- the images in both lists are `Known`: writing them back (priority rollback) keeps the state invariant -/
  known : ∀ h ∈ r.reserved ++ r.removedH, Known s0 w fresh0 h

/-- before `commitUpdatedNodes`: nothing reserved, nothing marked -/
def Unstaged (s0 : State) (w : WS) (fresh0 : List (UUID × UUID)) (r : Run) : Prop :=
  RInv s0 w fresh0 r ∧ r.reserved = [] ∧ r.removedH = []

section
variable {s0 : State} {w : WS} {fresh0 : List (UUID × UUID)} {r : Run}
theorem Unstaged.rinv (h : Unstaged s0 w fresh0 r) : RInv s0 w fresh0 r := h.1
theorem Unstaged.noRes (h : Unstaged s0 w fresh0 r) : r.reserved = [] := h.2.1
theorem Unstaged.noRem (h : Unstaged s0 w fresh0 r) : r.removedH = [] := h.2.2
end

theorem Unstaged.init {s0 : State} {w : WS} {fresh0 : List (UUID × UUID)} (pre : Pre s0 w fresh0) {r : Run} (hs : r.s = s0)
    (hf : r.fresh = fresh0) (hr : r.reserved = []) (hm : r.removedH = []) : Unstaged s0 w fresh0 r :=
  ⟨.init pre hs hf, hr, hm⟩

/-- every updated node of the write set has been reserved, at the version the transaction read -/
def Covered (w : WS) (r : Run) : Prop := r.reserved.map (fun h => (h.lid, h.version)) = w.updated

/-- `Staged` and `Covered`: the invariant from a successful `commitUpdatedNodes` to the flip -/
abbrev StagedCovered (s0 : State) (w : WS) (fresh0 : List (UUID × UUID)) : Run → Prop := AndI (Staged s0 w fresh0) (Covered w)

section
variable {s0 : State} {w : WS} {fresh0 : List (UUID × UUID)}

instance : Frame (Unstaged s0 w fresh0) where
  frame r r' h hr hb hf h1 h2 := ⟨Frame.frame r r' h.rinv hr hb hf h1 h2, by rw [h1]; exact h.noRes, by rw [h2]; exact h.noRem⟩

instance : Frame (Staged s0 w fresh0) where
  frame r r' h hr hb hf h1 h2 := by
    refine ⟨Frame.frame r r' h.rinv hr hb hf h1 h2, ?_, ?_, ?_, ?_, ?_, ?_, ?_⟩
    · intro x hx; rw [h1] at hx; rw [hr, hb]; exact h.res x hx
    · intro x hx; rw [h1] at hx; exact h.resAct x hx
    · intro x hx; rw [h1] at hx; exact h.resFresh x hx
    · rw [h1]; exact h.resSub
    · intro x hx; rw [h2] at hx; exact h.remAct x hx
    · intro x hx; rw [h2] at hx; exact h.remSub x hx
    · intro x hx; rw [h1, h2] at hx; exact h.known x hx

instance : Frame (Covered w) where
  frame r r' h _ _ _ h1 _ := by unfold Covered at *; rw [h1]; exact h

theorem staged_of_unstaged {r : Run} (h : Unstaged s0 w fresh0 r) : Staged s0 w fresh0 r := by
  obtain ⟨a, b, c⟩ := h
  refine ⟨a, ?_, ?_, ?_, ?_, ?_, ?_, ?_⟩
  · intro x hx; rw [b] at hx; cases hx
  · intro x hx; rw [b] at hx; cases hx
  · intro x hx; rw [b] at hx; cases hx
  · rw [b]; exact List.nil_sublist _
  · intro x hx; rw [c] at hx; cases hx
  · intro x hx; rw [c] at hx; cases hx
  · intro x hx; rw [b, c] at hx; cases hx

theorem regGet_known {I : Run → Prop} [Frame I] (hI : ∀ r, I r → RInv s0 w fresh0 r) (ids : List UUID) :
    Triple I (regGet ids) (fun hs r => I r ∧ ((∀ h ∈ hs, Known s0 w fresh0 h) ∧ (∀ h ∈ hs, h.lid ∈ ids) ∧
      (hs.length = ids.length → ∀ i ∈ ids, ∃ h ∈ hs, h.lid = i))) I := by
  refine Triple.conseq (regGet_exact ids) (fun _ h => h) (fun _ r ⟨h, e⟩ => ⟨h, ?_⟩) fun _ h => h
  subst e
  refine ⟨(hI r h).sinv.known_of_filterMap ids, fun x hx => ?_, fun hl i hi => ?_⟩
  · obtain ⟨i, hi, e⟩ := List.mem_filterMap.mp hx
    rw [(hI r h).sinv.regwf i x e]; exact hi
  · obtain ⟨b, hb⟩ := Option.isSome_iff_exists.mp (List.filterMap_length_eq_length.mp hl i hi)
    exact ⟨b, List.mem_filterMap.mpr ⟨i, hi, hb⟩, (hI r h).sinv.regwf i b hb⟩

theorem unstaged_eff {r : Run} {s' : State} (occs : List (Cls × Nat)) (tr : List Ev) (h : Unstaged s0 w fresh0 r)
    (hs : SInv s0 w fresh0 s') : Unstaged s0 w fresh0 { r with occs := occs, trace := tr, s := s' } :=
  ⟨⟨hs, h.rinv.fresh⟩, h.noRes, h.noRem⟩

-- `Unstaged` is `RInv` and "no lists": the first is walked in CommitPhase1, the second no function before the reservation writes
theorem unstaged_addValues : Preserves (Unstaged s0 w fresh0) (addValues w) :=
  Triple.and pres_addValues ((foot_addValues w).keeps Reads.noLists)

theorem unstaged_commitNewRoots (pre : Pre s0 w fresh0) : Preserves (Unstaged s0 w fresh0) (commitNewRoots w) :=
  Triple.and (pres_commitNewRoots pre) ((foot_commitNewRoots w).keeps Reads.noLists)

theorem staged_commitUpdated (pre : Pre s0 w fresh0) (pre2 : Pre2 s0 w fresh0) :
    Triple (Unstaged s0 w fresh0) (commitUpdated w) (fun ok r => Staged s0 w fresh0 r ∧ (ok = true → Covered w r)) (fun _ => True) := by
  refine Triple.ite (fun hemp => Triple.pure _ fun r h => ⟨staged_of_unstaged h, fun _ => ?_⟩) fun _ => ?_
  · unfold Covered
    rw [h.noRes, List.isEmpty_iff.mp hemp]; rfl
  · refine Triple.bindFact _ (regGet_known (fun _ h => h.1) _).dropE fun hs ⟨hk, hlid, hall⟩ => ?_
    refine Triple.ite (fun _ => Triple.pure _ fun _ h => ⟨staged_of_unstaged h, fun e => by cases e⟩) fun hlen => ?_
    · refine Triple.bindFact (fun r0 => ∀ q ∈ r0.fresh, q ∈ fresh0) (Triple.get (fun r h => ⟨h, h.rinv.fresh⟩)) fun r0 hfr => ?_
      extract_lets pairs
      split
      · exact Triple.pure _ (fun _ h => ⟨staged_of_unstaged h, fun e => by cases e⟩)
      · rename_i res fr' e
        have hcov : res.map (fun h => (h.lid, h.version)) = w.updated := by
          rw [reserveAll_lidver _ _ _ _ e]
          apply pairs_cover
          intro x hx
          have hl : hs.length = (w.updated.map (·.1)).length := by
            rw [List.length_map]
            simpa using hlen
          exact hall hl x.1 (List.mem_map_of_mem (f := (·.1)) hx)
        obtain ⟨k1, k2⟩ := reserveAll_known _ _ _ _ e hfr (pairs_known _ hs hk)
        obtain ⟨sh1, sh2⟩ := reserveAll_shape _ _ _ _ e
        have hsub : (res.map (·.lid)).Sublist (w.updated.map (·.1)) := by rw [sh1]; exact pairs_lids_sublist _ hs
        have hnd : (res.map (·.lid)).Nodup := hsub.nodup pre2.updNodup
        refine Triple.bind (Q1 := fun _ => Unstaged s0 w fresh0) (Triple.modify _ (fun r hr => ⟨⟨hr.1.1, k2⟩, hr.2⟩)) (fun _ => ?_)
        refine Triple.bind (Q1 := fun _ r => Unstaged s0 w fresh0 r ∧ ∀ h ∈ res, r.s.reg h.lid = some h) ?_ (fun _ => ?_)
        · exact Triple.call_dropE fun r o t hr =>
            ⟨unstaged_eff o t hr (hr.1.1.setRegs_known _ k1), fun h hm => State.setRegs_reg_nodup _ _ hnd hm⟩
        refine Triple.bind (Q1 := fun _ r => Unstaged s0 w fresh0 r ∧ ∀ h ∈ res, r.s.reg h.lid = some h ∧ r.s.blob h.inactive = true) ?_ (fun _ => ?_)
        · refine Triple.call_dropE (fun r o t hr => ⟨unstaged_eff o t hr.1 (hr.1.rinv.sinv.addBlobs _), fun h hm => ⟨?_, ?_⟩⟩)
          · show (r.s.addBlobs _).reg h.lid = some h
            rw [State.addBlobs_reg]; exact hr.2 h hm
          · show (r.s.addBlobs _).blob h.inactive = true
            rw [State.addBlobs_blob]
            simp only [Bool.or_eq_true, decide_eq_true_eq]
            exact .inr (List.mem_map_of_mem (f := (·.inactive)) hm)
        refine Triple.bind (Q1 := fun _ r => Staged s0 w fresh0 r ∧ Covered w r) (Triple.modify _ (fun r hr => ⟨?_, hcov⟩))
          (fun _ => Triple.pure _ (fun _ h => ⟨h.1, fun _ => h.2⟩))
        obtain ⟨⟨hri, _, hrm⟩, hfacts⟩ := hr
        refine ⟨hri, hfacts, ?_, ?_, hsub, ?_, ?_, ?_⟩
        rotate_right
        · intro h hm
          rw [show ({ r with reserved := res } : Run).removedH = r.removedH from rfl, hrm, List.append_nil] at hm
          exact k1 h hm
        · intro h hm
          obtain ⟨_, p, hp, e1, e2, _⟩ := sh2 h hm
          have kp : Known s0 w fresh0 p.1 := pairs_known _ hs hk p hp
          have hin : h.lid ∈ w.updated.map (·.1) := hsub.subset (List.mem_map_of_mem (f := (·.lid)) hm)
          obtain ⟨h0, a, b⟩ := oldAct_of_known kp (e1 ▸ pre2.updOld _ hin)
          exact ⟨h0, e1 ▸ a, e2 ▸ b⟩
        · intro h hm
          rcases (sh2 h hm).1 with z | ⟨q, hq, eq⟩
          · exact .inl z
          · exact .inr ⟨q, hfr q hq, eq⟩
        · intro g hg; rw [show ({ r with reserved := res } : Run).removedH = r.removedH from rfl, hrm] at hg; cases hg
        · intro g hg; rw [show ({ r with reserved := res } : Run).removedH = r.removedH from rfl, hrm] at hg; cases hg

theorem Staged.setRegs_other {r : Run} (h : Staged s0 w fresh0 r) (hs : List Handle)
    (hk : ∀ x ∈ hs, Known s0 w fresh0 x) (hd : ∀ x ∈ hs, ∀ g ∈ r.reserved, x.lid ≠ g.lid) :
    Staged s0 w fresh0 { r with s := r.s.setRegs hs } := by
  refine ⟨⟨h.rinv.sinv.setRegs_known _ hk, h.rinv.fresh⟩, ?_, h.resAct, h.resFresh, h.resSub, h.remAct, h.remSub, h.known⟩
  intro g hg
  show (r.s.setRegs hs).reg g.lid = some g ∧ (r.s.setRegs hs).blob g.inactive = true
  rw [State.setRegs_blob, State.setRegs_reg_of_not_mem r.s hs g.lid (fun x hx => hd x hx g hg)]
  exact h.res g hg

theorem Staged.addBlobs {r : Run} (h : Staged s0 w fresh0 r) (ids : List UUID) :
    Staged s0 w fresh0 { r with s := r.s.addBlobs ids } := by
  refine ⟨⟨h.rinv.sinv.addBlobs _, h.rinv.fresh⟩, ?_, h.resAct, h.resFresh, h.resSub, h.remAct, h.remSub, h.known⟩
  intro g hg
  show (r.s.addBlobs ids).reg g.lid = some g ∧ (r.s.addBlobs ids).blob g.inactive = true
  rw [State.addBlobs_reg, State.addBlobs_blob, (h.res g hg).2]
  exact ⟨(h.res g hg).1, rfl⟩

theorem Staged.resLid {r : Run} (h : Staged s0 w fresh0 r) {g : Handle} (hg : g ∈ r.reserved) : g.lid ∈ w.updated.map (·.1) :=
  h.resSub.subset (List.mem_map_of_mem (f := (·.lid)) hg)

theorem staged_commitRemoved (pre : Pre s0 w fresh0) (pre2 : Pre2 s0 w fresh0) :
    Triple (Staged s0 w fresh0) (commitRemoved w) (fun _ => Staged s0 w fresh0) (fun _ => True) := by
  refine Triple.ite (fun _ => Triple.pure _ fun _ h => h) fun _ => ?_
  · refine Triple.bindFact _ (regGet_known (fun _ h => h.rinv) _).dropE fun hs ⟨hk, hlid, hall⟩ => ?_
    refine Triple.bind (Q1 := fun _ => Staged s0 w fresh0) (Triple.get (fun _ h => h)) (fun r0 => ?_)
    refine Triple.ite (fun _ => Triple.pure _ fun _ h => h) fun _ => ?_
    · have hmk : ∀ x ∈ hs.map (fun h => { h with deleted := true, wip := r0.s.now }), Known s0 w fresh0 x := by
        intro x hx
        obtain ⟨g, hg, rfl⟩ := List.mem_map.mp hx
        exact known_congr (hk g hg) rfl rfl rfl (hk g hg).2.1
      refine Triple.bind (Q1 := fun _ => Staged s0 w fresh0) ?_ (fun _ => ?_)
      · refine (Reads.frame.call fun r hr => hr.setRegs_other _ hmk ?_).dropE
        intro x hx g hg e
        obtain ⟨y, hy, rfl⟩ := List.mem_map.mp hx
        exact pre2.updRem _ (hr.resLid hg) (e ▸ hlid y hy)
      refine Triple.bind (Q1 := fun _ => Staged s0 w fresh0) (Triple.modify _ (fun r hr => ?_)) (fun _ => Triple.pure _ (fun _ h => h))
      refine ⟨hr.rinv, hr.res, hr.resAct, hr.resFresh, hr.resSub, ?_, ?_, ?_⟩
      rotate_right
      · intro x hx
        rcases List.mem_append.mp hx with hx | hx
        · exact hr.known x (List.mem_append_left _ hx)
        · exact hmk x hx
      · intro x hx
        obtain ⟨g, hg, rfl⟩ := List.mem_map.mp hx
        exact oldAct_of_known (hmk _ hx) (pre2.remOld _ (hlid g hg))
      · intro x hx
        obtain ⟨g, hg, rfl⟩ := List.mem_map.mp hx
        exact hlid g hg

theorem staged_commitAdded (pre : Pre s0 w fresh0) (pre2 : Pre2 s0 w fresh0) : Preserves (Staged s0 w fresh0) (commitAdded w) := by
  refine Triple.ite (fun _ => Keeps.pure _) fun _ => ?_
  · refine Keeps.bind (Reads.frame.call (fun r hr => hr.setRegs_other _ ?_ ?_)) (fun _ => ?_)
    · intro h hm
      obtain ⟨i, hi, rfl⟩ := List.mem_map.mp hm
      exact known_new pre _ (addedIds_new hi) rfl rfl
    · intro x hx g hg e
      obtain ⟨i, hi, rfl⟩ := List.mem_map.mp hx
      exact pre2.updOld _ (hr.resLid hg) (e ▸ addedIds_new hi)
    · exact Reads.frame.call (fun r hr => hr.addBlobs _)

theorem Reads.covered : Reads [.reserved] (Covered w) := fun _ r r' d a h => by
  have e1 : r'.reserved = r.reserved := a.same .reserved (d _ (by decide))
  unfold Covered
  rw [e1]; exact h

theorem cov_commitRemoved : Triple (Covered w) (commitRemoved w) (fun _ => Covered w) (fun _ => True) :=
  ((foot_commitRemoved w).keeps Reads.covered).dropE

theorem cov_commitAdded : Preserves (Covered w) (commitAdded w) := (foot_commitAdded w).keeps Reads.covered

theorem staged_phase1Body (pre : Pre s0 w fresh0) (pre2 : Pre2 s0 w fresh0) :
    Triple (Unstaged s0 w fresh0) (phase1Body w) (fun ok r => ok = true → StagedCovered s0 w fresh0 r) (fun _ => True) :=
  phase1Body_ok (B := Unstaged s0 w fresh0) (C := StagedCovered s0 w fresh0) (D := StagedCovered s0 w fresh0) w unstaged_addValues.dropE
    (unstaged_commitNewRoots pre).dropE.weakOk
    (Triple.conseq (staged_commitUpdated pre pre2) (fun _ h => h) (fun _ _ h e => ⟨h.1, h.2 e⟩) fun _ h => h)
    (Triple.conseq (Triple.and (staged_commitRemoved pre pre2) cov_commitRemoved) (fun _ h => h) (fun _ _ h _ => h) fun _ _ => trivial)
    (Triple.conseq (Triple.and (staged_commitAdded pre pre2) cov_commitAdded) (fun _ h => h) (fun _ _ h => h) fun _ _ => trivial)

/-- **phase 1, when it succeeds, has staged everything** -/
theorem staged_phase1 (pre : Pre s0 w fresh0) (pre2 : Pre2 s0 w fresh0) (n : Nat) :
    Triple (Unstaged s0 w fresh0) (phase1 w n) (fun _ r => Staged s0 w fresh0 r ∧ (w.hasTracked = true → Covered w r)) (fun _ => True) := by
  refine Triple.conseq (phase1_keeps (A := Unstaged s0 w fresh0) (B := StagedCovered s0 w fresh0) w n (staged_phase1Body pre pre2))
    (fun _ h => h) (fun _ r h => ?_) fun _ h => h
  split at h
  · exact ⟨h.1, fun _ => h.2⟩
  · rename_i hnt; exact ⟨staged_of_unstaged h, fun e => absurd e hnt⟩

end
end Sop.Commit
