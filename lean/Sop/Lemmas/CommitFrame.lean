import Sop.Lemmas.CommitFootprint
/-!
An invariant that looks only at the registry, the blobs and the transaction's `fresh` / `reserved` / `removedH` lists
(`Frame`) is kept by every function of Model P whose backend calls leave the registry and the blobs alone (locks,
logs, counts, cache deletes) — read off the footprints (`gen_*`).

The functions that do write them have their shape stated once in CommitHoare (`phase1_rule`, `phase2_rule`, `cleanup_rule`,
`rollback_rule`); here are the instances for `Frame` invariants: the `*_ok` and `phase1_keeps` for the successful path, `cleanup_keeps` and
`phase2_keeps` for every exit — there every attempted call may fail or not, so the invariant must survive each deletion / the
flip whether or not it is applied.

Names: `gen_f` = `f` keeps any `Frame` invariant; elsewhere `pres_f` (the run invariant `RInv`), `staged_f`, `cov_f`, `fx_f`,
`new_f`, `foot_f` say which invariant or fact about the model function `f` a lemma is about; `G.` `P.` `C.` `N.` `L.` `H.`
`OH.` prefix the `getS` / `modify` / `attempt` rules stated for one invariant family (`Frame`, `RInv`, `CNT`, `NKp`, `PLp`, `HF`,
`OnlyHalt`); in the later files `X.` `Cf.` `LF.` `S.` (classes `XFrame`, `CFrame`, `LFrame`; the settled run `SP0`) and `nr_f`, `x_f`,
`cf_f`, `bi_f`, `lockI_f`, `same_f`, `h_f`, `n_f` likewise, each explained where it starts.
-/
namespace Sop.Commit
set_option linter.unusedSectionVars false

class Frame (I : Run → Prop) : Prop where
  frame : ∀ r r' : Run, I r → r'.s.reg = r.s.reg → r'.s.blob = r.s.blob → r'.fresh = r.fresh →
    r'.reserved = r.reserved → r'.removedH = r.removedH → I r'

section
variable {I : Run → Prop} [Frame I]

theorem Reads.frame : Reads [.reg, .blob, .fresh, .reserved, .removedH] I :=
  fun _ r r' d a h => Frame.frame r r' h (a.same .reg (d _ (by decide))) (a.same .blob (d _ (by decide))) (a.same .fresh (d _ (by decide)))
    (a.same .reserved (d _ (by decide))) (a.same .removedH (d _ (by decide)))

theorem G.callSame {cls : Cls} {args : Args} {eff : State → State} {res : Args} {nat : State → Bool}
    (h : ∀ s, (eff s).reg = s.reg ∧ (eff s).blob = s.blob) : Preserves I (Sop.Commit.call cls args eff res nat) :=
  Reads.frame.call fun r hr => Frame.frame r _ hr (h r.s).1 (h r.s).2 rfl rfl rfl

theorem gen_logStep (st : Step) : Preserves I (logStep st) := (foot_logStep st).keeps Reads.frame
theorem gen_lockItems (w : WS) : Preserves I (lockItems w) := (foot_lockItems w).keeps Reads.frame
theorem gen_unlockItems (w : WS) : Preserves I (unlockItems w) := (foot_unlockItems w).keeps Reads.frame
theorem gen_unlockNodesKeys : Preserves I unlockNodesKeys := foot_unlockNodesKeys.keeps Reads.frame
theorem gen_mergeNodesKeys (w : WS) : Preserves I (mergeNodesKeys w) := (foot_mergeNodesKeys w).keeps Reads.frame
theorem gen_regGet (ids : List UUID) : Preserves I (regGet ids) := (foot_regGet ids).keeps Reads.frame
theorem gen_fetchedIntact (w : WS) : Preserves I (fetchedIntact w) := (foot_fetchedIntact w).keeps Reads.frame
theorem gen_lockNodes : Preserves I lockNodes := foot_lockNodes.keeps Reads.frame
theorem gen_finishPhase1 (w : WS) : Preserves I (finishPhase1 w) := (foot_finishPhase1 w).keeps Reads.frame

/-- `regGet` returns the registry's current entries of `ids`, and changes nothing an invariant of the class reads -/
theorem regGet_exact (ids : List UUID) : Triple I (regGet ids) (fun hs r => I r ∧ hs = ids.filterMap r.s.reg) I :=
  Triple.bind (Q1 := fun s r => I r ∧ r.s.reg = s.reg) (Triple.getS fun _ h => ⟨h, rfl⟩) fun s =>
  Triple.bind (Q1 := fun _ r => I r ∧ r.s.reg = s.reg)
    (Triple.call (P := fun r => I r ∧ r.s.reg = s.reg) _ _ _ _ _ (fun r _ _ h => ⟨Frame.frame r _ h.1 rfl rfl rfl rfl rfl, h.2⟩)
      (fun r _ _ _ h => Frame.frame r _ h.1 rfl rfl rfl rfl rfl) fun r _ _ h => Frame.frame r _ h.1 rfl rfl rfl rfl rfl) fun _ =>
  Triple.pure _ fun _ h => ⟨h.1, by rw [h.2]⟩

/-- the conjunction of two invariants, as a name instances can be found for: a conjunction of `Frame` invariants is written with
it and needs no instance of its own (`fun r => … ∧ …` where a conjunct is outside the class, like `SP0`) -/
def AndI (A B : Run → Prop) (r : Run) : Prop := A r ∧ B r

instance {A B : Run → Prop} [Frame A] [Frame B] : Frame (AndI A B) where
  frame r r' h hr hb hf h1 h2 := ⟨Frame.frame r r' h.1 hr hb hf h1 h2, Frame.frame r r' h.2 hr hb hf h1 h2⟩

/-- the three kinds of deletion: the blobs the flip has made unused, the registry entries of the removed nodes, each
store's obsolete value blobs -/
theorem cleanup_keeps {resv remv : List Handle} (w : WS)
    (hl : ∀ r, I r → r.reserved = resv ∧ r.removedH = remv)
    (hunused : ∀ r : Run, I r → I { r with s := r.s.delBlobs (unusedIds resv remv) })
    (hdead : ∀ r : Run, I r → I { r with s := r.s.delRegs (remv.map (·.lid)) })
    (hobs : ∀ st ∈ w.stores, ∀ r : Run, I r → I { r with s := r.s.delBlobs st.obsoleteValues }) :
    Preserves I (cleanup w) :=
  Triple.start fun r0 h0 => by
    obtain ⟨rfl, rfl⟩ := hl r0 h0
    exact cleanup_rule (A1 := I) (A2 := I) (A3 := I) (L := fun _ => I) w r0
      (Triple.conseq (Preserves.attempt (gen_logStep _)).bothArms (fun _ e => e ▸ h0) (fun _ _ h => h) fun _ h => h)
      (fun _ => Preserves.attempt (Reads.frame.call hunused)) (fun _ _ h => h)
      (Preserves.attempt (Reads.frame.call hdead)) (Preserves.attempt (gen_logStep _)).bothArms
      (fun _ st hst _ => Preserves.attempt (Reads.frame.call (hobs st hst))) (fun _ _ _ _ _ h => h)
      (Preserves.attempt (G.callSame fun _ => ⟨rfl, rfl⟩))

-- `Keeps.getS`, `Triple.modify`, `Preserves.attempt`, `Triple.bindFact` for a `Frame` invariant; no user in the development
theorem G.getS : Preserves I getS := Triple.getS (fun _ h => h)
theorem G.modify (f : Run → Run)
    (h : ∀ r, (f r).s = r.s ∧ (f r).fresh = r.fresh ∧ (f r).reserved = r.reserved ∧ (f r).removedH = r.removedH) :
    Preserves I (modify f) :=
  Triple.modify f (fun r hr => by
    obtain ⟨a, b, c, d⟩ := h r
    exact Frame.frame r _ hr (by rw [a]) (by rw [a]) b c d)
theorem G.attempt {m : M Unit} (h : Preserves I m) : Preserves I (attempt m) := Triple.attempt h (fun _ h => h)

theorem G.bindFact {m : M α} {f : α → M β} (F : α → Prop)
    (hm : Triple I m (fun a r => I r ∧ F a) I) (hf : ∀ a, F a → Preserves I (f a)) : Preserves I (m >>= f) :=
  Triple.bindFact F hm hf

end

/-- For an invariant `A` that holds up to the flip write and an invariant `B` that holds from it on: the flip takes `A` to `B`,
everything else keeps whichever of the two holds. However phase 2 ends, one of the two holds: there is no exit in between. -/
theorem phase2_keeps {A B : Run → Prop} [Frame A] [Frame B] {resv remv : List Handle} (w : WS)
    (hl : ∀ r, A r → r.reserved = resv ∧ r.removedH = remv)
    (hflip : ∀ r o t, A r → B { r with occs := o, trace := t, s := r.s.setRegs (finalImgs resv remv) })
    (hnone : finalImgs resv remv = [] → ∀ r, A r → B r)
    (hclean : Preserves B (cleanup w)) :
    Triple A (phase2 w) (fun _ => B) (fun r' => A r' ∨ B r') :=
  have toA : ∀ {α : Type} {m : M α}, Preserves A m → Keeps A (fun r' => A r' ∨ B r') m := fun h => Triple.mapE h fun _ h => .inl h
  have toB : ∀ {α : Type} {m : M α}, Preserves B m → Keeps B (fun r' => A r' ∨ B r') m := fun h => Triple.mapE h fun _ h => .inr h
  Triple.start fun r0 h0 => by
    obtain ⟨rfl, rfl⟩ := hl r0 h0
    exact phase2_rule (A1 := A) (Aout := A) (B1 := B) (B2 := B) (B3 := B) (B4 := B) w r0
      (Triple.conseq (toA (Preserves.attempt (gen_logStep _))).bothArms (fun _ e => e ▸ h0) (fun _ _ h => h) fun _ h => h)
      (Triple.conseq (toA gen_unlockNodesKeys) (fun _ h => h) (fun _ _ h => .inl h) fun _ h => h)
      (fun _ => Triple.call _ _ _ _ _ hflip (fun r _ _ _ h => .inl (Frame.frame r _ h rfl rfl rfl rfl rfl)) fun r o t h => .inr (hflip r o t h))
      (fun _ => toB (Preserves.attempt (G.callSame fun _ => ⟨rfl, rfl⟩)))
      hnone (toB gen_unlockNodesKeys) (toB (Preserves.attempt (gen_unlockItems w))) (toB hclean)

/-- The successful path through the body of the commit loop, for `Frame` invariants: `A` up to the new roots, `B` up to the
reservation, `C` up to the removal marks, `D` up to the added nodes, `E` at the end; a step that reports a conflict ends the body
with `false`. -/
theorem phase1Body_ok {A B C D E : Run → Prop} [Frame A] [Frame B] [Frame C] [Frame D] (w : WS)
    (hval : Keeps A (fun _ => True) (addValues w))
    (hroots : Triple A (commitNewRoots w) (fun ok r => ok = true → B r) (fun _ => True))
    (hupd : Triple B (commitUpdated w) (fun ok r => ok = true → C r) (fun _ => True))
    (hrem : Triple C (commitRemoved w) (fun ok r => ok = true → D r) (fun _ => True))
    (hadd : Triple D (commitAdded w) (fun _ => E) (fun _ => True)) :
    Triple A (phase1Body w) (fun ok r => ok = true → E r) (fun _ => True) := by
  have stop : ∀ {I : Run → Prop}, Triple I (Pure.pure false : M Bool) (fun ok r => ok = true → E r) (fun _ => True) :=
    Triple.pure _ fun _ _ e => by cases e
  have next : ∀ {J : Run → Prop} {ok : Bool} {k : M Bool}, Triple J k (fun ok r => ok = true → E r) (fun _ => True) →
      Triple (fun r => ok = true → J r) (if (!ok) = true then Pure.pure false else k) (fun ok r => ok = true → E r) (fun _ => True) :=
    fun hk => Triple.ite (fun _ => stop) fun hok => Triple.conseq hk (fun _ h => h (by simpa using hok)) (fun _ _ h => h) fun _ h => h
  refine Triple.bind (gen_logStep _).dropE fun _ => Triple.bind hval fun _ => Triple.bind (gen_logStep _).dropE fun _ =>
    Triple.bind hroots fun _ => next <| Triple.bind (gen_logStep _).dropE fun _ =>
    Triple.bind (gen_fetchedIntact w).dropE fun ok => Triple.ite (fun _ => stop) fun _ => Triple.bind hupd fun ok => ?_
  -- the log line after `commitUpdated` is written whatever it reported
  cases ok with
  | false => exact Triple.bind (Q1 := fun _ _ => True) Triple.triv fun _ => stop
  | true =>
    exact Triple.bind (Q1 := fun _ => C) (Triple.conseq (gen_logStep _).dropE (fun _ h => h rfl) (fun _ _ h => h) fun _ h => h) fun _ =>
      Triple.ite (fun h => by cases h) fun _ => Triple.bind (gen_logStep _).dropE fun _ => Triple.bind hrem fun _ => next <|
      Triple.bind (gen_logStep _).dropE fun _ => Triple.bind hadd fun _ => Triple.pure _ fun _ h _ => h

/-- The successful path through `finishPhase1`: `B` up to the count update, `B'` up to the priority-log write, `C` after it (what
follows writes node locks only). -/
theorem finishPhase1_ok {B B' C : Run → Prop} (w : WS)
    (hlog : ∀ st, Keeps B (fun _ => True) (logStep st)) (hcnt : Triple B (commitStores w) (fun _ => B') (fun _ => True))
    (hlog' : ∀ st, Keeps B' (fun _ => True) (logStep st))
    (hplog : ∀ r0 : Run, Triple (fun r => B' r ∧ r0 = r)
      (whenM (!r0.reserved.isEmpty || !r0.removedH.isEmpty)
        (call .plogAdd .none (fun s => { s with plog := fun k => if k = r0.tid then true else s.plog k }))) (fun _ => C) (fun _ => True))
    (hrest : ∀ {α : Type} {m : M α}, Foot [.nodeLock] m → Keeps C (fun _ => True) m) :
    Triple B (finishPhase1 w) (fun _ => C) (fun _ => True) :=
  Triple.bind (hlog _) fun _ => Triple.bind hcnt fun _ => Triple.bind (hlog' _) fun _ =>
  Triple.bind (Q1 := fun r0 r => B' r ∧ r0 = r) (Triple.get fun _ h => ⟨h, rfl⟩) fun r0 => Triple.bind (hplog r0) fun _ =>
  hrest (.bind ((foot_checkItems w).mono) fun _ => .bind .get fun _ => .whenM _ <|
    .bind (.attempt .callId) fun _ => .whenM _ (.call fun _ => .set .nodeLock))

/-- `phase1_ok` for `Frame` invariants: `A` up to the loop body, `B` from a successful body on -/
theorem phase1_keeps {A B : Run → Prop} [Frame A] [Frame B] (w : WS) (n : Nat)
    (hbody : Triple A (phase1Body w) (fun ok r => ok = true → B r) (fun _ => True)) :
    Triple A (phase1 w n) (fun _ r => if w.hasTracked then B r else A r) (fun _ => True) :=
  phase1_ok w n (gen_logStep _).dropE (gen_lockItems w).dropE (gen_mergeNodesKeys w).dropE gen_lockNodes.dropE hbody
    (gen_finishPhase1 w).dropE

end Sop.Commit
