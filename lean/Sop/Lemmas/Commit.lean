import Sop.Model.Commit
import Sop.Lemmas.Basics
/-!
Lemmas about Model P's pure parts: the Handle methods, the per-handle reservation / flip / undo functions,
how registry and blob updates move a reader's `view`; the one induction over a successful `reserveAll` (`reserveAll_induct`);
what phase 2 writes and the cleanup deletes (`finalImgs`, `unusedIds`), the counts after `commitStores` (`WS.countsAfter`).
-/
namespace Sop.Commit

theorem Handle.flip_active (h : Handle) : h.flip.active = h.inactive := by
  unfold Handle.flip Handle.active Handle.inactive; cases h.activeB <;> simp

theorem Handle.flip_inactive (h : Handle) : h.flip.inactive = h.active := by
  unfold Handle.flip Handle.active Handle.inactive; cases h.activeB <;> simp

theorem Handle.allocate_spec (h h' : Handle) (f : UUID) (now : Int) (e : h.allocate f now = some h') :
    h'.lid = h.lid ∧ h'.active = h.active ∧ h'.inactive = f ∧ h'.version = h.version ∧ h'.deleted = h.deleted
      ∧ h'.activeB = h.activeB ∧ h'.wip = now := by
  unfold Handle.allocate at e
  unfold Handle.bothInUse at e
  unfold Handle.active Handle.inactive
  cases hb : h.activeB <;> simp [hb] at e ⊢
  · obtain ⟨_, rfl⟩ := e
    simp [hb]
  · obtain ⟨_, rfl⟩ := e
    simp [hb]

theorem Handle.clearInactive_spec (h : Handle) :
    h.clearInactive.lid = h.lid ∧ h.clearInactive.active = h.active ∧ h.clearInactive.inactive = 0
      ∧ h.clearInactive.version = h.version ∧ h.clearInactive.wip = 0 ∧ h.clearInactive.deleted = h.deleted := by
  unfold Handle.clearInactive Handle.active Handle.inactive
  cases h.activeB <;> simp

/-- **reservation is invisible**: whatever branch `commitUpdatedNodes` takes for a handle, the reserved image has
the same logical id, the same ACTIVE physical id and the same version; the new id sits in the inactive slot. -/
theorem reserveOne_spec (now hour : Int) (f : UUID) (h h' : Handle) (v : Int)
    (e : reserveOne now hour f h v = some h') :
    h'.lid = h.lid ∧ h'.active = h.active ∧ h'.version = h.version ∧ h'.inactive = f ∧ h.version = v
      ∧ h'.deleted = false ∧ h'.wip = now := by
  unfold reserveOne at e
  split at e
  · simp at e
  · rename_i hc
    simp only [Bool.or_eq_true, Bool.and_eq_true, Bool.not_eq_true', bne_iff_ne, ne_eq, not_or, not_and,
      Bool.not_eq_false, Decidable.not_not] at hc
    obtain ⟨hdel, hver⟩ := hc
    -- the handle after the "expired delete mark is cleared" adjustment
    generalize hg : (if (h.deleted && h.expiredInactive now hour) = true then { h with deleted := false } else h) = g at e
    have gl : g.lid = h.lid ∧ g.active = h.active ∧ g.version = h.version ∧ g.idA = h.idA ∧ g.idB = h.idB
        ∧ g.activeB = h.activeB ∧ g.wip = h.wip ∧ g.deleted = false := by
      subst hg
      by_cases hd : h.deleted = true
      · have := hdel hd
        simp [hd, this, Handle.active]
      · have hd' : h.deleted = false := by simpa using hd
        simp [hd', Handle.active]
    obtain ⟨g1, g2, g3, g4, g5, g6, g7, g8⟩ := gl
    dsimp only at e
    split at e
    · rename_i h1 ha
      have e' : h1 = h' := by simpa using e
      subst e'
      obtain ⟨a1, a2, a3, a4, a5, a6, a7⟩ := Handle.allocate_spec g h1 f now ha
      exact ⟨a1.trans g1, a2.trans g2, a4.trans g3, a3, hver, a5.trans g8, a7⟩
    · split at e
      · obtain ⟨c1, c2, c3, c4, c5, c6⟩ := Handle.clearInactive_spec g
        obtain ⟨a1, a2, a3, a4, a5, a6, a7⟩ := Handle.allocate_spec g.clearInactive h' f now e
        exact ⟨(a1.trans c1).trans g1, (a2.trans c2).trans g2, (a4.trans c4).trans g3, a3, hver, (a5.trans c6).trans g8, a7⟩
      · simp at e

/-- the flip of `activateInactiveNodes`: the staged id becomes the active one, the version goes up by one -/
theorem activate_spec (h : Handle) :
    (activate h).lid = h.lid ∧ (activate h).active = h.inactive ∧ (activate h).inactive = h.active
      ∧ (activate h).version = h.version + 1 ∧ (activate h).wip = 1 :=
  ⟨rfl, Handle.flip_active h, Handle.flip_inactive h, rfl, rfl⟩

/-- undoing a reservation (`rollbackUpdatedNodes`) gives back the pre-reservation image up to the cleared slot -/
theorem undo_reserve (now hour : Int) (f : UUID) (h h' : Handle) (v : Int)
    (e : reserveOne now hour f h v = some h') :
    h'.clearInactive.lid = h.lid ∧ h'.clearInactive.active = h.active ∧ h'.clearInactive.version = h.version
      ∧ h'.clearInactive.inactive = 0 ∧ h'.clearInactive.wip = 0 := by
  obtain ⟨r1, r2, r3, _, _, _, _⟩ := reserveOne_spec now hour f h h' v e
  obtain ⟨c1, c2, c3, c4, c5, _⟩ := Handle.clearInactive_spec h'
  exact ⟨c1.trans r1, c2.trans r2, c4.trans r3, c3, c5⟩

/-- induction over a successful `reserveAll`: the first pair is reserved with the fresh id taken for its handle, the
rest with what is left of the fresh ids -/
theorem reserveAll_induct {now hour : Int}
    {motive : List (UUID × UUID) → List (Handle × Int) → List Handle → List (UUID × UUID) → Prop}
    (nil : ∀ fr, motive fr [] [] fr)
    (cons : ∀ fr h v rest h' hs fr', reserveOne now hour (takeFresh fr h.lid).1 h v = some h' →
      reserveAll now hour (takeFresh fr h.lid).2 rest = some (hs, fr') → motive (takeFresh fr h.lid).2 rest hs fr' →
      motive fr ((h, v) :: rest) (h' :: hs) fr') :
    ∀ pairs fr res fr', reserveAll now hour fr pairs = some (res, fr') → motive fr pairs res fr' := by
  intro pairs
  induction pairs with
  | nil =>
    intro fr res fr' e
    simp only [reserveAll, Option.some.injEq, Prod.mk.injEq] at e
    obtain ⟨rfl, rfl⟩ := e
    exact nil fr
  | cons p t ih =>
    intro fr res fr' e
    obtain ⟨h, v⟩ := p
    unfold reserveAll at e
    simp only at e
    split at e
    · simp at e
    · rename_i h1 e1
      split at e
      · simp at e
      · rename_i hs fr2 e2
        simp only [Option.some.injEq, Prod.mk.injEq] at e
        obtain ⟨rfl, rfl⟩ := e
        exact cons fr h v t h1 hs fr2 e1 e2 (ih _ _ _ e2)

@[simp] theorem State.setReg_reg (s : State) (h : Handle) (k : UUID) :
    (s.setReg h).reg k = if k = h.lid then some h else s.reg k := rfl
@[simp] theorem State.setReg_blob (s : State) (h : Handle) : (s.setReg h).blob = s.blob := rfl
@[simp] theorem State.setReg_cnt (s : State) (h : Handle) : (s.setReg h).cnt = s.cnt := rfl
@[simp] theorem State.setBlob_reg (s : State) (i : UUID) (b : Bool) : (s.setBlob i b).reg = s.reg := rfl
@[simp] theorem State.setBlob_blob (s : State) (i : UUID) (b : Bool) (k : UUID) :
    (s.setBlob i b).blob k = if k = i then b else s.blob k := rfl
@[simp] theorem State.delReg_reg (s : State) (i k : UUID) : (s.delReg i).reg k = if k = i then none else s.reg k := rfl
@[simp] theorem State.delReg_blob (s : State) (i : UUID) : (s.delReg i).blob = s.blob := rfl

theorem State.setRegs_blob (s : State) (hs : List Handle) : (s.setRegs hs).blob = s.blob :=
  foldl_keeps (·.blob) State.setReg (fun _ _ => rfl) hs s

theorem State.setRegs_cnt (s : State) (hs : List Handle) : (s.setRegs hs).cnt = s.cnt :=
  foldl_keeps (·.cnt) State.setReg (fun _ _ => rfl) hs s

theorem State.addBlobs_reg (s : State) (ids : List UUID) : (s.addBlobs ids).reg = s.reg :=
  foldl_keeps (·.reg) (fun s i => s.setBlob i true) (fun _ _ => rfl) ids s

theorem State.delBlobs_reg (s : State) (ids : List UUID) : (s.delBlobs ids).reg = s.reg :=
  foldl_keeps (·.reg) (fun s i => s.setBlob i false) (fun _ _ => rfl) ids s

theorem State.addBlobs_cnt (s : State) (ids : List UUID) : (s.addBlobs ids).cnt = s.cnt :=
  foldl_keeps (·.cnt) (fun s i => s.setBlob i true) (fun _ _ => rfl) ids s
theorem State.delBlobs_cnt (s : State) (ids : List UUID) : (s.delBlobs ids).cnt = s.cnt :=
  foldl_keeps (·.cnt) (fun s i => s.setBlob i false) (fun _ _ => rfl) ids s
theorem State.delRegs_cnt (s : State) (ids : List UUID) : (s.delRegs ids).cnt = s.cnt :=
  foldl_keeps (·.cnt) State.delReg (fun _ _ => rfl) ids s

/-- the store counts once `commitStores` has applied the write set's non-zero deltas to `s` -/
def WS.countsAfter (w : WS) (s : State) : Nat → Int :=
  (((w.stores.filter (·.delta != 0)).map (fun st => (st.store, st.delta))).foldl (fun s (x : Nat × Int) => match x with | (st, d) => s.addCnt st d) s).cnt

theorem foldl_addCnt_cnt_congr (ds : List (Nat × Int)) (s s' : State) (h : s.cnt = s'.cnt) :
    (ds.foldl (fun s (x : Nat × Int) => match x with | (st, d) => s.addCnt st d) s).cnt =
    (ds.foldl (fun s (x : Nat × Int) => match x with | (st, d) => s.addCnt st d) s').cnt := by
  induction ds generalizing s s' with
  | nil => exact h
  | cons x t ih =>
    simp only [List.foldl_cons]
    apply ih
    obtain ⟨st, d⟩ := x
    show (s.addCnt st d).cnt = (s'.addCnt st d).cnt
    unfold State.addCnt
    simp only [h]

theorem State.delBlobs_tlog (s : State) (ids : List UUID) : (s.delBlobs ids).tlog = s.tlog :=
  foldl_keeps (·.tlog) (fun s i => s.setBlob i false) (fun _ _ => rfl) ids s

theorem State.addBlobs_blob (s : State) (ids : List UUID) (k : UUID) :
    (s.addBlobs ids).blob k = (s.blob k || decide (k ∈ ids)) := by
  unfold State.addBlobs
  induction ids generalizing s with
  | nil => simp
  | cons h t ih =>
    simp only [List.foldl_cons, ih, State.setBlob_blob, List.mem_cons]
    by_cases e : k = h <;> simp [e]

theorem State.delBlobs_blob (s : State) (ids : List UUID) (k : UUID) :
    (s.delBlobs ids).blob k = (s.blob k && !decide (k ∈ ids)) := by
  unfold State.delBlobs
  induction ids generalizing s with
  | nil => simp
  | cons h t ih =>
    simp only [List.foldl_cons, ih, State.setBlob_blob, List.mem_cons]
    by_cases e : k = h <;> simp [e]

/-- registry lookup after a batch write: the LAST image written for that logical id, else the old entry -/
theorem State.setRegs_reg_eq (s : State) (hs : List Handle) (k : UUID) :
    (s.setRegs hs).reg k = match hs.reverse.find? (·.lid == k) with | some h => some h | none => s.reg k := by
  have hw : ∀ (s : State) (h : Handle) k, (s.setReg h).reg k = if h.lid = k then some h else s.reg k := by
    intro s h k
    rw [State.setReg_reg]
    by_cases e : h.lid = k
    · rw [if_pos e, if_pos e.symm]
    · rw [if_neg e, if_neg fun e' => e e'.symm]
  refine (foldl_get_last (get := fun s k => s.reg k) (key := (·.lid)) (val := id) hw hs s k).trans ?_
  cases hs.reverse.find? (·.lid == k) <;> rfl

theorem State.setRegs_reg_of_not_mem (s : State) (hs : List Handle) (k : UUID) (hk : ∀ h ∈ hs, h.lid ≠ k) :
    (s.setRegs hs).reg k = s.reg k := by
  rw [State.setRegs_reg_eq, List.find?_eq_none.mpr fun h hm => by simpa using hk h (List.mem_reverse.mp hm)]

theorem State.setRegs_reg_mem (s : State) (hs : List Handle) (k : UUID) (hk : ∃ h ∈ hs, h.lid = k) :
    ∃ h ∈ hs, h.lid = k ∧ (s.setRegs hs).reg k = some h := by
  rw [State.setRegs_reg_eq]
  cases hf : hs.reverse.find? (·.lid == k) with
  | none =>
    obtain ⟨h, hm, e⟩ := hk
    have := List.find?_eq_none.mp hf h (List.mem_reverse.mpr hm)
    simp [e] at this
  | some x => exact ⟨x, List.mem_reverse.mp (List.mem_of_find?_eq_some hf), by simpa using List.find?_some hf, rfl⟩

theorem State.delRegs_reg (s : State) (ids : List UUID) (k : UUID) :
    (s.delRegs ids).reg k = if k ∈ ids then none else s.reg k := by
  unfold State.delRegs
  induction ids generalizing s with
  | nil => simp
  | cons h t ih =>
    simp only [List.foldl_cons, ih, State.delReg_reg, List.mem_cons]
    by_cases e : k = h <;> by_cases m : k ∈ t <;> simp [e, m]

theorem State.delRegs_reg_of_not_mem (s : State) (ids : List UUID) (k : UUID) (hk : k ∉ ids) :
    (s.delRegs ids).reg k = s.reg k := by
  rw [State.delRegs_reg, if_neg hk]

theorem State.delRegs_reg_mem (s : State) (ids : List UUID) (k : UUID) (hk : k ∈ ids) : (s.delRegs ids).reg k = none := by
  rw [State.delRegs_reg, if_pos hk]

theorem State.delRegs_reg_sub (s : State) (ids : List UUID) (k : UUID) (h : Handle)
    (e : (s.delRegs ids).reg k = some h) : s.reg k = some h := by
  rw [State.delRegs_reg] at e
  split at e
  · cases e
  · exact e

theorem State.delRegs_reg_mono (s : State) (ids : List UUID) (k : UUID) :
    (s.delRegs ids).reg k = s.reg k ∨ (s.delRegs ids).reg k = none := by
  cases h : (s.delRegs ids).reg k with
  | none => exact .inr rfl
  | some x => exact .inl (State.delRegs_reg_sub s ids k x h).symm

theorem State.delRegs_blob (s : State) (ids : List UUID) : (s.delRegs ids).blob = s.blob :=
  foldl_keeps (·.blob) State.delReg (fun _ _ => rfl) ids s

theorem State.setRegs_plog (s : State) (hs : List Handle) : (s.setRegs hs).plog = s.plog :=
  foldl_keeps (·.plog) State.setReg (fun _ _ => rfl) hs s

section
variable {s s' : State} {lid : UUID}

theorem State.view_of_reg {h : Handle} (e : s.reg lid = some h) :
    s.view lid = if s.blob h.active then some (h.active, h.version) else none := by
  unfold State.view; rw [e]

theorem State.view_of_unreg (e : s.reg lid = none) : s.view lid = none := by
  unfold State.view; rw [e]

theorem State.view_eq_some {a : UUID} {v : Int} :
    s.view lid = some (a, v) ↔ ∃ h, s.reg lid = some h ∧ s.blob h.active = true ∧ h.active = a ∧ h.version = v := by
  cases e : s.reg lid with
  | none => rw [State.view_of_unreg e]; exact ⟨nofun, fun ⟨_, h, _⟩ => nomatch h⟩
  | some h =>
    rw [State.view_of_reg e]
    cases hb : s.blob h.active with
    | false => exact ⟨nofun, fun ⟨_, e', b, _⟩ => by cases e'; rw [hb] at b; cases b⟩
    | true =>
      rw [if_pos rfl]
      exact ⟨fun e' => ⟨h, rfl, hb, congrArg (·.1) (Option.some.inj e'), congrArg (·.2) (Option.some.inj e')⟩,
        fun ⟨_, e', _, ea, ev⟩ => by cases e'; rw [ea, ev]⟩

theorem State.view_isSome : (s.view lid).isSome ↔ ∃ h, s.reg lid = some h ∧ s.blob h.active = true := by
  cases e : s.reg lid with
  | none => rw [State.view_of_unreg e]; exact ⟨nofun, fun ⟨_, h, _⟩ => nomatch h⟩
  | some h =>
    rw [State.view_of_reg e]
    cases hb : s.blob h.active with
    | false => exact ⟨nofun, fun ⟨_, e', b⟩ => by cases e'; rw [hb] at b; cases b⟩
    | true => exact ⟨fun _ => ⟨h, rfl, hb⟩, fun _ => rfl⟩

theorem view_congr_at {lid : UUID} (hr : s'.reg lid = s.reg lid) (hb : s'.blob = s.blob) : s'.view lid = s.view lid := by
  unfold State.view; rw [hr, hb]

theorem view_congr (hr : s'.reg = s.reg) (hb : s'.blob = s.blob) (lid : UUID) : s'.view lid = s.view lid :=
  view_congr_at (congrFun hr lid) hb

end

/-- **a batch of registry images that keep every handle's active id and version leaves every reader's view
unchanged** (the registry half of "staging is invisible") -/
theorem view_setRegs_same (s : State) (hs : List Handle) (lid : UUID)
    (hsame : ∀ h' ∈ hs, ∃ h, s.reg h'.lid = some h ∧ h'.active = h.active ∧ h'.version = h.version) :
    (s.setRegs hs).view lid = s.view lid := by
  unfold State.view
  rw [State.setRegs_blob]
  by_cases hk : ∃ h ∈ hs, h.lid = lid
  · obtain ⟨h', hm, e1, e2⟩ := State.setRegs_reg_mem s hs lid hk
    obtain ⟨h, r1, r2, r3⟩ := hsame h' hm
    rw [e2]; rw [e1] at r1; rw [r1]
    simp [r2, r3]
  · have hnot : ∀ x ∈ hs, x.lid ≠ lid := fun x hx e => hk ⟨x, hx, e⟩
    rw [State.setRegs_reg_of_not_mem s hs lid hnot]

theorem view_addBlobs_of_loadable (s : State) (ids : List UUID) (lid : UUID) (hl : (s.view lid).isSome) :
    (s.addBlobs ids).view lid = s.view lid := by
  unfold State.view at *
  rw [State.addBlobs_reg]
  cases hr : s.reg lid with
  | none => rfl
  | some h =>
    rw [hr] at hl
    simp only [State.addBlobs_blob]
    by_cases hb : s.blob h.active = true
    · simp [hb]
    · simp [hb] at hl

theorem view_delBlobs_of_inactive (s : State) (ids : List UUID) (lid : UUID)
    (hin : ∀ h, s.reg lid = some h → h.active ∉ ids) :
    (s.delBlobs ids).view lid = s.view lid := by
  unfold State.view
  rw [State.delBlobs_reg]
  cases hr : s.reg lid with
  | none => rfl
  | some h =>
    simp only [State.delBlobs_blob]
    have := hin h hr
    simp [this]

/-- what the flip writes (`final` in `phase2`): the reserved handles activated, the marked ones touched -/
abbrev finalImgs (resv remv : List Handle) : List Handle := resv.map activate ++ remv.map touch
/-- the blob ids the flip has made unused (`unused` in `cleanup`) -/
abbrev unusedIds (resv remv : List Handle) : List UUID := (resv.map activate).map (·.inactive) ++ remv.map (·.active)

section
variable {resv remv : List Handle}

theorem finalImgs_eq_nil : finalImgs resv remv = [] ↔ resv = [] ∧ remv = [] := by
  simp [finalImgs]

theorem finalImgs_ne_nil : finalImgs resv remv ≠ [] ↔ (!resv.isEmpty || !remv.isEmpty) = true := by
  rw [Ne, finalImgs_eq_nil]
  cases resv <;> cases remv <;> simp

theorem mem_final {x : Handle} (hx : x ∈ finalImgs resv remv) : ∃ g, (g ∈ resv ∨ g ∈ remv) ∧ g.lid = x.lid := by
  rcases List.mem_append.mp hx with hx | hx
  · obtain ⟨z, hz, rfl⟩ := List.mem_map.mp hx
    exact ⟨z, .inl hz, (activate_spec z).1.symm⟩
  · obtain ⟨g, hg, rfl⟩ := List.mem_map.mp hx
    exact ⟨g, .inr hg, rfl⟩

theorem mem_unused {x : UUID} (hm : x ∈ unusedIds resv remv) : ∃ g, (g ∈ resv ∨ g ∈ remv) ∧ g.active = x := by
  rcases List.mem_append.mp hm with hm | hm
  · obtain ⟨y, hy, e⟩ := List.mem_map.mp hm
    obtain ⟨z, hz, rfl⟩ := List.mem_map.mp hy
    exact ⟨z, .inl hz, by rw [← e, (activate_spec z).2.2.1]⟩
  · obtain ⟨g, hg, e⟩ := List.mem_map.mp hm
    exact ⟨g, .inr hg, e⟩

end

end Sop.Commit
