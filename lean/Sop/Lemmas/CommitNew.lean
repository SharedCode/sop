import Sop.Lemmas.CommitFlip
/-!
The transaction's NEW nodes (first roots, added nodes) after a successful commit: once `commitNewRootNodes` /
`commitAddedNodes` have registered them and written their blobs, nothing on the way to the successful end touches
them — the writes that follow go to the logical ids of updated and removed nodes, the deletions to old blob ids.
-/
namespace Sop.Commit

/-- extra premises about the new nodes: their ids are distinct, and no obsolete value blob carries one of them -/
structure Pre3 (w : WS) : Prop where
  newNodup : w.newIds.Nodup
  newObs : ∀ i ∈ w.newIds, i ∉ w.obsoleteValues

def Fixed (m : UUID → Handle) (ids : List UUID) (r : Run) : Prop := FixedS m ids r.s

section
variable {m : UUID → Handle} {ids : List UUID}

instance : Frame (Fixed m ids) where
  frame r r' h hr hb _ _ _ := FixedS.of_same h hr hb

end

abbrev StagedFixed (s0 : State) (w : WS) (fresh0 : List (UUID × UUID)) (m : UUID → Handle) (ids : List UUID) : Run → Prop :=
  AndI (Staged s0 w fresh0) (Fixed m ids)

section
variable {s0 : State} {w : WS} {fresh0 : List (UUID × UUID)} {m : UUID → Handle} {ids : List UUID}

/-- `commitNewRootNodes`, when it reports success, has registered the roots and stored their blobs -/
theorem fx_commitNewRoots :
    Triple (fun _ => True) (commitNewRoots w) (fun ok r => ok = true → Fixed Handle.new w.rootIds r) (fun _ => True) := by
  refine Triple.ite (fun he => Triple.pure _ fun r _ _ i hi => by rw [List.isEmpty_iff.mp he] at hi; cases hi) fun _ =>
    Triple.bind (Q1 := fun _ _ => True) Triple.triv fun hs => Triple.ite (fun _ => Triple.pure _ fun _ _ e => by cases e) fun _ => ?_
  refine Triple.bind (Q1 := fun _ r => ∀ i ∈ w.rootIds, r.s.blob i = true) ?_ (fun _ => ?_)
  · refine Triple.call_dropE (fun r _ _ _ i hi => ?_)
    show (r.s.addBlobs w.rootIds).blob i = true
    rw [State.addBlobs_blob]; simp [hi]
  · refine Triple.bind (Q1 := fun _ => Fixed Handle.new w.rootIds) ?_ (fun _ => Triple.pure _ (fun _ h _ => h))
    refine Triple.call_dropE (fun r _ _ hb i hi => ?_)
    exact ⟨State.setRegs_map_reg r.s _ Handle.new (fun _ => rfl) hi, by rw [State.setRegs_blob]; exact hb i hi⟩

/-- `commitUpdatedNodes` writes only at the logical ids of the write set's updated nodes -/
theorem fx_commitUpdated (hdis : ∀ i ∈ ids, i ∉ w.updated.map (·.1)) :
    Triple (Fixed m ids) (commitUpdated w) (fun _ => Fixed m ids) (fun _ => True) := by
  refine Triple.ite (fun _ => Triple.pure _ fun _ h => h) fun _ => Triple.bind (gen_regGet _).dropE fun hs =>
    Triple.ite (fun _ => Triple.pure _ fun _ h => h) fun _ =>
    Triple.bind (Q1 := fun _ => Fixed m ids) (Triple.get fun _ h => h) fun r0 => ?_
  extract_lets pairs
  split
  · exact Triple.pure _ (fun _ h => h)
  · rename_i res fr' e
    obtain ⟨sh1, _⟩ := reserveAll_shape _ _ _ _ e
    have hsub : (res.map (·.lid)).Sublist (w.updated.map (·.1)) := by rw [sh1]; exact pairs_lids_sublist _ hs
    refine Triple.bind (Q1 := fun _ => Fixed m ids) (Triple.modify _ (fun r hr => hr)) (fun _ => ?_)
    refine Triple.bind (Q1 := fun _ => Fixed m ids) ?_ (fun _ => ?_)
    · refine Triple.call_dropE (fun r _ _ hr => FixedS.setRegs hr _ ?_)
      intro x hx hin
      exact hdis _ hin (hsub.subset (List.mem_map_of_mem (f := (·.lid)) hx))
    refine Triple.bind (Q1 := fun _ => Fixed m ids) ?_ (fun _ => ?_)
    · exact Triple.call_dropE (fun r _ _ hr => FixedS.addBlobs hr _)
    exact Triple.bind (Q1 := fun _ => Fixed m ids) (Triple.modify _ (fun r hr => hr)) (fun _ => Triple.pure _ (fun _ h => h))

/-- `commitRemovedNodes` writes only at the logical ids of the write set's removed nodes -/
theorem fx_commitRemoved (hdis : ∀ i ∈ ids, i ∉ w.removed.map (·.1)) :
    Triple (StagedFixed s0 w fresh0 m ids) (commitRemoved w) (fun _ => Fixed m ids) (fun _ => True) := by
  refine Triple.ite (fun _ => Triple.pure _ fun _ h => h.2) fun _ =>
    Triple.bindFact _ (regGet_known (I := StagedFixed s0 w fresh0 m ids) (fun _ h => h.1.rinv) _).dropE fun hs ⟨_, hlid, _⟩ =>
    Triple.bind (Q1 := fun _ => StagedFixed s0 w fresh0 m ids) (Triple.get fun _ h => h) fun r0 =>
    Triple.ite (fun _ => Triple.pure _ fun _ h => h.2) fun _ => ?_
  refine Triple.bind (Q1 := fun _ => Fixed m ids) ?_ (fun _ => ?_)
  · refine Triple.call_dropE (fun r _ _ hr => FixedS.setRegs hr.2 _ ?_)
    intro x hx hin
    obtain ⟨y, hy, rfl⟩ := List.mem_map.mp hx
    exact hdis _ hin (hlid y hy)
  exact Triple.bind (Q1 := fun _ => Fixed m ids) (Triple.modify _ (fun r hr => hr)) (fun _ => Triple.pure _ (fun _ h => h))

theorem fx_commitAdded_keep (hdis : ∀ i ∈ ids, i ∉ w.addedIds) : Preserves (Fixed m ids) (commitAdded w) := by
  refine Triple.ite (fun _ => Keeps.pure _) fun _ => ?_
  refine Keeps.bind (Reads.frame.call (fun r hr => FixedS.setRegs hr _ ?_)) (fun _ => ?_)
  · intro x hx hin
    obtain ⟨i, hi, rfl⟩ := List.mem_map.mp hx
    exact hdis _ hin hi
  · exact Reads.frame.call (fun r hr => FixedS.addBlobs hr _)

theorem fx_commitAdded_new :
    Triple (fun _ => True) (commitAdded w) (fun _ => Fixed addedImage w.addedIds) (fun _ => True) := by
  refine Triple.ite (fun he => Triple.pure _ fun r _ i hi => by rw [List.isEmpty_iff.mp he] at hi; cases hi) fun _ => ?_
  refine Triple.bind (Q1 := fun _ r => ∀ i ∈ w.addedIds, r.s.reg i = some (addedImage i)) ?_ (fun _ => ?_)
  · exact Triple.call_dropE fun r _ _ _ i hi => State.setRegs_map_reg r.s _ addedImage (fun _ => rfl) hi
  · refine Triple.call_dropE (fun r _ _ hr i hi => ?_)
    show (r.s.addBlobs w.addedIds).reg i = some (addedImage i) ∧ (r.s.addBlobs w.addedIds).blob i = true
    rw [State.addBlobs_reg, State.addBlobs_blob]
    exact ⟨hr i hi, by simp [hi]⟩

/-- fixed nodes plus the identity of the two lists (what the cleanup reads) -/
def FixedLists (m : UUID → Handle) (ids : List UUID) (resv remv : List Handle) (r : Run) : Prop :=
  Fixed m ids r ∧ r.reserved = resv ∧ r.removedH = remv

instance {resv remv : List Handle} : Frame (FixedLists m ids resv remv) where
  frame r r' h hr hb hf h1 h2 := ⟨Frame.frame r r' h.1 hr hb hf h1 h2, by rw [h1]; exact h.2.1, by rw [h2]; exact h.2.2⟩

/-- the post-commit cleanup deletes no new node: its targets are old blob ids, removed nodes and obsolete values -/
theorem fx_cleanup (pre : Pre s0 w fresh0) (pre2 : Pre2 s0 w fresh0) (p3 : Pre3 w) (hids : ∀ i ∈ ids, i ∈ w.newIds)
    {resv remv : List Handle} (L : Lists s0 fresh0 resv remv) (hrem : ∀ g ∈ remv, g.lid ∈ w.removed.map (·.1)) :
    Preserves (FixedLists m ids resv remv) (cleanup w) := by
  refine cleanup_keeps w (fun _ h => h.2)
    (fun r hr => ⟨FixedS.delBlobs hr.1 _ (cleanable_unused pre pre2 L hids).created, hr.2⟩)
    (fun r hr => ⟨FixedS.delRegs hr.1 _ ?_, hr.2⟩)
    (fun st hst r hr => ⟨FixedS.delBlobs hr.1 _
      (cleanable_obsolete pre2 L (fun i hi => p3.newObs i (hids i hi)) fun _ hx => obsolete_sub hst hx).created, hr.2⟩)
  intro i hi hm
  obtain ⟨g, hg, e⟩ := List.mem_map.mp hm
  exact pre2.remOld _ (hrem g hg) (e ▸ hids i hi)

theorem fx_phase2 (pre : Pre s0 w fresh0) (pre2 : Pre2 s0 w fresh0) (p3 : Pre3 w) (hids : ∀ i ∈ ids, i ∈ w.newIds)
    {resv remv : List Handle} (L : Lists s0 fresh0 resv remv) (hrem : ∀ g ∈ remv, g.lid ∈ w.removed.map (·.1)) :
    Triple (AndI (P2 s0 w fresh0 resv remv) (Fixed m ids)) (phase2 w) (fun _ => Fixed m ids) (fun _ => True) := by
  refine Triple.conseq (phase2_keeps (A := AndI (P2 s0 w fresh0 resv remv) (Fixed m ids)) (B := FixedLists m ids resv remv) w
      (fun _ h => h.1.2) (fun r _ _ hr => ⟨FixedS.setRegs hr.2 _ ?_, hr.1.2⟩) (fun _ _ h => ⟨h.2, h.1.2⟩)
      (fx_cleanup pre pre2 p3 hids L hrem))
    (fun _ h => h) (fun _ _ h => h.1) (fun _ _ => trivial)
  intro x hx hin
  obtain ⟨g, hg, e⟩ := mem_final hx
  rw [← e] at hin
  rcases hg with hg | hg
  · exact pre2.updOld _ (hr.1.1.resLid (hr.1.2.1 ▸ hg)) (hids _ hin)
  · exact pre2.remOld _ (hrem g hg) (hids _ hin)

def NewNodesFixed (w : WS) (r : Run) : Prop := NewNodesS w r.s

/-- **a successful body of the commit loop has registered and stored every new node** -/
theorem new_phase1Body (pre : Pre s0 w fresh0) (pre2 : Pre2 s0 w fresh0) (p3 : Pre3 w) :
    Triple (Unstaged s0 w fresh0) (phase1Body w) (fun ok r => ok = true → StagedCovered s0 w fresh0 r ∧ NewNodesFixed w r) (fun _ => True) :=
  phase1Body_ok (B := AndI (Unstaged s0 w fresh0) (Fixed Handle.new w.rootIds))
    (C := AndI (StagedCovered s0 w fresh0) (Fixed Handle.new w.rootIds)) (D := AndI (StagedCovered s0 w fresh0) (Fixed Handle.new w.rootIds)) w
    unstaged_addValues.dropE
    (Triple.conseq (Triple.and (unstaged_commitNewRoots pre).dropE fx_commitNewRoots) (fun _ h => ⟨h, trivial⟩)
      (fun _ _ h e => ⟨h.1, h.2 e⟩) fun _ _ => trivial)
    (Triple.conseq (Triple.and (staged_commitUpdated pre pre2) (fx_commitUpdated fun i hi hu => pre2.updOld i hu (rootIds_new hi))) (fun _ h => h)
      (fun _ _ h e => ⟨⟨h.1.1, h.1.2 e⟩, h.2⟩) fun _ _ => trivial)
    (Triple.conseq (Triple.and (Triple.and (staged_commitRemoved pre pre2) cov_commitRemoved)
        (fx_commitRemoved (s0 := s0) (fresh0 := fresh0) fun i hi hu => pre2.remOld i hu (rootIds_new hi)))
      (fun _ h => ⟨⟨h.1.1, h.1.2⟩, ⟨h.1.1, h.2⟩⟩) (fun _ _ h _ => ⟨⟨h.1.1, h.1.2⟩, h.2⟩) fun _ _ => trivial)
    (Triple.conseq (Triple.and (Triple.and (staged_commitAdded pre pre2).dropE cov_commitAdded.dropE)
        (Triple.and (fx_commitAdded_keep fun i hi ha => (List.nodup_append.mp p3.newNodup).2.2 i hi i ha rfl).dropE fx_commitAdded_new))
      (fun _ h => ⟨⟨h.1.1, h.1.2⟩, ⟨h.2, trivial⟩⟩) (fun _ _ h => ⟨⟨h.1.1, h.1.2⟩, ⟨h.2.1, h.2.2⟩⟩) fun _ _ => trivial)

theorem new_phase1 (pre : Pre s0 w fresh0) (pre2 : Pre2 s0 w fresh0) (p3 : Pre3 w) (n : Nat) :
    Triple (Unstaged s0 w fresh0) (phase1 w n)
      (fun _ r => Staged s0 w fresh0 r ∧ (w.hasTracked = true → Covered w r ∧ NewNodesFixed w r)) (fun _ => True) := by
  refine Triple.conseq (phase1_keeps (A := Unstaged s0 w fresh0)
      (B := AndI (StagedCovered s0 w fresh0) (AndI (Fixed Handle.new w.rootIds) (Fixed addedImage w.addedIds))) w n
      (new_phase1Body pre pre2 p3))
    (fun _ h => h) (fun _ r h => ?_) fun _ h => h
  split at h
  · exact ⟨h.1.1, fun _ => ⟨h.1.2, h.2⟩⟩
  · rename_i hnt; exact ⟨staged_of_unstaged h, fun e => absurd e hnt⟩

/-- **A successful commit makes every new node visible**: the first root of an empty store at version 0, every node
added by a split at version 1, each under the blob written for it. -/
theorem commit_ok_new_nodes (pre : Pre s0 w fresh0) (pre2 : Pre2 s0 w fresh0) (p3 : Pre3 w)
    (fault : Option Fault) {cs0 : Step} (tid : Tid) (n : Nat) (r2 : Run) (ht : w.hasTracked = true)
    (hok : commit w n { s := s0, tid := tid, fault := fault, fresh := fresh0, cs := cs0 } = (.ok, r2)) :
    (∀ i ∈ w.rootIds, r2.s.view i = some (i, 0)) ∧ (∀ i ∈ w.addedIds, r2.s.view i = some (i, 1)) := by
  have hj0 : Unstaged s0 w fresh0 { s := s0, tid := tid, fault := fault, fresh := fresh0, cs := cs0 } :=
    (.init pre rfl rfl rfl rfl)
  obtain ⟨r1, e1, e2⟩ := commit_ok_inv hok
  obtain ⟨hst, hrest⟩ := (new_phase1 pre pre2 p3 n).of_ok (e := e1) hj0
  obtain ⟨_, hroot, hadd⟩ := hrest ht
  have L := hst.lists pre2
  have ha := (fx_phase2 (m := Handle.new) pre pre2 p3 (fun i hi => rootIds_new hi) L hst.remSub).of_ok (e := e2) ⟨⟨hst, rfl, rfl⟩, hroot⟩
  have hb := (fx_phase2 (m := addedImage) pre pre2 p3 (fun i hi => addedIds_new hi) L hst.remSub).of_ok (e := e2) ⟨⟨hst, rfl, rfl⟩, hadd⟩
  refine ⟨fun i hi => ?_, fun i hi => ?_⟩
  · obtain ⟨a, b⟩ := ha i hi
    exact State.view_eq_some.mpr ⟨_, a, b, rfl, rfl⟩
  · obtain ⟨a, b⟩ := hb i hi
    exact State.view_eq_some.mpr ⟨_, a, b, rfl, rfl⟩

end
end Sop.Commit
