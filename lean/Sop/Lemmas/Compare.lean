import Sop.Model.Compare
/-! The laws of a three-way comparison (`IsOrder`) and the constructions that keep them: composition with a map, negation,
"first non-zero decides" (`lex`), a lowest class put first (`botFirst`: NaN, nil), element-wise comparison of slices.
The comparers of `btree/comparer.go` are instances. Last, for the keys of `btree.Compare`: the induction over compatible pairs
(`compat_induct`), with the types on which `Compare` is one order of the asserted values as one case (`flat`). -/
namespace Sop.Compare

def Tri (r : Int) : Prop := r = -1 ∨ r = 0 ∨ r = 1

/-- transitivity of three comparison results `x = c a b`, `y = c b d`, `z = c a d`, in the strong
form that survives lexicographic combination -/
def Tr (x y z : Int) : Prop :=
  (x < 0 → y ≤ 0 → z < 0) ∧ (x ≤ 0 → y < 0 → z < 0) ∧ (x = 0 → y = 0 → z = 0)

theorem Tr.lt_le {x y z : Int} (h : Tr x y z) : x < 0 → y ≤ 0 → z < 0 := h.1
theorem Tr.le_lt {x y z : Int} (h : Tr x y z) : x ≤ 0 → y < 0 → z < 0 := h.2.1
theorem Tr.eq {x y z : Int} (h : Tr x y z) : x = 0 → y = 0 → z = 0 := h.2.2

theorem Tr.le {x y z : Int} (h : Tr x y z) (hx : x ≤ 0) (hy : y ≤ 0) : z ≤ 0 := by
  have := h.lt_le; have := h.le_lt; have := h.eq; omega

theorem Tr.swap {x y z : Int} (h : Tr x y z) : Tr y x z :=
  ⟨fun a b => h.le_lt b a, fun a b => h.lt_le b a, fun a b => h.eq b a⟩

theorem Tr.zero_left (y : Int) : Tr 0 y y := ⟨fun h => absurd h (by decide), fun _ h => h, fun _ h => h⟩

theorem Tri.total {x y : Int} (ht : Tri x) (ha : x = -y) : (x = -1 ∨ x = 0 ∨ x = 1) ∧ (x ≤ 0 ∨ y ≤ 0) :=
  ⟨ht, by omega⟩

structure IsOrder {α : Type} (c : α → α → Int) : Prop where
  tri : ∀ a b, Tri (c a b)
  antisymm : ∀ a b, c a b = -c b a
  tr : ∀ a b d, Tr (c a b) (c b d) (c a d)

theorem IsOrder.refl {α : Type} {c : α → α → Int} (h : IsOrder c) (a : α) : c a a = 0 := by
  have := h.antisymm a a; omega

theorem IsOrder.total {α : Type} {c : α → α → Int} (h : IsOrder c) (a b : α) :
    (c a b = -1 ∨ c a b = 0 ∨ c a b = 1) ∧ (c a b ≤ 0 ∨ c b a ≤ 0) :=
  (h.tri a b).total (h.antisymm a b)

theorem isOrder_comap {α β : Type} {c : α → α → Int} (h : IsOrder c) (f : β → α) :
    IsOrder (fun a b => c (f a) (f b)) :=
  ⟨fun _ _ => h.tri _ _, fun _ _ => h.antisymm _ _, fun _ _ _ => h.tr _ _ _⟩

theorem isOrder_neg {α : Type} {c : α → α → Int} (h : IsOrder c) : IsOrder (fun a b => -c a b) where
  tri a b := by have := h.tri a b; unfold Tri at *; omega
  antisymm a b := by rw [h.antisymm a b]
  tr a b d := by
    -- the reversed triple, by antisymmetry
    have t := (h.tr d b a).swap
    rwa [h.antisymm d b, h.antisymm b a, h.antisymm d a] at t

theorem cmpInt_spec (a b : Int) :
    a < b ∧ cmpInt a b = -1 ∨ a = b ∧ cmpInt a b = 0 ∨ b < a ∧ cmpInt a b = 1 := by
  unfold cmpInt; repeat' split
  all_goals omega

theorem cmpInt_tri (a b : Int) : Tri (cmpInt a b) := by
  unfold Tri; have := cmpInt_spec a b; omega

theorem cmpInt_refl (a : Int) : cmpInt a a = 0 := by
  have := cmpInt_spec a a; omega

theorem cmpInt_antisymm (a b : Int) : cmpInt a b = -cmpInt b a := by
  have := cmpInt_spec a b; have := cmpInt_spec b a; omega

theorem cmpInt_lt_iff (a b : Int) : cmpInt a b = -1 ↔ a < b := by have := cmpInt_spec a b; omega
theorem cmpInt_eq_iff (a b : Int) : cmpInt a b = 0 ↔ a = b := by have := cmpInt_spec a b; omega
theorem cmpInt_gt_iff (a b : Int) : cmpInt a b = 1 ↔ b < a := by have := cmpInt_spec a b; omega
theorem cmpInt_neg_iff (a b : Int) : cmpInt a b < 0 ↔ a < b := by have := cmpInt_spec a b; omega
theorem cmpInt_nonpos_iff (a b : Int) : cmpInt a b ≤ 0 ↔ a ≤ b := by have := cmpInt_spec a b; omega

theorem cmpInt_tr (a b c : Int) : Tr (cmpInt a b) (cmpInt b c) (cmpInt a c) := by
  simp only [Tr, cmpInt_neg_iff, cmpInt_nonpos_iff, cmpInt_eq_iff]; omega

theorem isOrder_cmpInt : IsOrder cmpInt := ⟨cmpInt_tri, cmpInt_antisymm, cmpInt_tr⟩

theorem cmpInt_congr {a b a' b' : Int} (h : a < b ↔ a' < b') (h' : b < a ↔ b' < a') :
    cmpInt a b = cmpInt a' b' := by
  simp only [cmpInt, h, h']

theorem lex_neg_iff (r s : Int) : lex r s < 0 ↔ r < 0 ∨ (r = 0 ∧ s < 0) := by
  unfold lex; split <;> omega
theorem lex_nonpos_iff (r s : Int) : lex r s ≤ 0 ↔ r < 0 ∨ (r = 0 ∧ s ≤ 0) := by
  unfold lex; split <;> omega
theorem lex_eq_zero_iff (r s : Int) : lex r s = 0 ↔ r = 0 ∧ s = 0 := by
  unfold lex; split <;> omega

theorem lex_tri {r s : Int} (hr : Tri r) (hs : Tri s) : Tri (lex r s) := by
  unfold lex; split <;> assumption

theorem lex_antisymm {r r' s s' : Int} (hr : r = -r') (hs : s = -s') : lex r s = -lex r' s' := by
  unfold lex; repeat' split
  all_goals omega

theorem lex_tr {x y z x' y' z' : Int} (h : Tr x y z) (h' : Tr x' y' z') :
    Tr (lex x x') (lex y y') (lex z z') := by
  by_cases h0 : x = 0 ∧ y = 0
  · -- the first components tie throughout: the second decide
    have hz := h.eq h0.1 h0.2
    simpa only [lex, h0.1, h0.2, hz, ne_eq, not_true_eq_false, ite_false] using h'
  · -- otherwise the first components decide, strictly
    have hz : lex x x' ≤ 0 → lex y y' ≤ 0 → lex z z' < 0 := by
      intro a b
      rw [lex_nonpos_iff] at a b
      have : z < 0 := by
        rcases a with hx | ⟨hx, _⟩
        · exact h.lt_le hx (by omega)
        · exact h.le_lt (by omega) (by omega)
      exact (lex_neg_iff z z').2 (Or.inl this)
    refine ⟨fun a b => hz (by omega) b, fun a b => hz a (by omega), fun a b => ?_⟩
    rw [lex_eq_zero_iff] at a b
    omega

theorem isOrder_lex {α : Type} {c c' : α → α → Int} (h : IsOrder c) (h' : IsOrder c') :
    IsOrder (fun a b => lex (c a b) (c' a b)) :=
  ⟨fun a b => lex_tri (h.tri a b) (h'.tri a b),
    fun a b => lex_antisymm (h.antisymm a b) (h'.antisymm a b),
    fun a b d => lex_tr (h.tr a b d) (h'.tr a b d)⟩

/-- `c` with the elements satisfying `p` put below all others and equal to each other: what
`cmp.Compare` does with NaN and the map-key comparers with nil -/
def botFirst {α : Type} (p : α → Bool) (c : α → α → Int) (a b : α) : Int :=
  if p a then (if p b then 0 else -1) else if p b then 1 else c a b

theorem isOrder_botFirst {α : Type} (p : α → Bool) {c : α → α → Int} (h : IsOrder c) :
    IsOrder (botFirst p c) where
  tri a b := by
    unfold botFirst
    cases p a <;> cases p b <;> simp only [Bool.false_eq_true, ↓reduceIte]
    · exact h.tri a b
    all_goals simp [Tri]
  antisymm a b := by
    unfold botFirst
    cases p a <;> cases p b <;> simp [h.antisymm a b]
  tr a b d := by
    unfold botFirst
    cases p a <;> cases p b <;> cases p d <;> simp only [Bool.false_eq_true, ↓reduceIte]
    · exact h.tr a b d
    all_goals simp [Tr]

/-- `cmpFloat e m` unfolds to this `botFirst` -/
theorem isOrder_cmpFloat (e m : Nat) : IsOrder (cmpFloat e m) :=
  isOrder_botFirst (fIsNaN e m) (isOrder_comap isOrder_cmpInt (fKey e m))

theorem cmpSlice_tri {α : Type} (c : α → α → Int) (hc : ∀ a b, Tri (c a b)) :
    ∀ l m, Tri (cmpSlice c l m)
  | [], [] | [], _ :: _ | _ :: _, [] => by simp [cmpSlice, Tri]
  | a :: l, b :: m => lex_tri (hc a b) (cmpSlice_tri c hc l m)

theorem cmpSlice_antisymm {α : Type} (c : α → α → Int) (hc : ∀ a b, c a b = -c b a) :
    ∀ l m, cmpSlice c l m = -cmpSlice c m l
  | [], [] | [], _ :: _ | _ :: _, [] => rfl
  | a :: l, b :: m => lex_antisymm (hc a b) (cmpSlice_antisymm c hc l m)

theorem cmpSlice_tr {α : Type} (c : α → α → Int) (hc : ∀ a b d, Tr (c a b) (c b d) (c a d)) :
    ∀ l m n, Tr (cmpSlice c l m) (cmpSlice c m n) (cmpSlice c l n)
  | a :: l, b :: m, d :: n => lex_tr (hc a b d) (cmpSlice_tr c hc l m n)
  | [], m, n => by cases m <;> cases n <;> simp [cmpSlice, Tr]
  | _ :: _, [], n => by cases n <;> simp [cmpSlice, Tr]
  | _ :: _, _ :: _, [] => by simp [cmpSlice, Tr]

theorem isOrder_cmpSlice {α : Type} {c : α → α → Int} (h : IsOrder c) : IsOrder (cmpSlice c) :=
  ⟨cmpSlice_tri c h.tri, cmpSlice_antisymm c h.antisymm, cmpSlice_tr c h.tr⟩

/-- the order a slice comparison decides, stated independently of the loop: `l` is a proper prefix
of `m`, or at the first position where the elements do not compare equal, `l`'s is smaller -/
inductive SliceLt {α : Type} (c : α → α → Int) : List α → List α → Prop
  | nil (b : α) (m : List α) : SliceLt c [] (b :: m)
  | head (a b : α) (l m : List α) : c a b < 0 → SliceLt c (a :: l) (b :: m)
  | tail (a b : α) (l m : List α) : c a b = 0 → SliceLt c l m → SliceLt c (a :: l) (b :: m)

theorem cmpSlice_lt_iff {α : Type} (c : α → α → Int) :
    ∀ l m, cmpSlice c l m < 0 ↔ SliceLt c l m
  | [], [] => by simp [cmpSlice]; intro h; cases h
  | [], b :: m => by simp [cmpSlice]; exact SliceLt.nil b m
  | _ :: _, [] => by simp [cmpSlice]; intro h; cases h
  | a :: l, b :: m => by
    have ih := cmpSlice_lt_iff c l m
    simp only [cmpSlice, lex_neg_iff]
    constructor
    · rintro (h | ⟨h0, h⟩)
      · exact SliceLt.head a b l m h
      · exact SliceLt.tail a b l m h0 (ih.mp h)
    · intro h
      cases h with
      | head _ _ _ _ hlt => exact Or.inl hlt
      | tail _ _ _ _ h0 hr => exact Or.inr ⟨h0, ih.mpr hr⟩

theorem cmpSlice_eq_zero_iff {α : Type} (c : α → α → Int) (hc : ∀ a b, c a b = 0 ↔ a = b) :
    ∀ l m, cmpSlice c l m = 0 ↔ l = m
  | [], [] | [], _ :: _ | _ :: _, [] => by simp [cmpSlice]
  | a :: l, b :: m => by
    rw [cmpSlice, lex_eq_zero_iff, hc, cmpSlice_eq_zero_iff c hc l m, List.cons.injEq]

theorem isOrder_cmpBytes : IsOrder cmpBytes :=
  isOrder_cmpSlice (isOrder_comap isOrder_cmpInt (fun n : Nat => (n : Int)))

theorem cmpBytes_eq_iff (a b : List Nat) : cmpBytes a b = 0 ↔ a = b :=
  cmpSlice_eq_zero_iff _ (fun x y => by rw [cmpInt_eq_iff]; omega) a b

theorem cmpWall_eq_lex (s : Int) (n : Nat) (s' : Int) (n' : Nat) :
    cmpWall s n s' n' = lex (cmpInt s s') (cmpInt n n') := by
  unfold cmpWall lex
  by_cases h : s = s'
  · rw [if_pos h, if_neg (by rw [(cmpInt_eq_iff s s').2 h]; exact fun h => h rfl)]
  · rw [if_neg h, if_pos (fun h0 => h ((cmpInt_eq_iff s s').1 h0))]

theorem isOrder_cmpWall : IsOrder (fun p q : Int × Nat => cmpWall p.1 p.2 q.1 q.2) := by
  simp only [cmpWall_eq_lex]
  exact isOrder_lex (isOrder_comap isOrder_cmpInt Prod.fst) (isOrder_comap isOrder_cmpInt (fun p : Int × Nat => (p.2 : Int)))

/-- with nanoseconds below one second (as `time.Time` guarantees) the wall comparison is the order of
the instants `sec·10⁹ + nsec` -/
theorem cmpWall_instant (s : Int) (n : Nat) (s' : Int) (n' : Nat) (hn : n < 1000000000) (hn' : n' < 1000000000) :
    cmpWall s n s' n' = cmpInt (s * 1000000000 + n) (s' * 1000000000 + n') := by
  unfold cmpWall
  split
  · exact cmpInt_congr (by omega) (by omega)
  · exact cmpInt_congr (by omega) (by omega)

/-! ## the keys of `btree.Compare`: same Go type (`sameTop`), compatible pairs (`compat`) -/

theorem sameTop_refl (a : Key) : sameTop a a = true := by
  cases a <;> simp [sameTop]

/-- the types on which `CoerceComparer(x)` is one order of the asserted values, whatever is passed -/
def flat : Key → Bool
  | .time _ _ _ | .anys _ | .nil => false
  | _ => true

/-- induction over pairs of compatible keys; for a flat type `compat` is `sameTop`, in either direction.
`compat` is not transitive (`[1]`, `[]`, `["x"]`; or clock readings present, absent, present), which is why
the transitivity theorems ask for `compat a c` as well. -/
theorem compat_induct {P : Key → Key → Prop} {Q : List Key → List Key → Prop}
    (leaf : ∀ a b, flat a = true → sameTop a b = true → compat b a = true → P a b)
    (time : ∀ s n mo s' n' mo', compat (.time s n mo) (.time s' n' mo') = true →
      P (.time s n mo) (.time s' n' mo'))
    (anys : ∀ l m, Q l m → P (.anys l) (.anys m))
    (nil : P .nil .nil)
    (cons : ∀ a b l m, P a b → Q l m → Q (a :: l) (b :: m))
    (short : ∀ l m, l = [] ∨ m = [] → Q l m) :
    (∀ a b, compat a b = true → P a b) ∧ (∀ l m, compatL l m = true → Q l m) := by
  -- the minor premises follow the equations of `compat`, in their order
  refine compat.mutual_induct (fun a b => compat a b = true → P a b) (fun l m => compatL l m = true → Q l m)
    (fun _ _ _ _ h => leaf _ _ rfl h (BEq.comm.trans h)) (fun _ _ _ _ h => leaf _ _ rfl h (BEq.comm.trans h))  -- sint uint
    (fun _ _ h => leaf _ _ rfl h rfl) (fun _ _ h => leaf _ _ rfl h rfl) (fun _ _ h => leaf _ _ rfl h rfl)      -- f32 f64 str
    (fun _ _ h => leaf _ _ rfl h rfl) (fun _ _ h => leaf _ _ rfl h rfl)                                        -- guuid suuid
    (fun _ _ _ _ _ _ h => time _ _ _ _ _ _ h) (fun _ _ _ _ _ _ _ h => time _ _ _ _ _ _ h)  -- time: both readings; otherwise
    (fun l m ih h => anys l m (ih h))                                                                          -- anys
    (fun _ _ h => leaf _ _ rfl h rfl) (fun _ _ h => leaf _ _ rfl h rfl) (fun _ _ h => leaf _ _ rfl h rfl)      -- bytes strs ints
    (fun _ _ h => leaf _ _ rfl h rfl) (fun _ _ h => leaf _ _ rfl h rfl) (fun _ => nil) ?_ ?_ ?_                -- f64s f32s nil
  · -- no other pair of types is compatible
    intro a b h₁ h₂ h₃ h₄ h₅ h₆ h₇ h₈ h₉ h₁₀ h₁₁ h₁₂ h₁₃ h₁₄ h₁₅ hc
    rw [compat.eq_17 a b h₁ h₂ h₃ h₄ h₅ h₆ h₇ h₈ h₉ h₁₀ h₁₁ h₁₂ h₁₃ h₁₄ h₁₅] at hc
    cases hc
  · intro a l b m ihP ihQ h
    simp only [compatL, Bool.and_eq_true] at h
    exact cons a b l m (ihP h.1) (ihQ h.2)
  · intro l m hne _
    cases l
    · exact short _ _ (Or.inl rfl)
    · cases m
      · exact short _ _ (Or.inr rfl)
      · exact (hne _ _ _ _ rfl rfl).elim

end Sop.Compare
