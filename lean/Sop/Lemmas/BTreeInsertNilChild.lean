import Sop.Lemmas.BTreeInsert
/-! # C17 update side, `Btree.Add`, stage 2 — `addItemOnNodeWithNilChild`: a fresh leaf holding the item is
linked at the nil child position the key belongs to. -/
namespace Sop.BTree.Ins
open Sop.BTree

/-- the node `addItemOnNodeWithNilChild` creates -/
def newLeaf (id parent : NodeId) (sl : Nat) (item : Item) : Node :=
  { id := id, parent := parent, slots := (zeros sl).setIfInBounds 0 item, count := 1, children := none, ion := -1 }

theorem newChildWithItem_eq (t : BTree) (n : NodeId) (i : Nat) (item : Item) :
    t.newChildWithItem n i item =
      (({ t with nextId := t.nextId + 1 } : BTree).upd n (fun x => x.setChild i t.nextId)).put
        (newLeaf t.nextId n t.sl item) := rfl

theorem newLeaf_snode {t' : BTree} {c parent : NodeId} {item : Item} (hsl : 0 < t'.sl) (hc : c ≠ 0)
    (hg : t'.get? c = some (newLeaf c parent t'.sl item)) (f : Nat) :
    SNode t' (f + 1) c parent ∧ absNode t' (f + 1) c = [item] ∧ reach t' (f + 1) c = [c] := by
  obtain ⟨hs, hi⟩ : NodeShape t' (newLeaf c parent t'.sl item) ∧ (newLeaf c parent t'.sl item).items = [item] := by
    refine leafShape_of_toList ?_ hsl rfl
      (show (-1 : Int) ≤ -1 ∧ (-1 : Int) ≤ (t'.sl : Int) from ⟨Int.le_refl _, by omega⟩) rfl
    show ((zeros t'.sl).setIfInBounds 0 item).toList = [item] ++ List.replicate (t'.sl - 1) ({} : Item)
    obtain ⟨k, hk⟩ := Nat.exists_eq_succ_of_ne_zero (Nat.ne_of_gt hsl)
    rw [hk]
    simp [zeros, List.replicate_succ]
  exact hi ▸ SNode.of_leaf hc hg rfl hs (Or.inr (Nat.le_refl 1)) rfl f

theorem target_nilc (key : Int) {n : NodeId} {i : Nat} : ∀ (fuel : Nat) (t : BTree) (m : NodeId),
    addTarget key fuel t m = .nilc n i →
    (t.get n).hasChildren = true ∧ (t.get n).child i = 0 ∧ i = (getIndexToInsertTo t (t.get n) key).1
  | 0, _, _, h => by simp [addTarget] at h
  | fuel + 1, t, m, h => by
    rcases addTarget_succ key fuel t m with ⟨_, _, _, e⟩ | ⟨_, e⟩ | ⟨hch, h0, e⟩ | e | ⟨_, e⟩ <;> rw [e] at h
    · exact target_nilc key fuel t _ h
    · cases h
    · cases h; exact ⟨hch, h0, rfl⟩
    · cases h
    · cases h

theorem localOk_nilc {T : BTree} {n : NodeId} {item : Item} {i : Nat}
    (hch : (T.get n).hasChildren = true) (h0 : (T.get n).child i = 0)
    (hi : i = (getIndexToInsertTo T (T.get n) item.key).1)
    (hfresh : Fresh T) (hsl : 0 < T.sl) (hid : item.id ≠ 0) :
    LocalOk T (T.newChildWithItem n i item) n item 1 1 := by
  have hcnone : T.get? T.nextId = none := fresh_get? hfresh (Nat.le_refl _)
  have hc0 : T.nextId ≠ 0 := Nat.ne_of_gt hfresh.1
  have hnew : ∀ x, (T.get? x).isSome → ¬ (newLeaf T.nextId n T.sl item).id = x := by
    intro x hsome e
    rw [← e, show (newLeaf T.nextId n T.sl item).id = T.nextId from rfl, hcnone] at hsome
    cases hsome
  have hgetc : (T.newChildWithItem n i item).get? T.nextId = some (newLeaf T.nextId n T.sl item) := by
    rw [newChildWithItem_eq, get?_put, if_pos (by rfl)]
  have hframe : ∀ x, x ≠ n → (T.get? x).isSome → (T.newChildWithItem n i item).get? x = T.get? x := by
    intro x hxn hsome
    rw [newChildWithItem_eq, get?_put, if_neg (hnew x hsome),
      get?_upd_ne _ (fun y => y.setChild i T.nextId) (fun _ => rfl) hxn]
    rfl
  refine LocalOk.of_node rfl hframe hid ?_
  intro f p hW hnd
  cases f with
  | zero => exact absurd hW (by simp [WFNode])
  | succ f =>
    have ⟨hn, nd, hg, hp, hs, hne, _⟩ := hW
    rw [get_of_get? hg] at hch h0 hi
    obtain ⟨hic, hpre, hpost⟩ := hW.key_cut hg item.key
    rw [← hi] at hic hpre hpost
    obtain ⟨cs, hcs⟩ : ∃ cs, nd.children = some cs := Option.isSome_iff_exists.mp hch
    have hg' : (T.newChildWithItem n i item).get? n = some (nd.setChild i T.nextId) := by
      rw [newChildWithItem_eq, get?_put, if_neg (hnew n (by rw [hg]; rfl)),
        get?_upd_eq _ _ (fun y => y.setChild i T.nextId) (fun _ => rfl)]
      show Option.map _ (T.get? n) = _
      rw [hg]; rfl
    obtain ⟨hlf, hlA, hlR⟩ := newLeaf_snode (t' := T.newChildWithItem n i item) (c := T.nextId) (parent := n) (item := item)
      hsl hc0 hgetc f
    obtain ⟨hA, hR⟩ := hW.split_kid hg hic
    rw [h0, absNode_zero, List.append_nil] at hA
    rw [h0, reach_zero, List.append_nil] at hR
    obtain ⟨hS, hA', hR'⟩ := SNode.set_kid (t' := T.newChildWithItem n i item) (c := T.nextId) hW hnd hg hic (Nat.le_succ f) rfl hg'
      (SetKid.setChild hs hcs hic _) (fun x hs' hxn _ => hframe x hxn hs') (Or.inr hlf)
    rw [hlA, List.append_assoc] at hA'
    refine ⟨hS, ?_, _, _, hA, hA', hpre, hpost⟩
    show (reach _ (f + 1 + 1) n).Perm (_ ++ [T.nextId])
    rw [hR', hR, hlR, List.append_assoc, List.append_assoc]
    exact List.Perm.append_left _ List.perm_append_comm

theorem newChildWithItem_alloc {T : BTree} (hfresh : Fresh T) (n : NodeId) (i : Nat) (item : Item) :
    Alloc T (T.newChildWithItem n i item) 1 := by
  rw [newChildWithItem_eq]
  have h1 : ids (({ T with nextId := T.nextId + 1 } : BTree).upd n (fun x => x.setChild i T.nextId)) = ids T :=
    ids_upd _ _ _ fun _ => rfl
  exact Alloc.of_ids (by rw [ids_put _ _ (by rw [h1]; exact fresh_not_mem hfresh (Nat.le_refl _)), h1]; exact List.Perm.refl _) rfl

attribute [local irreducible] addStart in
/-- stage 2 (`addItemOnNodeWithNilChild`) -/
theorem addU_nilc (t : BTree) (uniq : Bool) (key : Int) (val : Nat) (n : NodeId) (i : Nat)
    (hwf : WF t) (hok : t.panicked = false) (hidle : Idle t) (hfresh : Fresh t)
    (htgt : addTargetOf t uniq key = .nilc n i) :
    AddOk t key val (t.addU uniq key val) := by
  have so := addStart_ok t uniq hwf
  have hf := so.fresh hfresh
  obtain ⟨hch, h0, hi⟩ := target_nilc key _ _ _ htgt
  exact addOk_of_localOk hwf hok hidle hfresh htgt rfl rfl
    (localOk_nilc hch h0 hi hf (Nat.lt_of_lt_of_le (by decide) so.wf.1.1) (Nat.ne_of_gt hfresh.1)) rfl
    (newChildWithItem_alloc hf n i _)

def exNil : BTree := (BTree.new 2 false false true).run [.add 1 1, .add 2 2, .add 3 3, .remove 1]

/-- non-vacuity of `addU_nilc`: slot length 2, after a root split and the removal of the left leaf's
    only item the root has a nil child at position 0; `Add 0` lands there -/
theorem exNil_hyps : WF exNil ∧ exNil.panicked = false ∧ Idle exNil ∧ Fresh exNil ∧
    addTargetOf exNil false 0 = .nilc 2 0 := by
  refine ⟨checkWF_sound _ (by decide +kernel), ?_⟩
  unfold Idle Fresh
  decide +kernel

end Sop.BTree.Ins
