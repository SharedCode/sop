import Sop.Lemmas.CommitFrame
import Sop.Lemmas.CommitReserve
import Sop.Lemmas.CommitEnds
/-!
Phase 1 of the commit and the live rollback preserve the state invariant `SInv`, for every write set, every
starting state satisfying `Pre`, and EVERY fault (the proofs never look at which call fails: each call is
shown to keep the invariant whether it takes effect or not).
-/
namespace Sop.Commit

/-- invariant of the running transaction: the shared state satisfies `SInv` and the ids still to be generated come from `fresh0` -/
def RInv (s0 : State) (w : WS) (fresh0 : List (UUID × UUID)) (r : Run) : Prop :=
  SInv s0 w fresh0 r.s ∧ ∀ p ∈ r.fresh, p ∈ fresh0

theorem RInv.sinv {s0 : State} {w : WS} {fresh0 : List (UUID × UUID)} {r : Run} (h : RInv s0 w fresh0 r) : SInv s0 w fresh0 r.s := h.1
theorem RInv.fresh {s0 : State} {w : WS} {fresh0 : List (UUID × UUID)} {r : Run} (h : RInv s0 w fresh0 r) : ∀ p ∈ r.fresh, p ∈ fresh0 := h.2

theorem RInv.init {s0 : State} {w : WS} {fresh0 : List (UUID × UUID)} (pre : Pre s0 w fresh0) {r : Run} (hs : r.s = s0)
    (hf : r.fresh = fresh0) : RInv s0 w fresh0 r :=
  ⟨hs ▸ SInv.init s0 w fresh0 pre, fun _ hp => hf ▸ hp⟩

section
variable {s0 : State} {w : WS} {fresh0 : List (UUID × UUID)}
local notation "I" => RInv s0 w fresh0

theorem RInv.congr {r r' : Run} (h : I r) (hr : r'.s.reg = r.s.reg) (hb : r'.s.blob = r.s.blob) (hf : r'.fresh = r.fresh) : I r' :=
  ⟨h.1.of_same hr hb, hf ▸ h.2⟩

theorem P.modify (f : Run → Run) (h : ∀ r, (f r).s = r.s ∧ (f r).fresh = r.fresh) : Preserves I (modify f) :=
  Triple.modify f fun r hr => hr.congr (congrArg (·.reg) (h r).1) (congrArg (·.blob) (h r).1) (h r).2

instance : Frame I where
  frame _ _ h hr hb hf _ _ := h.congr hr hb hf

theorem P.callInv {cls : Cls} {args : Args} {eff : State → State} {res : Args} {nat : State → Bool}
    (h : ∀ s, SInv s0 w fresh0 s → SInv s0 w fresh0 (eff s)) : Preserves I (Sop.Commit.call cls args eff res nat) :=
  Reads.frame.call fun _ hr => ⟨h _ hr.1, hr.2⟩

-- `Keeps.getS`, `Preserves.attempt` for this invariant; no user in the development
theorem P.getS : Preserves I getS := Triple.getS (fun _ h => h)
theorem P.attempt {m : M Unit} (h : Preserves I m) : Preserves I (attempt m) := Triple.attempt h (fun _ h => h)

theorem pres_regGet (ids : List UUID) :
    Triple I (regGet ids) (fun hs r => I r ∧ ∀ h ∈ hs, Known s0 w fresh0 h) I :=
  Triple.conseq (regGet_exact ids) (fun _ h => h) (fun _ _ ⟨h, e⟩ => ⟨h, e ▸ h.sinv.known_of_filterMap ids⟩) fun _ h => h

theorem rootIds_new {i : UUID} (h : i ∈ w.rootIds) : i ∈ w.newIds := List.mem_append_left _ h
theorem addedIds_new {i : UUID} (h : i ∈ w.addedIds) : i ∈ w.newIds := List.mem_append_right _ h

theorem pres_commitNewRoots (pre : Pre s0 w fresh0) : Preserves I (commitNewRoots w) := by
  refine Triple.ite (fun _ => Keeps.pure _) fun _ => Keeps.bind (gen_regGet _) fun hs =>
    Triple.ite (fun _ => Keeps.pure _) fun _ => ?_
  refine Keeps.bind (P.callInv (fun s inv => inv.addBlobs _)) (fun _ => ?_)
  refine Keeps.bind (P.callInv (fun s inv => inv.setRegs_known _ ?_)) (fun _ => Keeps.pure _)
  intro h hm
  obtain ⟨i, hi, rfl⟩ := List.mem_map.mp hm
  exact known_new pre _ (rootIds_new hi) rfl rfl

theorem pres_commitAdded (pre : Pre s0 w fresh0) : Preserves I (commitAdded w) := by
  refine Triple.ite (fun _ => Keeps.pure _) fun _ => ?_
  refine Keeps.bind (P.callInv (fun s inv => inv.setRegs_known _ ?_)) (fun _ => ?_)
  · intro h hm
    obtain ⟨i, hi, rfl⟩ := List.mem_map.mp hm
    exact known_new pre _ (addedIds_new hi) rfl rfl
  · exact P.callInv (fun s inv => inv.addBlobs _)

theorem pres_commitUpdated : Preserves I (commitUpdated w) := by
  refine Triple.ite (fun _ => Keeps.pure _) fun _ => Triple.bindFact _ (pres_regGet _) fun hs hk =>
    Triple.ite (fun _ => Keeps.pure _) fun _ => ?_
  refine Triple.bindFact (fun r0 => ∀ q ∈ r0.fresh, q ∈ fresh0) (Triple.get (fun r h => ⟨h, h.2⟩)) fun r0 hfr => ?_
  extract_lets pairs
  split
  · exact Keeps.pure _
  · rename_i res fr' e
    obtain ⟨k1, k2⟩ := reserveAll_known _ _ _ _ e hfr (pairs_known _ hs hk)
    refine Keeps.bind (Triple.modify _ (fun r hr => ⟨hr.1, k2⟩)) (fun _ => ?_)
    refine Keeps.bind (P.callInv (fun s inv => inv.setRegs_known _ k1)) (fun _ => ?_)
    refine Keeps.bind (P.callInv (fun s inv => inv.addBlobs _)) (fun _ => ?_)
    exact Keeps.bind (P.modify _ (fun r => ⟨rfl, rfl⟩)) (fun _ => Keeps.pure _)

theorem pres_commitRemoved : Preserves I (commitRemoved w) := by
  refine Triple.ite (fun _ => Keeps.pure _) fun _ => Triple.bindFact _ (pres_regGet _) fun hs hk =>
    Keeps.bind Keeps.get fun r => Triple.ite (fun _ => Keeps.pure _) fun _ => ?_
  refine Keeps.bind (P.callInv (fun s inv => inv.setRegs_known _ ?_)) (fun _ => ?_)
  · intro h hm
    obtain ⟨g, hg, rfl⟩ := List.mem_map.mp hm
    exact known_congr (hk g hg) rfl rfl rfl (hk g hg).2.1
  · exact Keeps.bind (P.modify _ (fun r => ⟨rfl, rfl⟩)) (fun _ => Keeps.pure _)

theorem pres_rollbackAdded (pre : Pre s0 w fresh0) : Preserves I (rollbackAdded w) :=
  Triple.ite (fun _ => Keeps.pure _) fun _ =>
  Keeps.bind (Preserves.attempt (P.callInv fun s inv => inv.delBlobs_static pre _ fun x hx => .inl (addedIds_new hx))) fun _ =>
  Keeps.bind (Preserves.attempt (P.callInv fun s inv => inv.delRegs pre _ fun x hx => addedIds_new hx)) fun _ =>
  (foot_dropNodeCache _).keeps Reads.frame

theorem pres_rollbackUpdated (pre : Pre s0 w fresh0) : Preserves I (rollbackUpdated w) := by
  refine Triple.ite (fun _ => Keeps.pure _) fun _ => Triple.bindFact _ (pres_regGet _) fun hs hk => ?_
  have hdel : ∀ x ∈ (hs.filter (·.inactive != 0)).map (·.inactive), x ∈ w.newIds ∨ x ∈ w.values ∨ (x ≠ 0 ∧ ∃ i, InactOK s0 fresh0 i x) := by
    intro x hx
    obtain ⟨g, hg, rfl⟩ := List.mem_map.mp hx
    obtain ⟨hg1, hg2⟩ := List.mem_filter.mp hg
    exact .inr (.inr ⟨by simpa using hg2, g.lid, (hk g hg1).2.1⟩)
  have hclr : ∀ h ∈ hs.map (fun h => if h.inactive = 0 then { h with wip := 0 } else h.clearInactive), Known s0 w fresh0 h := by
    intro h hm
    obtain ⟨g, hg, rfl⟩ := List.mem_map.mp hm
    split
    · exact known_congr (hk g hg) rfl rfl rfl (hk g hg).2.1
    · exact known_clear (hk g hg)
  refine Keeps.bind (Preserves.attempt (P.callInv (fun s inv => inv.delBlobs_static pre _ hdel))) fun _ =>
    Keeps.bind Keeps.get fun r => ?_
  -- with or without per-handle locks, the same images are written
  exact Triple.ite
    (fun _ => Keeps.bind (Preserves.attempt (P.callInv fun s inv => inv.setRegs_known _ hclr)) fun _ =>
      (foot_dropNodeCache _).keeps Reads.frame)
    (fun _ => Keeps.bind (Preserves.attempt (P.callInv fun s inv => inv.setRegs_known _ hclr)) fun _ =>
      (foot_dropNodeCache _).keeps Reads.frame)

theorem pres_rollbackRemoved : Preserves I (rollbackRemoved w) := by
  refine Triple.ite (fun _ => Keeps.pure _) fun _ =>
    Keeps.bind (Preserves.attempt (Keeps.void (gen_regGet _))) fun ok =>
    Triple.ite (fun _ => Keeps.pure _) fun _ => ?_
  refine Triple.bindFact (fun s => ∀ h ∈ (w.removed.map (·.1)).filterMap s.reg, Known s0 w fresh0 h)
    (Triple.getS (fun r h => ⟨h, h.sinv.known_of_filterMap _⟩)) fun s hk => ?_
  have hundo : ∀ h ∈ (((w.removed.map (·.1)).filterMap s.reg).filter (fun h => h.deleted || h.wip > 0)).map
      (fun h => { h with deleted := false, wip := if h.bothInUse then 1 else 0 }), Known s0 w fresh0 h := by
    intro h hm
    obtain ⟨g, hg, rfl⟩ := List.mem_map.mp hm
    have hg1 := (List.mem_filter.mp hg).1
    exact known_congr (hk g hg1) rfl rfl rfl (hk g hg1).2.1
  exact Keeps.bind Keeps.get fun r => Triple.ite
    (fun _ => Keeps.void (Preserves.attempt (P.callInv fun s inv => inv.setRegs_known _ hundo)))
    (fun _ => Keeps.void (Preserves.attempt (P.callInv fun s inv => inv.setRegs_known _ hundo)))

theorem pres_rollbackNewRoots (pre : Pre s0 w fresh0) : Preserves I (rollbackNewRoots w) := by
  refine Triple.ite (fun _ => Keeps.pure _) fun _ =>
    Keeps.bind (Preserves.attempt (P.callInv fun s inv => inv.delBlobs_static pre _ fun x hx => .inl (rootIds_new hx))) fun _ =>
    Keeps.bind ((foot_dropNodeCache _).keeps Reads.frame) fun _ =>
    Keeps.bind (Preserves.attempt (Keeps.void (gen_regGet _))) fun ok =>
    Triple.ite (fun _ => Keeps.pure _) fun _ => ?_
  refine Triple.bindFact (fun s => ∀ i h, s.reg i = some h → h.lid = i) (Triple.getS (fun r h => ⟨h, h.1.regwf⟩)) fun s hwf => ?_
  have hpres : ∀ x ∈ (w.rootIds.filterMap s.reg).map (·.lid), x ∈ w.newIds := by
    intro x hx
    obtain ⟨g, hg, rfl⟩ := List.mem_map.mp hx
    obtain ⟨i, hi, e⟩ := List.mem_filterMap.mp hg
    rw [hwf i g e]
    exact rootIds_new hi
  exact Triple.ite
    (fun _ => Keeps.void (Preserves.attempt (P.callInv fun s inv => inv.delRegs pre _ hpres)))
    (fun _ => Keeps.pure _)

theorem values_sub {st : StoreWS} (hst : st ∈ w.stores) {x : UUID} (hx : x ∈ st.values) : x ∈ w.values := by
  unfold WS.values
  exact List.mem_flatMap.mpr ⟨st, hst, hx⟩

theorem pres_addValues : Preserves I (addValues w) :=
  Keeps.void (Keeps.forIn _ _ fun st =>
    Keeps.void (Keeps.whenM _ (P.callInv fun s inv => inv.addBlobs _)))

theorem pres_rollbackValues (pre : Pre s0 w fresh0) : Preserves I (rollbackValues w) :=
  Keeps.bind (Triple.forIn_mem _ _ fun st hst => Keeps.void (Keeps.whenM _ <|
    Keeps.void (Preserves.attempt (P.callInv fun s inv =>
      inv.delBlobs_static pre _ fun x hx => .inr (.inl (values_sub hst hx))))))
    fun _ => Keeps.pure _

theorem storeNew_sub {st : StoreWS} (hst : st ∈ w.stores) {x : UUID} (hx : x ∈ st.root ++ st.added) : x ∈ w.newIds := by
  unfold WS.newIds WS.rootIds WS.addedIds
  rcases List.mem_append.mp hx with h | h
  · exact List.mem_append_left _ (List.mem_flatMap.mpr ⟨st, hst, h⟩)
  · exact List.mem_append_right _ (List.mem_flatMap.mpr ⟨st, hst, h⟩)

theorem pres_removeCreatedStores (pre : Pre s0 w fresh0) : Preserves I (removeCreatedStores w) := by
  refine Keeps.void (Triple.forIn_mem _ _ fun st hst => Keeps.void (Keeps.whenM _ ?_))
  refine Keeps.bind (Preserves.attempt (P.callInv (fun s inv => ?_))) (fun _ => Keeps.pure _)
  have hsub : ∀ x ∈ st.root ++ st.added, x ∈ w.newIds := fun x hx => storeNew_sub hst hx
  exact ((inv.delRegs pre _ hsub).delBlobs_static pre _ (fun x hx => .inl (hsub x hx))).of_same rfl rfl

theorem pres_rollback (pre : Pre s0 w fresh0) (values : Bool) : Preserves I (rollback w values) :=
  Triple.start fun r0 h0 => rollback_rule (A := I) (U := I) (K := I) (Q := I) w values r0 h0 (fun _ => h0)
    (hplog := fun _ => Preserves.attempt (G.callSame fun _ => ⟨rfl, rfl⟩))
    (hstores := fun _ => (foot_rollbackStores w).keeps Reads.frame) (hadded := fun _ => pres_rollbackAdded pre)
    (hremoved := fun _ => pres_rollbackRemoved) (hupdated := fun _ => pres_rollbackUpdated pre) (hskip := fun _ _ h => h)
    (hkeys := gen_unlockNodesKeys) (hroots := fun _ => pres_rollbackNewRoots pre) (hvalues := fun _ _ => pres_rollbackValues pre)
    (hitems := fun _ => Preserves.attempt (gen_unlockItems w)) (hcreated := fun _ => pres_removeCreatedStores pre)
    (htlog := Preserves.attempt (G.callSame fun _ => ⟨rfl, rfl⟩)) (hend := P.modify _ fun _ => ⟨rfl, rfl⟩)

theorem pres_phase1Body (pre : Pre s0 w fresh0) : Preserves I (phase1Body w) :=
  Keeps.bind (gen_logStep _) fun _ => Keeps.bind pres_addValues fun _ =>
  Keeps.bind (gen_logStep _) fun _ =>
  Keeps.bind (pres_commitNewRoots pre) fun _ => Triple.ite (fun _ => Keeps.pure _) fun _ =>
  Keeps.bind (gen_logStep _) fun _ =>
  Keeps.bind (gen_fetchedIntact w) fun _ => Triple.ite (fun _ => Keeps.pure _) fun _ =>
  Keeps.bind pres_commitUpdated fun _ =>
  Keeps.bind (gen_logStep _) fun _ => Triple.ite (fun _ => Keeps.pure _) fun _ =>
  Keeps.bind (gen_logStep _) fun _ =>
  Keeps.bind pres_commitRemoved fun _ => Triple.ite (fun _ => Keeps.pure _) fun _ =>
  Keeps.bind (gen_logStep _) fun _ => Keeps.void (pres_commitAdded pre)

theorem pres_phase1 (pre : Pre s0 w fresh0) (n : Nat) : Preserves I (phase1 w n) :=
  Triple.conseq (phase1_rule (A0 := I) (A' := I) (G := I) (B := I) (Bc := I) (C := I) (Q1 := fun _ => I) w n (gen_logStep _)
      (gen_lockItems w) (gen_mergeNodesKeys w) gen_lockNodes (fun _ => Preserves.attempt ((foot_unlockKeys _).keeps Reads.frame))
      (fun _ h => h.congr rfl rfl rfl) (pres_phase1Body pre).bothArms (fun _ h => h) (pres_rollback pre false)
      (fun _ h => h.congr rfl rfl rfl) (gen_finishPhase1 w))
    (fun _ h => h) (fun _ _ h => by split at h <;> exact h) fun _ h => h

end

/-- **Phase 1 and its rollback are invisible at the node level, whatever fails.** From a state and write set
satisfying `Pre`, for every fault, transaction id and retry cap: when `phase1` ends — normally (the gap before
phase 2) or by raising at the failing call — every node that was loadable at the start is still loadable with the
same blob id and the same version. -/
theorem phase1_keeps_views {s0 : State} {w : WS} {fresh0 : List (UUID × UUID)} (pre : Pre s0 w fresh0)
    (fault : Option Fault) {cs0 : Step} (tid : Tid) (n : Nat) :
    match phase1 w n { s := s0, tid := tid, fault := fault, fresh := fresh0, cs := cs0 } with
    | .ok (_, r) => ∀ lid, (s0.view lid).isSome → r.s.view lid = s0.view lid
    | .error r => ∀ lid, (s0.view lid).isSome → r.s.view lid = s0.view lid := by
  have h := pres_phase1 pre n { s := s0, tid := tid, fault := fault, fresh := fresh0, cs := cs0 }
    (.init pre rfl rfl)
  cases hr : phase1 w n { s := s0, tid := tid, fault := fault, fresh := fresh0, cs := cs0 } with
  | error r => rw [hr] at h; exact h.sinv.stable
  | ok p => obtain ⟨a, r⟩ := p; rw [hr] at h; exact h.sinv.stable

/-- a commit that fails in phase 1 (error or conflict round), from any start run: the run invariant holds at the end -/
theorem commit_phase1_failure_rinv {s0 : State} {w : WS} {fresh0 : List (UUID × UUID)} (pre : Pre s0 w fresh0) {n : Nat} {r0 r1 : Run}
    (h0 : RInv s0 w fresh0 r0) (h1 : phase1 w n r0 = .error r1) : RInv s0 w fresh0 (commit w n r0).2 := by
  have h := (pres_phase1 pre n).of_error h0 h1
  cases hc : r1.conflicted with
  | true => rw [commit_of_phase1_conflict h1 hc]; exact h
  | false => exact commit_of_phase1_error h1 hc (pres_rollback pre true) (fun _ h => h) h

/-- **A commit that fails in phase 1 (error or conflict round) leaves every node as it was**, after its live
rollback has run — for every fault position and kind, including faults that hit the rollback's own calls. -/
theorem commit_phase1_failure_keeps_views {s0 : State} {w : WS} {fresh0 : List (UUID × UUID)} (pre : Pre s0 w fresh0)
    (fault : Option Fault) {cs0 : Step} (tid : Tid) (n : Nat) (r1 : Run)
    (hf : phase1 w n { s := s0, tid := tid, fault := fault, fresh := fresh0, cs := cs0 } = .error r1) :
    ∀ lid, (s0.view lid).isSome →
      (commit w n { s := s0, tid := tid, fault := fault, fresh := fresh0, cs := cs0 }).2.s.view lid = s0.view lid :=
  (commit_phase1_failure_rinv pre (.init pre rfl rfl) hf).sinv.stable

end Sop.Commit
