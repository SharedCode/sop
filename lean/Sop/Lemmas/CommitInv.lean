import Sop.Lemmas.Commit
/-!
The state invariant behind "nothing a transaction does before its commit point is visible" (C01 error half, C03,
C10): relative to the state `s0` the transaction started from, every node that was loadable in `s0` is still
loadable with the same active blob id and version, and every physical id in the registry has a known provenance
(so that the ids the undo routines delete can be shown to be nobody's active id).
-/
namespace Sop.Commit

/-- ids of the nodes the transaction creates (their logical id is also their first blob id) -/
def WS.newIds (w : WS) : List UUID := w.rootIds ++ w.addedIds

/-- what is assumed of the starting state, the write set and the ids the run will generate -/
structure Pre (s0 : State) (w : WS) (fresh0 : List (UUID × UUID)) : Prop where
  regwf : ∀ i h, s0.reg i = some h → h.lid = i
  /-- the new nodes' ids are not registered yet (this transaction really creates them) -/
  newAbsent : ∀ i ∈ w.newIds, s0.reg i = none
  /-- new node ids and generated ids are nobody's active id -/
  actNew : ∀ i h, s0.reg i = some h → h.active ∉ w.newIds
  actFresh : ∀ i h, s0.reg i = some h → ∀ p ∈ fresh0, p.2 ≠ h.active
  /-- physical ids are not shared: an inactive id in use is nobody's active id and not a new node's id -/
  inactAct : ∀ i j h h', s0.reg i = some h → s0.reg j = some h' → h.inactive ≠ 0 → h.inactive ≠ h'.active
  inactNew : ∀ i h, s0.reg i = some h → h.inactive ≠ 0 → h.inactive ∉ w.newIds
  freshNew : ∀ p ∈ fresh0, p.2 ∉ w.newIds
  /-- separate-segment value blobs carry item ids, never a node's physical id -/
  actValues : ∀ i h, s0.reg i = some h → h.active ∉ w.values

/-- provenance of an active id at logical id `i` -/
def ActOK (s0 : State) (w : WS) (i a : UUID) : Prop :=
  (i ∈ w.newIds ∧ a = i) ∨ ∃ h0, s0.reg i = some h0 ∧ a = h0.active

/-- provenance of an inactive id at logical id `i` -/
def InactOK (s0 : State) (fresh0 : List (UUID × UUID)) (i x : UUID) : Prop :=
  x = 0 ∨ (∃ h0, s0.reg i = some h0 ∧ x = h0.inactive) ∨ ∃ p ∈ fresh0, p.2 = x

structure SInv (s0 : State) (w : WS) (fresh0 : List (UUID × UUID)) (s : State) : Prop where
  regwf : ∀ i h, s.reg i = some h → h.lid = i
  /-- every node loadable at the start is loadable now, same blob id, same version -/
  stable : ∀ lid, (s0.view lid).isSome → s.view lid = s0.view lid
  prov : ∀ i h, s.reg i = some h → ActOK s0 w i h.active ∧ InactOK s0 fresh0 i h.inactive

theorem SInv.init (s0 : State) (w : WS) (fresh0 : List (UUID × UUID)) (pre : Pre s0 w fresh0) : SInv s0 w fresh0 s0 :=
  ⟨pre.regwf, fun _ _ => rfl, fun i h e => ⟨.inr ⟨h, e, rfl⟩, .inr (.inl ⟨h, e, rfl⟩)⟩⟩

/-- an inactive id that is in use is never an active id (of the same or another handle) -/
theorem act_ne_inact {s0 : State} {w : WS} {fresh0 : List (UUID × UUID)} (pre : Pre s0 w fresh0)
    {i j a x : UUID} (ha : ActOK s0 w j a) (hx : InactOK s0 fresh0 i x) (hx0 : x ≠ 0) : x ≠ a := by
  rcases hx with h0 | ⟨h0, e0, rfl⟩ | ⟨p, hp, rfl⟩
  · exact absurd h0 hx0
  · rcases ha with ⟨hn, rfl⟩ | ⟨h1, e1, rfl⟩
    · intro e; exact pre.inactNew i h0 e0 hx0 (e ▸ hn)
    · exact pre.inactAct i j h0 h1 e0 e1 hx0
  · rcases ha with ⟨hn, rfl⟩ | ⟨h1, e1, rfl⟩
    · intro e; exact pre.freshNew p hp (e ▸ hn)
    · exact pre.actFresh j h1 e1 p hp

theorem SInv.loadable_active {s0 : State} {w : WS} {fresh0 : List (UUID × UUID)} {s : State} (inv : SInv s0 w fresh0 s)
    {lid : UUID} (hl : (s0.view lid).isSome) :
    ∃ h h0, s.reg lid = some h ∧ s0.reg lid = some h0 ∧ h.active = h0.active ∧ h.version = h0.version ∧ s.blob h.active = true := by
  obtain ⟨h0, e0, b0⟩ := State.view_isSome.mp hl
  have e := inv.stable lid hl
  rw [State.view_of_reg e0, if_pos b0] at e
  obtain ⟨h, er, hb, ea, ev⟩ := State.view_eq_some.mp e
  exact ⟨h, h0, er, e0, ea, ev, hb⟩

theorem SInv.addBlobs {s0 : State} {w : WS} {fresh0 : List (UUID × UUID)} {s : State} (inv : SInv s0 w fresh0 s)
    (ids : List UUID) : SInv s0 w fresh0 (s.addBlobs ids) := by
  refine ⟨?_, ?_, ?_⟩
  · intro i h e; rw [State.addBlobs_reg] at e; exact inv.regwf i h e
  · intro lid hl
    rw [view_addBlobs_of_loadable s ids lid (by rw [inv.stable lid hl]; exact hl)]
    exact inv.stable lid hl
  · intro i h e; rw [State.addBlobs_reg] at e; exact inv.prov i h e

theorem SInv.delRegs {s0 : State} {w : WS} {fresh0 : List (UUID × UUID)} {s : State} (pre : Pre s0 w fresh0)
    (inv : SInv s0 w fresh0 s) (ids : List UUID) (hids : ∀ x ∈ ids, x ∈ w.newIds) :
    SInv s0 w fresh0 (s.delRegs ids) := by
  refine ⟨?_, ?_, ?_⟩
  · intro i h e; exact inv.regwf i h (State.delRegs_reg_sub s ids i h e)
  · intro lid hl
    have hnot : lid ∉ ids := by
      intro hm
      rw [State.view_of_unreg (pre.newAbsent lid (hids lid hm))] at hl; cases hl
    exact (view_congr_at (State.delRegs_reg_of_not_mem s ids lid hnot) (State.delRegs_blob s ids)).trans (inv.stable lid hl)
  · intro i h e; exact inv.prov i h (State.delRegs_reg_sub s ids i h e)

theorem SInv.of_same {s0 : State} {w : WS} {fresh0 : List (UUID × UUID)} {s s' : State} (inv : SInv s0 w fresh0 s)
    (hr : s'.reg = s.reg) (hb : s'.blob = s.blob) : SInv s0 w fresh0 s' := by
  refine ⟨?_, ?_, ?_⟩
  · intro i h e; rw [hr] at e; exact inv.regwf i h e
  · intro lid hl
    rw [view_congr hr hb lid]; exact inv.stable lid hl
  · intro i h e; rw [hr] at e; exact inv.prov i h e

/-- a handle image whose ids have a known provenance and which, if its node was loadable at the start, still
shows the start state's active id and version (only then: a handle whose blob was missing at the start shows nothing to
any reader and may be overwritten freely) -/
def Known (s0 : State) (w : WS) (fresh0 : List (UUID × UUID)) (h : Handle) : Prop :=
  ActOK s0 w h.lid h.active ∧ InactOK s0 fresh0 h.lid h.inactive ∧
    ∀ h0, s0.reg h.lid = some h0 → (s0.view h.lid).isSome → h.active = h0.active ∧ h.version = h0.version

theorem SInv.known {s0 : State} {w : WS} {fresh0 : List (UUID × UUID)} {s : State} (inv : SInv s0 w fresh0 s)
    {i : UUID} {h : Handle} (e : s.reg i = some h) : Known s0 w fresh0 h := by
  have hl := inv.regwf i h e
  subst hl
  refine ⟨(inv.prov _ h e).1, (inv.prov _ h e).2, ?_⟩
  intro h0 e0 hv
  obtain ⟨g, g0, a, b, c, d, _⟩ := inv.loadable_active hv
  rw [e] at a; cases a
  rw [e0] at b; cases b
  exact ⟨c, d⟩

theorem SInv.known_of_filterMap {s0 : State} {w : WS} {fresh0 : List (UUID × UUID)} {s : State} (inv : SInv s0 w fresh0 s)
    (ids : List UUID) : ∀ h ∈ ids.filterMap s.reg, Known s0 w fresh0 h := by
  intro h hm
  obtain ⟨i, _, e⟩ := List.mem_filterMap.mp hm
  exact inv.known e

theorem SInv.setRegs_known {s0 : State} {w : WS} {fresh0 : List (UUID × UUID)} {s : State} (inv : SInv s0 w fresh0 s)
    (hs : List Handle) (hk : ∀ h ∈ hs, Known s0 w fresh0 h) : SInv s0 w fresh0 (s.setRegs hs) := by
  refine ⟨?_, ?_, ?_⟩
  · intro i h e
    by_cases hx : ∃ x ∈ hs, x.lid = i
    · obtain ⟨x, hx, e1, e2⟩ := State.setRegs_reg_mem s hs i hx
      rw [e2] at e; cases e; exact e1
    · rw [State.setRegs_reg_of_not_mem s hs i (fun x hx' e' => hx ⟨x, hx', e'⟩)] at e
      exact inv.regwf i h e
  · intro lid hl
    by_cases hx : ∃ x ∈ hs, x.lid = lid
    · obtain ⟨x, hxm, e1, e2⟩ := State.setRegs_reg_mem s hs lid hx
      obtain ⟨g, g0, a, b, c, d, bl⟩ := inv.loadable_active hl
      obtain ⟨_, _, k3⟩ := hk x hxm
      rw [e1] at k3
      obtain ⟨ka, kv⟩ := k3 g0 b hl
      obtain ⟨g0', b', hb0⟩ := State.view_isSome.mp hl
      rw [b] at b'; cases b'
      rw [State.view_of_reg b, if_pos hb0]
      exact State.view_eq_some.mpr ⟨x, e2, by rw [State.setRegs_blob, ka, ← c]; exact bl, ka, kv⟩
    · exact (view_congr_at (State.setRegs_reg_of_not_mem s hs lid fun x hx' e' => hx ⟨x, hx', e'⟩) (State.setRegs_blob s hs)).trans
        (inv.stable lid hl)
  · intro i h e
    by_cases hx : ∃ x ∈ hs, x.lid = i
    · obtain ⟨x, hxm, e1, e2⟩ := State.setRegs_reg_mem s hs i hx
      rw [e2] at e; cases e
      obtain ⟨k1, k2, _⟩ := hk h hxm
      rw [e1] at k1 k2
      exact ⟨k1, k2⟩
    · rw [State.setRegs_reg_of_not_mem s hs i (fun x hx' e' => hx ⟨x, hx', e'⟩)] at e
      exact inv.prov i h e

theorem SInv.delBlobs_static {s0 : State} {w : WS} {fresh0 : List (UUID × UUID)} {s : State} (pre : Pre s0 w fresh0)
    (inv : SInv s0 w fresh0 s) (ids : List UUID)
    (hids : ∀ x ∈ ids, x ∈ w.newIds ∨ x ∈ w.values ∨ (x ≠ 0 ∧ ∃ i, InactOK s0 fresh0 i x)) :
    SInv s0 w fresh0 (s.delBlobs ids) := by
  refine ⟨?_, ?_, ?_⟩
  · intro i h e; rw [State.delBlobs_reg] at e; exact inv.regwf i h e
  · intro lid hl
    obtain ⟨h, h0, e1, e2, e3, _, _⟩ := inv.loadable_active hl
    rw [view_delBlobs_of_inactive s ids lid (by
      intro g eg hm
      rw [e1] at eg; cases eg
      rcases hids _ hm with hn | hv | ⟨hx0, i, hi⟩
      · exact pre.actNew lid h0 e2 (e3 ▸ hn)
      · exact pre.actValues lid h0 e2 (e3 ▸ hv)
      · exact act_ne_inact pre (i := i) (j := lid) (.inr ⟨h0, e2, e3⟩) hi hx0 rfl)]
    exact inv.stable lid hl
  · intro i h e; rw [State.delBlobs_reg] at e; exact inv.prov i h e

theorem known_new {s0 : State} {w : WS} {fresh0 : List (UUID × UUID)} (pre : Pre s0 w fresh0)
    (h : Handle) (hl : h.lid ∈ w.newIds) (ha : h.active = h.lid) (hi : h.inactive = 0) : Known s0 w fresh0 h :=
  ⟨.inl ⟨hl, ha⟩, .inl hi, fun h0 e0 _ => by rw [pre.newAbsent _ hl] at e0; cases e0⟩

theorem known_congr {s0 : State} {w : WS} {fresh0 : List (UUID × UUID)} {h h' : Handle} (hk : Known s0 w fresh0 h)
    (e1 : h'.lid = h.lid) (e2 : h'.active = h.active) (e3 : h'.version = h.version)
    (e4 : InactOK s0 fresh0 h.lid h'.inactive) : Known s0 w fresh0 h' := by
  obtain ⟨k1, _, k3⟩ := hk
  unfold Known
  rw [e1, e2, e3]
  exact ⟨k1, e4, k3⟩

-- three special cases of `setRegs_known` and `delBlobs_static`; no user in the development

/-- overwrite handles by images that keep the active id and the version (reserve, mark removed, clear, undo) -/
theorem SInv.setRegs_same {s0 : State} {w : WS} {fresh0 : List (UUID × UUID)} {s : State} (inv : SInv s0 w fresh0 s)
    (hs : List Handle)
    (hsame : ∀ h' ∈ hs, ∃ h, s.reg h'.lid = some h ∧ h'.active = h.active ∧ h'.version = h.version ∧
        InactOK s0 fresh0 h'.lid h'.inactive) :
    SInv s0 w fresh0 (s.setRegs hs) :=
  inv.setRegs_known hs fun h' hm => by
    obtain ⟨h, e, a, v, io⟩ := hsame h' hm
    have hl := inv.regwf _ h e
    exact known_congr (inv.known e) hl.symm a v (hl ▸ io)

theorem SInv.setRegs_new {s0 : State} {w : WS} {fresh0 : List (UUID × UUID)} {s : State} (pre : Pre s0 w fresh0)
    (inv : SInv s0 w fresh0 s) (hs : List Handle)
    (hnew : ∀ h ∈ hs, h.lid ∈ w.newIds ∧ h.active = h.lid ∧ h.inactive = 0) :
    SInv s0 w fresh0 (s.setRegs hs) :=
  inv.setRegs_known hs fun h hm => known_new pre h (hnew h hm).1 (hnew h hm).2.1 (hnew h hm).2.2

/-- deleting blobs whose ids are new-node ids or inactive ids currently in use -/
theorem SInv.delBlobs {s0 : State} {w : WS} {fresh0 : List (UUID × UUID)} {s : State} (pre : Pre s0 w fresh0)
    (inv : SInv s0 w fresh0 s) (ids : List UUID)
    (hids : ∀ x ∈ ids, x ∈ w.newIds ∨ (x ≠ 0 ∧ ∃ i h, s.reg i = some h ∧ h.inactive = x)) :
    SInv s0 w fresh0 (s.delBlobs ids) :=
  inv.delBlobs_static pre ids fun x hx => (hids x hx).imp id fun ⟨h0, i, h, e, ex⟩ =>
    .inr ⟨h0, i, ex ▸ (inv.prov i h e).2⟩

end Sop.Commit
