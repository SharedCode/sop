import Sop.Lemmas.BTreeRemove
/-! Remove side of Model B (C17): what is known of a node reachable from the root of a well-formed tree, read off its
context `Ctx` (`reach_facts` is in BTreeRemove): its record (`wfs_node_facts`), its parent and the place it has there
(`parent_of`). -/
namespace Sop.BTree.Rem
open Sop.BTree

theorem wfs_node_facts {t : BTree} (hwf : WFs t) {n : NodeId} {nd : Node}
    (hin : n ∈ reach t (t.nodes.length + 1) t.root) (hg : t.get? n = some nd) :
    NodeShape t nd ∧ (n = t.root → nd.parent = 0) := by
  have hw := hwf.toWFR
  obtain ⟨f, p, pre, post, hctx⟩ := Ctx.of_reach hw _ _ _ _ _ n Ctx.root hin
  refine ⟨hctx.nodeShape hw hg, fun hr => ?_⟩
  subst hr
  exact (Ctx.root (t := t)).parent_eq hw hg

theorem cur_live {t : BTree} (hwf : WF t) (hc : CursorOn t) {nd : Node} (hg : t.get? t.cur.node = some nd) :
    (nd.slot t.cur.idx.toNat).id ≠ 0 := by
  obtain ⟨f', p', lo', hi', _, hwn, _, _⟩ := reach_facts (hwf.wfr (root_ne_zero_of_reach hc.1)) hc.1
  obtain ⟨_, h0, h1⟩ := hc
  rw [get_of_get? hg] at h1
  exact slot_live hwn hg (by omega)

theorem kids_leaf_zero {nd : Node} (hleaf : nd.children = none) {i : Nat} {n : NodeId} (h : nd.kids[i]? = some n) : n = 0 := by
  rw [Node.kids_none hleaf] at h
  exact List.eq_of_mem_replicate (List.mem_of_getElem? h)

/-- a reachable node `n` other than the root, seen from its parent `p`: `n` is kid `i` there -/
structure ParentOf (t : BTree) (n : NodeId) (nd : Node) (p : NodeId) (pn : Node) (cs : Array NodeId) (i : Nat) : Prop where
  mem : p ∈ reach t (t.nodes.length + 1) t.root
  get : t.get? p = some pn
  parent : nd.parent = p
  ne_zero : p ≠ 0
  ne : p ≠ n
  shape : NodeShape t pn
  children : pn.children = some cs
  le : i ≤ pn.count
  entry : cs.getD i 0 = n

/-- the last step of the node's context is that place -/
theorem parent_of {t : BTree} (hw : WFR t) {n : NodeId} {nd : Node} (hin : n ∈ reach t (t.nodes.length + 1) t.root)
    (hgn : t.get? n = some nd) (hnr : n ≠ t.root) : ∃ p pn cs i, ParentOf t n nd p pn cs i := by
  obtain ⟨f, p, pre, post, hctx⟩ := Ctx.of_reach hw _ _ _ _ _ n Ctx.root hin
  have hpar := hctx.parent_eq hw hgn
  obtain ⟨_, _, _, hwn⟩ := hctx.wf hw
  cases hctx with
  | root => exact absurd rfl hnr
  | @child f p pp pre post pn i c hp hg hi hc hc0 =>
    obtain ⟨hs, _, _, hp0, _⟩ := hp.shape hw hg
    obtain ⟨_, _, _, hwp⟩ := hp.wf hw
    have hki : pn.kids[i]? = some n := hc ▸ kids_getElem?_child hs hi
    obtain ⟨cs, hcs⟩ : ∃ cs, pn.children = some cs := by
      cases hch : pn.children with
      | none => exact absurd (kids_leaf_zero hch hki) hc0
      | some cs => exact ⟨cs, rfl⟩
    refine ⟨p, pn, cs, i, hp.reach_sub hw p (self_mem_reach hwp), hg, hpar, hp0, ?_, hs, hcs, hi, ?_⟩
    · -- `n` lies below `p` in the duplicate-free subtree of `p`
      rintro rfl
      have hnd := hp.nodup hw
      rw [reach_kids f hp0 hg] at hnd
      exact (List.nodup_cons.mp hnd).1 (List.mem_flatMap.mpr ⟨p, List.mem_of_getElem? hki, self_mem_reach hwn⟩)
    · rw [← hc]; unfold Node.child; rw [hcs]; rfl

/-! The same questions asked of a subtree that need not hang under a well-formed root (no `Nodup`, any fuel). The
removal proofs start at the root and use the lemmas above; these four have no user in the development. -/

theorem wfNode_of_reach (t : BTree) : ∀ (f : Nat) (m p : NodeId) (lo hi : Option Int) (n : NodeId),
    WFNode t f m p lo hi → n ∈ reach t f m → ∃ f' p' lo' hi', f' ≤ f ∧ WFNode t f' n p' lo' hi'
  | 0, _, _, _, _, _, h, _ => absurd h (by simp [WFNode])
  | f + 1, m, p, lo, hi, n, h, hin => by
    obtain ⟨hn, nd, hg, _⟩ := id h
    obtain ⟨_, _, _, _, hk⟩ := wfNode_kids h hg
    rw [reach_kids f hn hg] at hin
    rcases List.mem_cons.mp hin with rfl | hin
    · exact ⟨_, _, _, _, Nat.le_refl _, h⟩
    · obtain ⟨c, hc, hnc⟩ := List.mem_flatMap.mp hin
      rcases KidsOk.mem _ _ _ _ hk c hc with rfl | ⟨l, h', hw⟩
      · rw [reach_zero] at hnc; simp at hnc
      · obtain ⟨f', p', lo', hi', hle, hw'⟩ := wfNode_of_reach t f c m l h' n hw hnc
        exact ⟨f', p', lo', hi', by omega, hw'⟩

theorem reach_trans (t : BTree) : ∀ (f : Nat) (r q : NodeId) (lo hi : Option Int) (n : NodeId),
    WFNode t f r q lo hi → n ∈ reach t f r → ∀ f' k, f' ≤ f → k ∈ reach t f' n → k ∈ reach t f r
  | 0, _, _, _, _, _, h, _, _, _, _, _ => absurd h (by simp [WFNode])
  | f + 1, r, q, lo, hi, n, h, hin, f', k, hle, hk => by
    obtain ⟨hr0, nd, hg, _⟩ := id h
    obtain ⟨_, _, _, _, hkk⟩ := wfNode_kids h hg
    rw [reach_kids f hr0 hg] at hin ⊢
    rcases List.mem_cons.mp hin with rfl | hin
    · -- `n` heads this subtree: more fuel reaches at least as much
      cases f' with
      | zero => simp [reach] at hk
      | succ f' =>
        rw [reach_kids f' hr0 hg] at hk
        rcases List.mem_cons.mp hk with rfl | hk
        · exact List.mem_cons_self
        · obtain ⟨c, hc, hkc⟩ := List.mem_flatMap.mp hk
          refine List.mem_cons_of_mem _ (List.mem_flatMap.mpr ⟨c, hc, ?_⟩)
          rcases KidsOk.mem _ _ _ _ hkk c hc with rfl | ⟨l, h', hw⟩
          · rw [reach_zero] at hkc; simp at hkc
          · exact reach_trans t f c n l h' c hw (self_mem_reach hw) f' k (by omega) hkc
    · obtain ⟨c, hc, hnc⟩ := List.mem_flatMap.mp hin
      refine List.mem_cons_of_mem _ (List.mem_flatMap.mpr ⟨c, hc, ?_⟩)
      rcases KidsOk.mem _ _ _ _ hkk c hc with rfl | ⟨l, h', hw⟩
      · rw [reach_zero] at hnc; simp at hnc
      · -- `f'` may be `f + 1`: go through the fuel at which `n` is well-formed
        obtain ⟨fn, _, _, _, hfn, hwn⟩ := wfNode_of_reach t f c r l h' n hw hnc
        by_cases hff : f' ≤ f
        · exact reach_trans t f c r l h' n hw hnc f' k hff hk
        · rw [reach_fuel_le t hwn (by omega)] at hk
          exact reach_trans t f c r l h' n hw hnc fn k hfn hk

theorem parent_of_reach (t : BTree) : ∀ (f : Nat) (m q : NodeId) (lo hi : Option Int) (n : NodeId),
    WFNode t f m q lo hi → n ∈ reach t f m → n ≠ m →
      ∃ (p : NodeId) (pn : Node) (i : Nat), p ∈ reach t f m ∧ t.get? p = some pn ∧ pn.kids[i]? = some n ∧ ∃ cn, t.get? n = some cn ∧ cn.parent = p
  | 0, _, _, _, _, _, h, _, _ => absurd h (by simp [WFNode])
  | f + 1, m, q, lo, hi, n, h, hin, hne => by
    obtain ⟨hm0, nd, hg, _⟩ := id h
    obtain ⟨_, _, hs, _, hk⟩ := wfNode_kids h hg
    rw [reach_kids f hm0 hg] at hin ⊢
    rcases List.mem_cons.mp hin with h1 | hin
    · exact absurd h1 hne
    · obtain ⟨c, hc, hnc⟩ := List.mem_flatMap.mp hin
      rcases KidsOk.mem _ _ _ _ hk c hc with rfl | ⟨l, h', hw⟩
      · rw [reach_zero] at hnc; simp at hnc
      · by_cases hnc' : n = c
        · subst hnc'
          obtain ⟨i, hi⟩ := List.getElem?_of_mem hc
          cases f with
          | zero => exact absurd hw (by simp [WFNode])
          | succ f =>
            obtain ⟨_, cn, hgc, hpc, _⟩ := hw
            exact ⟨m, nd, i, List.mem_cons_self, hg, hi, cn, hgc, hpc⟩
        · obtain ⟨p, pn, i, hp, hgp, hi, hcn⟩ := parent_of_reach t f c m l h' n hw hnc hnc'
          exact ⟨p, pn, i, List.mem_cons_of_mem _ (List.mem_flatMap.mpr ⟨c, hc, hp⟩), hgp, hi, hcn⟩

/-- with `Nodup`: the inner subtree is duplicate-free too, and lies inside the outer one -/
theorem sub_nodup (t : BTree) : ∀ (f : Nat) (r q : NodeId) (lo hi : Option Int) (n : NodeId),
    WFNode t f r q lo hi → (reach t f r).Nodup → n ∈ reach t f r →
      ∃ f' p' lo' hi', f' ≤ f ∧ WFNode t f' n p' lo' hi' ∧ (reach t f' n).Nodup ∧ ∀ k ∈ reach t f' n, k ∈ reach t f r
  | 0, _, _, _, _, _, h, _, _ => absurd h (by simp [WFNode])
  | f + 1, r, q, lo, hi, n, h, hnd, hn => by
    obtain ⟨_, nd, hg, _⟩ := id h
    rw [h.reach_kids hg] at hn hnd ⊢
    rcases List.mem_cons.mp hn with rfl | hn
    · exact ⟨f + 1, q, lo, hi, Nat.le_refl _, h, by rw [h.reach_kids hg]; exact hnd, by rw [h.reach_kids hg]; exact fun _ hk => hk⟩
    · obtain ⟨c, hc, hnc⟩ := List.mem_flatMap.mp hn
      have hc0 : c ≠ 0 := fun e => by rw [e, reach_zero] at hnc; cases hnc
      obtain ⟨f', p', lo', hi', hf, hw, hnd', hsub⟩ := sub_nodup t f c r none none n (h.kid_mem hg hc hc0)
        (nodup_flatMap_mem _ _ (List.nodup_cons.mp hnd).2 c hc) hnc
      exact ⟨f', p', lo', hi', Nat.le_succ_of_le hf, hw, hnd',
        fun k hk => List.mem_cons_of_mem _ (List.mem_flatMap.mpr ⟨c, hc, hsub k hk⟩)⟩

end Sop.BTree.Rem
