/-! Lists used as finite maps. The models write their own lookups and removals, in two styles: by recursion on the list, or as
`find?` on a test of the key with `filter` for removal. For the second: two laws of `find?` under `filter`, over arbitrary tests
(each model spells its test differently: `==`, `decide (· = ·)`, `!=`). For the first: `IsLookup`/`IsErase`, the two defining
equations (`rfl` for a recursive definition; `Replication.get`, written with `find?`, proves them as lemmas to get the same laws),
and the laws of lookup under removal, filtering and appending, and in a list with distinct keys. -/
namespace Sop.Assoc

section find
variable {ε : Type u} {p q : ε → Bool}

theorem find?_congr_mem : ∀ {l : List ε}, (∀ e ∈ l, p e = q e) → l.find? p = l.find? q
  | [], _ => rfl
  | e :: l, h => by
    rw [List.find?_cons, List.find?_cons, h e List.mem_cons_self,
      find?_congr_mem fun e' he' => h e' (List.mem_cons_of_mem _ he')]

theorem find?_filter_keep {l : List ε} (h : ∀ e ∈ l, q e = true → p e = true) : (l.filter p).find? q = l.find? q := by
  rw [List.find?_filter]
  refine find?_congr_mem fun e he => ?_
  cases hq : q e with
  | false => simp
  | true => simp [h e he hq]

theorem find?_filter_drop {l : List ε} (h : ∀ e ∈ l, q e = true → p e = false) : (l.filter p).find? q = none :=
  List.find?_eq_none.mpr fun e he hq => by
    obtain ⟨hl, hp⟩ := List.mem_filter.mp he
    rw [h e hl hq] at hp; cases hp

end find

variable {κ ν : Type} [DecidableEq κ]

structure IsLookup (look : List (κ × ν) → κ → Option ν) : Prop where
  nil : ∀ k, look [] k = none
  cons : ∀ e r k, look (e :: r) k = if e.1 = k then some e.2 else look r k

structure IsErase (er : List (κ × ν) → κ → List (κ × ν)) : Prop where
  nil : ∀ k, er [] k = []
  cons : ∀ e r k, er (e :: r) k = if e.1 = k then er r k else e :: er r k

theorem IsErase.eq_filter {er : List (κ × ν) → κ → List (κ × ν)} (he : IsErase er) (l : List (κ × ν)) (i : κ) :
    er l i = l.filter fun e => !decide (e.1 = i) := by
  induction l with
  | nil => exact he.nil i
  | cons e r ih =>
    rw [he.cons, ih]
    by_cases h : e.1 = i
    · rw [if_pos h, List.filter_cons_of_neg (by simp [h])]
    · rw [if_neg h, List.filter_cons_of_pos (by simp [h])]

variable {look : List (κ × ν) → κ → Option ν} (hl : IsLookup look)
include hl

/-- the recursive style is the `find?` style -/
theorem look_eq_find? (l : List (κ × ν)) (k : κ) : look l k = (l.find? fun e => decide (e.1 = k)).map (·.2) := by
  induction l with
  | nil => exact hl.nil k
  | cons e r ih =>
    rw [hl.cons, List.find?_cons, ih]
    by_cases h : e.1 = k
    · rw [if_pos h, decide_eq_true h]; rfl
    · rw [if_neg h, decide_eq_false h]

theorem look_mem {l : List (κ × ν)} {k : κ} {v : ν} (h : look l k = some v) : (k, v) ∈ l := by
  rw [look_eq_find? hl, Option.map_eq_some_iff] at h
  obtain ⟨e, he, rfl⟩ := h
  have hk : e.1 = k := of_decide_eq_true (List.find?_some (p := fun e : κ × ν => decide (e.1 = k)) he)
  exact hk ▸ List.mem_of_find?_eq_some he

theorem look_eq_none {l : List (κ × ν)} {k : κ} : look l k = none ↔ ∀ e ∈ l, e.1 ≠ k := by
  rw [look_eq_find? hl, Option.map_eq_none_iff, List.find?_eq_none]
  exact forall₂_congr fun _ _ => by rw [decide_eq_true_eq]

theorem look_of_mem {l : List (κ × ν)} {k : κ} {v : ν} (hn : l.Pairwise fun a b => a.1 ≠ b.1) (h : (k, v) ∈ l) :
    look l k = some v := by
  induction l with
  | nil => cases h
  | cons e r ih =>
    obtain ⟨he, hr⟩ := List.pairwise_cons.1 hn
    rw [hl.cons]
    rcases List.mem_cons.1 h with rfl | h
    · exact if_pos rfl
    · rw [if_neg (he _ h), ih hr h]

theorem look_filterKey (P : κ → Bool) (l : List (κ × ν)) (j : κ) :
    look (l.filter fun e => P e.1) j = if P j then look l j else none := by
  rw [look_eq_find? hl, look_eq_find? hl]
  cases hp : P j with
  | true => rw [find?_filter_keep fun e _ he => by rw [of_decide_eq_true he]; exact hp]; rfl
  | false => rw [find?_filter_drop fun e _ he => by rw [of_decide_eq_true he]; exact hp]; rfl

/-- removal of a key written as a filter, whatever the spelling of its test -/
theorem look_filter {p : κ × ν → Bool} {i : κ} (hp : ∀ e, p e = true ↔ e.1 ≠ i) (l : List (κ × ν)) (j : κ) :
    look (l.filter p) j = if j = i then none else look l j := by
  have : l.filter p = l.filter fun e => decide (e.1 ≠ i) :=
    List.filter_congr fun e _ => Bool.eq_iff_iff.mpr ((hp e).trans decide_eq_true_iff.symm)
  rw [this]
  refine (look_filterKey hl (fun k => decide (k ≠ i)) l j).trans ?_
  by_cases hj : j = i
  · rw [if_pos hj, if_neg (by simp [hj])]
  · rw [if_neg hj, if_pos (by simp [hj])]

theorem look_erase {er : List (κ × ν) → κ → List (κ × ν)} (he : IsErase er) (l : List (κ × ν)) (i j : κ) :
    look (er l i) j = if j = i then none else look l j := by
  rw [he.eq_filter]
  exact look_filter hl (fun e => by simp) l j

theorem look_append (l l' : List (κ × ν)) (k : κ) : look (l ++ l') k = (look l k).or (look l' k) := by
  induction l with
  | nil => rw [List.nil_append, hl.nil]; rfl
  | cons e r ih =>
    rw [List.cons_append, hl.cons, hl.cons, ih]
    split <;> rfl

end Sop.Assoc
