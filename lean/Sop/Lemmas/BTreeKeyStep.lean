import Sop.Lemmas.BTreeCtx
/-! One step of a descent by key (`node.find`, `node.findInDescendingOrder`, `node.add`): the index the in-node search
returns cuts a node of a sorted tree into what is below the key and what is not. -/
namespace Sop.BTree

theorem sorted_mid {a b : List Item} {x : Item} (h : Sorted (a ++ x :: b)) :
    (∀ y ∈ a, y.key ≤ x.key) ∧ (∀ y ∈ b, x.key ≤ y.key) := by
  have h' := List.pairwise_append.mp h
  exact ⟨fun y hy => h'.2.2 y hy x (List.mem_cons_self), fun y hy => (List.pairwise_cons.mp h'.2.1).1 y hy⟩

theorem items_sublist_weave (g : NodeId → List Item) : ∀ (cs : List NodeId) (is : List Item),
    cs.length = is.length + 1 → is.Sublist (weave g cs is)
  | [], _, h => by simp at h
  | c :: cs, [], _ => List.nil_sublist _
  | c :: cs, i :: is, h => by
    simp only [weave]
    exact List.sublist_append_of_sublist_right
      (List.Sublist.cons_cons i (items_sublist_weave g cs is (by simpa using h)))

/-- the index `node.find` computes in one node (the Go code searches only when `count > 0`) -/
def searchIdx (nd : Node) (k : Int) : Nat :=
  if nd.count > 0 then sortSearch nd.count (fun i => decide ((nd.slot i).key ≥ k)) else 0

theorem searchIdx_spec (nd : Node) (k : Int) (hc : nd.count ≤ nd.slots.size)
    (hs : nd.items.Pairwise (fun a b => a.key ≤ b.key)) :
    searchIdx nd k ≤ nd.count ∧ (∀ x, x < searchIdx nd k → (nd.slot x).key < k) ∧
      (∀ x, searchIdx nd k ≤ x → x < nd.count → k ≤ (nd.slot x).key) := by
  unfold searchIdx
  split
  · exact node_search_lower_bound nd k hc hs
  · exact ⟨Nat.zero_le _, fun x hx => absurd hx (Nat.not_lt_zero _), fun x _ hx => by omega⟩

/-- `g` is any contents of the kids: `A t` with the fuel of the tree on the read side, `absNode t f` on the insert side -/
theorem Node.bounds_of_sorted {t : BTree} {nd : Node} (hsh : NodeShape t nd) (g : NodeId → List Item)
    (hs : Sorted (weave g nd.kids nd.items)) :
    nd.items.Pairwise (fun a b => a.key ≤ b.key) ∧
    ∀ idx, idx ≤ nd.count →
      (∀ x ∈ nd.pre g idx, 0 < idx ∧ x.key ≤ (nd.slot (idx - 1)).key) ∧
      (∀ x ∈ nd.post g idx, idx < nd.count ∧ (nd.slot idx).key ≤ x.key) := by
  have hlen : nd.kids.length = nd.items.length + 1 := by rw [Node.kids_length hsh, Node.items_length hsh]
  refine ⟨hs.sublist (items_sublist_weave _ _ _ hlen), fun idx hle => ?_⟩
  have hsA : Sorted (nd.pre g idx ++ g (nd.kids.getD idx 0) ++ nd.post g idx) := by
    rw [weave_split g idx nd.kids nd.items hlen (by rw [Node.items_length hsh]; exact hle)] at hs; exact hs
  have hsA' := List.pairwise_append.mp hsA
  have hpre := (List.pairwise_append.mp hsA'.1).1
  refine ⟨fun x hx => ?_, fun x hx => ?_⟩
  · cases idx with
    | zero => rw [Node.pre_zero] at hx; cases hx
    | succ j =>
      rw [Node.pre_succ hsh _ hle] at hx hpre
      refine ⟨Nat.succ_pos j, ?_⟩
      rcases List.mem_append.mp hx with hx | hx
      · exact (List.pairwise_append.mp hpre).2.2 x hx _ (List.mem_singleton.mpr rfl)
      · rw [List.mem_singleton.mp hx]; exact Int.le_refl _
  · by_cases hlt : idx < nd.count
    · rw [Node.post_of_lt hsh _ hlt] at hx hsA'
      refine ⟨hlt, ?_⟩
      rcases List.mem_cons.mp hx with rfl | hx
      · exact Int.le_refl _
      · exact (List.pairwise_cons.mp hsA'.2.1).1 x hx
    · rw [Nat.le_antisymm hle (Nat.not_lt.mp hlt), Node.post_count hsh] at hx; cases hx

theorem Node.key_cut {t : BTree} {nd : Node} (hsh : NodeShape t nd) (g : NodeId → List Item)
    (hs : Sorted (weave g nd.kids nd.items)) (k : Int) :
    searchIdx nd k ≤ nd.count ∧ (∀ x ∈ nd.pre g (searchIdx nd k), x.key < k) ∧
      (∀ x ∈ nd.post g (searchIdx nd k), k ≤ x.key) ∧
      (¬ (searchIdx nd k < nd.count ∧ (nd.slot (searchIdx nd k)).key = k) → ∀ x ∈ nd.post g (searchIdx nd k), k < x.key) := by
  obtain ⟨hitems, hb⟩ := Node.bounds_of_sorted hsh g hs
  obtain ⟨hle, hlo, hhi⟩ := searchIdx_spec nd k (by rw [hsh.slots_size]; exact hsh.count_le) hitems
  generalize searchIdx nd k = idx at hle hlo hhi ⊢
  obtain ⟨hA, hB⟩ := hb idx hle
  refine ⟨hle, fun x hx => ?_, fun x hx => ?_, fun hnh x hx => ?_⟩
  · obtain ⟨hpos, h1⟩ := hA x hx
    exact Int.lt_of_le_of_lt h1 (hlo (idx - 1) (Nat.sub_lt hpos Nat.one_pos))
  · obtain ⟨hlt, h1⟩ := hB x hx
    exact Int.le_trans (hhi idx (Nat.le_refl _) hlt) h1
  · obtain ⟨hlt, h1⟩ := hB x hx
    exact Int.lt_of_lt_of_le (Int.lt_iff_le_and_ne.mpr ⟨hhi idx (Nat.le_refl _) hlt, fun e => hnh ⟨hlt, e.symm⟩⟩) h1

theorem Ctx.sorted_node {t₀ : BTree} (hw : WFR t₀) (hsorted : Sorted t₀.abs) {f : Nat} {m p : NodeId}
    {pre post : List Item} {nd : Node} (hctx : Ctx t₀ f m p pre post) (hg : t₀.get? m = some nd) :
    Sorted (weave (A t₀) nd.kids nd.items) := by
  obtain ⟨hf, lo, hi, hwf⟩ := hctx.wf hw
  rw [← A_unfold t₀ hwf hf hg]
  rw [hctx.abs hw] at hsorted
  exact (List.pairwise_append.mp (List.pairwise_append.mp hsorted).1).2.1

theorem find_step {t₀ : BTree} (hw : WFR t₀) (hsorted : Sorted t₀.abs) {f : Nat} {m p : NodeId}
    {pre post : List Item} {nd : Node} (hctx : Ctx t₀ f m p pre post) (hg : t₀.get? m = some nd) (k : Int)
    (hpre : ∀ x ∈ pre, x.key < k) (hpost : ∀ x ∈ post, k ≤ x.key) :
    searchIdx nd k ≤ nd.count ∧
    (∀ x ∈ pre ++ nd.pre (A t₀) (searchIdx nd k), x.key < k) ∧
    (∀ x ∈ nd.post (A t₀) (searchIdx nd k) ++ post, k ≤ x.key) ∧
    (¬ (searchIdx nd k < nd.count ∧ (nd.slot (searchIdx nd k)).key = k) →
      ∀ x ∈ nd.post (A t₀) (searchIdx nd k), k < x.key) := by
  obtain ⟨hle, hA, hB, hC⟩ := Node.key_cut (hctx.nodeShape hw hg) (A t₀) (hctx.sorted_node hw hsorted hg) k
  exact ⟨hle, fun x hx => (List.mem_append.mp hx).elim (hpre x) (hA x),
    fun x hx => (List.mem_append.mp hx).elim (hB x) (hpost x), hC⟩

/-! the same for `node.findInDescendingOrder`, which searches the upper bound -/

def searchIdxD (nd : Node) (k : Int) : Nat :=
  if nd.count > 0 then sortSearch nd.count (fun i => decide ((nd.slot i).key > k)) else 0

theorem searchIdxD_spec (nd : Node) (k : Int) (hc : nd.count ≤ nd.slots.size)
    (hs : nd.items.Pairwise (fun a b => a.key ≤ b.key)) :
    searchIdxD nd k ≤ nd.count ∧ (∀ x, x < searchIdxD nd k → (nd.slot x).key ≤ k) ∧
      (∀ x, searchIdxD nd k ≤ x → x < nd.count → k < (nd.slot x).key) := by
  unfold searchIdxD
  split
  · exact node_search_upper_bound nd k hc hs
  · exact ⟨Nat.zero_le _, fun x hx => absurd hx (Nat.not_lt_zero _), fun x _ hx => by omega⟩

theorem find_step_desc {t₀ : BTree} (hw : WFR t₀) (hsorted : Sorted t₀.abs) {f : Nat} {m p : NodeId}
    {pre post : List Item} {nd : Node} (hctx : Ctx t₀ f m p pre post) (hg : t₀.get? m = some nd) (k : Int)
    (hpre : ∀ x ∈ pre, x.key ≤ k) (hpost : ∀ x ∈ post, k < x.key) :
    searchIdxD nd k ≤ nd.count ∧
    (∀ x ∈ pre ++ nd.pre (A t₀) (searchIdxD nd k), x.key ≤ k) ∧
    (∀ x ∈ nd.post (A t₀) (searchIdxD nd k) ++ post, k < x.key) ∧
    (¬ (searchIdxD nd k > 0 ∧ (nd.slot (searchIdxD nd k - 1)).key = k) →
      ∀ x ∈ nd.pre (A t₀) (searchIdxD nd k), x.key < k) := by
  have hsh := hctx.nodeShape hw hg
  obtain ⟨hitems, hb⟩ := Node.bounds_of_sorted hsh (A t₀) (hctx.sorted_node hw hsorted hg)
  obtain ⟨hle, hlo, hhi⟩ := searchIdxD_spec nd k (by rw [hsh.slots_size]; exact hsh.count_le) hitems
  generalize searchIdxD nd k = idx at hle hlo hhi ⊢
  obtain ⟨hA, hB⟩ := hb idx hle
  refine ⟨hle, fun x hx => ?_, fun x hx => ?_, fun hnh x hx => ?_⟩
  · rcases List.mem_append.mp hx with hx | hx
    · exact hpre x hx
    · obtain ⟨hpos, h1⟩ := hA x hx
      exact Int.le_trans h1 (hlo (idx - 1) (Nat.sub_lt hpos Nat.one_pos))
  · rcases List.mem_append.mp hx with hx | hx
    · obtain ⟨hlt, h1⟩ := hB x hx
      exact Int.lt_of_lt_of_le (hhi idx (Nat.le_refl _) hlt) h1
    · exact hpost x hx
  · obtain ⟨hpos, h1⟩ := hA x hx
    exact Int.lt_of_le_of_lt h1
      (Int.lt_iff_le_and_ne.mpr ⟨hlo (idx - 1) (Nat.sub_lt hpos Nat.one_pos), fun e => hnh ⟨hpos, e⟩⟩)

end Sop.BTree
