import Sop.Lemmas.CommitFlip
/-!
The success half: `commit` returning `ok` — under ANY single fault (a fault that lets the commit succeed can only
have hit a call whose failure the code tolerates: lock release, priority-log removal, cleanup) — ends with every
node the transaction reserved under a staging id other than the nil id (`h.inactive ≠ 0`) showing its staged blob at
version + 1 and every other node that was loadable at the start unchanged. Of a reservation made with the nil id the
statement says nothing.
-/
namespace Sop.Commit

theorem commit_ok_installs {s0 : State} {w : WS} {fresh0 : List (UUID × UUID)} (pre : Pre s0 w fresh0) (pre2 : Pre2 s0 w fresh0)
    (fault : Option Fault) {cs0 : Step} (tid : Tid) (n : Nat) (r2 : Run)
    (hok : commit w n { s := s0, tid := tid, fault := fault, fresh := fresh0, cs := cs0 } = (.ok, r2)) :
    ∃ r1, phase1 w n { s := s0, tid := tid, fault := fault, fresh := fresh0, cs := cs0 } = .ok ((), r1) ∧
      (w.hasTracked = true → r1.reserved.map (fun h => (h.lid, h.version)) = w.updated) ∧
      (∀ h ∈ r1.reserved, h.inactive ≠ 0 → r2.s.view h.lid = some (h.inactive, h.version + 1)) ∧
      (∀ lid, (s0.view lid).isSome → (∀ h ∈ r1.reserved, h.lid ≠ lid) → (∀ g ∈ r1.removedH, g.lid ≠ lid) →
        r2.s.view lid = s0.view lid) := by
  have hj0 : Unstaged s0 w fresh0 { s := s0, tid := tid, fault := fault, fresh := fresh0, cs := cs0 } :=
    (.init pre rfl rfl rfl rfl)
  obtain ⟨r1, e1, e2⟩ := commit_ok_inv hok
  have h1 := (staged_phase1 pre pre2 n).of_ok (e := e1) hj0
  have h2 := (phase2_atomic pre pre2 (h1.1.lists pre2)).of_ok (e := e2) ⟨h1.1, rfl, rfl⟩
  exact ⟨r1, e1, h1.2, fun h hm hz => h2.view_new hm hz, h2.old⟩

end Sop.Commit
