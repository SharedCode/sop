import Sop.Model.BTree
import Sop.Model.OrderedColl
/-! The Prop-level well-formedness `WF`, soundness of the executable checker `checkWF`, and "the in-order abstraction of
a well-formed tree is key-sorted, inside its bounds, and live"; scanning a sorted list from a lower bound, and the
transcribed binary search. -/
namespace Sop.BTree

def LeO (lo : Option Int) (k : Int) : Prop := ∀ l, lo = some l → l ≤ k
def OLe (k : Int) (hi : Option Int) : Prop := ∀ h, hi = some h → k ≤ h

def ItemsOk (lo hi : Option Int) : List Item → Prop
  | [] => True
  | i :: is => LeO lo i.key ∧ OLe i.key hi ∧ i.id ≠ 0 ∧ ItemsOk (some i.key) hi is

def KidsOk (P : NodeId → Option Int → Option Int → Prop) (lo hi : Option Int) : List NodeId → List Item → Prop
  | [], _ => True
  | c :: cs, [] => (c = 0 ∨ P c lo hi) ∧ cs = []
  | c :: cs, i :: is =>
    (c = 0 ∨ P c lo (some i.key)) ∧ LeO lo i.key ∧ OLe i.key hi ∧ i.id ≠ 0 ∧ KidsOk P (some i.key) hi cs is

/-- slot/children arrays have the configured length, `count` fits, the memoised child index is `-1` or
    an index into a children array, everything past `count` is zeroed -/
def NodeShape (t : BTree) (nd : Node) : Prop :=
  nd.slots.size = t.sl ∧ nd.count ≤ t.sl ∧ (-1 ≤ nd.ion ∧ nd.ion ≤ (t.sl : Int)) ∧
  (∀ i ∈ nd.slots.toList.drop nd.count, i = ({} : Item)) ∧
  (∀ cs, nd.children = some cs → cs.size = t.sl + 1 ∧ ∀ c ∈ cs.toList.drop (nd.count + 1), c = 0)

/-- the subtree at `n`: parent link is `parent`, shape, per-node sortedness, all keys in `[lo, hi]`,
    separator bounds for every child (nil children allowed), every occupied slot holds a live item -/
def WFNode (t : BTree) : Nat → NodeId → NodeId → Option Int → Option Int → Prop
  | 0, _, _, _, _ => False
  | fuel + 1, n, parent, lo, hi =>
    n ≠ 0 ∧ ∃ nd, t.get? n = some nd ∧ nd.parent = parent ∧ NodeShape t nd ∧ (parent = 0 ∨ 1 ≤ nd.count) ∧
      match nd.children with
      | none => ItemsOk lo hi nd.items
      | some cs => KidsOk (fun c l h => WFNode t fuel c n l h) lo hi (cs.toList.take (nd.count + 1)) nd.items

/-- tree-shaped heap (every node reached exactly once from the root, nothing else in the repository),
    well-formed from the root with no outer bounds, and the store count equals the number of items -/
def WF (t : BTree) : Prop :=
  (2 ≤ t.sl ∧ t.sl % 2 = 0) ∧
  if t.root = 0 then t.nodes = [] ∧ t.count = 0
  else
    WFNode t (t.nodes.length + 1) t.root 0 none none ∧
    (reach t (t.nodes.length + 1) t.root).Nodup ∧
    (reach t (t.nodes.length + 1) t.root).length = t.nodes.length ∧
    t.count = (t.abs.length : Int)

/-! `WF` read and built by the two cases of its root. -/

theorem WF.root_ne {t : BTree} (h : WF t) (hr : t.root ≠ 0) :
    (2 ≤ t.sl ∧ t.sl % 2 = 0) ∧ WFNode t (t.nodes.length + 1) t.root 0 none none ∧
      (reach t (t.nodes.length + 1) t.root).Nodup ∧ (reach t (t.nodes.length + 1) t.root).length = t.nodes.length ∧
      t.count = (t.abs.length : Int) := by
  unfold WF at h
  rwa [if_neg hr] at h

theorem WF.root_eq {t : BTree} (h : WF t) (hr : t.root = 0) : (2 ≤ t.sl ∧ t.sl % 2 = 0) ∧ t.nodes = [] ∧ t.count = 0 := by
  unfold WF at h
  rwa [if_pos hr] at h

theorem WF.of_root_ne {t : BTree} (hr : t.root ≠ 0) (hsl : 2 ≤ t.sl ∧ t.sl % 2 = 0)
    (hW : WFNode t (t.nodes.length + 1) t.root 0 none none) (hN : (reach t (t.nodes.length + 1) t.root).Nodup)
    (hL : (reach t (t.nodes.length + 1) t.root).length = t.nodes.length) (hC : t.count = (t.abs.length : Int)) : WF t := by
  unfold WF
  rw [if_neg hr]
  exact ⟨hsl, hW, hN, hL, hC⟩

theorem WF.of_root_eq {t : BTree} (hr : t.root = 0) (hsl : 2 ≤ t.sl ∧ t.sl % 2 = 0) (hN : t.nodes = []) (hC : t.count = 0) :
    WF t := by
  unfold WF
  rw [if_pos hr]
  exact ⟨hsl, hN, hC⟩

theorem leOpt_sound {lo k} (h : leOpt lo k = true) : LeO lo k := by
  intro l hl; subst hl; simpa [leOpt] using h

theorem optLe_sound {k hi} (h : optLe k hi = true) : OLe k hi := by
  intro l hl; subst hl; simpa [optLe] using h

theorem itemsOk_sound : ∀ (l : List Item) (lo hi : Option Int), itemsOk lo hi l = true → ItemsOk lo hi l
  | [], _, _, _ => trivial
  | i :: is, lo, hi, h => by
    simp only [itemsOk, Bool.and_eq_true, bne_iff_ne, ne_eq] at h
    exact ⟨leOpt_sound h.1.1.1, optLe_sound h.1.1.2, h.1.2, itemsOk_sound is _ _ h.2⟩

theorem kidsOk_sound {chk : NodeId → Option Int → Option Int → Bool} {P : NodeId → Option Int → Option Int → Prop}
    (hP : ∀ c l h, chk c l h = true → P c l h) :
    ∀ (cs : List NodeId) (is : List Item) (lo hi : Option Int), kidsOk chk lo hi cs is = true → KidsOk P lo hi cs is
  | [], _, _, _, _ => trivial
  | c :: cs, [], lo, hi, h => by
    simp only [kidsOk, Bool.and_eq_true, Bool.or_eq_true, beq_iff_eq, List.isEmpty_iff] at h
    exact ⟨h.1.imp id (hP _ _ _), h.2⟩
  | c :: cs, i :: is, lo, hi, h => by
    simp only [kidsOk, Bool.and_eq_true, Bool.or_eq_true, beq_iff_eq, bne_iff_ne, ne_eq] at h
    exact ⟨h.1.1.1.1.imp id (hP _ _ _), leOpt_sound h.1.1.1.2, optLe_sound h.1.1.2, h.1.2,
      kidsOk_sound hP cs is _ _ h.2⟩

theorem nodeShapeOk_sound {t : BTree} {nd : Node} (h : nodeShapeOk t nd = true) : NodeShape t nd := by
  simp only [nodeShapeOk, Bool.and_eq_true, beq_iff_eq, decide_eq_true_eq, List.all_eq_true] at h
  refine ⟨h.1.1.1.1.1, h.1.1.1.1.2, ⟨h.1.1.1.2, h.1.1.2⟩, fun i hi => by simpa using h.1.2 i hi, ?_⟩
  intro cs hcs
  rw [hcs] at h
  simp only [Bool.and_eq_true, beq_iff_eq, List.all_eq_true] at h
  exact ⟨h.2.1, fun c hc => by simpa using h.2.2 c hc⟩

theorem checkNode_sound (t : BTree) (fuel : Nat) : ∀ (n parent : NodeId) (lo hi : Option Int),
    checkNode t fuel n parent lo hi = true → WFNode t fuel n parent lo hi := by
  induction fuel with
  | zero => intro _ _ _ _ h; simp [checkNode] at h
  | succ fuel ih =>
    intro n parent lo hi h
    simp only [checkNode, Bool.and_eq_true, bne_iff_ne, ne_eq] at h
    obtain ⟨hn, h⟩ := h
    cases hg : t.get? n with
    | none => simp [hg] at h
    | some nd =>
      rw [hg] at h
      simp only [Bool.and_eq_true, beq_iff_eq, Bool.or_eq_true, decide_eq_true_eq] at h
      refine ⟨hn, nd, hg, h.1.1.1, nodeShapeOk_sound h.1.1.2, h.1.2, ?_⟩
      cases hc : nd.children with
      | none =>
        have h2 := h.2; rw [hc] at h2
        exact itemsOk_sound _ _ _ h2
      | some cs =>
        have h2 := h.2; rw [hc] at h2
        exact kidsOk_sound (fun c l h' hh => ih c n l h' hh) _ _ _ _ h2

theorem checkWF_sound (t : BTree) (h : checkWF t = true) : WF t := by
  unfold checkWF at h
  unfold WF
  rw [Bool.and_eq_true, Bool.and_eq_true, decide_eq_true_eq, beq_iff_eq] at h
  refine ⟨h.1, ?_⟩
  replace h := h.2
  by_cases hr : t.root = 0
  · simp only [hr, beq_self_eq_true, if_true, Bool.and_eq_true, List.isEmpty_iff, beq_iff_eq] at h
    simp only [hr, if_true]
    exact h
  · have hr' : (t.root == 0) = false := by simpa using hr
    simp only [hr', Bool.false_eq_true, if_false, Bool.and_eq_true, decide_eq_true_eq, beq_iff_eq] at h
    simp only [hr, if_false]
    exact ⟨checkNode_sound t _ _ _ _ _ h.1.1.1, h.1.1.2, h.1.2, h.2⟩

def Sorted (l : List Item) : Prop := l.Pairwise (fun a b => a.key ≤ b.key)

def Good (lo hi : Option Int) (l : List Item) : Prop :=
  Sorted l ∧ ∀ x ∈ l, LeO lo x.key ∧ OLe x.key hi ∧ x.id ≠ 0

theorem LeO.trans {lo : Option Int} {a b : Int} (h : LeO lo a) (hab : a ≤ b) : LeO lo b :=
  fun l hl => Int.le_trans (h l hl) hab

theorem OLe.trans' {hi : Option Int} {a b : Int} (hab : a ≤ b) (h : OLe b hi) : OLe a hi :=
  fun l hl => Int.le_trans hab (h l hl)

theorem itemsOk_good : ∀ (l : List Item) (lo hi : Option Int), ItemsOk lo hi l → Good lo hi l
  | [], _, _, _ => ⟨List.Pairwise.nil, by simp⟩
  | i :: is, lo, hi, h => by
    obtain ⟨h1, h2, h3, h4⟩ := h
    have ih := itemsOk_good is _ _ h4
    refine ⟨List.Pairwise.cons (fun x hx => (ih.2 x hx).1 _ rfl) ih.1, ?_⟩
    intro x hx
    rcases List.mem_cons.mp hx with rfl | hx
    · exact ⟨h1, h2, h3⟩
    · exact ⟨h1.trans ((ih.2 x hx).1 _ rfl), (ih.2 x hx).2.1, (ih.2 x hx).2.2⟩

theorem good_append_cons {lo hi : Option Int} {i : Item} {a b : List Item}
    (ha : Good lo (some i.key) a) (h1 : LeO lo i.key) (h2 : OLe i.key hi) (h3 : i.id ≠ 0)
    (hb : Good (some i.key) hi b) : Good lo hi (a ++ i :: b) := by
  refine ⟨?_, ?_⟩
  · refine List.pairwise_append.mpr ⟨ha.1, List.Pairwise.cons (fun x hx => (hb.2 x hx).1 _ rfl) hb.1, ?_⟩
    intro x hx y hy
    have hxi : x.key ≤ i.key := (ha.2 x hx).2.1 _ rfl
    rcases List.mem_cons.mp hy with rfl | hy
    · exact hxi
    · exact Int.le_trans hxi ((hb.2 y hy).1 _ rfl)
  · intro x hx
    rcases List.mem_append.mp hx with hx | hx
    · exact ⟨(ha.2 x hx).1, OLe.trans' ((ha.2 x hx).2.1 _ rfl) h2, (ha.2 x hx).2.2⟩
    · rcases List.mem_cons.mp hx with rfl | hx
      · exact ⟨h1, h2, h3⟩
      · exact ⟨h1.trans ((hb.2 x hx).1 _ rfl), (hb.2 x hx).2.1, (hb.2 x hx).2.2⟩

theorem good_nil (lo hi : Option Int) : Good lo hi [] := ⟨List.Pairwise.nil, by simp⟩

theorem weave_good {g : NodeId → List Item} {P : NodeId → Option Int → Option Int → Prop}
    (g0 : g 0 = []) (hP : ∀ c l h, P c l h → Good l h (g c)) :
    ∀ (cs : List NodeId) (is : List Item) (lo hi : Option Int), KidsOk P lo hi cs is → Good lo hi (weave g cs is)
  | [], _, lo, hi, _ => by simpa [weave] using good_nil lo hi
  | c :: cs, [], lo, hi, h => by
    obtain ⟨h1, h2⟩ := h
    subst h2
    simp only [weave, List.append_nil]
    rcases h1 with rfl | h1
    · rw [g0]; exact good_nil lo hi
    · exact hP _ _ _ h1
  | c :: cs, i :: is, lo, hi, h => by
    obtain ⟨h1, h2, h3, h4, h5⟩ := h
    simp only [weave]
    have ih := weave_good g0 hP cs is _ _ h5
    have hc : Good lo (some i.key) (g c) := by
      rcases h1 with rfl | h1
      · rw [g0]; exact good_nil _ _
      · exact hP _ _ _ h1
    exact good_append_cons hc h2 h3 h4 ih

theorem absNode_zero (t : BTree) : ∀ fuel, absNode t fuel 0 = []
  | 0 => rfl
  | _ + 1 => by simp [absNode]

theorem wfNode_good (t : BTree) (fuel : Nat) : ∀ (n parent : NodeId) (lo hi : Option Int),
    WFNode t fuel n parent lo hi → Good lo hi (absNode t fuel n) := by
  induction fuel with
  | zero => intro _ _ _ _ h; exact absurd h (by simp [WFNode])
  | succ fuel ih =>
    intro n parent lo hi h
    obtain ⟨hn, nd, hg, _, _, _, hbody⟩ := h
    simp only [absNode, hn, if_false, hg]
    cases hc : nd.children with
    | none =>
      rw [hc] at hbody
      exact itemsOk_good _ _ _ hbody
    | some cs =>
      rw [hc] at hbody
      exact weave_good (absNode_zero t fuel) (fun c l h' hh => ih c n l h' hh) _ _ _ _ hbody

theorem abs_sorted_of_WF (t : BTree) (h : WF t) :
    Sorted t.abs ∧ (∀ x ∈ t.abs, x.id ≠ 0) ∧ t.count = (t.abs.length : Int) := by
  by_cases hr : t.root = 0
  · have : t.abs = [] := by simp [BTree.abs, hr, absNode_zero]
    rw [this]
    exact ⟨List.Pairwise.nil, by simp, by simpa using (h.root_eq hr).2.2⟩
  · obtain ⟨_, hW, _, _, hC⟩ := h.root_ne hr
    have g := wfNode_good t _ _ _ _ _ hW
    exact ⟨g.1, fun x hx => (g.2 x hx).2.2, hC⟩

theorem keysSorted_iff : ∀ (l : List Item), keysSorted l = true ↔ Sorted l
  | [] => by simp [keysSorted, Sorted]
  | [a] => by simp [keysSorted, Sorted]
  | a :: b :: rest => by
    have ih := keysSorted_iff (b :: rest)
    simp only [keysSorted, Bool.and_eq_true, decide_eq_true_eq, ih, Sorted, List.pairwise_cons]
    constructor
    · rintro ⟨hab, hb, hrest⟩
      refine ⟨?_, hb, hrest⟩
      intro x hx
      rcases List.mem_cons.mp hx with rfl | hx
      · exact hab
      · exact Int.le_trans hab (hb x hx)
    · rintro ⟨ha, hb, hrest⟩
      exact ⟨ha b (List.mem_cons_self), hb, hrest⟩

theorem keysSorted_of_WF {t : BTree} (h : WF t) : keysSorted t.abs = true :=
  (keysSorted_iff _).mpr (abs_sorted_of_WF t h).1

theorem isPerm_refl (l : List Item) : l.isPerm l = true := List.isPerm_iff.mpr (List.Perm.refl l)

theorem hasKey_iff' {l : List Item} {k : Int} : hasKey l k = true ↔ ∃ x ∈ l, x.key = k := by
  simp [hasKey]

theorem hasKey_of_mem {l : List Item} {k : Int} {y : Item} (h : y ∈ l) (hk : y.key = k) : hasKey l k = true :=
  hasKey_iff'.mpr ⟨y, h, hk⟩

theorem hasKey_false {l : List Item} {k : Int} (h : ∀ x ∈ l, x.key ≠ k) : hasKey l k = false := by
  cases hh : hasKey l k with
  | false => rfl
  | true => obtain ⟨x, hx, hk⟩ := hasKey_iff'.mp hh; exact absurd hk (h x hx)

theorem insertSorted_perm (it : Item) : ∀ (l : List Item), (insertSorted it l).Perm (it :: l)
  | [] => by simp [insertSorted]
  | y :: ys => by
    unfold insertSorted
    split
    · exact ((insertSorted_perm it ys).cons y).trans (List.Perm.swap it y ys)
    · exact List.Perm.refl _

theorem mem_insertSorted (it : Item) (l : List Item) (x : Item) : x ∈ insertSorted it l ↔ x = it ∨ x ∈ l :=
  (insertSorted_perm it l).mem_iff.trans List.mem_cons

theorem insertSorted_sorted (it : Item) : ∀ (l : List Item), Sorted l → Sorted (insertSorted it l)
  | [], _ => by simp [insertSorted, Sorted]
  | y :: ys, h => by
    unfold insertSorted
    have h' := List.pairwise_cons.mp h
    split
    · rename_i hle
      refine List.pairwise_cons.mpr ⟨?_, insertSorted_sorted it ys h'.2⟩
      intro x hx
      rcases (mem_insertSorted it ys x).mp hx with rfl | hx
      · exact hle
      · exact h'.1 x hx
    · rename_i hnle
      have hlt : it.key ≤ y.key := by omega
      refine List.pairwise_cons.mpr ⟨?_, h⟩
      intro x hx
      rcases List.mem_cons.mp hx with rfl | hx
      · exact hlt
      · exact Int.le_trans hlt (h'.1 x hx)

theorem erase_sorted (l : List Item) (x : Item) (h : Sorted l) : Sorted (l.erase x) :=
  List.Pairwise.sublist List.erase_sublist h

theorem scan_exact_of (κ : Item → Int) (a b : Int) : ∀ (l : List Item), l.Pairwise (fun x y => κ x ≤ κ y) →
    (l.dropWhile (fun i => decide (κ i < a))).takeWhile (fun i => decide (κ i ≤ b)) =
      l.filter (fun i => decide (a ≤ κ i) && decide (κ i ≤ b))
  | [], _ => by simp
  | x :: xs, h => by
    have h' := List.pairwise_cons.mp h
    have ih := scan_exact_of κ a b xs h'.2
    by_cases hxa : κ x < a
    · have : ¬ a ≤ κ x := by omega
      simp [hxa, this, ih]
    · simp only [List.dropWhile_cons, hxa, decide_false, Bool.false_eq_true, if_false]
      -- nothing after x is below a: dropWhile on the tail is the identity
      have hdrop : xs.dropWhile (fun i => decide (κ i < a)) = xs := by
        cases xs with
        | nil => rfl
        | cons y ys =>
          have : ¬ κ y < a := by have := h'.1 y (List.mem_cons_self); omega
          simp [this]
      rw [hdrop] at ih
      have hax : a ≤ κ x := by omega
      by_cases hxb : κ x ≤ b
      · simp [hxb, hax, ih]
      · have hall : xs.filter (fun i => decide (a ≤ κ i) && decide (κ i ≤ b)) = [] := by
          apply List.filter_eq_nil_iff.mpr
          intro y hy
          have := h'.1 y hy
          simp; intro; omega
        simp [hxb, hall]

/-- C18 at the specification level: on a key-sorted list, starting at the first item whose key is
    `≥ a` (where a search for `a` lands, hit or miss) and walking forward while the key is `≤ b` visits
    exactly the items with `a ≤ key ≤ b`, in order. -/
theorem scan_from_lower_bound_exact (a b : Int) (l : List Item) (h : Sorted l) :
    (l.dropWhile (fun i => decide (i.key < a))).takeWhile (fun i => decide (i.key ≤ b)) = l.filter (inRange a b) :=
  scan_exact_of (·.key) a b l h

/-- Go's `sort.Search` as transcribed: for a monotone predicate it returns the least index where the
    predicate holds (or `n`). -/
theorem sortSearchAux_spec (f : Nat → Bool) (n : Nat)
    (hmono : ∀ a b, a ≤ b → b < n → f a = true → f b = true) (fuel : Nat) :
    ∀ (i j : Nat), i ≤ j → j ≤ n → j - i < fuel →
      (∀ x, x < i → f x = false) → (∀ x, j ≤ x → x < n → f x = true) →
      i ≤ sortSearchAux f fuel i j ∧ sortSearchAux f fuel i j ≤ j ∧
      (∀ x, x < sortSearchAux f fuel i j → f x = false) ∧
      (∀ x, sortSearchAux f fuel i j ≤ x → x < n → f x = true) := by
  induction fuel with
  | zero => exact fun i j _ _ hf => absurd hf (Nat.not_lt_zero _)
  | succ fuel ih =>
    intro i j hij hjn hf hlo hhi
    unfold sortSearchAux
    by_cases hlt : i < j
    · simp only [hlt, if_true]
      -- all that is needed of the midpoint
      have hm : i ≤ (i + j) / 2 ∧ (i + j) / 2 < j := by omega
      generalize (i + j) / 2 = h at hm
      cases hfh : f h with
      | true =>
        simp only [Bool.not_true, Bool.false_eq_true, if_false]
        have ih' := ih i h hm.1 (Nat.le_trans (Nat.le_of_lt hm.2) hjn) (by omega) hlo
          (fun x hx hxn => hmono _ _ hx hxn hfh)
        exact ⟨ih'.1, Nat.le_trans ih'.2.1 (Nat.le_of_lt hm.2), ih'.2.2.1, ih'.2.2.2⟩
      | false =>
        simp only [Bool.not_false, if_true]
        have ih' := ih (h + 1) j hm.2 hjn (by omega)
          (fun x hx => by
            cases hfx : f x with
            | false => rfl
            | true =>
              rw [hmono x h (Nat.le_of_lt_succ hx) (Nat.lt_of_lt_of_le hm.2 hjn) hfx] at hfh
              cases hfh)
          hhi
        exact ⟨Nat.le_trans (Nat.le_succ_of_le hm.1) ih'.1, ih'.2.1, ih'.2.2.1, ih'.2.2.2⟩
    · simp only [hlt, if_false]
      have : i = j := Nat.le_antisymm hij (Nat.not_lt.mp hlt)
      subst this
      exact ⟨Nat.le_refl _, Nat.le_refl _, hlo, hhi⟩

theorem sortSearch_spec (f : Nat → Bool) (n : Nat) (hmono : ∀ a b, a ≤ b → b < n → f a = true → f b = true) :
    sortSearch n f ≤ n ∧ (∀ x, x < sortSearch n f → f x = false) ∧
      (∀ x, sortSearch n f ≤ x → x < n → f x = true) :=
  (sortSearchAux_spec f n hmono (n + 1) 0 n (Nat.zero_le _) (Nat.le_refl _) (Nat.lt_succ_self _)
    (fun _ hx => absurd hx (Nat.not_lt_zero _)) (fun _ hx hxn => absurd hxn (Nat.not_lt.mpr hx))).2

theorem Node.slot_key_mono {nd : Node} (hc : nd.count ≤ nd.slots.size)
    (hs : nd.items.Pairwise (fun a b => a.key ≤ b.key)) {a b : Nat} (hab : a ≤ b) (hb : b < nd.count) :
    (nd.slot a).key ≤ (nd.slot b).key := by
  have hlen : nd.items.length = nd.count := by
    unfold Node.items; rw [List.length_take, Array.length_toList]; exact Nat.min_eq_left hc
  have hitem : ∀ x (hx : x < nd.items.length), nd.items[x] = nd.slot x := by
    intro x hx
    have hx' : x < nd.slots.size := Nat.lt_of_lt_of_le (hlen ▸ hx) hc
    simp [Node.items, Node.slot, Array.getD, hx']
  rcases Nat.lt_or_eq_of_le hab with hlt | rfl
  · have h := (List.pairwise_iff_getElem.mp hs) a b (hlen ▸ Nat.lt_trans hlt hb) (hlen ▸ hb) hlt
    rwa [hitem, hitem] at h
  · exact Int.le_refl _

theorem node_search_partition (nd : Node) (P : Int → Bool) (hP : ∀ a b : Int, a ≤ b → P a = true → P b = true)
    (hc : nd.count ≤ nd.slots.size) (hs : nd.items.Pairwise (fun a b => a.key ≤ b.key)) :
    sortSearch nd.count (fun i => P (nd.slot i).key) ≤ nd.count ∧
    (∀ x, x < sortSearch nd.count (fun i => P (nd.slot i).key) → P (nd.slot x).key = false) ∧
    (∀ x, sortSearch nd.count (fun i => P (nd.slot i).key) ≤ x → x < nd.count → P (nd.slot x).key = true) :=
  sortSearch_spec _ nd.count (fun _ _ hab hb => hP _ _ (Node.slot_key_mono hc hs hab hb))

/-- the transcribed binary search of `find` / `getIndexToInsertTo` returns the lower bound of `k` among the occupied,
    key-sorted slots -/
theorem node_search_lower_bound (nd : Node) (k : Int) (hc : nd.count ≤ nd.slots.size)
    (hs : nd.items.Pairwise (fun a b => a.key ≤ b.key)) :
    let i := sortSearch nd.count (fun i => decide ((nd.slot i).key ≥ k))
    i ≤ nd.count ∧ (∀ x, x < i → (nd.slot x).key < k) ∧ (∀ x, i ≤ x → x < nd.count → k ≤ (nd.slot x).key) := by
  have h := node_search_partition nd (fun x => decide (x ≥ k))
    (fun a b hab ha => decide_eq_true (Int.le_trans (of_decide_eq_true ha) hab)) hc hs
  exact ⟨h.1, fun x hx => Int.not_le.mp (of_decide_eq_false (h.2.1 x hx)), fun x hx hxc => of_decide_eq_true (h.2.2 x hx hxc)⟩

/-- … and that of `findInDescendingOrder` returns the upper bound of `k` -/
theorem node_search_upper_bound (nd : Node) (k : Int) (hc : nd.count ≤ nd.slots.size)
    (hs : nd.items.Pairwise (fun a b => a.key ≤ b.key)) :
    let i := sortSearch nd.count (fun i => decide ((nd.slot i).key > k))
    i ≤ nd.count ∧ (∀ x, x < i → (nd.slot x).key ≤ k) ∧ (∀ x, i ≤ x → x < nd.count → k < (nd.slot x).key) := by
  have h := node_search_partition nd (fun x => decide (x > k))
    (fun a b hab ha => decide_eq_true (Int.lt_of_lt_of_le (of_decide_eq_true ha) hab)) hc hs
  exact ⟨h.1, fun x hx => Int.not_lt.mp (of_decide_eq_false (h.2.1 x hx)), fun x hx hxc => of_decide_eq_true (h.2.2 x hx hxc)⟩

/-- `Next` and `Previous` may answer anything on unchanged contents. Lean generates the equations of a definition by `match`
    where a proof first unfolds it, and a module hands them to the modules that import it, not to its own later declarations:
    unfolded here, `Spec.accepts` has them in every module above; `step_move` does the same for `BTree.step`. -/
theorem Spec.accepts_move_same (u : Bool) {l : List Item} (h : keysSorted l = true) (b : Bool) :
    Spec.accepts u l .next (.ok b) l = true ∧ Spec.accepts u l .prev (.ok b) l = true := by
  simp [Spec.accepts, h, isPerm_refl]

theorem step_move (t : BTree) : t.step .next = okb t.next ∧ t.step .prev = okb t.prev := by
  simp only [BTree.step, and_self]

end Sop.BTree
