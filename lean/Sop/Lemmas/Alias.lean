import Sop.Model.Alias
import Sop.Lemmas.Basics
import Sop.Lemmas.Assoc
/-! Three invariants of `Sop.Alias.St.apply`: `Priv` (node objects are never shared with L1), `VInv` (values in value blobs),
`UInv` (values in the node: a simulation with `SpecSt`). `Tiers` is what the last two share; `Slots` is a node mirroring a map. -/
namespace Sop.C38
open Sop.Alias

/-- contents returned by the reads of a history (`.cold`: the reads of another, cold process) -/
def reads (s : St) : List Op → List (Option Nat)
  | [] => []
  | .read k kind :: rest => (s.apply (.read k kind)).2 :: reads (s.apply (.read k kind)).1 rest
  | .cold k :: rest => (s.apply (.cold k)).2 :: reads (s.apply (.cold k)).1 rest
  | op :: rest => reads (s.apply op).1 rest

def isMutate : Op → Bool
  | .mutate _ => true
  | _ => false

theorem getNode_cons (b : Nat) (n : Node) (ns : Nodes) (a : Nat) :
    getNode ((b, n) :: ns) a = if b = a then n else getNode ns a := rfl

theorem getNode_cons_ne {b : Nat} {n : Node} {ns : Nodes} {a : Nat} (h : b ≠ a) : getNode ((b, n) :: ns) a = getNode ns a := by
  rw [getNode_cons, if_neg h]

theorem getNode_cons_self (b : Nat) (n : Node) (ns : Nodes) : getNode ((b, n) :: ns) b = n := by
  rw [getNode_cons, if_pos rfl]

/-- the L1-miss paths of `load` (`uncloned = false`): `d` is unmarshalled into a new node object for the transaction
(address `u.2.2`), a clone of it (`u.2.2 + 1`) goes into L1 under `vok`, L2 holds `(d, vok)` -/
def fill (s : St) (d : Disk) (vok : Bool) : St × Nat :=
  let u := unmarshal s.vnf d s.heap s.next
  ({ s with heap := u.2.1, next := u.2.2 + 2, nodes := (u.2.2 + 1, u.1) :: (u.2.2, u.1) :: s.nodes,
            l1 := some (u.2.2 + 1, vok), l2 := some (d, vok) }, u.2.2)

theorem load_cases (s : St) (hc : s.uncloned = false) :
    (∃ a, s.l1 = some (a, true) ∧ s.load = s.clone a) ∨
    (∃ d vok, (s.l2 = some (d, vok) ∨ s.l2 = none ∧ d = s.disk) ∧ s.load = fill s d vok) := by
  obtain ⟨vnf, disk, heap, nodes, next, l1, l1h, l2, txn, ret, unc⟩ := s
  simp only at hc
  subst hc
  unfold St.load
  split
  · rename_i a heq
    exact Or.inl ⟨a, heq, rfl⟩
  · right
    split
    · rename_i d vok heq
      simp only at heq
      subst heq
      exact ⟨d, vok, Or.inl rfl, by simp only [fill, St.clone, St.newNode, getNode_cons_self, Bool.false_eq_true, if_false]⟩
    · rename_i heq
      exact ⟨disk, true, Or.inr ⟨heq, rfl⟩, by simp only [fill, St.clone, St.newNode, getNode_cons_self]⟩

def sharesNode (s : St) : Bool :=
  match s.txn, s.l1 with
  | some t, some (a, _) => t.node == some a
  | _, _ => false

structure Own (s : St) (a : Nat) : Prop where
  lt : a < s.next
  l1 : ∀ a' v, s.l1 = some (a', v) → a' ≠ a

theorem Own.mono {s s' : St} {a : Nat} (h : Own s a) (hn : s.next ≤ s'.next) (hl : ∀ x, s'.l1 = some x → s.l1 = some x) :
    Own s' a :=
  ⟨Nat.lt_of_lt_of_le h.lt hn, fun a' v e => h.l1 a' v (hl _ e)⟩

/-- every node object was allocated below the address counter; the L1 entry and the open transaction's node are
DIFFERENT objects -/
structure Priv (s : St) : Prop where
  /-- the model of the code, not the seeded variant whose L2-hit fill stores the node it returns -/
  cloned : s.uncloned = false
  nodes : ∀ e ∈ s.nodes, e.1 < s.next
  l1 : ∀ a v, s.l1 = some (a, v) → a < s.next
  txn : ∀ t a, s.txn = some t → t.node = some a → Own s a

theorem unmarshal_next (vnf : Bool) (d : Disk) : ∀ (h : Heap) (nx : Nat), nx ≤ (unmarshal vnf d h nx).2.2 := by
  unfold unmarshal
  split
  · exact fun _ nx => Nat.le_refl nx
  · induction d with
    | nil => exact fun _ nx => Nat.le_refl nx
    | cons e rest ih => exact fun h nx => Nat.le_trans (Nat.le_succ _) (ih _ _)

theorem below_cons {ns : Nodes} {a nx nx' : Nat} {n : Node} (h : ∀ e ∈ ns, e.1 < nx) (ha : a < nx') (hle : nx ≤ nx') :
    ∀ e ∈ (a, n) :: ns, e.1 < nx' := by
  intro e he
  rcases List.mem_cons.1 he with rfl | he
  · exact ha
  · exact Nat.lt_of_lt_of_le (h e he) hle

theorem load_priv (s : St) (h : Priv s) : Priv s.load.1 ∧ Own s.load.1 s.load.2 := by
  rcases load_cases s h.cloned with ⟨a, -, e⟩ | ⟨d, vok, -, e⟩
  · rw [e]
    exact ⟨⟨h.cloned, below_cons h.nodes (Nat.lt_succ_self _) (Nat.le_succ _), fun a' v h' => Nat.lt_succ_of_lt (h.l1 a' v h'),
      fun t a0 ht hta => (h.txn t a0 ht hta).mono (Nat.le_succ _) fun _ => id⟩,
      ⟨Nat.lt_succ_self _, fun a' v h' => Nat.ne_of_lt (h.l1 a' v h')⟩⟩
  · rw [e]
    have hnx := unmarshal_next s.vnf d s.heap s.next
    simp only [fill]
    generalize unmarshal s.vnf d s.heap s.next = u at hnx
    refine ⟨⟨h.cloned, below_cons (below_cons h.nodes (Nat.lt_succ_self _) (Nat.le_succ_of_le hnx)) (Nat.lt_succ_self _) (Nat.le_succ _), ?_, ?_⟩, ⟨Nat.lt_succ_of_lt (Nat.lt_succ_self _), ?_⟩⟩
    · intro a' v h'; cases h'; exact Nat.lt_succ_self _
    · intro t a0 ht hta
      have := (h.txn t a0 ht hta).lt
      exact ⟨Nat.lt_succ_of_lt (Nat.lt_succ_of_le (Nat.le_trans (Nat.le_of_lt this) hnx)), fun a' v h' => by cases h'; omega⟩
    · intro a' v h'; cases h'; exact Nat.succ_ne_self _


theorem node_cases {s s1 : St} {t : Txn} {a : Nat} (hn : s.node t = (s1, a)) :
    t.node = some a ∧ s1 = s ∨ t.node = none ∧ s.load = (s1, a) := by
  unfold St.node at hn
  split at hn
  · rename_i a0 ha
    cases hn
    exact Or.inl ⟨ha, rfl⟩
  · rename_i ha
    exact Or.inr ⟨ha, hn⟩

theorem node_priv {s s1 : St} {t : Txn} {a : Nat} (h : Priv s) (ht : s.txn = some t) (hn : s.node t = (s1, a)) :
    Priv s1 ∧ Own s1 a := by
  rcases node_cases hn with ⟨ha, rfl⟩ | ⟨-, hl⟩
  · exact ⟨h, h.txn _ _ ht ha⟩
  · have hp := load_priv s h
    rw [hl] at hp
    exact hp

/-- what a read or an update leaves: the transaction's node object `a` rewritten to `n`, perhaps a cell allocated -/
def put (s : St) (a : Nat) (n : Node) (heap : Heap) (next : Nat) (t : Txn) (ret : Option Nat) : St :=
  { s with heap := heap, next := next, nodes := (a, n) :: s.nodes, txn := some t, ret := ret }

theorem put_priv {s : St} {a : Nat} (h : Priv s) (ho : Own s a) (n : Node) (heap : Heap) {next : Nat}
    (hle : s.next ≤ next) {t : Txn} (ht : t.node = some a) (ret : Option Nat) : Priv (put s a n heap next t ret) :=
  ⟨h.cloned, below_cons h.nodes (Nat.lt_of_lt_of_le ho.lt hle) hle, fun a' v h' => Nat.lt_of_lt_of_le (h.l1 a' v h') hle,
    fun t' a0 h1 h2 => by
      cases h1; rw [ht] at h2; cases h2
      exact ⟨Nat.lt_of_lt_of_le ho.lt hle, ho.l1⟩⟩

def usesTxn : Op → Bool
  | .read .. | .update .. | .commit => true
  | _ => false

theorem apply_idle {s : St} (h : s.txn = none) (op : Op) (hop : usesTxn op = true) : s.apply op = (s, none) := by
  cases op with
  | read | update | commit => simp only [St.apply, h]
  | _ => cases hop

/-- the slots a read looks at: in a fetched-values store, moving the cursor first un-fetches the slot it leaves -/
def readSlots (s : St) (cur : Option Nat) (a k : Nat) : Node :=
  if s.vnf then unfetched (getNode s.nodes a) cur k else getNode s.nodes a

/-- a read inside a transaction is a `put` on its node object `a`: the slot has a value; the value is fetched into a
fresh cell and hung on the slot; or there is nothing to return -/
theorem read_cases {s s1 : St} {t : Txn} {a : Nat} (ht : s.txn = some t) (hn : s.node t = (s1, a)) (k : Nat) (kind : Kind) :
    (∃ c, getSlot (readSlots s1 t.cur a k) k = some (some c) ∧ s.apply (.read k kind) =
        (put s1 a (readSlots s1 t.cur a k) s1.heap s1.next { t with node := some a, cur := some k } (retOf kind c),
          Alias.get s1.heap c)) ∨
    (∃ x, getSlot (readSlots s1 t.cur a k) k = some none ∧ s1.vnf = true ∧ Alias.get s1.disk k = some x ∧
      s.apply (.read k kind) =
        (put s1 a (setSlot (readSlots s1 t.cur a k) k (some s1.next)) ((s1.next, x) :: s1.heap) (s1.next + 1)
          { t with node := some a, cur := some k } (retOf kind s1.next), some x)) ∨
    ((getSlot (readSlots s1 t.cur a k) k = none ∨
        getSlot (readSlots s1 t.cur a k) k = some none ∧ (s1.vnf = true → Alias.get s1.disk k = none)) ∧
      s.apply (.read k kind) =
        (put s1 a (readSlots s1 t.cur a k) s1.heap s1.next { t with node := some a, cur := none } none, none)) := by
  simp only [St.apply, ht, hn]
  generalize hn1 : readSlots s1 t.cur a k = n1
  unfold readSlots at hn1
  rw [hn1]
  cases hc : getSlot n1 k with
  | none => exact Or.inr (Or.inr ⟨Or.inl rfl, rfl⟩)
  | some sl =>
    cases sl with
    | some c => exact Or.inl ⟨c, rfl, rfl⟩
    | none =>
      by_cases hv : s1.vnf = true
      · rw [if_pos hv]
        cases hx : Alias.get s1.disk k with
        | none => exact Or.inr (Or.inr ⟨Or.inr ⟨rfl, fun _ => rfl⟩, rfl⟩)
        | some x => exact Or.inr (Or.inl ⟨x, rfl, hv, rfl, rfl⟩)
      · rw [if_neg hv]
        exact Or.inr (Or.inr ⟨Or.inr ⟨rfl, fun h => absurd h hv⟩, rfl⟩)

theorem update_eq {s s1 : St} {t : Txn} {a : Nat} (ht : s.txn = some t) (hn : s.node t = (s1, a)) (hv : s.vnf = false)
    (k v : Nat) : s.apply (.update k v) =
      (put s1 a (setSlot (getNode s1.nodes a) k (some s1.next)) ((s1.next, v) :: s1.heap) (s1.next + 1)
        { t with node := some a, dirty := true } s1.ret, none) := by
  simp only [St.apply, ht, hv, hn]
  rfl

theorem commit_cases (s : St) (t : Txn) (ht : s.txn = some t) :
    (∃ a, t.node = some a ∧ t.dirty = true ∧ s.apply .commit =
      ({ (s.clone a).1 with disk := marshal s.heap (getNode s.nodes a), l2 := some (marshal s.heap (getNode s.nodes a), false),
                            l1 := some ((s.clone a).2, true), l1h := true, txn := none }, none)) ∨
    ((t.dirty = true → t.node = none) ∧ s.apply .commit = ({ s with txn := none }, none)) := by
  simp only [St.apply, ht]
  split
  · rename_i a ha hd
    exact Or.inl ⟨a, ha, hd, rfl⟩
  · rename_i hnd
    refine Or.inr ⟨fun hd => ?_, rfl⟩
    cases hn : t.node with
    | none => rfl
    | some a => exact absurd hd (hnd a hn)

/-- Node objects are private: whatever a history does, the node object in the process-wide L1 cache is never the one a
transaction works on. Every path into L1 — the L1-miss/L2-hit fill, the fill after a blob load, `populateMru` — installs
a COPY, and every path out of it makes one. -/
theorem step_priv (s : St) (op : Op) (h : Priv s) : Priv (s.apply op).1 := by
  cases op with
  | begin => exact ⟨h.cloned, h.nodes, h.l1, fun t a ht hta => by cases ht; cases hta⟩
  | read k kind =>
    cases ht : s.txn with
    | none => rw [apply_idle ht _ rfl]; exact h
    | some t =>
      rcases hn : s.node t with ⟨s1, a⟩
      obtain ⟨hp, ho⟩ := node_priv h ht hn
      obtain ⟨c, -, e⟩ | ⟨x, -, -, -, e⟩ | ⟨-, e⟩ := read_cases ht hn k kind <;> rw [e]
      · exact put_priv hp ho _ _ (Nat.le_refl _) rfl _
      · exact put_priv hp ho _ _ (Nat.le_succ _) rfl _
      · exact put_priv hp ho _ _ (Nat.le_refl _) rfl _
  | mutate x =>
    simp only [St.apply]
    split
    · exact ⟨h.cloned, h.nodes, h.l1, fun t a ht hta => (h.txn t a ht hta).mono (Nat.le_refl _) fun _ => id⟩
    · exact h
  | update k v =>
    cases ht : s.txn with
    | none => rw [apply_idle ht _ rfl]; exact h
    | some t =>
      cases hv : s.vnf with
      | true => simp only [St.apply, ht, hv, if_true]; exact h
      | false =>
        rcases hn : s.node t with ⟨s1, a⟩
        obtain ⟨hp, ho⟩ := node_priv h ht hn
        rw [update_eq ht hn hv]
        exact put_priv hp ho _ _ (Nat.le_succ _) rfl _
  | commit =>
    cases ht : s.txn with
    | none => rw [apply_idle ht _ rfl]; exact h
    | some t =>
      rcases commit_cases s t ht with ⟨a, -, -, e⟩ | ⟨-, e⟩ <;> rw [e]
      · -- `populateMru`: the clone in L1 is a new object, and the transaction is over
        exact ⟨h.cloned, below_cons h.nodes (Nat.lt_succ_self _) (Nat.le_succ _),
          (fun a' v h' => by cases h'; exact Nat.lt_succ_self _), fun t' a' h1 => nomatch h1⟩
      · exact ⟨h.cloned, h.nodes, h.l1, fun t' a' h1 => nomatch h1⟩
  | rollback => exact ⟨h.cloned, h.nodes, h.l1, fun t' a' h1 => nomatch h1⟩
  | clear | evict1 =>
    exact ⟨h.cloned, h.nodes, (fun a v h' => nomatch h'), fun t a ht hta => (h.txn t a ht hta).mono (Nat.le_refl _) fun _ e => nomatch e⟩
  | evicth | evict2 => exact ⟨h.cloned, h.nodes, h.l1, fun t a ht hta => (h.txn t a ht hta).mono (Nat.le_refl _) fun _ => id⟩
  | cold k => exact h


theorem init_priv (vnf : Bool) (disk : Disk) : Priv { vnf := vnf, disk := disk } :=
  ⟨rfl, (fun _ h => by cases h), (fun _ _ h => by cases h), (fun _ _ h => by cases h)⟩

theorem priv_not_shared (s : St) (h : Priv s) : sharesNode s = false := by
  unfold sharesNode
  split
  · rename_i t a v ht hl
    cases hn : t.node with
    | none => rfl
    | some a' =>
      have := (h.txn t a' ht hn).2 a v hl
      simp
      exact fun hEq => this hEq.symm
  · rfl

/-- the tiers a transaction loads from hold the committed map `c`: the blob, the L2 payload, and — in the placement's
form `L` — the node object in L1 -/
structure Tiers (L : Heap → Node → Prop) (c : Disk) (s : St) : Prop where
  priv : Priv s
  disk : s.disk = c
  snap : ∀ d v, s.l2 = some (d, v) → d = c
  l1 : ∀ a v, s.l1 = some (a, v) → L s.heap (getNode s.nodes a)

theorem Tiers.load {L : Heap → Node → Prop} {c : Disk} {s : St} (h : Tiers L c s)
    (hu : L (unmarshal s.vnf c s.heap s.next).2.1 (unmarshal s.vnf c s.heap s.next).1) :
    Tiers L c s.load.1 ∧ Own s.load.1 s.load.2 ∧ s.load.1.vnf = s.vnf ∧ L s.load.1.heap (getNode s.load.1.nodes s.load.2) := by
  obtain ⟨hp, ho⟩ := load_priv s h.priv
  rcases load_cases s h.priv.cloned with ⟨a, ha, e⟩ | ⟨d, vok, hd, e⟩
  · rw [e] at hp ho ⊢
    refine ⟨⟨hp, h.disk, h.snap, fun a' v h' => ?_⟩, ho, rfl, ?_⟩
    · show L s.heap (getNode ((s.next, _) :: s.nodes) a')
      rw [getNode_cons_ne (Nat.ne_of_gt (h.priv.l1 a' v h'))]; exact h.l1 a' v h'
    · show L s.heap (getNode ((s.next, _) :: s.nodes) s.next)
      rw [getNode_cons_self]; exact h.l1 a true ha
  · have hdc : d = c := hd.elim (fun h' => h.snap d vok h') (fun h' => h'.2.trans h.disk)
    subst hdc
    rw [e] at hp ho ⊢
    simp only [fill]
    refine ⟨⟨hp, h.disk, fun d' v h' => ?_, fun a' v h' => ?_⟩, ho, trivial, ?_⟩
    · cases h'; rfl
    · cases h'; rw [getNode_cons_self]; exact hu
    · rw [getNode_cons_ne (Nat.succ_ne_self _), getNode_cons_self]; exact hu

/-- `hL`: the heap the write leaves keeps what L1 holds -/
theorem Tiers.put {L : Heap → Node → Prop} {c : Disk} {s : St} {a : Nat} (h : Tiers L c s) (ho : Own s a) (n : Node)
    {heap : Heap} {next : Nat} (hle : s.next ≤ next) (hL : ∀ a' v, s.l1 = some (a', v) → L heap (getNode s.nodes a'))
    {t : Txn} (ht : t.node = some a) (ret : Option Nat) : Tiers L c (put s a n heap next t ret) :=
  ⟨put_priv h.priv ho n heap hle ht ret, h.disk, h.snap, fun a' v h' => by
    show L heap (getNode ((a, n) :: s.nodes) a')
    rw [getNode_cons_ne (fun e => ho.l1 a' v h' e.symm)]; exact hL a' v h'⟩

theorem Tiers.sub {L : Heap → Node → Prop} {c : Disk} {s s' : St} (h : Tiers L c s) (hp : Priv s') (hd : s'.disk = s.disk)
    (h2 : ∀ x, s'.l2 = some x → s.l2 = some x) (h1 : ∀ x, s'.l1 = some x → s.l1 = some x)
    (hL : ∀ a, L s.heap (getNode s.nodes a) → L s'.heap (getNode s'.nodes a)) : Tiers L c s' :=
  ⟨hp, hd.trans h.disk, fun d v e => h.snap d v (h2 _ e), fun a v e => hL a (h.l1 a v (h1 _ e))⟩

/-- the operations that go through no transaction node: begin, rollback, the evictions, a cold read -/
theorem Tiers.step_cache {L : Heap → Node → Prop} {c : Disk} {s : St} (h : Tiers L c s) (op : Op) (hop : usesTxn op = false)
    (hm : isMutate op = false) : Tiers L c (s.apply op).1 := by
  have hp := step_priv s op h.priv
  cases op with
  | read | update | commit => cases hop
  | mutate => cases hm
  | begin | rollback | evicth | cold => exact h.sub hp rfl (fun _ => id) (fun _ => id) (fun _ => id)
  | clear => exact h.sub hp rfl (fun _ e => nomatch e) (fun _ e => nomatch e) (fun _ => id)
  | evict1 => exact h.sub hp rfl (fun _ => id) (fun _ e => nomatch e) (fun _ => id)
  | evict2 => exact h.sub hp rfl (fun _ e => nomatch e) (fun _ => id) (fun _ => id)

theorem Tiers.init (L : Heap → Node → Prop) (vnf : Bool) (disk : Disk) : Tiers L disk { vnf := vnf, disk := disk } :=
  ⟨init_priv vnf disk, rfl, (fun _ _ h => nomatch h), fun _ _ h => nomatch h⟩

theorem run_keeps {P : St → Prop} (step : ∀ s op, P s → P (s.apply op).1) (ops : List Op) : ∀ s, P s → P (runFrom s ops).1 := by
  induction ops with
  | nil => intro s h; exact h
  | cons op rest ih => intro s h; simp only [runFrom]; exact ih _ (step s op h)

theorem run_priv (ops : List Op) : ∀ s, Priv s → Priv (runFrom s ops).1 := run_keeps step_priv ops


/-- the slots `n` mirror the map `w`: the same keys in the same order, each slot related to the map's content by `R` -/
inductive Slots (R : Nat → Option Nat → Nat → Prop) : Node → Disk → Prop
  | nil : Slots R [] []
  | cons {k v : Nat} {sl : Option Nat} {n : Node} {w : Disk} : R k sl v → Slots R n w → Slots R ((k, sl) :: n) ((k, v) :: w)

theorem Slots.mono {R R' : Nat → Option Nat → Nat → Prop} (hR : ∀ k sl v, R k sl v → R' k sl v) {n : Node} {w : Disk}
    (h : Slots R n w) : Slots R' n w := by
  induction h with
  | nil => exact .nil
  | cons hc _ ih => exact .cons (hR _ _ _ hc) ih

theorem Slots.getSlot {R : Nat → Option Nat → Nat → Prop} {n : Node} {w : Disk} (h : Slots R n w) (k : Nat) :
    getSlot n k = none ∧ Alias.get w k = none ∨ ∃ sl v, getSlot n k = some sl ∧ Alias.get w k = some v ∧ R k sl v := by
  induction h with
  | nil => exact Or.inl ⟨rfl, rfl⟩
  | @cons k' v sl n w hc _ ih =>
    simp only [Alias.getSlot, Alias.get]
    by_cases hek : k' = k
    · simp only [hek, if_true]; exact Or.inr ⟨sl, v, rfl, rfl, hek ▸ hc⟩
    · simp only [hek, if_false]; exact ih

theorem Slots.absent {R : Nat → Option Nat → Nat → Prop} {n : Node} {w : Disk} {k : Nat} (h : Slots R n w)
    (hk : Alias.get w k = none) : Slots (fun k' sl v => R k' sl v ∧ k' ≠ k) n w := by
  induction h with
  | nil => exact .nil
  | @cons k' v sl n w hc _ ih =>
    simp only [Alias.get] at hk
    by_cases hek : k' = k
    · simp only [hek, if_true] at hk; cases hk
    · simp only [hek, if_false] at hk; exact .cons ⟨hc, hek⟩ (ih hk)

/-- slot `k` overwritten with `sl'`, the map's content under `k` becoming `g` of what it was -/
theorem Slots.setSlot {R R' : Nat → Option Nat → Nat → Prop} {n : Node} {w : Disk} (h : Slots R n w) (k : Nat)
    (sl' : Option Nat) (g : Nat → Nat) (hk : ∀ sl v, R k sl v → R' k sl' (g v))
    (ho : ∀ k' sl v, k' ≠ k → R k' sl v → R' k' sl v) :
    Slots R' (setSlot n k sl') (w.map (fun e => if e.1 = k then (k, g e.2) else e)) := by
  induction h with
  | nil => exact .nil
  | @cons k' v sl n w hc _ ih =>
    simp only [Alias.setSlot, List.map_cons] at ih ⊢
    by_cases hek : k' = k
    · simp only [hek, if_true]; exact .cons (hk _ _ (hek ▸ hc)) ih
    · simp only [hek, if_false]; exact .cons (ho _ _ _ hek hc) ih

theorem Slots.setSlot_same {R R' : Nat → Option Nat → Nat → Prop} {n : Node} {w : Disk} (h : Slots R n w) (k : Nat)
    (sl' : Option Nat) (hk : ∀ sl v, R k sl v → R' k sl' v) (ho : ∀ k' sl v, k' ≠ k → R k' sl v → R' k' sl v) :
    Slots R' (Alias.setSlot n k sl') w := by
  have e : w.map (fun e => if e.1 = k then (k, id e.2) else e) = w := by
    refine (List.map_congr_left fun e _ => ?_).trans (List.map_id w)
    split
    · rename_i h; rw [← h]; rfl
    · rfl
  exact e ▸ h.setSlot k sl' id hk ho

def Blank (d : Disk) (n : Node) : Prop := Slots (fun _ sl _ => sl = none) n d

/-- a slot of a fetched-values node has a value only if the cursor is on it -/
def Hung (cur : Option Nat) (k : Nat) (sl : Option Nat) (_ : Nat) : Prop := sl ≠ none → cur = some k


/-- the invariant of a store whose values live in value blobs (`update` does nothing there in the model; `c`: the value
blobs, which are `s.disk` in such a store and which no history changes): the node object in L1 carries no value; in the
open transaction's own node object only the slot under the cursor may have one -/
structure VInv (c : Disk) (s : St) : Prop where
  vnf : s.vnf = true
  tiers : Tiers (fun _ n => Blank c n) c s
  clean : ∀ t, s.txn = some t → t.dirty = false
  tnode : ∀ t a, s.txn = some t → t.node = some a → Slots (Hung t.cur) (getNode s.nodes a) c

theorem unmarshal_blank (d : Disk) (h : Heap) (nx : Nat) : Blank d (unmarshal true d h nx).1 := by
  simp only [unmarshal, if_true]
  induction d with
  | nil => exact .nil
  | cons e d ih => exact .cons rfl ih

/-- after the cursor moved to `k`, a slot with a value is the slot of `k`, and the cursor was there before -/
theorem unfetched_spec {n : Node} {c : Disk} {cur : Option Nat} (k : Nat) (h : Slots (Hung cur) n c) :
    Slots (fun k' sl _ => sl ≠ none → k' = k ∧ cur = some k) (unfetched n cur k) c := by
  unfold unfetched
  cases cur with
  | none => exact h.mono fun _ _ _ hq hne => nomatch hq hne
  | some k' =>
    simp only
    split
    · rename_i hk
      exact h.mono fun k0 _ _ hq hne => ⟨(Option.some.inj (hq hne)).symm.trans hk, by rw [hk]⟩
    · exact h.setSlot_same (R' := fun k0 sl _ => sl ≠ none → k0 = k ∧ some k' = some k) k' none
        (fun _ _ _ hne => absurd rfl hne) fun k0 _ _ hk0 hq hne => absurd (Option.some.inj (hq hne)).symm hk0

/-- `VInv` once the transaction has its node object `a` in hand, the cursor on `cur` -/
structure VNode (c : Disk) (s : St) (a : Nat) (cur : Option Nat) : Prop where
  vnf : s.vnf = true
  tiers : Tiers (fun _ n => Blank c n) c s
  own : Own s a
  slots : Slots (Hung cur) (getNode s.nodes a) c

theorem node_vinv {c : Disk} {s s1 : St} {t : Txn} {a : Nat} (h : VInv c s) (ht : s.txn = some t) (hn : s.node t = (s1, a)) :
    VNode c s1 a t.cur := by
  rcases node_cases hn with ⟨ha, rfl⟩ | ⟨-, hl⟩
  · exact ⟨h.vnf, h.tiers, h.tiers.priv.txn _ _ ht ha, h.tnode t a ht ha⟩
  · have hb := h.tiers.load (by rw [h.vnf]; exact unmarshal_blank _ _ _)
    rw [hl] at hb
    obtain ⟨hT, ho, hv, hblank⟩ := hb
    exact ⟨hv.trans h.vnf, hT, ho, hblank.mono fun _ _ _ hq hne => absurd hq hne⟩

theorem put_vinv {c : Disk} {s : St} {a : Nat} {cur : Option Nat} (h : VNode c s a cur) {n : Node} (heap : Heap)
    {next : Nat} (hle : s.next ≤ next) {t : Txn} (hd : t.dirty = false) {cur' : Option Nat} (hn : Slots (Hung cur') n c)
    (ret : Option Nat) : VInv c (put s a n heap next { t with node := some a, cur := cur' } ret) :=
  ⟨h.vnf, h.tiers.put h.own n hle h.tiers.l1 rfl ret, fun t' ht' => by cases ht'; exact hd,
    fun t' a' ht' hta' => by
      cases ht'; cases hta'
      show Slots _ (getNode ((a, n) :: s.nodes) a) c
      rw [getNode_cons_self]; exact hn⟩

theorem read_vinv {c : Disk} (s : St) (h : VInv c s) (t : Txn) (ht : s.txn = some t) (k : Nat) (kind : Kind) :
    VInv c (s.apply (.read k kind)).1 ∧ (t.cur ≠ some k → (s.apply (.read k kind)).2 = Alias.get c k) := by
  rcases hnode : s.node t with ⟨s1, a⟩
  have hn := node_vinv h ht hnode
  have hdirty := h.clean t ht
  have hr := read_cases ht hnode k kind
  rw [readSlots, hn.vnf, if_pos rfl, hn.tiers.disk] at hr
  have hu := unfetched_spec k hn.slots
  have here : Slots (Hung (some k)) _ c := hu.mono fun _ _ _ hq hne => by rw [(hq hne).1]
  rcases hr with ⟨c0, hc, e⟩ | ⟨x, hc, -, hx, e⟩ | ⟨hc, e⟩ <;> rw [e]
  · -- a value is hung on the slot: the cursor was on `k` already
    refine ⟨put_vinv hn _ (Nat.le_refl _) hdirty here _, fun hcur => ?_⟩
    rcases hu.getSlot k with ⟨h1, -⟩ | ⟨sl, v, h1, -, h3⟩ <;> rw [hc] at h1 <;> cases h1
    exact absurd (h3 (by simp)).2 hcur
  · -- fetch: a fresh cell is hung on the slot of the transaction's own node
    exact ⟨put_vinv hn _ (Nat.le_succ _) hdirty
      (here.setSlot_same k (some s1.next) (fun _ _ _ _ => rfl) fun _ _ _ _ hq => hq) _, fun _ => hx.symm⟩
  · -- nothing: the key is not in the node, hence not in the store
    have hk : Alias.get c k = none := by
      rcases hc with hc | ⟨-, hx⟩
      · rcases hu.getSlot k with ⟨-, h2⟩ | ⟨sl, v, h1, -, -⟩
        · exact h2
        · rw [hc] at h1; cases h1
      · exact hx rfl
    exact ⟨put_vinv hn _ (Nat.le_refl _) hdirty
      ((hu.absent hk).mono fun _ _ _ hq hne => absurd (hq.1 hne).1 hq.2) _, fun _ => hk.symm⟩


/-- `mutate` included: in-place writes through returned values, by whoever and whenever -/
theorem step_vinv {c : Disk} (s : St) (op : Op) (h : VInv c s) : VInv c (s.apply op).1 := by
  have hp := step_priv s op h.tiers.priv
  have hc := h.tiers.step_cache op
  cases op with
  | begin => exact ⟨h.vnf, hc rfl rfl, fun t ht => by cases ht; rfl, fun t a ht hta => by cases ht; cases hta⟩
  | rollback => exact ⟨h.vnf, hc rfl rfl, (fun _ ht => nomatch ht), fun _ _ ht => nomatch ht⟩
  | clear | evict1 | evicth | evict2 | cold => exact ⟨h.vnf, hc rfl rfl, h.clean, h.tnode⟩
  | read k kind =>
    cases ht : s.txn with
    | none => rw [apply_idle ht _ rfl]; exact h
    | some t => exact (read_vinv s h t ht k kind).1
  | mutate x =>
    -- whatever is written through a returned value: no slot of L1's node object points to a cell
    cases hr : s.ret with
    | none => simp only [St.apply, hr]; exact h
    | some a =>
      simp only [St.apply, hr] at hp ⊢
      exact ⟨h.vnf, h.tiers.sub hp rfl (fun _ => id) (fun _ => id) (fun _ => id), h.clean, h.tnode⟩
  | update k v =>
    cases ht : s.txn with
    | none => rw [apply_idle ht _ rfl]; exact h
    | some t => simp only [St.apply, ht, h.vnf, if_true]; exact h
  | commit =>
    cases ht : s.txn with
    | none => rw [apply_idle ht _ rfl]; exact h
    | some t =>
      rcases commit_cases s t ht with ⟨a, -, hd, -⟩ | ⟨-, e⟩
      · rw [h.clean t ht] at hd; cases hd
      · rw [e] at hp ⊢
        exact ⟨h.vnf, h.tiers.sub hp rfl (fun _ => id) (fun _ => id) (fun _ => id), (fun _ ht => nomatch ht), fun _ _ ht => nomatch ht⟩

theorem init_vinv (disk : Disk) : VInv disk { vnf := true, disk := disk } :=
  ⟨rfl, Tiers.init _ true disk, (fun _ h => nomatch h), fun _ _ h => nomatch h⟩

theorem run_vinv {c : Disk} (ops : List Op) : ∀ s, VInv c s → VInv c (runFrom s ops).1 := run_keeps step_vinv ops

theorem read_fetches {c : Disk} (s : St) (h : VInv c s) (t : Txn) (ht : s.txn = some t) (k : Nat) (kind : Kind)
    (hcur : t.cur ≠ some k) : (s.apply (.read k kind)).2 = Alias.get c k :=
  (read_vinv s h t ht k kind).2 hcur

/-- the specification: a key/content map, updated transaction by transaction -/
structure SpecSt where
  committed : Disk
  work : Option Disk := none
deriving Repr, Inhabited

def SpecSt.apply (sp : SpecSt) : Op → SpecSt × Option Nat
  | .begin => ({ sp with work := some sp.committed }, none)
  | .read k _ => (sp, match sp.work with | some w => Alias.get w k | none => none)
  | .update k v => match sp.work with
    | some w => ({ sp with work := some (w.map (fun e => if e.1 = k then (k, v) else e)) }, none)
    | none => (sp, none)
  | .commit => match sp.work with
    | some w => ({ committed := w, work := none }, none)
    | none => (sp, none)
  | .rollback => ({ sp with work := none }, none)
  | .cold k => (sp, Alias.get sp.committed k)
  | _ => (sp, none)

def specReads (sp : SpecSt) : List Op → List (Option Nat)
  | [] => []
  | .read k kind :: rest => (sp.apply (.read k kind)).2 :: specReads (sp.apply (.read k kind)).1 rest
  | .cold k :: rest => (sp.apply (.cold k)).2 :: specReads (sp.apply (.cold k)).1 rest
  | op :: rest => specReads (sp.apply op).1 rest

theorem get_cons_ne {a c x : Nat} {heap : Heap} (h : a ≠ c) : Alias.get ((a, x) :: heap) c = Alias.get heap c := by
  simp [Alias.get, h]

theorem get_cons_self (a x : Nat) (heap : Heap) : Alias.get ((a, x) :: heap) a = some x := by
  simp [Alias.get]

theorem get_isLookup : Assoc.IsLookup Alias.get := ⟨fun _ => rfl, fun _ _ _ => rfl⟩

/-- the slots `n` read back, through the heap, as the map `w` -/
def Rep (heap : Heap) : Node → Disk → Prop := Slots fun _ sl v => sl.bind (Alias.get heap) = some v

theorem slot_ext {h h' : Heap} {nx v : Nat} (hf : ∀ e ∈ h, e.1 < nx) (hext : ∀ c, c < nx → Alias.get h' c = Alias.get h c)
    {sl : Option Nat} (hc : sl.bind (Alias.get h) = some v) : sl.bind (Alias.get h') = some v := by
  cases sl with
  | none => cases hc
  | some c =>
    exact (hext c (hf _ (Assoc.look_mem get_isLookup hc))).trans hc

theorem Rep.ext {h h' : Heap} {nx : Nat} (hf : ∀ e ∈ h, e.1 < nx) (hext : ∀ c, c < nx → Alias.get h' c = Alias.get h c)
    {n : Node} {w : Disk} (hr : Rep h n w) : Rep h' n w :=
  hr.mono fun _ _ _ => slot_ext hf hext

theorem unmarshalCells_spec (d : Disk) : ∀ (h : Heap) (nx : Nat), (∀ e ∈ h, e.1 < nx) →
    (∀ e ∈ (unmarshalCells d h nx).2.1, e.1 < (unmarshalCells d h nx).2.2) ∧
    (∀ c, c < nx → Alias.get (unmarshalCells d h nx).2.1 c = Alias.get h c) ∧
    Rep (unmarshalCells d h nx).2.1 (unmarshalCells d h nx).1 d := by
  induction d with
  | nil => intro h nx hf; exact ⟨hf, fun _ _ => rfl, .nil⟩
  | cons e rest ih =>
    intro h nx hf
    obtain ⟨k, v⟩ := e
    have hf' : ∀ e' ∈ (nx, v) :: h, e'.1 < nx + 1 := by
      intro e' he'
      rcases List.mem_cons.1 he' with h1 | h1
      · rw [h1]; exact Nat.lt_succ_self _
      · exact Nat.lt_succ_of_lt (hf e' h1)
    obtain ⟨i1, i2, i3⟩ := ih ((nx, v) :: h) (nx + 1) hf'
    simp only [unmarshalCells]
    refine ⟨i1, fun c hc => ?_, .cons ?_ i3⟩
    · rw [i2 c (Nat.lt_succ_of_lt hc), get_cons_ne (Nat.ne_of_gt hc)]
    · show Alias.get _ nx = some v
      rw [i2 nx (Nat.lt_succ_self _), get_cons_self]

theorem Rep.getSlot {heap : Heap} {k : Nat} {n : Node} {w : Disk} (hr : Rep heap n w) :
    (match getSlot n k with | some sl => sl.bind (Alias.get heap) | none => none) = Alias.get w k := by
  rcases Slots.getSlot hr k with ⟨h1, h2⟩ | ⟨sl, v, h1, h2, h3⟩ <;> rw [h1, h2]
  exact h3

theorem Rep.setSlot {heap : Heap} {nx k v : Nat} (hf : ∀ e ∈ heap, e.1 < nx) {n : Node} {w : Disk} (hr : Rep heap n w) :
    Rep ((nx, v) :: heap) (setSlot n k (some nx)) (w.map (fun e => if e.1 = k then (k, v) else e)) :=
  Slots.setSlot hr k (some nx) (fun _ => v) (fun _ _ _ => get_cons_self ..)
    (fun _ _ _ _ => slot_ext hf fun _ hc => get_cons_ne (Nat.ne_of_gt hc))

theorem Rep.marshal {heap : Heap} {n : Node} {w : Disk} (hr : Rep heap n w) : marshal heap n = w := by
  induction hr with
  | nil => rfl
  | cons hc _ ih =>
    unfold Alias.marshal at ih ⊢
    simp only [List.filterMap_cons, hc, Option.map_some, ih]

/-- the transaction's node object, once it has one, reads back as the specification's working map -/
def WorkU (s : St) (sp : SpecSt) : Prop :=
  Paired (fun t w => (t.dirty = false → w = sp.committed) ∧ (t.node = none → t.dirty = false) ∧
    ∀ a, t.node = some a → Rep s.heap (getNode s.nodes a) w) s.txn sp.work

theorem WorkU.idle {s : St} {sp : SpecSt} (h : WorkU s sp) (ht : s.txn = none) : sp.work = none := by
  rcases Paired.cases h with ⟨-, hw⟩ | ⟨t, w, ht', -, -⟩
  · exact hw
  · rw [ht] at ht'; cases ht'

theorem WorkU.busy {s : St} {sp : SpecSt} {t : Txn} (h : WorkU s sp) (ht : s.txn = some t) :
    ∃ w, sp.work = some w ∧ (t.dirty = false → w = sp.committed) ∧ (t.node = none → t.dirty = false) ∧
      ∀ a, t.node = some a → Rep s.heap (getNode s.nodes a) w := by
  rcases Paired.cases h with ⟨ht', -⟩ | ⟨t', w, ht', hw, hr⟩
  · rw [ht] at ht'; cases ht'
  · cases ht.symm.trans ht'
    exact ⟨w, hw, hr⟩

/-- the invariant of a store whose values are in the node, along a history without in-place writes: the blob, the L2
payload and the node object in L1 hold the COMMITTED map; the open transaction's own node object, another object
(`Priv`), holds its working map -/
structure UInv (s : St) (sp : SpecSt) : Prop where
  inNode : s.vnf = false
  tiers : Tiers (fun hp n => Rep hp n sp.committed) sp.committed s
  heap : ∀ e ∈ s.heap, e.1 < s.next
  work : WorkU s sp

/-- `UInv` once the transaction has its node object `a` in hand -/
structure UNode (s : St) (sp : SpecSt) (a : Nat) (w : Disk) : Prop where
  inNode : s.vnf = false
  tiers : Tiers (fun hp n => Rep hp n sp.committed) sp.committed s
  own : Own s a
  heap : ∀ e ∈ s.heap, e.1 < s.next
  view : Rep s.heap (getNode s.nodes a) w

theorem load_u (s : St) (sp : SpecSt) (h : UInv s sp) : UNode s.load.1 sp s.load.2 sp.committed := by
  obtain ⟨hT, ho, hv, hr⟩ := h.tiers.load (by
    simp only [unmarshal, h.inNode, Bool.false_eq_true, if_false]
    exact (unmarshalCells_spec _ _ _ h.heap).2.2)
  refine ⟨hv.trans h.inNode, hT, ho, ?_, hr⟩
  rcases load_cases s h.tiers.priv.cloned with ⟨a, -, e⟩ | ⟨d, vok, -, e⟩ <;> rw [e]
  · exact fun e he => Nat.lt_succ_of_lt (h.heap e he)
  · have := (unmarshalCells_spec d s.heap s.next h.heap).1
    simp only [fill, unmarshal, h.inNode, Bool.false_eq_true, if_false]
    exact fun e he => Nat.lt_succ_of_lt (Nat.lt_succ_of_lt (this e he))

theorem node_u {s s1 : St} {sp : SpecSt} {t : Txn} {a : Nat} {w : Disk} (h : UInv s sp) (ht : s.txn = some t)
    (hw : sp.work = some w) (hn : s.node t = (s1, a)) : UNode s1 sp a w := by
  obtain ⟨w', hw', hclean, hnd, hview⟩ := h.work.busy ht
  cases hw.symm.trans hw'
  rcases node_cases hn with ⟨ha, rfl⟩ | ⟨hnone, hl⟩
  · exact ⟨h.inNode, h.tiers, h.tiers.priv.txn _ _ ht ha, h.heap, hview a ha⟩
  · -- not loaded before: nothing written yet, the working map is the committed one
    have lu := load_u s sp h
    rw [hl] at lu
    rw [hclean (hnd hnone)]
    exact lu

theorem put_u {s : St} {sp sp' : SpecSt} {a : Nat} {w w' : Disk} (h : UNode s sp a w) {n : Node} {heap : Heap} {next : Nat}
    (hle : s.next ≤ next) (hheap : ∀ e ∈ heap, e.1 < next) (hext : ∀ c, c < s.next → Alias.get heap c = Alias.get s.heap c)
    (hc : sp'.committed = sp.committed) (hw' : sp'.work = some w') (hview : Rep heap n w') {dirty : Bool}
    (hdirty : dirty = false → w' = sp.committed) (cur ret : Option Nat) :
    UInv (put s a n heap next { node := some a, dirty := dirty, cur := cur } ret) sp' := by
  refine ⟨h.inNode, ?_, hheap, ?_⟩
  · rw [hc]; exact h.tiers.put h.own n hle (fun a' v h' => (h.tiers.l1 a' v h').ext h.heap hext) rfl ret
  · refine Paired.some rfl hw' ⟨hc ▸ hdirty, (fun e => nomatch e), fun a0 ha0 => ?_⟩
    cases ha0
    show Rep heap (getNode ((a, n) :: s.nodes) a) w'
    rw [getNode_cons_self]; exact hview

theorem step_u (s : St) (sp : SpecSt) (h : UInv s sp) (op : Op) (hm : isMutate op = false) :
    UInv (s.apply op).1 (sp.apply op).1 ∧ (s.apply op).2 = (sp.apply op).2 := by
  have hp := step_priv s op h.tiers.priv
  have hT := h.tiers
  have hc := fun hop => hT.step_cache op hop hm
  cases op with
  | mutate x => cases hm
  | begin => exact ⟨⟨h.inNode, hc rfl, h.heap, Paired.some rfl rfl ⟨fun _ => rfl, fun _ => rfl, fun _ e => nomatch e⟩⟩, rfl⟩
  | rollback => exact ⟨⟨h.inNode, hc rfl, h.heap, Paired.none rfl rfl⟩, rfl⟩
  | clear | evict1 | evicth | evict2 => exact ⟨⟨h.inNode, hc rfl, h.heap, h.work⟩, rfl⟩
  | read k kind =>
    cases ht : s.txn with
    | none =>
      rw [apply_idle ht _ rfl]
      simp only [SpecSt.apply, h.work.idle ht]
      exact ⟨h, trivial⟩
    | some t =>
      obtain ⟨w, hw, hclean, -⟩ := h.work.busy ht
      rcases hnode : s.node t with ⟨s1, a⟩
      have hn := node_u h ht hw hnode
      have hr := read_cases ht hnode k kind
      rw [readSlots, hn.inNode, if_neg Bool.false_ne_true] at hr
      have hout := Rep.getSlot (k := k) hn.view
      have hsp : sp.apply (.read k kind) = (sp, Alias.get w k) := by simp only [SpecSt.apply, hw]
      rw [hsp]
      rcases hr with ⟨c, hc, e⟩ | ⟨x, -, hv, -, -⟩ | ⟨hc, e⟩
      · rw [hc] at hout
        rw [e]
        exact ⟨put_u hn (Nat.le_refl _) hn.heap (fun _ _ => rfl) rfl hw hn.view hclean _ _, hout⟩
      · cases hv
      · rw [e]
        refine ⟨put_u hn (Nat.le_refl _) hn.heap (fun _ _ => rfl) rfl hw hn.view hclean _ _, ?_⟩
        rcases hc with hc | ⟨hc, -⟩ <;> rw [hc] at hout <;> exact hout
  | update k v =>
    cases ht : s.txn with
    | none =>
      rw [apply_idle ht _ rfl]
      simp only [SpecSt.apply, h.work.idle ht]
      exact ⟨h, trivial⟩
    | some t =>
      obtain ⟨w, hw, -⟩ := h.work.busy ht
      rcases hnode : s.node t with ⟨s1, a⟩
      have hn := node_u h ht hw hnode
      rw [update_eq ht hnode h.inNode]
      simp only [SpecSt.apply, hw]
      -- `by rfl`, not `rfl`: elaborated last, when the goal has fixed the specification state
      exact ⟨put_u hn (Nat.le_succ _)
        (fun e he => by
          rcases List.mem_cons.1 he with rfl | he
          · exact Nat.lt_succ_self _
          · exact Nat.lt_succ_of_lt (hn.heap e he))
        (fun c hc => get_cons_ne (Nat.ne_of_gt hc)) (by rfl) (by rfl) (Rep.setSlot hn.heap hn.view) (by intro hd; cases hd) _ _, trivial⟩
  | commit =>
    cases ht : s.txn with
    | none =>
      rw [apply_idle ht _ rfl]
      simp only [SpecSt.apply, h.work.idle ht]
      exact ⟨h, trivial⟩
    | some t =>
      obtain ⟨w, hw, hclean, hnone, hview⟩ := h.work.busy ht
      simp only [SpecSt.apply, hw]
      rcases commit_cases s t ht with ⟨a, hnode, -, e⟩ | ⟨hnd, e⟩ <;> rw [e] at hp ⊢
      · -- a dirty node: marshalled as it is to the blob and to L2, a clone goes into L1
        have hview := hview a hnode
        have hm := Rep.marshal hview
        refine ⟨⟨h.inNode, ⟨hp, hm, ?_, ?_⟩, fun e he => Nat.lt_succ_of_lt (h.heap e he), Paired.none rfl rfl⟩, rfl⟩
        · intro d v h'; cases h'; exact hm
        · intro a' v h'; cases h'
          show Rep s.heap (getNode ((s.next, _) :: s.nodes) s.next) _
          rw [getNode_cons_self]; exact hview
      · have hwc : w = sp.committed := by
          cases hd : t.dirty with
          | false => exact hclean hd
          | true => have := hnone (hnd hd); rw [hd] at this; cases this
        subst hwc
        exact ⟨⟨h.inNode, hT.sub hp rfl (fun _ => id) (fun _ => id) (fun _ => id), h.heap, Paired.none rfl rfl⟩, rfl⟩
  | cold k =>
    refine ⟨h, ?_⟩
    simp only [St.apply, SpecSt.apply, hT.disk]

theorem run_u (ops : List Op) : ∀ (s : St) (sp : SpecSt), UInv s sp → (∀ op ∈ ops, isMutate op = false) →
    reads s ops = specReads sp ops := by
  induction ops with
  | nil => intros; rfl
  | cons op rest ih =>
    intro s sp h hm
    obtain ⟨h1, h2⟩ := step_u s sp h op (hm op (List.mem_cons_self ..))
    have ih' := ih _ _ h1 (fun o ho => hm o (List.mem_cons_of_mem _ ho))
    cases op <;> simp only [reads, specReads, ih', h2]

theorem init_u (disk : Disk) : UInv { vnf := false, disk := disk } { committed := disk } :=
  ⟨rfl, Tiers.init _ false disk, (fun _ h => nomatch h), Paired.none rfl rfl⟩


/-! by-value reads: the caller's copy is unreachable, so `run_u` extends to histories with in-place writes -/

def allByValue : List Op → Bool
  | [] => true
  | .read _ kind :: rest => (kind == .byValue) && allByValue rest
  | _ :: rest => allByValue rest

theorem load_ret (s : St) : s.load.1.ret = s.ret := by
  unfold St.load
  split
  · rfl
  · split
    · simp only [St.clone, St.newNode]
      generalize unmarshal s.vnf _ s.heap s.next = r
      obtain ⟨n, h, nx⟩ := r
      dsimp only
      split <;> rfl
    · rfl

theorem node_ret {s s1 : St} {t : Txn} {a : Nat} (hn : s.node t = (s1, a)) : s1.ret = s.ret := by
  rcases node_cases hn with ⟨-, rfl⟩ | ⟨-, hl⟩
  · rfl
  · rw [← load_ret s, hl]

theorem apply_ret_none (s : St) (op : Op) (h : s.ret = none)
    (hv : ∀ k kind, op = .read k kind → kind = .byValue) : (s.apply op).1.ret = none := by
  cases op with
  | read k kind =>
    cases hv k kind rfl
    cases ht : s.txn with
    | none => rw [apply_idle ht _ rfl]; exact h
    | some t =>
      rcases hn : s.node t with ⟨s1, a⟩
      obtain ⟨c, -, e⟩ | ⟨x, -, -, -, e⟩ | ⟨-, e⟩ := read_cases ht hn k .byValue <;> rw [e] <;> rfl
  | mutate x => simp only [St.apply, h]
  | update k v =>
    cases ht : s.txn with
    | none => rw [apply_idle ht _ rfl]; exact h
    | some t =>
      cases hvnf : s.vnf with
      | true => simp only [St.apply, ht, hvnf, if_true]; exact h
      | false =>
        rcases hn : s.node t with ⟨s1, a⟩
        rw [update_eq ht hn hvnf]
        exact (node_ret hn).trans h
  | commit =>
    cases ht : s.txn with
    | none => rw [apply_idle ht _ rfl]; exact h
    | some t => rcases commit_cases s t ht with ⟨a, -, -, e⟩ | ⟨-, e⟩ <;> rw [e] <;> exact h
  | begin | rollback | clear | evict1 | evicth | evict2 | cold k => exact h

theorem reads_cons (s : St) (op : Op) (rest : List Op) :
    reads s (op :: rest) =
      (match op with | .read .. | .cold _ => [(s.apply op).2] | _ => []) ++ reads (s.apply op).1 rest := by
  cases op <;> rfl

theorem allByValue_cons {op : Op} {rest : List Op} (h : allByValue (op :: rest) = true) :
    (∀ k kind, op = .read k kind → kind = .byValue) ∧ allByValue rest = true := by
  cases op with
  | read k kind =>
    simp only [allByValue, Bool.and_eq_true, beq_iff_eq] at h
    exact ⟨fun _ _ e => by cases e; exact h.1, h.2⟩
  | _ => exact ⟨fun _ _ e => (nomatch e), h⟩

end Sop.C38
