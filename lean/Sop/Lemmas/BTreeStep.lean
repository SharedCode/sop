import Sop.Lemmas.BTreeOps
import Sop.Lemmas.BTreeRemoveCases
/-! `Statement_C17`'s conclusion for whole public calls without `Inv` (under `WF`, not panicked, a readable cursor and the
repair the call needs): `UpdateCurrentItem/Key/Value`, `Update`, `UpdateKey`, `RemoveCurrentItem`, `Remove`. What each call does
to the tree is proved with the remove side, the in-place updates included: `Rem.CursorOn`, `Rem.updateCurrent_ok`,
`Rem.updateCurrentValue_ok` stand in BTreeRemove, `Rem.removeCurrent_ok` and the `_none` cases in BTreeRemoveCases. -/
namespace Sop.BTree
open Sop.BTree.Rem

/-- what `Statement_C17` asks of one call -/
def StepOk (t : BTree) (op : Op) : Prop :=
  WF (t.step op).1 ∧ (t.step op).1.panicked = false ∧
    Spec.accepts t.unique t.abs op (t.step op).2 (t.step op).1.abs = true


/-- the cursor passes the common head of `UpdateCurrent*`/`RemoveCurrentItem` ⇒ it is on an occupied slot of a
    reachable node -/
theorem WF.cursorOn_of_curNode {t : BTree} (hwf : WF t) {nd : Node} (h : t.curNode? = some nd) (hi : 0 ≤ t.cur.idx) :
    CursorOn t :=
  have hg := (curNode?_some h).1
  Rem.cursorOn_of_curNode t nd h hi (hwf.all_reachable (hwf.root_ne_of_get hg) hg)

theorem perm_erase_mid {x : Item} (L R : List Item) : ((L ++ x :: R).erase x).Perm (L ++ R) := by
  have h1 : (L ++ x :: R).Perm (x :: (L ++ x :: R).erase x) := List.perm_cons_erase (by simp)
  have h2 : (L ++ x :: R).Perm (x :: (L ++ R)) := List.perm_middle
  exact (List.Perm.cons_inv (h1.symm.trans h2))

theorem removedOne_perm {p : Item → Bool} {x : Item} {L R after : List Item} (hp : p x = true)
    (h : (L ++ R).Perm after) : removedOne p (L ++ x :: R) after = true := by
  unfold removedOne
  rw [List.any_eq_true]
  exact ⟨x, by simp, by rw [hp, Bool.true_and]; exact List.isPerm_iff.mpr ((perm_erase_mid L R).trans h)⟩

theorem removedOne_mid {p : Item → Bool} {x : Item} (L R : List Item) (hp : p x = true) :
    removedOne p (L ++ x :: R) (L ++ R) = true :=
  removedOne_perm hp (List.Perm.refl _)

theorem replacedOne_mid {p : Item → Bool} {f : Item → Item} {x : Item} (L R : List Item) (hp : p x = true) :
    replacedOne p f (L ++ x :: R) (L ++ f x :: R) = true := by
  unfold replacedOne
  rw [List.any_eq_true]
  refine ⟨x, by simp, ?_⟩
  rw [hp, Bool.true_and]
  apply List.isPerm_iff.mpr
  exact ((perm_erase_mid L R).cons (f x)).trans List.perm_middle.symm

theorem step_updateCurrentValue {t : BTree} (hwf : WF t) (hp : t.panicked = false) (hi : 0 ≤ t.cur.idx) (v : Nat) :
    StepOk t (.updateCurrentValue v) := by
  unfold StepOk
  simp only [BTree.step]
  cases hcn : t.curNode? with
  | none =>
    have : t.updateCurrentValue v = (t, .ok false) := updateCurrentValue_none t v hcn
    rw [this]
    exact ⟨hwf, hp, by simp [Spec.accepts, keysSorted_of_WF hwf, isPerm_refl]⟩
  | some nd =>
    have hc := hwf.cursorOn_of_curNode hcn hi
    obtain ⟨h1, h2, h3, _, _, L, R, h6, h7⟩ := updateCurrentValue_ok t v hwf hp hc
    refine ⟨h1, h2, ?_⟩
    rw [h3, h7, h6]
    simp only [Spec.accepts, if_true, Bool.and_eq_true]
    refine ⟨?_, replacedOne_mid L R rfl⟩
    rw [← h7]; exact keysSorted_of_WF h1

theorem step_updateCurrent {t : BTree} (hwf : WF t) (hp : t.panicked = false) (hi : 0 ≤ t.cur.idx)
    (hfe : t.fixErr = true) (k : Int) (val : Option Nat) :
    WF (t.updateCurrent k val).1 ∧ (t.updateCurrent k val).1.panicked = false ∧
    (((t.updateCurrent k val).2 = .ok false ∧ (t.updateCurrent k val).1 = t) ∨
     ((t.updateCurrent k val).2 = .err ∧ (t.updateCurrent k val).1 = t) ∨
     ((t.updateCurrent k val).2 = .ok true ∧ t.curItem.key = k ∧ ∃ L R, t.abs = L ++ t.curItem :: R ∧
        (t.updateCurrent k val).1.abs = L ++ { t.curItem with val := val.getD t.curItem.val } :: R)) := by
  cases hcn : t.curNode? with
  | none =>
    have : t.updateCurrent k val = (t, .ok false) := updateCurrent_none t k _ hcn
    rw [this]
    exact ⟨hwf, hp, Or.inl ⟨rfl, rfl⟩⟩
  | some nd =>
    have hc := hwf.cursorOn_of_curNode hcn hi
    by_cases hkey : t.curItem.key = k
    · obtain ⟨h1, h2, h3, _, _, h6⟩ := updateCurrent_ok t k val hwf hp hc hkey
      exact ⟨h1, h2, Or.inr (Or.inr ⟨h3, hkey, h6⟩)⟩
    · obtain ⟨h1, h2⟩ := updateCurrent_reject t k val hc hkey
      have h3 := h2 (by simp [hfe])
      rw [h3]
      exact ⟨hwf, hp, Or.inr (Or.inl ⟨h1, rfl⟩)⟩

theorem step_updateCurrentItem {t : BTree} (hwf : WF t) (hp : t.panicked = false) (hi : 0 ≤ t.cur.idx)
    (hfe : t.fixErr = true) (k : Int) (v : Nat) : StepOk t (.updateCurrentItem k v) := by
  unfold StepOk
  simp only [BTree.step]
  obtain ⟨h1, h2, h3⟩ := step_updateCurrent hwf hp hi hfe k (some v)
  refine ⟨h1, h2, ?_⟩
  rcases h3 with ⟨hr, hs⟩ | ⟨hr, hs⟩ | ⟨hr, _, L, R, ha, hb⟩
  · rw [hr, hs]; simp [Spec.accepts, keysSorted_of_WF hwf, isPerm_refl]
  · rw [hr, hs]; simp [Spec.accepts, keysSorted_of_WF hwf, isPerm_refl]
  · rw [hr, hb, ha]
    simp only [Spec.accepts, if_true, Bool.and_eq_true, Option.getD_some]
    refine ⟨?_, replacedOne_mid L R rfl⟩
    have := keysSorted_of_WF h1
    rw [hb] at this; simpa using this

theorem step_updateCurrentKey {t : BTree} (hwf : WF t) (hp : t.panicked = false) (hi : 0 ≤ t.cur.idx)
    (hfe : t.fixErr = true) (k : Int) : StepOk t (.updateCurrentKey k) := by
  unfold StepOk
  simp only [BTree.step]
  obtain ⟨h1, h2, h3⟩ := step_updateCurrent hwf hp hi hfe k none
  refine ⟨h1, h2, ?_⟩
  rcases h3 with ⟨hr, hs⟩ | ⟨hr, hs⟩ | ⟨hr, _, L, R, ha, hb⟩
  · rw [hr, hs]; simp [Spec.accepts, keysSorted_of_WF hwf, isPerm_refl]
  · rw [hr, hs]; simp [Spec.accepts, keysSorted_of_WF hwf, isPerm_refl]
  · have hsame : (t.updateCurrent k none).1.abs = t.abs := by
      rw [hb, ha]; simp only [Option.getD_none]
    rw [hr, hsame]
    simp [Spec.accepts, keysSorted_of_WF hwf, isPerm_refl]

theorem cursorOn_of_pos {t t' : BTree} (hwf : WF t) {L R : List Item} (h : CursorPos t t' L R) :
    CursorOn t' := by
  obtain ⟨he, hp, f, m, s, hn, hi, hat⟩ := id h
  obtain ⟨_, nd, hg, hlt⟩ := hat
  obtain ⟨nd', hg', hcore⟩ := he.get_some hg
  have hwf' := WF_heapEq he hwf
  have hr' := hwf'.root_ne_of_get hg'
  refine ⟨by rw [hn]; exact hwf'.all_reachable hr' hg', hi ▸ Int.natCast_nonneg s, ?_⟩
  rw [hn, get_of_get? hg', core_eq_count hcore, hi]; exact Int.ofNat_lt.mpr hlt

theorem find_any_cases {t : BTree} (hwf : WF t) (hp : t.panicked = false) (hv : CursorValid t) (hff : t.fixFast = true)
    (k : Int) :
    ∃ t1, WF t1 ∧ t1.panicked = false ∧ t1.abs = t.abs ∧
    ((t.find k false = (t1, false) ∧ hasKey t.abs k = false) ∨
     (t.find k false = (t1, true) ∧ hasKey t.abs k = true ∧ CursorOn t1 ∧ 0 ≤ t1.cur.idx ∧ t1.curItem.key = k)) := by
  by_cases hne : t.abs = []
  · exact ⟨t, hwf, hp, rfl, Or.inl ⟨find_empty hwf hne _ _, by rw [hne]; rfl⟩⟩
  · obtain ⟨he, hp', hres⟩ := find_any_spec hwf hp hv hff hne k
    have hw := hwf.wfr (hwf.count_ne hne).2
    refine ⟨(t.find k false).1, WF_heapEq he hwf, hp', abs_heapEq he, ?_⟩
    rcases hres with ⟨hr, L, y, R, hpos, hy⟩ | ⟨hr, hno, _⟩
    · right
      obtain ⟨habs, _, y', R', hR, hcur⟩ := cursorPos_abs hw hpos
      have hon := cursorOn_of_pos hwf hpos
      exact ⟨Prod.ext rfl hr, hasKey_of_mem (by rw [habs]; simp) hy, hon, hon.2.1,
        by rw [hcur, ← (List.cons.inj hR).1]; exact hy⟩
    · left; exact ⟨Prod.ext rfl hr, hasKey_false hno⟩

theorem step_update {t : BTree} (hwf : WF t) (hp : t.panicked = false) (hv : CursorValid t) (hff : t.fixFast = true)
    (k : Int) (v : Nat) : StepOk t (.update k v) := by
  unfold StepOk
  simp only [BTree.step, BTree.update]
  obtain ⟨t1, h1, h2, h3, hres⟩ := find_any_cases hwf hp hv hff k
  rcases hres with ⟨hfd, hno⟩ | ⟨hfd, hyes, hon, hidx, hkey⟩
  · rw [hfd]
    simp only [Bool.not_false, if_true]
    refine ⟨h1, h2, ?_⟩
    rw [h3]
    simp [Spec.accepts, keysSorted_of_WF hwf, isPerm_refl, hno]
  · rw [hfd]
    simp only [Bool.not_true, Bool.false_eq_true, if_false]
    obtain ⟨g1, g2, g3, _, _, L, R, g6, g7⟩ := updateCurrent_ok t1 k (some v) h1 h2 hon hkey
    refine ⟨g1, g2, ?_⟩
    rw [g3, g7, ← h3, g6]
    have hks : keysSorted (L ++ { t1.curItem with val := v } :: R) = true := by
      have := keysSorted_of_WF g1; rw [g7] at this; simpa using this
    have hk' : hasKey (L ++ t1.curItem :: R) k = true := by rw [← g6, h3]; exact hyes
    simp only [Spec.accepts, hk', if_true, Bool.true_and, Bool.and_eq_true, Option.getD_some]
    exact ⟨hks, replacedOne_mid L R (by simp [hkey])⟩

theorem step_updateKey {t : BTree} (hwf : WF t) (hp : t.panicked = false) (hv : CursorValid t) (hff : t.fixFast = true)
    (k : Int) : StepOk t (.updateKey k) := by
  unfold StepOk
  simp only [BTree.step, BTree.updateKey]
  obtain ⟨t1, h1, h2, h3, hres⟩ := find_any_cases hwf hp hv hff k
  rcases hres with ⟨hfd, hno⟩ | ⟨hfd, hyes, hon, hidx, hkey⟩
  · rw [hfd]
    simp only [Bool.not_false, if_true]
    refine ⟨h1, h2, ?_⟩
    rw [h3]
    simp [Spec.accepts, keysSorted_of_WF hwf, isPerm_refl, hno]
  · rw [hfd]
    simp only [Bool.not_true, Bool.false_eq_true, if_false]
    obtain ⟨g1, g2, g3, _⟩ := updateCurrent_ok t1 k none h1 h2 hon hkey
    have g4 := updateCurrentKey_abs t1 k h1 h2 hon hkey
    refine ⟨g1, g2, ?_⟩
    rw [g3, g4, h3]
    simp [Spec.accepts, keysSorted_of_WF hwf, isPerm_refl, hyes]

/-- the cursor's node is a leaf (or the cursor does not pass the guards of `RemoveCurrentItem`). Only `step_removeCurrent_leaf`
    and `step_remove_leaf` speak of it: the leaf cases of `step_removeCurrent`, `step_remove`; no user in the development. -/
def CursorInLeaf (t : BTree) : Prop := (t.get t.cur.node).children = none

theorem step_removeCurrent {t : BTree} (hwf : WF t) (hp : t.panicked = false) (hi : 0 ≤ t.cur.idx) :
    StepOk t .removeCurrent := by
  unfold StepOk
  simp only [BTree.step]
  cases hcn : t.curNode? with
  | none =>
    have : t.removeCurrent = (t, .ok false) := removeCurrent_none t hcn
    rw [this]
    exact ⟨hwf, hp, by simp [Spec.accepts, keysSorted_of_WF hwf, isPerm_refl]⟩
  | some nd =>
    have hc := hwf.cursorOn_of_curNode hcn hi
    obtain ⟨h1, h2, h3, _, _, L, R, h6, h7⟩ := removeCurrent_ok t hwf hp hc
    refine ⟨h1, h2, ?_⟩
    rw [h3, h6]
    simp only [Spec.accepts, if_true, Bool.and_eq_true]
    exact ⟨keysSorted_of_WF h1, removedOne_perm rfl h7⟩

theorem step_removeCurrent_leaf {t : BTree} (hwf : WF t) (hp : t.panicked = false) (hi : 0 ≤ t.cur.idx)
    (hleaf : CursorInLeaf t) : StepOk t .removeCurrent := step_removeCurrent hwf hp hi

theorem step_remove {t : BTree} (hwf : WF t) (hp : t.panicked = false) (hv : CursorValid t) (hff : t.fixFast = true)
    (k : Int) : StepOk t (.remove k) := by
  unfold StepOk
  simp only [BTree.step, BTree.remove]
  obtain ⟨t1, h1, h2, h3, hres⟩ := find_any_cases hwf hp hv hff k
  rcases hres with ⟨hfd, hno⟩ | ⟨hfd, hyes, hon, hidx, hkey⟩
  · rw [hfd]
    simp only [Bool.not_false, if_true]
    refine ⟨h1, h2, ?_⟩
    rw [h3]
    simp [Spec.accepts, keysSorted_of_WF hwf, isPerm_refl, hno]
  · rw [hfd]
    simp only [Bool.not_true, Bool.false_eq_true, if_false]
    obtain ⟨g1, g2, g3, _, _, L, R, g6, g7⟩ := removeCurrent_ok t1 h1 h2 hon
    refine ⟨g1, g2, ?_⟩
    rw [g3, ← h3, g6]
    have hk' : hasKey (L ++ t1.curItem :: R) k = true := by rw [← g6, h3]; exact hyes
    simp only [Spec.accepts, hk', if_true, Bool.true_and, Bool.and_eq_true]
    exact ⟨keysSorted_of_WF g1, removedOne_perm (by simp [hkey]) g7⟩

theorem step_remove_leaf {t : BTree} (hwf : WF t) (hp : t.panicked = false) (hv : CursorValid t) (hff : t.fixFast = true)
    (k : Int) (hleaf : (t.find k false).2 = true → CursorInLeaf (t.find k false).1) : StepOk t (.remove k) :=
  step_remove hwf hp hv hff k

end Sop.BTree
