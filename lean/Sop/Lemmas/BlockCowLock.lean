import Sop.Lemmas.Basics
import Sop.Lemmas.BlockCowSeq
/-! # Several writers on one registry block: what the per-block lock and the backup file guarantee

The invariant of `Sop.BlockCow.Sys.ev` that holds when every actor enters at `updateFileBlockRegion` (pc `lockPre`),
i.e. all accesses to the block and its backup happen under the lock, and the backup is deleted BEFORE the unlock
(`late = false`). Last (`section Plan`): the sequential registry operations of the model are `plan`, then `updateBlockW`. -/
namespace Sop.C22
open Sop.BlockCow

/-- the versions `G` the block can take and the updates `O` applied to it; `det` is the hypothesis `Detects` of the
sequential theorems, for every pair version/successor that occurs -/
structure GoodSet (P : Params) (G : Block → Prop) (O : Nat → List Nat → Prop) : Prop where
  len : ∀ b, G b → b.length = P.n
  val : ∀ b, G b → valid P b = true
  cl : ∀ b off rec, G b → O off rec → G (newImage P b off rec)
  det : ∀ b off rec, G b → O off rec → Detects P b (newImage P b off rec)

def outside : WPc → Bool
  | .lockPre | .lockNo | .uPost | .done => true
  | _ => false

/-- what the lock holder's pc says about the disk; `b` is the version before its update. `False` at the pcs outside the
critical section. -/
def Sect (P : Params) (b : Block) (a : Actor) (d : Disk) : Prop :=
  match a.pc with
  | .lockOk | .bRead => Stable P b d
  | .bHave => a.buf = d.blk ∧ Stable P b d
  | .bRestore => a.buf = b ∧ Stable P b d
  | .bRestored | .cowNew => a.buf = b ∧ d.blk = b
  | .cowFill => a.buf = b ∧ d.blk = b ∧ d.cow.isSome = true
  | .wPre => a.buf = b ∧ a.img = newImage P b a.off a.rcd ∧ d.blk = b ∧ d.cow = some b
  | .wMid => a.img = newImage P b a.off a.rcd ∧ d.blk = torn b a.img a.cut ∧ d.cow = some b
  | .wPost => a.img = newImage P b a.off a.rcd ∧ d.blk = a.img
  | .uPre => a.img = newImage P b a.off a.rcd ∧ d.blk = a.img ∧ a.res = some .ok
  | _ => False

/-- `b` is the version every reader is handed while nobody holds the lock; under the lock it is the version the holder
started from (`Sect`), until its unlock makes its image the version. -/
structure Inv (P : Params) (G : Block → Prop) (O : Nat → List Nat → Prop) (s : Sys) (b : Block) : Prop where
  good : G b
  ops : ∀ j, O (s.as j).off (s.as j).rcd
  out : ∀ j, s.sh.lock ≠ some j → outside (s.as j).pc = true ∨ (s.as j).dead = true
  free : s.sh.lock = none → Stable P b s.sh.disk
  held : ∀ i, s.sh.lock = some i → Sect P b (s.as i) s.sh.disk

variable {P : Params} {G : Block → Prop} {O : Nat → List Nat → Prop}

theorem torn_take_drop (b img : Block) (c : Nat) (h : img.length = b.length) :
    (torn b img c).take c ++ img.drop c = img := by
  unfold torn
  by_cases hc : c ≤ img.length
  · rw [List.take_append_of_le_length (by simp [List.length_take]; omega)]
    rw [List.take_take, Nat.min_self, List.take_append_drop]
  · have e1 : List.take c img = img := List.take_of_length_le (by omega)
    have e2 : List.drop c b = [] := List.drop_of_length_le (by omega)
    have e3 : List.drop c img = [] := List.drop_of_length_le (by omega)
    rw [e1, e2, e3, List.append_nil, List.append_nil]
    exact List.take_of_length_le (by omega)

theorem sect_view (hg : GoodSet P G O)
    {b : Block} (hb : G b) {a : Actor} (ho : O a.off a.rcd) {d : Disk} (h : Sect P b a d) :
    Stable P b d ∨ (a.img = newImage P b a.off a.rcd ∧ d.blk = a.img) := by
  have hl := hg.len b hb
  unfold Sect at h
  cases hp : a.pc <;> rw [hp] at h <;> simp only at h
  case lockOk | bRead => exact Or.inl h
  case bHave | bRestore => exact Or.inl h.2
  case bRestored | cowNew => exact Or.inl (Or.inl h.2)
  case cowFill => exact Or.inl (Or.inl h.2.1)
  case wPre => exact Or.inl (Or.inl h.2.2.1)
  case wMid =>
    obtain ⟨hi, hblk, hcow⟩ := h
    have hgi : G a.img := hi ▸ hg.cl b _ _ hb ho
    have hli : a.img.length = b.length := (hg.len _ hgi).trans hl.symm
    rcases hg.det b _ _ hb ho (torn b a.img a.cut) (hi ▸ mix_torn b a.img hli a.cut) with e | e | e
    · exact Or.inl (Or.inl (hblk.trans e))
    · exact Or.inr ⟨hi, hblk.trans (e.trans hi.symm)⟩
    · refine Or.inl (Or.inr ⟨?_, ?_, hcow⟩)
      · rw [hblk, (mix_torn b a.img hli a.cut).1, hl]
      · rw [hblk]; exact e
  case wPost => exact Or.inr h
  case uPre => exact Or.inr ⟨h.1, h.2.1⟩

/-- One step of the lock holder: `Sect` at its pc in, `Sect` at its next pc out (the read takes the disk from `Stable` to
"block = `b`", `cowNew`/`cowFill` put the backup there, `wPre`/`wMid` write the two pieces, `wPost` deletes the backup), or the
step was the unlock at `uPre`. `r` names the result so that `simp at hr` evaluates the step once, before `Sect` of the
result is unfolded. -/
theorem holder_step (hg : GoodSet P G O)
    {b : Block} (hb : G b) (i : Nat) (a : Actor) (sh : Shared) (hlk : sh.lock = some i) (ho : O a.off a.rcd)
    (h : Sect P b a sh.disk) (r : Actor × Shared) (hr : a.step P false i sh = r) :
    r.1.off = a.off ∧ r.1.rcd = a.rcd ∧
    ((r.2.lock = some i ∧ a.pc ≠ .uPre ∧ Sect P b r.1 r.2.disk) ∨
     (r.2.lock = none ∧ r.1.pc = .uPost ∧ r.2.disk.blk = a.img ∧ a.img = newImage P b a.off a.rcd ∧
        a.pc = .uPre ∧ a.res = some .ok)) := by
  have hl := hg.len b hb
  have hv := hg.val b hb
  obtain ⟨d, l⟩ := sh
  simp only at hlk h
  subst hlk
  unfold Sect at h
  cases hp : a.pc <;> rw [hp] at h <;> simp only at h
  all_goals simp only [Actor.step, hp] at hr
  case lockOk | bRestore | bRestored | cowNew => subst hr; simp [Sect, h]
  case bRead =>
    have : d.blk.length = P.n := h.elim (fun e => e ▸ hl) (·.1)
    simp [this] at hr
    subst hr; simp [Sect, h]
  case bHave =>
    obtain ⟨hbuf, hs⟩ := h
    by_cases hvb : valid P a.buf = true
    · rcases hs with e | ⟨_, e, _⟩
      · simp [hvb] at hr; subst hr; simp [Sect, hbuf, e]
      · rw [hbuf, e] at hvb; exact absurd hvb (by decide)
    · rcases hs with e | ⟨e1, e2, e3⟩
      · rw [hbuf, e, hv] at hvb; exact absurd rfl hvb
      · simp [hvb, e3, checkCow_valid P b hl hv, valid_ne_nil hv] at hr
        subst hr
        simp [Sect, Stable, e1, e2, e3]
  case cowFill =>
    obtain ⟨h1, h2, h3⟩ := h
    obtain ⟨c, hc⟩ := Option.isSome_iff_exists.mp h3
    subst hr; simp [Sect, h1, h2, hc]
  case wPre => subst hr; simp [Sect, h.2.1, h.2.2.1, h.2.2.2, torn]
  case wMid =>
    obtain ⟨hi, hblk, hcow⟩ := h
    have hgi : G a.img := hi ▸ hg.cl b _ _ hb ho
    have hli : a.img.length = b.length := (hg.len _ hgi).trans hl.symm
    subst hr; simp [Sect, hi.symm, hblk, torn_take_drop b a.img a.cut hli]
  case wPost => subst hr; simp [Sect, h.1.symm, h.2]
  case uPre => subst hr; simp [h.1.symm, h.2.1, h.2.2]

theorem outsider_step (P : Params) (i : Nat) (a : Actor) (sh : Shared) (hout : outside a.pc = true)
    (r : Actor × Shared) (hr : a.step P false i sh = r) :
    r.1.off = a.off ∧ r.1.rcd = a.rcd ∧
    ((r.2 = sh ∧ outside r.1.pc = true) ∨ (sh.lock = none ∧ r.2 = ⟨sh.disk, some i⟩ ∧ r.1.pc = .lockOk)) := by
  subst hr
  cases hp : a.pc <;> rw [hp] at hout <;> simp [outside] at hout
  case lockPre =>
    cases hl : sh.lock <;> simp [Actor.step, hp, hl, outside]
  case lockNo | uPost | done => simp [Actor.step, hp, outside]

/-- the update an event acknowledges: the unlock by a live holder after a complete block write -/
def ackOf (s : Sys) : Ev → Option Nat
  | .step i =>
    if (s.as i).dead = false ∧ (s.as i).pc = .uPre ∧ (s.as i).res = some .ok ∧ s.sh.lock = some i then some i
    else none
  | _ => none

/-- how the version every reader is handed moves with an event: not at all; by the acknowledged update; or, when the
lock of a dead holder expires, possibly by the dead holder's unacknowledged update -/
def Trans (P : Params) (s : Sys) (e : Ev) (b b' : Block) : Prop :=
  (b' = b ∧ ackOf s e = none) ∨
  (∃ i, b' = newImage P b (s.as i).off (s.as i).rcd ∧
    (ackOf s e = some i ∨ (ackOf s e = none ∧ (s.as i).dead = true)))

/-- `Sect` does not look at `dead`; no user in the development -/
theorem sect_dead (P : Params) (b : Block) (a : Actor) (d : Disk) (x : Bool) :
    Sect P b { a with dead := x } d = Sect P b a d := rfl

theorem setActor_as_self (s : Sys) (i : Nat) (a : Actor) (sh : Shared) : (s.setActor i a sh).as i = a := if_pos rfl

theorem setActor_as_ne (s : Sys) {i j : Nat} (a : Actor) (sh : Shared) (h : j ≠ i) : (s.setActor i a sh).as j = s.as j :=
  if_neg h

theorem forall_setActor {Q : Nat → Actor → Prop} (s : Sys) (i : Nat) (a : Actor) (sh : Shared) (hi : Q i a)
    (h : ∀ k, k ≠ i → Q k (s.as k)) : ∀ k, Q k ((s.setActor i a sh).as k) :=
  forall_of_others (fun _ hk => setActor_as_ne s a sh hk) ((setActor_as_self s i a sh).symm ▸ hi) h

theorem setActor_off_rcd (s : Sys) (i : Nat) {a : Actor} (sh : Shared) (ho : a.off = (s.as i).off)
    (hr : a.rcd = (s.as i).rcd) :
    ∀ j, ((s.setActor i a sh).as j).off = (s.as j).off ∧ ((s.setActor i a sh).as j).rcd = (s.as j).rcd :=
  forall_setActor (Q := fun j x => x.off = (s.as j).off ∧ x.rcd = (s.as j).rcd) s i a sh ⟨ho, hr⟩ fun _ _ => ⟨rfl, rfl⟩

theorem ev_step_live (P : Params) (late : Bool) (s : Sys) (i : Nat) (hd : (s.as i).dead = false) :
    s.ev P late (.step i) = s.setActor i ((s.as i).step P late i s.sh).1 ((s.as i).step P late i s.sh).2 := by
  simp [Sys.ev, hd]

section Frame
variable {s : Sys} {b : Block}

theorem Inv.setActor_same (h : Inv P G O s b) (i : Nat) (a' : Actor) (ho : O a'.off a'.rcd)
    (hout : s.sh.lock ≠ some i → outside a'.pc = true ∨ a'.dead = true)
    (hheld : s.sh.lock = some i → Sect P b a' s.sh.disk) : Inv P G O (s.setActor i a' s.sh) b :=
  ⟨h.good, forall_setActor (Q := fun _ a => O a.off a.rcd) s i a' _ ho fun k _ => h.ops k,
   forall_setActor (Q := fun k a => s.sh.lock ≠ some k → outside a.pc = true ∨ a.dead = true) s i a' _ hout fun k _ => h.out k,
   h.free, forall_setActor (Q := fun k a => s.sh.lock = some k → Sect P b a s.sh.disk) s i a' _ hheld fun k _ => h.held k⟩

theorem Inv.setActor_own (h : Inv P G O s b) (i : Nat) (a' : Actor) (sh' : Shared) {b' : Block}
    (hlk : ∀ k, s.sh.lock = some k → k = i) (hlk' : ∀ k, sh'.lock = some k → k = i)
    (hg : G b') (ho : O a'.off a'.rcd)
    (hout : sh'.lock ≠ some i → outside a'.pc = true ∨ a'.dead = true)
    (hfree : sh'.lock = none → Stable P b' sh'.disk)
    (hheld : sh'.lock = some i → Sect P b' a' sh'.disk) : Inv P G O (s.setActor i a' sh') b' :=
  ⟨hg, forall_setActor (Q := fun _ a => O a.off a.rcd) s i a' _ ho fun k _ => h.ops k,
   forall_setActor (Q := fun k a => sh'.lock ≠ some k → outside a.pc = true ∨ a.dead = true) s i a' _ hout
     fun k hk _ => h.out k fun e => hk (hlk k e),
   hfree, forall_setActor (Q := fun k a => sh'.lock = some k → Sect P b' a sh'.disk) s i a' _ hheld
     fun k hk e => absurd (hlk' k e) hk⟩

end Frame

theorem inv_ev {P : Params} {G : Block → Prop} {O : Nat → List Nat → Prop} (hg : GoodSet P G O)
    {s : Sys} {b : Block} (h : Inv P G O s b) (e : Ev) :
    ∃ b', Inv P G O (s.ev P false e) b' ∧ Trans P s e b b' ∧
      ∀ j, ((s.ev P false e).as j).off = (s.as j).off ∧ ((s.ev P false e).as j).rcd = (s.as j).rcd := by
  have same : ∀ e, s.ev P false e = s → ackOf s e = none → ∃ b', Inv P G O (s.ev P false e) b' ∧ Trans P s e b b' ∧
      ∀ j, ((s.ev P false e).as j).off = (s.as j).off ∧ ((s.ev P false e).as j).rcd = (s.as j).rcd := by
    intro e he ha
    rw [he]
    exact ⟨b, h, Or.inl ⟨rfl, ha⟩, fun j => ⟨rfl, rfl⟩⟩
  cases e with
  | step i =>
    by_cases hd : (s.as i).dead = true
    · exact same _ (by simp [Sys.ev, hd]) (by simp [ackOf, hd])
    have hd' : (s.as i).dead = false := by simpa using hd
    rw [ev_step_live P false s i hd']
    by_cases hlk : s.sh.lock = some i
    · have hmine : ∀ k, s.sh.lock = some k → k = i := fun k e => (Option.some.inj (hlk.symm.trans e)).symm
      obtain ⟨h1, h2, h4⟩ := holder_step hg h.good i (s.as i) s.sh hlk (h.ops i) (h.held i hlk) _ rfl
      have hops := h.ops i
      rw [← h1, ← h2] at hops
      rcases h4 with ⟨hl', hpc, hs'⟩ | ⟨hl', hpc', hblk', himg', hpc, hres⟩
      · exact ⟨b, h.setActor_own i _ _ (hlk := hmine) (hlk' := fun k e => (Option.some.inj (hl'.symm.trans e)).symm)
          (hg := h.good) (ho := hops) (hout := fun hn => absurd hl' hn) (hfree := fun e => nomatch hl'.symm.trans e)
          (hheld := fun _ => hs'), Or.inl ⟨rfl, if_neg fun c => hpc c.2.1⟩, setActor_off_rcd s i _ h1 h2⟩
      · -- the unlock: the version moves to the holder's image
        exact ⟨(s.as i).img, h.setActor_own i _ _ (hlk := hmine) (hlk' := fun k e => nomatch hl'.symm.trans e)
          (hg := himg' ▸ hg.cl b _ _ h.good (h.ops i)) (ho := hops) (hout := fun _ => Or.inl (by rw [hpc']; rfl))
          (hfree := fun _ => Or.inl hblk') (hheld := fun e => nomatch hl'.symm.trans e),
          Or.inr ⟨i, himg', Or.inl (if_pos ⟨hd', hpc, hres, hlk⟩)⟩, setActor_off_rcd s i _ h1 h2⟩
    · have hout : outside (s.as i).pc = true := (h.out i hlk).resolve_right hd
      obtain ⟨h1, h2, h5⟩ := outsider_step P i (s.as i) s.sh hout _ rfl
      have hops := h.ops i
      rw [← h1, ← h2] at hops
      have hack : ackOf s (.step i) = none := if_neg fun c => hlk c.2.2.2
      rcases h5 with ⟨hsh, ho⟩ | ⟨hn, hsh, hpc'⟩
      · rw [hsh]
        exact ⟨b, h.setActor_same i _ hops (fun _ => Or.inl ho) (fun e => absurd e hlk), Or.inl ⟨rfl, hack⟩,
          setActor_off_rcd s i _ h1 h2⟩
      · rw [hsh]
        refine ⟨b, h.setActor_own i _ _ (hlk := fun k e => nomatch hn.symm.trans e)
          (hlk' := fun k e => (Option.some.inj e).symm) (hg := h.good) (ho := hops) (hout := fun hne => absurd rfl hne)
          (hfree := fun e => nomatch e) (hheld := fun _ => ?_), Or.inl ⟨rfl, hack⟩, setActor_off_rcd s i _ h1 h2⟩
        unfold Sect; rw [hpc']; exact h.free hn
  | kill i =>
    exact ⟨b, h.setActor_same i { s.as i with dead := true } (h.ops i) (fun _ => Or.inr rfl) (fun e => h.held i e),
      Or.inl ⟨rfl, rfl⟩, setActor_off_rcd s i _ rfl rfl⟩
  | killCow i k =>
    by_cases hc : (s.as i).pc = .wPre ∧ (s.as i).dead = false
    · have hlk : s.sh.lock = some i := Decidable.byContradiction fun hn => by
        rcases h.out i hn with e | e
        · rw [hc.1] at e; cases e
        · rw [hc.2] at e; cases e
      have hs := h.held i hlk
      unfold Sect at hs
      rw [hc.1] at hs
      obtain ⟨hbuf, -, hblk, hcow⟩ := hs
      have hmine : ∀ k, s.sh.lock = some k → k = i := fun k e => (Option.some.inj (hlk.symm.trans e)).symm
      have hev : s.ev P false (.killCow i k) = s.setActor i { s.as i with dead := true, pc := .cowFill }
          { s.sh with disk := { s.sh.disk with cow := s.sh.disk.cow.map fun c => c.take k } } := if_pos hc
      rw [hev]
      exact ⟨b, h.setActor_own i _ _ (hlk := hmine) (hlk' := hmine) (hg := h.good) (ho := h.ops i)
        (hout := fun _ => Or.inr rfl) (hfree := fun e => nomatch hlk.symm.trans e)
        (hheld := fun _ => ⟨hbuf, hblk, by simp [hcow]⟩), Or.inl ⟨rfl, rfl⟩, setActor_off_rcd s i _ rfl rfl⟩
    · exact same _ (if_neg hc) rfl
  | expire =>
    cases hl : s.sh.lock with
    | none => exact same _ (by simp [Sys.ev, hl]) rfl
    | some hd =>
      by_cases hdead : (s.as hd).dead = true
      · have hev : s.ev P false .expire = ⟨{ s.sh with lock := none }, s.as⟩ := by simp [Sys.ev, hl, hdead]
        rw [hev]
        -- the dead holder stops counting as inside; readers see its version or, after a complete write, its image
        have hout : ∀ j, outside (s.as j).pc = true ∨ (s.as j).dead = true := fun j => by
          by_cases hj : j = hd
          · exact Or.inr (hj ▸ hdead)
          · exact h.out j (by rw [hl]; exact fun e => hj (Option.some.inj e).symm)
        rcases sect_view hg h.good (h.ops hd) (h.held hd hl) with hs | ⟨himg, hblk⟩
        · exact ⟨b, ⟨h.good, h.ops, fun j _ => hout j, fun _ => hs, fun k hk => nomatch hk⟩, Or.inl ⟨rfl, rfl⟩,
            fun j => ⟨rfl, rfl⟩⟩
        · exact ⟨(s.as hd).img, ⟨himg ▸ hg.cl b _ _ h.good (h.ops hd), h.ops, fun j _ => hout j,
            fun _ => Or.inl hblk, fun k hk => nomatch hk⟩, Or.inr ⟨hd, himg, Or.inr ⟨rfl, hdead⟩⟩, fun j => ⟨rfl, rfl⟩⟩
      · exact same _ (by simp [Sys.ev, hl, hdead]) rfl

def ackLog (P : Params) (late : Bool) : Sys → List Ev → List Nat
  | _, [] => []
  | s, e :: es => (ackOf s e).toList ++ ackLog P late (s.ev P late e) es

def applyAll (P : Params) (ops : Nat → Nat × List Nat) (v0 : Block) (is : List Nat) : Block :=
  is.foldl (fun b i => newImage P b (ops i).1 (ops i).2) v0

theorem applyAll_snoc (P : Params) (ops : Nat → Nat × List Nat) (v0 : Block) (is : List Nat) (i : Nat) :
    applyAll P ops v0 (is ++ [i]) = newImage P (applyAll P ops v0 is) (ops i).1 (ops i).2 := by
  simp [applyAll, List.foldl_append]

theorem inv_run {P : Params} {G : Block → Prop} {O : Nat → List Nat → Prop} (hg : GoodSet P G O)
    (ops : Nat → Nat × List Nat) (v0 : Block) :
    ∀ (sched : List Ev) (s : Sys) (b : Block) (applied : List Nat),
      Inv P G O s b → (∀ j, (s.as j).off = (ops j).1 ∧ (s.as j).rcd = (ops j).2) → b = applyAll P ops v0 applied →
      ∃ b' ext, Inv P G O (s.run P false sched) b' ∧ b' = applyAll P ops v0 (applied ++ ext) ∧
        (ackLog P false s sched).Sublist ext ∧
        ∀ j, ((s.run P false sched).as j).off = (ops j).1 ∧ ((s.run P false sched).as j).rcd = (ops j).2 := by
  intro sched
  induction sched with
  | nil => intro s b applied h ho hb; exact ⟨b, [], h, by simpa using hb, by simp [ackLog], ho⟩
  | cons e es ih =>
    intro s b applied h ho hb
    obtain ⟨b1, h1, ht, hoff⟩ := inv_ev hg h e
    have ho1 : ∀ j, ((s.ev P false e).as j).off = (ops j).1 ∧ ((s.ev P false e).as j).rcd = (ops j).2 := by
      intro j; rw [(hoff j).1, (hoff j).2]; exact ho j
    rcases ht with ⟨e1, hack⟩ | ⟨i, e1, hack⟩
    · obtain ⟨b', ext, h', hb', hsub, ho'⟩ := ih (s.ev P false e) b1 applied h1 ho1 (e1 ▸ hb)
      exact ⟨b', ext, h', hb', by simpa [ackLog, hack] using hsub, ho'⟩
    · have hb1 : b1 = applyAll P ops v0 (applied ++ [i]) := by
        rw [applyAll_snoc, ← hb, e1, (ho i).1, (ho i).2]
      obtain ⟨b', ext, h', hb', hsub, ho'⟩ := ih (s.ev P false e) b1 (applied ++ [i]) h1 ho1 hb1
      refine ⟨b', i :: ext, h', by simpa using hb', ?_, ho'⟩
      rcases hack with hack | ⟨hack, _⟩
      · simpa [ackLog, hack] using hsub
      · simpa [ackLog, hack] using List.Sublist.cons i hsub

theorem inv_view (hg : GoodSet P G O)
    {s : Sys} {b : Block} (h : Inv P G O s b) :
    ∃ v, G v ∧ (v = b ∨ ∃ i, s.sh.lock = some i ∧ v = newImage P b (s.as i).off (s.as i).rcd) ∧
      ∀ rws, ∀ r ∈ readMany P rws s.sh.disk, r = .ok v := by
  have hl := hg.len b h.good
  have hv := hg.val b h.good
  cases hlk : s.sh.lock with
  | none =>
    exact ⟨b, h.good, Or.inl rfl, fun rws => readMany_stable hl hv rws _ (h.free hlk)⟩
  | some i =>
    rcases sect_view hg h.good (h.ops i) (h.held i hlk) with hs | ⟨himg, hblk⟩
    · exact ⟨b, h.good, Or.inl rfl, fun rws => readMany_stable hl hv rws _ hs⟩
    · have hgi : G (s.as i).img := himg ▸ hg.cl b _ _ h.good (h.ops i)
      exact ⟨(s.as i).img, hgi, Or.inr ⟨i, rfl, himg⟩, fun rws =>
        readMany_stable (hg.len _ hgi) (hg.val _ hgi) rws _ (Or.inl hblk)⟩

theorem afterFind_dead (a : Actor) (buf : Block) : (a.afterFind buf).dead = a.dead := by
  unfold Actor.afterFind; split <;> rfl

theorem step_dead (P : Params) (late : Bool) (i : Nat) (a : Actor) (sh : Shared) :
    (a.step P late i sh).1.dead = a.dead := by
  obtain ⟨op, cut, pc, dead, buf, off, rcd, img, res⟩ := a
  cases pc <;> dsimp only [Actor.step]
  case aHave | bHave =>
    rcases checkCow P sh.disk.cow with ⟨data, sr⟩
    simp only [apply_ite Prod.fst, apply_ite Actor.dead, afterFind_dead, ite_self]
  case lockPre => cases sh.lock <;> rfl
  all_goals simp only [apply_ite Prod.fst, apply_ite Actor.dead, afterFind_dead, ite_self]

def soloN (P : Params) (k : Nat) : Nat → Actor × Shared → Actor × Shared
  | 0, x => x
  | n + 1, x => soloN P k n (x.1.step P false k x.2)

/-- no user in the development (`run_solo` goes by `step_dead`) -/
theorem soloN_dead (P : Params) (k : Nat) : ∀ (n : Nat) (x : Actor × Shared), (soloN P k n x).1.dead = x.1.dead := by
  intro n
  induction n with
  | zero => intro x; rfl
  | succ n ih => intro x; rw [soloN, ih, step_dead]

theorem run_solo (P : Params) (k : Nat) : ∀ (n : Nat) (s : Sys), (s.as k).dead = false →
    (Sys.run P false s (List.replicate n (.step k))).sh = (soloN P k n (s.as k, s.sh)).2 ∧
    (Sys.run P false s (List.replicate n (.step k))).as k = (soloN P k n (s.as k, s.sh)).1 := by
  intro n
  induction n with
  | zero => intro s _; exact ⟨rfl, rfl⟩
  | succ n ih =>
    intro s hd
    have hev := ev_step_live P false s k hd
    have hd' : ((s.ev P false (.step k)).as k).dead = false := by
      rw [hev]; simp [Sys.setActor, step_dead, hd]
    have := ih (s.ev P false (.step k)) hd'
    simp only [List.replicate_succ, Sys.run, soloN]
    rw [this.1, this.2, hev]
    simp [Sys.setActor]

/-- twelve steps: the pcs from `lockPre` to `done` on the path that restores from the backup; on the other the twelfth step
is the idle one at `done` -/
theorem solo_completes (hg : GoodSet P G O)
    {b : Block} (hb : G b) (k : Nat) (a : Actor) (d : Disk) (ho : O a.off a.rcd) (hpc : a.pc = .lockPre)
    (hs : Stable P b d) :
    (soloN P k 12 (a, ⟨d, none⟩)).1.pc = .done ∧ (soloN P k 12 (a, ⟨d, none⟩)).1.res = some .ok ∧
    (soloN P k 12 (a, ⟨d, none⟩)).2 = ⟨⟨newImage P b a.off a.rcd, none⟩, none⟩ := by
  have hl := hg.len b hb
  have hv := hg.val b hb
  have hgi := hg.cl b _ _ hb ho
  have hli : (newImage P b a.off a.rcd).length = b.length := (hg.len _ hgi).trans hl.symm
  have htd := torn_take_drop b (newImage P b a.off a.rcd) a.cut hli
  unfold torn at htd
  obtain ⟨blk, cow⟩ := d
  rcases hs with e | ⟨e1, e2, e3⟩
  · simp only at e
    subst e
    simp [soloN, Actor.step, hpc, hl, hv, htd]
  · simp only at e1 e2 e3
    subst e3
    have hP : ¬ P.n = 0 := by have := valid_len hv; omega
    simp [soloN, Actor.step, hpc, e1, e2, hl, htd, checkCow_valid P b hl hv, hP]

section Plan
open Sop.Handle

/-- the registry operation in two phases: `plan` on the unlocked block read, then `updateFileBlockRegion`. The three
equations below tie what an actor does (`Actor.afterFind` calls `plan`) to the sequential `setOpW`/`addOpW`/`rmOpW`, for any block
reader `rd` (`setOp` etc. are the instances at `readAndRestore`). No theorem uses them. -/
def viaPlan (P : Params) (rd : Bool → Disk → Res × Disk) (d : Disk) (op : WOp) : OpRes × Disk :=
  match rd true d with
  | (.err, d') => (.err, d')
  | (.ok buf, d') =>
    match plan op buf with
    | .inl r => (r, d')
    | .inr (off, rec) =>
      match updateBlockW P rd d' off rec with
      | (.err, d'') => (.err, d'')
      | (.ok _, d'') => (.ok, d'')

theorem setOpW_plan (P : Params) (rd : Bool → Disk → Res × Disk) (d : Disk) (h : Handle) :
    setOpW P rd d h = viaPlan P rd d (.set h) := by
  unfold setOpW viaPlan
  rcases rd true d with ⟨buf | _, d'⟩
  · simp only [plan]
    cases findInBlock true buf h.lid (idealOff h.lid) with
    | found off h0 =>
      dsimp only
      by_cases hc : (!hEmpty h0 && h0.lid != h.lid) = true
      · rw [if_pos hc, if_pos hc]
      · rw [if_neg hc, if_neg hc]; rfl
    | _ => rfl
  · rfl

theorem addOpW_plan (P : Params) (rd : Bool → Disk → Res × Disk) (d : Disk) (h : Handle) :
    addOpW P rd d h = viaPlan P rd d (.add h) := by
  unfold addOpW viaPlan
  rcases rd true d with ⟨buf | _, d'⟩
  · simp only [plan]
    cases findInBlock true buf h.lid (idealOff h.lid) with
    | found off h0 =>
      dsimp only
      by_cases hc : hEmpty h0 = true
      · rw [if_pos hc, if_pos hc]; rfl
      · rw [if_neg hc, if_neg hc]
    | _ => rfl
  · rfl

theorem rmOpW_plan (P : Params) (rd : Bool → Disk → Res × Disk) (d : Disk) (id : List Nat) :
    rmOpW P rd d id = viaPlan P rd d (.rm id) := by
  unfold rmOpW viaPlan
  rcases rd true d with ⟨buf | _, d'⟩
  · simp only [plan]
    cases findInBlock true buf id (idealOff id) with
    | found off h0 =>
      dsimp only
      by_cases hc : hEmpty h0 = true
      · rw [if_pos hc, if_pos hc]
      · rw [if_neg hc, if_neg hc]
        by_cases hc2 : (h0.lid != id) = true
        · rw [if_pos hc2, if_pos hc2]
        · rw [if_neg hc2, if_neg hc2]; rfl
    | _ => rfl
  · rfl
end Plan

end Sop.C22
