import Sop.Lemmas.CommitSettled
/-!
The log half of "a successful commit leaves nothing behind": when phase 1 went through and left a settled run (no
fault, or one that an attempted call swallowed; no observer), `Commit` returns ok and the transaction's
transaction-log file and its priority-log file are gone (the priority log provided it did not exist before). No
premise on the state or the write set is needed: the priority log is written exactly when there is something to
flip, and removed right after the flip; the cleanup's last call removes the transaction log — or finds it absent.
-/
namespace Sop.Commit

class LFrame (I : Run → Prop) : Prop where
  frame : ∀ r r' : Run, I r → r'.tid = r.tid → r'.s.plog = r.s.plog → r'.reserved = r.reserved →
    r'.removedH = r.removedH → I r'

section
set_option linter.unusedSectionVars false
variable {I : Run → Prop} [LFrame I]

theorem Reads.lframe : Reads [.plog, .reserved, .removedH] I := fun _ r r' d a h =>
  LFrame.frame r r' h a.tid (a.same .plog (d _ (by decide))) (a.same .reserved (d _ (by decide))) (a.same .removedH (d _ (by decide)))

-- the rules of `LFrame`; no user in the development
theorem LF.getS : Preserves I getS := Triple.getS (fun _ h => h)
theorem LF.modify (f : Run → Run)
    (h : ∀ r, (f r).s = r.s ∧ (f r).tid = r.tid ∧ (f r).reserved = r.reserved ∧ (f r).removedH = r.removedH) :
    Preserves I (modify f) :=
  Triple.modify f (fun r hr => by
    obtain ⟨a, b, c, d⟩ := h r
    exact LFrame.frame r _ hr b (by rw [a]) c d)
theorem LF.attempt {m : M Unit} (h : Preserves I m) : Preserves I (attempt m) := Triple.attempt h (fun _ h => h)

end

/-- phase 1 up to the priority-log write -/
def NoPlog (t : Tid) (r : Run) : Prop := r.tid = t ∧ r.s.plog t = false

/-- from the priority-log write on -/
def PlogOnlyToFlip (t : Tid) (r : Run) : Prop := r.tid = t ∧ ((r.reserved = [] ∧ r.removedH = []) → r.s.plog t = false)

instance {t : Tid} : LFrame (PlogOnlyToFlip t) where
  frame r r' h ht hp h1 h2 := by unfold PlogOnlyToFlip at *; rw [ht, hp, h1, h2]; exact h

section
variable {w : WS} {t : Tid}

theorem Reads.noPlog : Reads [.plog] (NoPlog t) := fun _ r r' d a h => by
  have e : r'.s.plog = r.s.plog := a.same .plog (d _ (by decide))
  exact ⟨a.tid.trans h.1, by rw [e]; exact h.2⟩

/-- phase 1 writes no priority log when nothing was reserved or marked (the converse is `PLp`, `gap_phase1`) -/
theorem plogOnlyToFlip_phase1 (n : Nat) : Triple (NoPlog t) (phase1 w n) (fun _ => PlogOnlyToFlip t) (fun _ => True) := by
  have k : ∀ {α : Type} {m : M α} {ch : List Part}, Foot ch m → (h : ∀ p ∈ [Part.plog], p ∉ ch := by decide) →
      Keeps (NoPlog t) (fun _ => True) m := fun hm h => (hm.keeps Reads.noPlog h).dropE
  refine Triple.conseq (phase1_ok (C := PlogOnlyToFlip t) w n
    (hlog := k (foot_logStep _)) (hlock := k (foot_lockItems w)) (hmerge := k (foot_mergeNodesKeys w)) (hnodes := k foot_lockNodes)
    (hbody := (k (foot_phase1Body w)).weakOk)
    (hfin := finishPhase1_ok w (hlog := fun _ => k (foot_logStep _)) (hcnt := k (foot_commitStores w)) (hlog' := fun _ => k (foot_logStep _))
      (hplog := fun r0 => Triple.ite (fun hc => Triple.call_dropE fun r _ _ hr => ⟨hr.1.1, fun hl => ?_⟩)
        fun _ => Triple.pure _ fun r hr => ⟨hr.1.1, fun _ => hr.1.2⟩)
      (hrest := fun hm => (hm.keeps Reads.lframe).dropE)))
    (fun _ h => h) (fun _ r h => ?_) fun _ h => h
  · rw [hr.2, hl.1, hl.2] at hc; simp at hc
  · split at h
    · exact h
    · exact ⟨h.1, fun _ => h.2⟩

end

/-- `PlogOnlyToFlip` with the two lists named: phase 2 reads them once at its start, and the invariant must speak of
those values while the run's own fields stay variables -/
structure PlogOnlyToFlipOf (t : Tid) (resv remv : List Handle) (r : Run) : Prop where
  own : r.tid = t
  eqR : r.reserved = resv
  eqM : r.removedH = remv
  noPlog : (resv = [] ∧ remv = []) → r.s.plog t = false

instance {t : Tid} {resv remv : List Handle} : LFrame (PlogOnlyToFlipOf t resv remv) where
  frame r r' h ht hp h1 h2 := ⟨ht.trans h.own, h1.trans h.eqR, h2.trans h.eqM, fun e => by rw [hp]; exact h.noPlog e⟩

section
variable {w : WS} {t : Tid}

theorem noLogs_cleanup :
    Triple (fun r => SP0 r ∧ NoPlog t r) (cleanup w) (fun _ r => r.s.tlog t = false ∧ r.s.plog t = false) (fun _ => False) :=
  Triple.start fun r0 h0 => by
    obtain rfl : r0.tid = t := h0.2.1
    refine Triple.conseq (cleanup_rule (L := fun _ r => SP0 r ∧ NoPlog r0.tid r)
      (Q := fun r => SP0 r ∧ r.s.tlog r0.tid = false ∧ r.s.plog r0.tid = false) w r0
      (hlog1 := S.logStep_if _ ((foot_logStep _).keeps Reads.noPlog) fun _ e => e ▸ h0)
      (hunused := fun _ => NoRaise.keeps S.tryCall (.attempt (.call (ch := [.blob]) fun r => .delBlobs)) Reads.noPlog)
      (hnone := fun _ _ h => h)
      (hdead := NoRaise.keeps S.tryCall (.attempt (.call (ch := [.reg]) fun r => .delRegs)) Reads.noPlog)
      (hlog2 := S.logStep_if _ ((foot_logStep _).keeps Reads.noPlog) fun _ h => h)
      (hobs := fun _ _ _ _ => NoRaise.keeps S.tryCall (.attempt (.call (ch := [.blob]) fun r => .delBlobs)) Reads.noPlog)
      (hskip := fun _ _ _ _ _ h => h)
      (htlog := Triple.attempt' (Q := fun _ r => SP0 r ∧ r.s.tlog r0.tid = false ∧ r.s.plog r0.tid = false) ?_
        fun r h hh => by rw [h.1.notHalted] at hh; cases hh)) (fun _ h => h) (fun _ _ h => h.2) (fun _ h => h)
    -- the log is removed, or the backend refuses because it is not there: either way it is gone
    refine Triple.callSettled _ _ _ _ _ (fun _ h => h.1) (fun r o tr h hs => ⟨hs, ?_, h.2.2⟩)
      (fun r o tr h hn hs => ⟨hs, by simpa using hn, h.2.2⟩)
    show (if r0.tid = r0.tid then false else r.s.tlog r0.tid) = false
    simp

theorem noLogs_phase2 :
    Triple (fun r => SP0 r ∧ PlogOnlyToFlip t r) (phase2 w) (fun _ r => r.s.tlog t = false ∧ r.s.plog t = false) (fun _ => False) :=
  Triple.start fun r0 h0 => by
    obtain rfl : r0.tid = t := h0.2.1
    refine phase2_rule (A1 := fun r => SP0 r ∧ PlogOnlyToFlipOf r0.tid r0.reserved r0.removedH r) (Aout := fun _ => False)
      (B2 := fun r => SP0 r ∧ NoPlog r0.tid r) (B3 := fun r => SP0 r ∧ NoPlog r0.tid r) (B4 := fun r => SP0 r ∧ NoPlog r0.tid r) w r0
      (hlog := S.logStep_if _ ((foot_logStep _).keeps Reads.lframe) fun _ e => e ▸ (⟨h0.1, h0.2.1, rfl, rfl, h0.2.2⟩ : SP0 r0 ∧ PlogOnlyToFlipOf r0.tid r0.reserved r0.removedH r0))
      (hout := fun _ h => h.elim)
      (hflip := fun _ => NoRaise.keeps S.callOk (.call (ch := [.reg]) fun r => .setRegs) Reads.lframe)
      (hplog := fun _ => S.tryEff fun r o tr h => ⟨h.own, ?_⟩)
      (hnone := fun he r ⟨hs, hp⟩ => ⟨hs, hp.own, hp.noPlog ⟨List.map_eq_nil_iff.mp (List.append_eq_nil_iff.mp he).1,
        List.map_eq_nil_iff.mp (List.append_eq_nil_iff.mp he).2⟩⟩)
      (hkeys := nr_unlockNodesKeys.keeps foot_unlockNodesKeys Reads.noPlog)
      (hitems := NoRaise.keeps (Triple.attempt_nr (nr_unlockItems w)) (.attempt (foot_unlockItems w)) Reads.noPlog)
      (hclean := noLogs_cleanup)
    show (if r0.tid = r0.tid then false else r.s.plog r0.tid) = false
    simp

/-- **C11, success half, logs**: phase 1 went through and left a settled run ⇒ `Commit` returns ok and
leaves no log file of its own behind. No premise on the state or the write set other than that the transaction had no
priority log to begin with. -/
theorem commit_ok_no_logs_settled {tid : Tid} {n : Nat} {r0 r1 : Run} (hz : NoPlog tid r0)
    (hp : phase1 w n r0 = .ok ((), r1)) (hs : SP0 r1) :
    ∃ r2, commit w n r0 = (.ok, r2) ∧ r2.s.tlog tid = false ∧ r2.s.plog tid = false :=
  commit_of_phase2_noraise noLogs_phase2 hp ⟨hs, (plogOnlyToFlip_phase1 n).of_ok hz hp⟩

/-- the case of a run with no injected fault and no observer -/
theorem commit_ok_no_logs {tid : Tid} {n : Nat} {r0 r2 : Run} (hz : NoPlog tid r0) (hf : HF none r0)
    (hok : commit w n r0 = (.ok, r2)) : r2.s.tlog tid = false ∧ r2.s.plog tid = false := by
  obtain ⟨r1, hp, _⟩ := commit_ok_inv hok
  obtain ⟨r2', e, h⟩ := commit_ok_no_logs_settled hz hp ((h_phase1 w n).of_ok hf hp).sp0
  rw [hok] at e
  cases e
  exact h

end
end Sop.Commit
