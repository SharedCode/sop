import Sop.Model.JsonPatch
/-! The metadata file as text: where the key token `,"field":` can and cannot occur, and reading back what the encoder wrote,
one round trip per component. -/
namespace Sop.JsonPatch

theorem isPrefixOf_self_append (n r : List Char) : n.isPrefixOf (n ++ r) = true :=
  List.isPrefixOf_iff_prefix.mpr (List.prefix_append n r)

theorem splitAt_here (k : Char) (n r : List Char) : splitAt (k :: n) ((k :: n) ++ r) = some ([], r) := by
  have h := isPrefixOf_self_append (k :: n) r
  have e : (k :: n) ++ r = k :: (n ++ r) := rfl
  rw [e] at h ⊢
  unfold splitAt
  rw [if_pos h]
  have : List.drop (k :: n).length (k :: (n ++ r)) = r := by
    rw [← e]; exact List.drop_left
  rw [this]

theorem splitAt_skip1 (needle : List Char) (c : Char) (t a b : List Char)
    (hn : needle.isPrefixOf (c :: t) = false) (h : splitAt needle t = some (a, b)) :
    splitAt needle (c :: t) = some (c :: a, b) := by
  unfold splitAt
  simp [hn, h]

/-- side condition under which a piece of text `l` cannot contain or begin an occurrence of `,"k0…`:
every `,` in `l` is followed inside `l` by two characters that are not `"` `k0`. Only the first letter `k0` of the key is
looked at: no key that precedes `count` in the record begins with `c` or `t`, so "no `,"c`" (for `timestamp`: "no `,"t`") can
be checked on each literal piece by evaluation and is enough whatever the rest of the needle is. -/
def litOk (k0 : Char) : List Char → Bool
  | [] => true
  | c :: t =>
    (c != ',' || (match t with
      | d :: e :: _ => (d != '"' || e != k0)
      | _ => false)) && litOk k0 t

/-- `needle` does not occur before `R` in `L ++ R` when `L` has a property `P` that passes to tails and, at the head, rules out
an occurrence starting there -/
theorem splitAt_skip {needle R a b : List Char} {P : List Char → Prop} (htail : ∀ c t, P (c :: t) → P t)
    (hhead : ∀ c t, P (c :: t) → needle.isPrefixOf (c :: (t ++ R)) = false)
    (h : splitAt needle R = some (a, b)) : ∀ L, P L → splitAt needle (L ++ R) = some (L ++ a, b)
  | [], _ => by simpa using h
  | c :: t, hP => splitAt_skip1 _ _ _ _ _ (hhead c t hP) (splitAt_skip htail hhead h t (htail c t hP))

theorem skipLit (k0 : Char) (n : List Char) (L R a b : List Char) (hL : litOk k0 L = true)
    (h : splitAt (',' :: '"' :: k0 :: n) R = some (a, b)) :
    splitAt (',' :: '"' :: k0 :: n) (L ++ R) = some (L ++ a, b) := by
  refine splitAt_skip (P := fun l => litOk k0 l = true) (fun c t hP => ?_) (fun c t hP => ?_) h L hL
  · simp only [litOk, Bool.and_eq_true] at hP; exact hP.2
  · simp only [litOk, Bool.and_eq_true] at hP
    obtain ⟨h1, -⟩ := hP
    by_cases hc : c = ','
    · subst hc
      match t, h1 with
      | d :: e :: t', h1 =>
        simp only [bne_self_eq_false, Bool.false_or, Bool.or_eq_true, bne_iff_ne, ne_eq] at h1
        simp only [List.cons_append, List.isPrefixOf, Bool.and_eq_false_imp, beq_iff_eq]
        intro _ hd he
        rcases h1 with h1 | h1
        · exact absurd hd.symm h1
        · exact absurd he.symm h1
      | [], h1 => simp at h1
      | [_], h1 => simp at h1
    · simp only [List.isPrefixOf, Bool.and_eq_false_imp, beq_iff_eq]
      intro h; exact absurd h.symm hc

theorem litOk_of_noComma (k0 : Char) (L : List Char) (h : ∀ c ∈ L, c ≠ ',') : litOk k0 L = true := by
  induction L with
  | nil => rfl
  | cons c t ih =>
    have hc : c ≠ ',' := h c (by simp)
    have := ih (fun c hc => h c (by simp [hc]))
    simp [litOk, hc, this]

/-- every `"` of the text is immediately preceded by a backslash (`p` says whether the character before the
text is one). -/
def guardedFrom (p : Bool) : List Char → Bool
  | [] => true
  | c :: t => (c != '"' || p) && guardedFrom (c == '\\') t

theorem guardedFrom_of_false {l : List Char} (h : guardedFrom false l = true) (p : Bool) : guardedFrom p l = true := by
  cases l with
  | nil => rfl
  | cons c t =>
    simp only [guardedFrom, Bool.and_eq_true, Bool.or_false] at h ⊢
    exact ⟨by rw [h.1]; rfl, h.2⟩

theorem skipGuarded (k0 : Char) (n : List Char) (E R a b : List Char) (p : Bool) (hE : guardedFrom p E = true)
    (hR : ['"', k0].isPrefixOf R = false)
    (h : splitAt (',' :: '"' :: k0 :: n) R = some (a, b)) :
    splitAt (',' :: '"' :: k0 :: n) (E ++ R) = some (E ++ a, b) := by
  refine splitAt_skip (P := fun l => ∃ p, guardedFrom p l = true) (fun c t hP => ?_) (fun c t hP => ?_) h E ⟨p, hE⟩
  · obtain ⟨q, hq⟩ := hP
    simp only [guardedFrom, Bool.and_eq_true] at hq
    exact ⟨_, hq.2⟩
  · obtain ⟨q, hq⟩ := hP
    simp only [guardedFrom, Bool.and_eq_true] at hq
    obtain ⟨-, h2⟩ := hq
    by_cases hc : c = ','
    · subst hc
      cases t with
      | nil =>
        simp only [List.nil_append]
        cases R with
        | nil => simp [List.isPrefixOf]
        | cons r0 R' =>
          cases R' with
          | nil => simp [List.isPrefixOf]
          | cons r1 R'' =>
            simp only [List.isPrefixOf, Bool.and_true, Bool.and_eq_false_imp, beq_iff_eq] at hR ⊢
            intro _ h0 h1
            exact absurd h1 (by simpa using hR h0)
      | cons d t' =>
        simp only [guardedFrom, Bool.and_eq_true] at h2
        have hd : d ≠ '"' := by
          have := h2.1
          simpa using this
        simp only [List.cons_append, List.isPrefixOf, Bool.and_eq_false_imp, beq_iff_eq]
        intro _ h; exact absurd h.symm hd
    · simp only [List.isPrefixOf, Bool.and_eq_false_imp, beq_iff_eq]
      intro h; exact absurd h.symm hc

theorem needsU_lt (c : Char) (h : needsU c = true) : c.toNat < 65536 := by
  unfold needsU at h
  simp only [Bool.or_eq_true, decide_eq_true_eq] at h
  rcases h with ((((h | h) | h) | h) | h) | h
  · omega
  · subst h; decide
  · subst h; decide
  · subst h; decide
  · omega
  · omega

/-- an escaped character is a backslash and the letter `unescOne` maps back to it, `\u` and four hex digits, or itself -/
theorem escChar_cases (c : Char) :
    (∃ x, escChar c = ['\\', x] ∧ x ≠ 'u' ∧ unescOne x = some c) ∨
    (escChar c = '\\' :: 'u' :: hex4 c.toNat ∧ c.toNat < 65536) ∨
    (escChar c = [c] ∧ c ≠ '"' ∧ c ≠ '\\') := by
  by_cases h1 : c = '"'
  · exact Or.inl ⟨'"', by rw [h1]; rfl, by decide, by rw [h1]; rfl⟩
  by_cases h2 : c = '\\'
  · exact Or.inl ⟨'\\', by rw [h2]; rfl, by decide, by rw [h2]; rfl⟩
  by_cases h3 : c = '\n'
  · exact Or.inl ⟨'n', by rw [h3]; rfl, by decide, by rw [h3]; rfl⟩
  by_cases h4 : c = '\r'
  · exact Or.inl ⟨'r', by rw [h4]; rfl, by decide, by rw [h4]; rfl⟩
  by_cases h5 : c = '\t'
  · exact Or.inl ⟨'t', by rw [h5]; rfl, by decide, by rw [h5]; rfl⟩
  by_cases h6 : c.toNat = 8
  · have e : c = Char.ofNat 8 := by rw [← h6, Char.ofNat_toNat]
    exact Or.inl ⟨'b', by rw [e]; rfl, by decide, by rw [e]; rfl⟩
  by_cases h7 : c.toNat = 12
  · have e : c = Char.ofNat 12 := by rw [← h7, Char.ofNat_toNat]
    exact Or.inl ⟨'f', by rw [e]; rfl, by decide, by rw [e]; rfl⟩
  by_cases h8 : needsU c = true
  · exact Or.inr (Or.inl ⟨by
      rw [escChar, if_neg h1, if_neg h2, if_neg h3, if_neg h4, if_neg h5, if_neg h6, if_neg h7, if_pos h8],
      needsU_lt c h8⟩)
  · exact Or.inr (Or.inr ⟨by
      rw [escChar, if_neg h1, if_neg h2, if_neg h3, if_neg h4, if_neg h5, if_neg h6, if_neg h7, if_neg h8], h1, h2⟩)

theorem hexDigit_ne (d : Nat) : hexDigit d ≠ '"' ∧ hexDigit d ≠ '\\' := by
  unfold hexDigit
  split <;> decide

theorem hexVal_hexDigit : ∀ d < 16, hexVal (hexDigit d) = some d := by decide

theorem guardedFrom_bs (p : Bool) (x : Char) (l : List Char) :
    guardedFrom p ('\\' :: x :: l) = guardedFrom (x == '\\') l := by
  simp [guardedFrom]

theorem guardedFrom_plain (p : Bool) {c : Char} (h1 : c ≠ '"') (h2 : c ≠ '\\') (l : List Char) :
    guardedFrom p (c :: l) = guardedFrom false l := by
  rw [guardedFrom, bne_iff_ne.2 h1, beq_eq_false_iff_ne.2 h2]
  rfl

theorem guarded_escChar (c : Char) (X : List Char) (p : Bool) (hX : guardedFrom false X = true) :
    guardedFrom p (escChar c ++ X) = true := by
  rcases escChar_cases c with ⟨x, e, -, -⟩ | ⟨e, -⟩ | ⟨e, h1, h2⟩
  · rw [e]; exact (guardedFrom_bs p x X).trans (guardedFrom_of_false hX _)
  · have hd := fun n => hexDigit_ne (n % 16)
    rw [e, hex4]
    simp only [List.cons_append, List.nil_append, guardedFrom_bs]
    rw [guardedFrom_plain _ (hd _).1 (hd _).2, guardedFrom_plain _ (hd _).1 (hd _).2,
      guardedFrom_plain _ (hd _).1 (hd _).2, guardedFrom_plain _ (hd _).1 (hd _).2]
    exact hX
  · rw [e]; exact (guardedFrom_plain p h1 h2 X).trans hX

theorem guarded_escape (s : List Char) (p : Bool) : guardedFrom p (escape s) = true := by
  induction s generalizing p with
  | nil => rfl
  | cons c s ih => exact guarded_escChar c _ p (ih false)

theorem digitChar_isDigit (d : Nat) : isDigit (digitChar d) = true := by
  unfold digitChar
  split <;> decide

theorem digitVal_digitChar : ∀ d < 10, digitVal (digitChar d) = some d := by decide

theorem natDigitsF_isDigit (f n : Nat) : ∀ c ∈ natDigitsF f n, isDigit c = true := by
  induction f generalizing n with
  | zero => intro c hc; simp [natDigitsF] at hc; subst hc; exact digitChar_isDigit _
  | succ f ih =>
    intro c hc
    rw [natDigitsF] at hc
    split at hc
    · simp at hc; subst hc; exact digitChar_isDigit _
    · simp only [List.mem_append, List.mem_singleton] at hc
      rcases hc with hc | hc
      · exact ih _ c hc
      · subst hc; exact digitChar_isDigit _

theorem natDigits_isDigit (n : Nat) : ∀ c ∈ natDigits n, isDigit c = true := natDigitsF_isDigit n n

theorem natDigits_ne_nil (n : Nat) : natDigits n ≠ [] := by
  unfold natDigits
  cases n with
  | zero => simp [natDigitsF]
  | succ f => rw [natDigitsF]; split <;> simp

theorem digitsVal_snoc (l : List Char) (c : Char) : digitsVal (l ++ [c]) = digitsVal l * 10 + (digitVal c).getD 0 := by
  simp [digitsVal, List.foldl_append]

theorem digitsVal_natDigitsF (f n : Nat) (h : n ≤ f) : digitsVal (natDigitsF f n) = n := by
  induction f generalizing n with
  | zero =>
    have : n = 0 := by omega
    subst this; simp [natDigitsF, digitsVal, digitVal_digitChar 0 (by decide)]
  | succ f ih =>
    rw [natDigitsF]
    split
    · rename_i h10
      simp [digitsVal, digitVal_digitChar n h10]
    · rw [digitsVal_snoc, ih (n / 10) (by omega), digitVal_digitChar _ (Nat.mod_lt _ (by decide))]
      simp only [Option.getD_some]
      omega

theorem digitsVal_natDigits (n : Nat) : digitsVal (natDigits n) = n := digitsVal_natDigitsF n n (Nat.le_refl _)

theorem isDigit_facts (c : Char) (h : isDigit c = true) : c ≠ ',' ∧ c ≠ '-' ∧ isWs c = false ∧ notDelim c = true := by
  have ne : ∀ x : Char, isDigit x = false → c ≠ x := fun x hx e => by rw [e, hx] at h; cases h
  refine ⟨ne _ (by decide), ne _ (by decide), ?_, ?_⟩
  · simp [isWs, ne ' ' (by decide), ne '\t' (by decide), ne '\n' (by decide), ne '\r' (by decide)]
  · simp [notDelim, ne ',' (by decide), ne '}' (by decide)]

theorem span_run (p : Char → Bool) (L R : List Char) (hL : ∀ c ∈ L, p c = true) (hR : ∀ x ∈ R.head?, p x = false) :
    (L ++ R).takeWhile p = L ∧ (L ++ R).dropWhile p = R := by
  have hr : R.takeWhile p = [] ∧ R.dropWhile p = R := by
    cases R with
    | nil => exact ⟨rfl, rfl⟩
    | cons x R => simp [hR x rfl]
  rw [List.takeWhile_append_of_pos hL, List.dropWhile_append_of_pos hL, hr.1, hr.2, List.append_nil]
  exact ⟨rfl, rfl⟩

theorem showInt_chars (i : Int) : ∀ c ∈ showInt i, c ≠ ',' ∧ isWs c = false ∧ notDelim c = true := by
  intro c hc
  unfold showInt at hc
  have dig : ∀ c ∈ natDigits i.natAbs, c ≠ ',' ∧ isWs c = false ∧ notDelim c = true := by
    intro c hc
    have := isDigit_facts c (natDigits_isDigit _ c hc)
    exact ⟨this.1, this.2.2.1, this.2.2.2⟩
  split at hc
  · simp only [List.mem_cons] at hc
    rcases hc with rfl | hc
    · decide
    · exact dig c hc
  · exact dig c hc

theorem showInt_ne_nil (i : Int) : showInt i ≠ [] := by
  unfold showInt
  split
  · simp
  · exact natDigits_ne_nil _

theorem readInt_showInt (i : Int) (R : List Char) (hR : ∀ x ∈ R.head?, isDigit x = false) :
    readInt (showInt i ++ R) = some (i, R) := by
  have hd := natDigits_isDigit i.natAbs
  have hne := natDigits_ne_nil i.natAbs
  have key := span_run isDigit _ R hd hR
  unfold showInt
  split
  · rename_i hneg
    simp only [List.cons_append, readInt, key.1, key.2]
    have : (natDigits i.natAbs).isEmpty = false := by simpa using hne
    simp only [this, Bool.false_eq_true, ↓reduceIte, digitsVal_natDigits, Option.some.injEq, Prod.mk.injEq, and_true]
    omega
  · rename_i hpos
    -- the head is a digit, so the `'-'` branch of `readInt` is not taken
    cases h : natDigits i.natAbs with
    | nil => exact absurd h hne
    | cons d ds =>
      have hdd : isDigit d = true := hd d (by simp [h])
      have hdm : d ≠ '-' := (isDigit_facts d hdd).2.1
      have k1 := key.1; have k2 := key.2
      rw [h] at k1 k2
      simp only [List.cons_append] at k1 k2 ⊢
      unfold readInt
      split
      · rename_i heq; simp only [List.cons.injEq] at heq; exact absurd heq.1 hdm
      · simp only [k1, k2, List.isEmpty_cons, Bool.false_eq_true, ↓reduceIte, Option.some.injEq, Prod.mk.injEq, and_true]
        rw [← h, digitsVal_natDigits]
        omega

theorem rewriteValue_int (before R : List Char) (old v : Int) (x : Char) (hx : notDelim x = false) :
    rewriteValue before (showInt old ++ x :: R) v = some (before ++ showInt v ++ x :: R) := by
  have hc := showInt_chars old
  have hne := showInt_ne_nil old
  have h1 : (showInt old ++ x :: R).takeWhile isWs = [] ∧ (showInt old ++ x :: R).dropWhile isWs = showInt old ++ x :: R := by
    refine span_run isWs [] _ (fun _ h => nomatch h) ?_
    cases h : showInt old with
    | nil => exact absurd h hne
    | cons d ds => exact fun y hy => by cases hy; exact (hc d (by simp [h])).2.1
  have h2 := span_run notDelim (showInt old) (x :: R) (fun c h => (hc c h).2.2) (fun y hy => by cases hy; exact hx)
  unfold rewriteValue
  simp only [h1.1, h1.2, h2.1, h2.2, List.append_nil]
  have : (showInt old).isEmpty = false := by simpa using hne
  simp [this]

/-- where the token `,"field":` first occurs right before a printed integer that a delimiter follows, `patch` rewrites
exactly that integer -/
theorem patch_at {data A R : List Char} (field : List Char) {old : Int} {x : Char} (v : Int) (hx : notDelim x = false)
    (h : splitAt (',' :: '"' :: field ++ ['"', ':']) data = some (A, showInt old ++ x :: R)) :
    patch data field v = some (A ++ (',' :: '"' :: field ++ ['"', ':']) ++ showInt v ++ x :: R) := by
  unfold patch
  simp only [h]
  exact rewriteValue_int _ R old v x hx

theorem patchBoth_bind {α : Type} (f : List Char → List Char → Int → Option (List Char)) (d : List Char) (c ts : Int)
    (g : List Char → Option α) :
    (patchBoth f d c ts).bind g = (f d kCount c).bind fun d' => (f d' kTimestamp ts).bind g := by
  unfold patchBoth
  cases f d kCount c <;> rfl

theorem expect_append (L R : List Char) : expect L (L ++ R) = some R := by
  unfold expect
  rw [if_pos (isPrefixOf_self_append L R), List.drop_left]

theorem readBool_show (b : Bool) (R : List Char) : readBool (showBool b ++ R) = some (b, R) := by
  cases b
  · have : expect (chars! "true") (showBool false ++ R) = none := by
      simp [expect, showBool, List.isPrefixOf]
    have h2 := expect_append (chars! "false") R
    unfold readBool
    rw [this]
    simp only [showBool, Bool.false_eq_true, ↓reduceIte] at h2 ⊢
    rw [h2]
  · have h2 := expect_append (chars! "true") R
    unfold readBool
    simp only [showBool, ↓reduceIte] at h2 ⊢
    rw [h2]

theorem readStr_quote (R : List Char) : readStr ('"' :: R) = some ([], R) := by
  rw [readStr.eq_def]; simp

theorem readStr_bs (x : Char) (X s R : List Char) (ch : Char) (hx : x ≠ 'u') (hu : unescOne x = some ch)
    (h : readStr X = some (s, R)) : readStr ('\\' :: x :: X) = some (ch :: s, R) := by
  rw [readStr.eq_def]; simp [hx, hu, h]

theorem readStr_u (a b c d : Char) (va vb vc vd : Nat) (X s R : List Char)
    (ha : hexVal a = some va) (hb : hexVal b = some vb) (hc : hexVal c = some vc) (hd : hexVal d = some vd)
    (h : readStr X = some (s, R)) :
    readStr ('\\' :: 'u' :: a :: b :: c :: d :: X) = some (Char.ofNat (va * 4096 + vb * 256 + vc * 16 + vd) :: s, R) := by
  rw [readStr.eq_def]; simp [ha, hb, hc, hd, h]

theorem readStr_plain (c : Char) (X s R : List Char) (h1 : c ≠ '"') (h2 : c ≠ '\\')
    (h : readStr X = some (s, R)) : readStr (c :: X) = some (c :: s, R) := by
  rw [readStr.eq_def]; simp [h1, h2, h]

theorem readStr_escChar (c : Char) (X s R : List Char) (h : readStr X = some (s, R)) :
    readStr (escChar c ++ X) = some (c :: s, R) := by
  rcases escChar_cases c with ⟨x, e, hx, hu⟩ | ⟨e, hlt⟩ | ⟨e, h1, h2⟩
  · rw [e]; exact readStr_bs x X s R c hx hu h
  · have hd := fun n => hexVal_hexDigit (n % 16) (Nat.mod_lt _ (by decide))
    have := readStr_u _ _ _ _ _ _ _ _ X s R (hd (c.toNat / 4096)) (hd (c.toNat / 256)) (hd (c.toNat / 16)) (hd c.toNat) h
    have e' : c.toNat / 4096 % 16 * 4096 + c.toNat / 256 % 16 * 256 + c.toNat / 16 % 16 * 16 + c.toNat % 16 = c.toNat := by
      omega
    rw [e', Char.ofNat_toNat] at this
    rw [e]; exact this
  · rw [e]; exact readStr_plain c X s R h1 h2 h

theorem _root_.Sop.C13.readStr_escape (s R : List Char) : readStr (escape s ++ '"' :: R) = some (s, R) := by
  induction s with
  | nil => exact readStr_quote R
  | cons c s ih =>
    rw [escape, List.append_assoc]
    exact readStr_escChar c _ _ _ ih

theorem readInt_comma (i : Int) (R : List Char) : readInt (showInt i ++ ',' :: R) = some (i, ',' :: R) :=
  readInt_showInt i _ (by intro x hx; simp at hx; subst hx; decide)

/-! the same, with the following text as `literal ++ rest`: the shape in which `encodeSI` presents it to `parseSI` -/

theorem readInt_showInt_lit (i : Int) (lit R : List Char) :
    readInt (showInt i ++ ((',' :: lit) ++ R)) = some (i, (',' :: lit) ++ R) :=
  readInt_comma i (lit ++ R)

theorem readStr_escape_lit (s lit R : List Char) : readStr (escape s ++ (('"' :: lit) ++ R)) = some (s, lit ++ R) :=
  C13.readStr_escape s (lit ++ R)

theorem expect_head (c : Char) (R : List Char) : expect [c] (c :: R) = some R := expect_append [c] R

end Sop.JsonPatch
