import Sop.Lemmas.CommitPhase2After
import Sop.Lemmas.CommitSettled
import Sop.Lemmas.CommitEnds
/-!
C07 "no blockage", tools for runs under ANY fault with no observer:

`XFrame K I`: `I` looks only at the transaction id, its node keys, the node-lock table and the registry entries of
the logical ids in `K`, survives the deletion of such an entry, and implies `NS` (no observer stop point, not
halted). Every function of the model whose footprint leaves those alone keeps `I` (`Reads.xframe`, `Reads.xframe0`);
with no observer `attempt` cannot re-raise, so the functions that only attempt their calls keep `I` and never raise
(`x_` + the function's name). The rules of `XFrame` carry `X.`.
-/
namespace Sop.Commit

def NS (r : Run) : Prop := r.stopAt = none ∧ r.halted = false

theorem NS.noStop {r : Run} (h : NS r) : r.stopAt = none := h.1
theorem NS.notHalted {r : Run} (h : NS r) : r.halted = false := h.2
theorem NS.congr {r r' : Run} (h : NS r) (a : r'.stopAt = r.stopAt) (b : r'.halted = r.halted) : NS r' := ⟨a ▸ h.1, b ▸ h.2⟩

theorem SP0.ns {r : Run} (h : SP0 r) : NS r := h.2
theorem SP0.of_ns {r : Run} (hs : Spent r) (h : NS r) : SP0 r := ⟨hs, h⟩

class XFrame (K : outParam (List UUID)) (I : Run → Prop) : Prop where
  ns : ∀ r, I r → NS r
  frame : ∀ r r' : Run, I r → r'.stopAt = r.stopAt → r'.halted = r.halted → r'.tid = r.tid → r'.nodesKeys = r.nodesKeys →
    r'.s.nodeLock = r.s.nodeLock → (∀ k ∈ K, r'.s.reg k = r.s.reg k ∨ r'.s.reg k = none) → I r'

instance : XFrame [] NS where
  ns _ h := h
  frame _ _ h a b _ _ _ _ := h.congr a b

theorem Reads.ns : Reads [] NS := fun _ _ _ _ a h => h.congr a.stopAt (a.halted h.1)

theorem Keeps.of_onlyHalt {I E : Run → Prop} {m : M α} (hns : ∀ r, I r → NS r) (h : Preserves I m) (ho : OnlyHalt m) :
    Keeps I E m :=
  Triple.conseq (Triple.and h ho) (fun _ h => ⟨h, trivial⟩) (fun _ _ h => h.1)
    (fun r h => by have := (hns r h.1).2; rw [h.2] at this; cases this)

theorem ns_unlockNodesKeys {E : Run → Prop} : Keeps NS E unlockNodesKeys :=
  Keeps.of_onlyHalt (fun _ h => h) (foot_unlockNodesKeys.keeps Reads.ns) oh_unlockNodesKeys

section
variable {K : List UUID} {I : Run → Prop} [xf : XFrame K I]
include xf

theorem Reads.xframe : Reads [.nodeLock, .nodesKeys, .reg] I := fun _ r r' d a h =>
  XFrame.frame r r' h a.stopAt (a.halted (XFrame.ns r h).1) a.tid (a.same .nodesKeys (d _ (by decide))) (a.same .nodeLock (d _ (by decide)))
    fun k _ => .inl (congrFun (a.same .reg (d _ (by decide))) k)

theorem X.modify {E : Run → Prop} (f : Run → Run)
    (h : ∀ r, (f r).s = r.s ∧ (f r).stopAt = r.stopAt ∧ (f r).halted = r.halted ∧ (f r).tid = r.tid ∧ (f r).nodesKeys = r.nodesKeys) :
    Triple I (modify f) (fun _ => I) E :=
  Triple.modify f (fun r hr => by
    obtain ⟨a, b, c, d, e⟩ := h r
    exact XFrame.frame r _ hr b c d e (by rw [a]) (fun k _ => .inl (by rw [a])))
theorem X.attempt {E : Run → Prop} {m : M Unit} (h : Preserves I m) : Triple I (attempt m) (fun _ => I) E :=
  Triple.attempt' (Q := fun _ => I) h (fun r hr hh => by have := (XFrame.ns r hr).2; rw [this] at hh; cases hh)

theorem X.tryMono {E : Run → Prop} {ch : List Part} {cls : Cls} {args : Args} {eff : State → State} {res : Args} {nat : State → Bool}
    (ha : ∀ r : Run, Agree ch r { r with s := eff r.s }) (hl : Part.nodeLock ∉ ch)
    (hr : ∀ r : Run, ∀ k ∈ K, (eff r.s).reg k = r.s.reg k ∨ (eff r.s).reg k = none) :
    Keeps I E (Sop.Commit.attempt (Sop.Commit.call cls args eff res nat)) :=
  X.attempt (Reads.xframe.call
    (fun r hI => XFrame.frame r _ hI rfl rfl rfl rfl ((ha r).same .nodeLock hl) (hr r)))

theorem X.trySame {E : Run → Prop} {ch : List Part} {cls : Cls} {args : Args} {eff : State → State} {res : Args} {nat : State → Bool}
    (ha : ∀ r : Run, Agree ch r { r with s := eff r.s }) (h : ∀ p ∈ [Part.nodeLock, .reg], p ∉ ch) :
    Keeps I E (Sop.Commit.attempt (Sop.Commit.call cls args eff res nat)) :=
  X.tryMono ha (h _ (by decide)) (fun r k _ => .inl (congrFun ((ha r).same .reg (h _ (by decide))) k))

theorem x_dropNodeCache {E : Run → Prop} (ids : List UUID) : Keeps I E (dropNodeCache ids) :=
  Keeps.void (Keeps.forIn _ _ (fun _ =>
    Keeps.void (X.trySame (ch := []) Agree.refl (by decide))))

theorem x_rollbackValues {E : Run → Prop} (w : WS) : Keeps I E (rollbackValues w) :=
  Keeps.void (Keeps.forIn _ _ (fun _ =>
    Keeps.void (Keeps.whenM _ (Keeps.void (X.trySame (ch := [.blob]) (fun r => .delBlobs) (by decide))))))

theorem x_rollbackNewRoots {E : Run → Prop} (w : WS) : Keeps I E (rollbackNewRoots w) :=
  Triple.ite (fun _ => Keeps.pure _) (fun _ =>
    Keeps.bind (X.trySame (ch := [.blob]) (fun r => .delBlobs) (by decide)) (fun _ =>
    Keeps.bind (x_dropNodeCache _) (fun _ =>
    Keeps.bind (X.attempt ((foot_regGet _).bind (fun _ => .pure _) |>.keeps Reads.xframe)) (fun _ =>
    Triple.ite (fun _ => Keeps.pure _) (fun _ => Keeps.bind Keeps.getS (fun _ =>
      Triple.ite (fun _ => Keeps.void (X.tryMono (ch := [.reg]) (fun r => .delRegs) (by decide)
        (fun _ _ _ => State.delRegs_reg_mono _ _ _))) (fun _ => Keeps.pure _)))))))

theorem x_removeCreatedStores {E : Run → Prop} (w : WS) : Keeps I E (removeCreatedStores w) := by
  refine Keeps.void (Keeps.forIn _ _ (fun st => Keeps.void (Keeps.whenM _ (Keeps.void
    (X.tryMono (ch := [.reg, .blob, .cnt, .stores]) (fun r => ?_) (by decide) (fun r k _ => ?_))))))
  · refine (Agree.delRegs (ids := st.root ++ st.added) (by decide)).trans ?_
    refine (Agree.delBlobs (ids := st.root ++ st.added) (by decide)).trans ?_
    refine (Agree.set .stores (x := fun k => if k = st.store then false else r.s.storeExists k) (by decide)).trans ?_
    exact .set .cnt
  · show ((r.s.delRegs (st.root ++ st.added)).delBlobs (st.root ++ st.added)).reg k = r.s.reg k ∨
      ((r.s.delRegs (st.root ++ st.added)).delBlobs (st.root ++ st.added)).reg k = none
    rw [State.delBlobs_reg]
    exact State.delRegs_reg_mono _ _ _

end

/-- an invariant that does not look at the registry reads less -/
theorem Reads.xframe0 {I : Run → Prop} [XFrame [] I] : Reads [.nodeLock, .nodesKeys] I := fun _ r r' d a h =>
  XFrame.frame r r' h a.stopAt (a.halted (XFrame.ns r h).1) a.tid (a.same .nodesKeys (d _ (by decide))) (a.same .nodeLock (d _ (by decide)))
    fun _ hk => by cases hk

end Sop.Commit
