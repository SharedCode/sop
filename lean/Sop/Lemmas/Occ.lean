import Sop.Model.Occ
import Sop.Lemmas.Basics
/-! Model L's step functions specified per park point: `step_spec` gives `BeginOk` (work phase), `InstallOk` (registry flip)
    or `StepOk` (every step between); `applyW_cases` says what an install leaves under an item. -/
namespace Sop.Occ

@[simp] theorem fset_same {β : Type} (f : Nat → β) (k : Nat) (v : β) : fset f k v k = v := by simp [fset]
theorem fset_ne {β : Type} (f : Nat → β) {k x : Nat} (v : β) (h : x ≠ k) : fset f k v x = f x := by simp [fset, h]

section proj
variable (g : G) (i : Nat) (t : Txn)

@[simp] theorem setTxn_hist : (setTxn g i t).hist = g.hist := rfl
@[simp] theorem setTxn_db : (setTxn g i t).db = g.db := rfl
@[simp] theorem setTxn_pver : (setTxn g i t).pver = g.pver := rfl
@[simp] theorem setTxn_pageOf : (setTxn g i t).pageOf = g.pageOf := rfl
@[simp] theorem setTxn_recs : (setTxn g i t).recs = g.recs := rfl
@[simp] theorem setTxn_ids : (setTxn g i t).ids = g.ids := rfl
@[simp] theorem setTxn_unique : (setTxn g i t).unique = g.unique := rfl
@[simp] theorem setTxn_self : (setTxn g i t).txns i = t := by simp [setTxn]
theorem setTxn_ne {k : Nat} (h : k ≠ i) : (setTxn g i t).txns k = g.txns k := by simp [setTxn, fset, h]

@[simp] theorem releasePages_hist : (releasePages g i).hist = g.hist := rfl
@[simp] theorem releasePages_db : (releasePages g i).db = g.db := rfl
@[simp] theorem releasePages_pver : (releasePages g i).pver = g.pver := rfl
@[simp] theorem releasePages_pageOf : (releasePages g i).pageOf = g.pageOf := rfl
@[simp] theorem releasePages_recs : (releasePages g i).recs = g.recs := rfl
@[simp] theorem releasePages_txns : (releasePages g i).txns = g.txns := rfl
@[simp] theorem releasePages_ids : (releasePages g i).ids = g.ids := rfl
@[simp] theorem releasePages_unique : (releasePages g i).unique = g.unique := rfl

@[simp] theorem commitPoint_db (ws : List Tr) : (commitPoint g i t ws).db = g.db := rfl
@[simp] theorem commitPoint_pver (ws : List Tr) : (commitPoint g i t ws).pver = g.pver := rfl
@[simp] theorem commitPoint_pageOf (ws : List Tr) : (commitPoint g i t ws).pageOf = g.pageOf := rfl
@[simp] theorem commitPoint_recs (ws : List Tr) : (commitPoint g i t ws).recs = g.recs := rfl
@[simp] theorem commitPoint_txns (ws : List Tr) : (commitPoint g i t ws).txns = g.txns := rfl
@[simp] theorem commitPoint_ids (ws : List Tr) : (commitPoint g i t ws).ids = g.ids := rfl
@[simp] theorem commitPoint_unique (ws : List Tr) : (commitPoint g i t ws).unique = g.unique := rfl
@[simp] theorem commitPoint_hist (ws : List Tr) :
    (commitPoint g i t ws).hist = g.hist ++ [{ txn := i, reads := t.reads, writes := ws }] := rfl
end proj

/-- the frame of a step of transaction `i` that neither installs nor takes a commit point -/
structure Keeps (g g' : G) (i : Nat) : Prop where
  db : g'.db = g.db
  pver : g'.pver = g.pver
  pageOf : g'.pageOf = g.pageOf
  hist : g'.hist = g.hist
  ids : g'.ids = g.ids
  unique : g'.unique = g.unique
  others : ∀ k, k ≠ i → g'.txns k = g.txns k

theorem Keeps.refl (g : G) (i : Nat) : Keeps g g i := ⟨rfl, rfl, rfl, rfl, rfl, rfl, fun _ _ => rfl⟩

theorem Keeps.trans {g g' g'' : G} {i : Nat} (a : Keeps g g' i) (b : Keeps g' g'' i) : Keeps g g'' i :=
  ⟨b.db.trans a.db, b.pver.trans a.pver, b.pageOf.trans a.pageOf, b.hist.trans a.hist, b.ids.trans a.ids,
   b.unique.trans a.unique, fun k hk => (b.others k hk).trans (a.others k hk)⟩

section
variable (g : G) (i : Nat) (t : Txn)

theorem keeps_setTxn : Keeps g (setTxn g i t) i :=
  ⟨rfl, rfl, rfl, rfl, rfl, rfl, fun _ hk => setTxn_ne g i t hk⟩

theorem keeps_locks (r : Nat → Option Rec) (p : Nat → Option Nat) : Keeps g { g with recs := r, plock := p } i :=
  ⟨rfl, rfl, rfl, rfl, rfl, rfl, fun _ _ => rfl⟩

/-- between its successful validation and its install: the re-check of the lock records (`checkTrackedItems`) or the
    registry flip comes next -/
def InWindow (t : Txn) : Prop := t.pc = .check ∨ t.pc = .install

/-- finished, or on its way out through `unlock()`: `Pc.ldel k` goes on to committed (`k = 0`), failed (`1`) or a retry (`2`),
    so `k < 2` is "not the retry" -/
def Dead (t : Txn) : Prop := t.pc = .done ∨ ∃ k, t.pc = .ldel k ∧ k < 2

theorem Dead.not_inWindow {t : Txn} (h : Dead t) : ¬ InWindow t := by
  rintro (hw | hw) <;> rw [Dead, hw] at h <;> exact h.elim nofun fun ⟨_, hk, _⟩ => nomatch hk

/-- `failPath g i t` and `finishOk g i t` are `if c then setTxn (releasePages g i) i t1 else setTxn (releasePages g i) i t2`
    with `c` = "the transaction owns lock records", `t1` on its way out through `unlock()` and `t2` finished -/
theorem exit_spec (c : Prop) [Decidable c] {t1 t2 : Txn} {k : Nat} (hk : k < 2) (h1 : t1.pc = .ldel k) (h2 : t2.pc = .done) :
    let g' := if c then setTxn (releasePages g i) i t1 else setTxn (releasePages g i) i t2
    Keeps g g' i ∧ Dead (g'.txns i) :=
  ite_ind (fun x => Keeps g x i ∧ Dead (x.txns i))
    (fun _ => ⟨(keeps_locks g i _ _).trans (keeps_setTxn _ _ _), Or.inr ⟨k, by rw [setTxn_self, h1], hk⟩⟩)
    fun _ => ⟨(keeps_locks g i _ _).trans (keeps_setTxn _ _ _), Or.inl (by rw [setTxn_self, h2])⟩

theorem failPath_spec : Keeps g (failPath g i t) i ∧ Dead ((failPath g i t).txns i) :=
  exit_spec g i _ (k := 1) (by decide) rfl rfl

theorem finishOk_spec : Keeps g (finishOk g i t) i ∧ Dead ((finishOk g i t).txns i) :=
  exit_spec g i _ (k := 0) (by decide) rfl rfl

theorem startLock_eq :
    ∃ pc lk, startLock g i t = setTxn g i { t with pc := pc, lockKeys := lk } ∧ (pc = .plock ∨ pc = .lget) := by
  unfold startLock; split
  · exact ⟨_, _, rfl, Or.inl rfl⟩
  · exact ⟨_, t.lockKeys, rfl, Or.inr rfl⟩

end

theorem mem_reads {t : Txn} {r : Nat × Entry} :
    r ∈ t.reads ↔ ∃ tr ∈ t.tracked, tr.act ≠ .add ∧ r = (tr.item, tr.ent) := by
  unfold Txn.reads
  simp only [List.mem_map, List.mem_filter]
  constructor
  · rintro ⟨tr, ⟨h1, h2⟩, rfl⟩; exact ⟨tr, h1, by simpa using h2, rfl⟩
  · rintro ⟨tr, h1, h2, rfl⟩; exact ⟨tr, ⟨h1, by simpa using h2⟩, rfl⟩

theorem reads_nil {t : Txn} (h : t.tracked.isEmpty = true) : t.reads = [] := by
  unfold Txn.reads; rw [List.isEmpty_iff.mp h]; rfl

def SameRead (tr tr' : Tr) : Prop := tr'.item = tr.item ∧ tr'.act = tr.act ∧ tr'.ent = tr.ent

theorem reads_map (t : Txn) (f : Tr → Tr) (hf : ∀ tr, SameRead tr (f tr)) :
    ({ t with tracked := t.tracked.map f } : Txn).reads = t.reads := by
  unfold Txn.reads
  simp only [List.filter_map, List.map_map]
  have : ((fun tr : Tr => decide (tr.act ≠ .add)) ∘ f) = fun tr => decide (tr.act ≠ .add) := by
    funext tr; simp [(hf tr).2.1]
  rw [this]
  apply List.map_congr_left
  intro tr _
  simp [(hf tr).1, (hf tr).2.2]

theorem verifyFlag_same (g : G) (i : Nat) (l : List Nat) (tr : Tr) : SameRead tr (verifyFlag g i l tr) := by
  unfold verifyFlag; split <;> exact ⟨rfl, rfl, rfl⟩

theorem checkFlag_same (g : G) (i : Nat) (tr : Tr) : SameRead tr (checkFlag g i tr) := by
  unfold checkFlag
  refine ite_ind (SameRead tr) (fun _ => ?_) fun _ => ⟨rfl, rfl, rfl⟩
  cases g.recs tr.item with
  | none => exact ⟨rfl, rfl, rfl⟩
  | some r =>
    refine ite_ind (SameRead tr) (fun _ => ⟨rfl, rfl, rfl⟩) fun _ => ?_
    exact ite_ind (SameRead tr) (fun _ => ⟨rfl, rfl, rfl⟩) fun _ => ⟨rfl, rfl, rfl⟩

theorem mem_dedup_aux (l : List Nat) : ∀ (acc : List Nat) (x : Nat),
    x ∈ l.foldl (fun acc x => if acc.contains x then acc else acc ++ [x]) acc ↔ x ∈ acc ∨ x ∈ l := by
  induction l with
  | nil => simp
  | cons y ys ih =>
    intro acc x
    rw [List.foldl_cons, ih, List.mem_cons]
    by_cases hy : acc.contains y = true
    · rw [if_pos hy]
      have : y ∈ acc := by simpa using hy
      exact ⟨fun h => h.imp id Or.inr, fun h => h.elim Or.inl fun h => h.elim (fun e => Or.inl (e ▸ this)) Or.inr⟩
    · rw [if_neg hy]; simp [or_assoc]

theorem mem_dedup {l : List Nat} {x : Nat} : x ∈ dedup l ↔ x ∈ l := by
  unfold dedup; rw [mem_dedup_aux]; simp

theorem mem_seenNow {g : G} {ps : List Nat} {p : Nat} (h : p ∈ ps) : (p, g.pver p) ∈ seenNow g ps := by
  unfold seenNow; exact List.mem_map.mpr ⟨p, h, rfl⟩

theorem mem_pagesOf {pageOf : Nat → Nat} {ts : List Tr} {xp : List Nat} {tr : Tr} (h : tr ∈ ts) :
    pageOf tr.item ∈ pagesOf pageOf ts xp := by
  unfold pagesOf; rw [mem_dedup]; exact List.mem_append.mpr (Or.inl (List.mem_map.mpr ⟨tr, h, rfl⟩))

theorem mem_writes {ts : List Tr} {w : Tr} : w ∈ ts.filter (·.writes) ↔ w ∈ ts ∧ w.act ≠ .get := by
  rw [List.mem_filter]; exact and_congr_right fun _ => decide_eq_true_iff

theorem mem_upagesOf {pageOf : Nat → Nat} {ts : List Tr} {xp : List Nat} {tr : Tr} (h : tr ∈ ts) (hw : tr.act ≠ .get) :
    pageOf tr.item ∈ upagesOf pageOf ts xp := by
  unfold upagesOf; rw [mem_dedup]
  exact List.mem_append.mpr (Or.inl (List.mem_map.mpr ⟨tr, mem_writes.mpr ⟨h, hw⟩, rfl⟩))

/-- `tr'` is `tr` as the merge replay re-registered it: the same read; unless it is an add, the item is committed under
    the same key and, where the kind of action is compared, at the version read -/
def GoodPair (g : G) (tr tr' : Tr) : Prop :=
  SameRead tr tr' ∧ (tr'.act ≠ .add → ∃ e, g.db tr'.item = some e ∧ e.key = tr'.ent.key ∧
    (g.replayChecks tr'.act = true → e.ver = tr'.ent.ver))

/-- every kind of tracked action is compared with `versionInDB` by the merge replay (the code as it is) -/
def ChecksAll (g : G) : Prop :=
  g.replayChecks .get = true ∧ g.replayChecks .add = true ∧ g.replayChecks .update = true ∧ g.replayChecks .remove = true

instance (g : G) : Decidable (ChecksAll g) := by unfold ChecksAll; infer_instance

theorem ChecksAll.all {g : G} (h : ChecksAll g) : ∀ a, g.replayChecks a = true
  | .get => h.1
  | .add => h.2.1
  | .update => h.2.2.1
  | .remove => h.2.2.2

theorem refetchStep_some {g : G} {acc : Option (List Tr × List Nat)} {tr : Tr} {out1 : List Tr} {ids1 : List Nat}
    (h : refetchStep g acc tr = some (out1, ids1)) :
    ∃ out0 ids0 tr', acc = some (out0, ids0) ∧ out1 = out0 ++ [tr'] ∧ GoodPair g tr tr' := by
  match acc with
  | none => cases h
  | some (out0, ids0) =>
    unfold refetchStep at h
    by_cases hadd : tr.act = .add
    · simp only [if_pos hadd] at h
      have h := Prod.mk.inj (Option.some.inj (Option.ite_none_left_eq_some.mp h).2)
      exact ⟨out0, ids0, _, rfl, h.1.symm, ⟨rfl, rfl, rfl⟩, fun hne => absurd hadd hne⟩
    · simp only [if_neg hadd] at h
      cases he : g.db tr.item with
      | none => simp only [he] at h; cases h
      | some e =>
        simp only [he] at h
        obtain ⟨hk, h⟩ := Option.ite_none_right_eq_some.mp h
        have h := Prod.mk.inj (Option.some.inj h)
        refine ⟨out0, ids0, _, rfl, h.1.symm, ?_⟩
        split <;> exact ⟨⟨rfl, rfl, rfl⟩, fun _ => ⟨e, he, hk.1, fun hc => hk.2.resolve_left (by simp [hc])⟩⟩

theorem refetch_fold {g : G} : ∀ (l : List Tr) (acc : Option (List Tr × List Nat)) (out : List Tr) (ids : List Nat),
    l.foldl (refetchStep g) acc = some (out, ids) →
    ∃ out0 ids0, acc = some (out0, ids0) ∧ ∀ tr' ∈ out, tr' ∈ out0 ∨ ∃ tr ∈ l, GoodPair g tr tr' := by
  intro l
  induction l with
  | nil => intro acc out ids h; exact ⟨out, ids, h, fun tr' h' => Or.inl h'⟩
  | cons tr l ih =>
    intro acc out ids h
    obtain ⟨out1, ids1, h1, h2⟩ := ih _ _ _ h
    obtain ⟨out0, ids0, trn, ha, rfl, hg⟩ := refetchStep_some h1
    refine ⟨out0, ids0, ha, fun tr' htr' => ?_⟩
    rcases h2 tr' htr' with h3 | ⟨tr2, h3, h4⟩
    · rcases List.mem_append.mp h3 with h5 | h5
      · exact Or.inl h5
      · rw [List.mem_singleton.mp h5]
        exact Or.inr ⟨tr, List.mem_cons_self, hg⟩
    · exact Or.inr ⟨tr2, List.mem_cons_of_mem _ h3, h4⟩

theorem refetch_spec {g : G} {t t' : Txn} (h : refetch g t = some t') :
    (∀ tr' ∈ t'.tracked, ∃ tr ∈ t.tracked, GoodPair g tr tr') ∧
    t'.seen = seenNow g (pagesOf g.pageOf t'.tracked t'.xpages) ∧ t'.pc = t.pc ∧ t'.reader = t.reader := by
  unfold refetch at h
  split at h
  · cases h
  · rename_i out ids hf
    cases h
    obtain ⟨out0, ids0, ha, hb⟩ := refetch_fold _ _ _ _ hf
    cases ha
    refine ⟨fun tr' htr' => ?_, rfl, rfl, rfl⟩
    rcases hb tr' htr' with h1 | ⟨tr, h1, h2⟩
    · cases h1
    · exact ⟨tr, (List.mem_filter.mp h1).1, h2⟩

/-- the step kept the reads and the seen pages; the window is entered only from the re-check, or from a writer's
    validation that found every seen page current -/
def Plain (g : G) (t t' : Txn) : Prop :=
  t'.reads = t.reads ∧ t'.seen = t.seen ∧
  (InWindow t' → t.pc = .check ∨ (t.pc = .validate ∧ t.reader = false ∧ seenCurrent g t = true))
/-- `refetchAndMergeClosure` replayed the tracker: every read is an old read whose item was found with its key and
    `versionInDB`, on a page seen at its current version; never in the window -/
def Refetched (g : G) (t t' : Txn) : Prop :=
  (∀ r ∈ t'.reads, r ∈ t.reads ∧ ∃ e, g.db r.1 = some e ∧ e.key = r.2.key ∧ e.ver = r.2.ver) ∧
  (∀ r ∈ t'.reads, (g.pageOf r.1, g.pver (g.pageOf r.1)) ∈ t'.seen) ∧ ¬ InWindow t'

theorem refetch_reads {g : G} {t t' : Txn} (h : refetch g t = some t') (hc : ChecksAll g) :
    ∀ r ∈ t'.reads, r ∈ t.reads ∧ ∃ e, g.db r.1 = some e ∧ e.key = r.2.key ∧ e.ver = r.2.ver := by
  intro r hr
  obtain ⟨tr', htr', hne, rfl⟩ := mem_reads.mp hr
  obtain ⟨tr, htr, ⟨h1, h2, h3⟩, h4⟩ := (refetch_spec h).1 tr' htr'
  obtain ⟨e, he1, he2, he3⟩ := h4 hne
  exact ⟨mem_reads.mpr ⟨tr, htr, h2 ▸ hne, by rw [h1, h3]⟩, e, he1, he2, he3 (hc.all _)⟩

theorem refetch_seen {g : G} {t t' : Txn} (h : refetch g t = some t') :
    ∀ r ∈ t'.reads, (g.pageOf r.1, g.pver (g.pageOf r.1)) ∈ t'.seen := by
  intro r hr
  obtain ⟨tr', htr', _, rfl⟩ := mem_reads.mp hr
  rw [(refetch_spec h).2.1]
  exact mem_seenNow (mem_pagesOf htr')

def SelfOk (g : G) (t t' : Txn) : Prop :=
  t'.pc = .done ∨ (∃ k, t'.pc = .ldel k ∧ k < 2) ∨ Plain g t t' ∨ Refetched g t t'

theorem SelfOk.dead {g : G} {t t' : Txn} (h : Dead t') : SelfOk g t t' := h.elim Or.inl fun h => Or.inr (Or.inl h)
theorem SelfOk.plain {g : G} {t t' : Txn} (h : Plain g t t') : SelfOk g t t' := Or.inr (Or.inr (Or.inl h))
theorem SelfOk.refetched {g : G} {t t' : Txn} (h : Refetched g t t') : SelfOk g t t' := Or.inr (Or.inr (Or.inr h))

/-- why a commit point may be taken: what the entry's reads are known to satisfy in the state before the step.
    (The alternative `t.pc = .install` never occurs for a `StepOk` step: the install has `InstallOk`.) -/
def CommitWhy (g : G) (t : Txn) (h : HEntry) : Prop :=
  h.reads = [] ∨
  ((∀ r ∈ h.reads, r ∈ t.reads) ∧ (t.pc = .check ∨ t.pc = .install ∨ (t.pc = .validate ∧ seenCurrent g t = true))) ∨
  (t.pc = .validate ∧ ∀ r ∈ h.reads, r ∈ t.reads ∧ ∃ e, g.db r.1 = some e ∧ e.key = r.2.key ∧ e.ver = r.2.ver)

/-- a step other than the work phase and the install; a commit point it takes writes nothing (only the install writes) -/
structure StepOk (g g' : G) (i : Nat) (t : Txn) : Prop where
  db : g'.db = g.db
  pver : g'.pver = g.pver
  pageOf : g'.pageOf = g.pageOf
  others : ∀ k, k ≠ i → g'.txns k = g.txns k
  self : (g'.txns i).pc = .done ∨ (∃ k, (g'.txns i).pc = .ldel k ∧ k < 2) ∨ Plain g t (g'.txns i) ∨ Refetched g t (g'.txns i)
  hist : g'.hist = g.hist ∨ ∃ h, g'.hist = g.hist ++ [h] ∧ h.writes = [] ∧ CommitWhy g t h

theorem StepOk.selfOk {g g' : G} {i : Nat} {t : Txn} (h : StepOk g g' i t) : SelfOk g t (g'.txns i) := h.self

theorem stepOk_of_keeps {g g' : G} {i : Nat} {t : Txn} (k : Keeps g g' i)
    (h : SelfOk g t (g'.txns i)) :
    StepOk g g' i t :=
  ⟨k.db, k.pver, k.pageOf, k.others, h, Or.inl k.hist⟩

theorem stepOk_ite {g : G} {i : Nat} {t : Txn} {c : Prop} [Decidable c] {a b : G} (ha : c → StepOk g a i t)
    (hb : ¬ c → StepOk g b i t) : StepOk g (if c then a else b) i t :=
  ite_ind (StepOk g · i t) ha hb

/-! Every branch of a step function ends in `setTxn`, `failPath` or `finishOk ∘ commitPoint`, applied to a state `g1`
   that has the frame of `g`; `t'` is the transaction written back. -/
section exits
variable {g g1 : G} {i : Nat} {t : Txn} (k : Keeps g g1 i) (t' : Txn)
include k

theorem stepOk_setTxn (h : SelfOk g t t') :
    StepOk g (setTxn g1 i t') i t :=
  stepOk_of_keeps (k.trans (keeps_setTxn g1 i t')) (by rw [setTxn_self]; exact h)

theorem stepOk_plain (hr : t'.reads = t.reads) (hs : t'.seen = t.seen) (hw : t'.pc ≠ .check ∧ t'.pc ≠ .install) :
    StepOk g (setTxn g1 i t') i t :=
  stepOk_setTxn k t' (.plain ⟨hr, hs, fun h => (h.elim hw.1 hw.2).elim⟩)

theorem stepOk_failPath : StepOk g (failPath g1 i t') i t :=
  have ⟨k', hpc⟩ := failPath_spec g1 i t'
  stepOk_of_keeps (k.trans k') (.dead hpc)

theorem stepOk_of_commit {g' : G} (k' : Keeps (commitPoint g1 i t' []) g' i)
    (hpc : Dead (g'.txns i))
    (why : CommitWhy g t { txn := i, reads := t'.reads, writes := [] }) : StepOk g g' i t :=
  ⟨k'.db.trans k.db, k'.pver.trans k.pver, k'.pageOf.trans k.pageOf, fun j hj => (k'.others j hj).trans (k.others j hj),
   hpc.imp id Or.inl, Or.inr ⟨_, k'.hist.trans (congrArg (· ++ [_]) k.hist), rfl, why⟩⟩

theorem stepOk_commit (why : CommitWhy g t { txn := i, reads := t'.reads, writes := [] }) :
    StepOk g (finishOk (commitPoint g1 i t' []) i t') i t :=
  have ⟨k', hpc⟩ := finishOk_spec (commitPoint g1 i t' []) i t'
  stepOk_of_commit k t' k' hpc why

theorem stepOk_commit_done (why : CommitWhy g t { txn := i, reads := t'.reads, writes := [] }) :
    StepOk g (setTxn (commitPoint g1 i t' []) i (finish t' .ok)) i t :=
  stepOk_of_commit k t' (keeps_setTxn _ i _) (Or.inl (by rw [setTxn_self]; rfl)) why

end exits

section
variable (g : G) (i : Nat) (t : Txn)

theorem stepLget_ok : StepOk g (stepLget g i t) i t := by
  unfold stepLget
  refine stepOk_ite (fun _ => stepOk_failPath (Keeps.refl g i) t) fun _ => ?_
  exact stepOk_ite (fun _ => stepOk_plain (Keeps.refl g i) _ rfl rfl ⟨nofun, nofun⟩)
    fun _ => stepOk_plain (Keeps.refl g i) _ rfl rfl ⟨nofun, nofun⟩

theorem stepLset_ok : StepOk g (stepLset g i t) i t :=
  stepOk_plain (keeps_locks g i _ _) _ rfl rfl ⟨nofun, nofun⟩

theorem stepLverify_ok (hint : List Nat) : StepOk g (stepLverify g i t hint) i t := by
  unfold stepLverify
  refine stepOk_ite (fun _ => stepOk_failPath (Keeps.refl g i) _) fun _ => ?_
  exact stepOk_plain (Keeps.refl g i) _ (reads_map t _ (verifyFlag_same g i t.toSet)) rfl ⟨nofun, nofun⟩

theorem stepLdel_ok (k : Nat) : StepOk g (stepLdel g i t k) i t := by
  unfold stepLdel
  refine stepOk_ite (fun _ => stepOk_setTxn (keeps_locks g i _ _) _ (.dead (Or.inl rfl))) fun _ => ?_
  exact stepOk_ite (fun _ => stepOk_setTxn (keeps_locks g i _ _) _ (.dead (Or.inl rfl)))
    fun _ => stepOk_plain (keeps_locks g i _ _) _ rfl rfl ⟨nofun, nofun⟩

theorem stepPlock_ok (hc : ChecksAll g) (hint : List Nat) (hpc : t.pc = .plock) :
    StepOk g (stepPlock g i t hint) i t := by
  unfold stepPlock
  refine stepOk_ite (fun _ => stepOk_plain (Keeps.refl g i) _ rfl rfl (by simp [hpc])) fun _ => ?_
  have k := keeps_locks g i g.recs fun p => if t.lockKeys.contains p then some i else g.plock p
  refine stepOk_ite (fun _ => ?_) fun _ => ?_
  · split
    · exact stepOk_failPath k _
    · rename_i t2 hr
      obtain ⟨pc, lk, h, hpc'⟩ := startLock_eq { g with plock := fun p => if t.lockKeys.contains p then some i else g.plock p } i t2
      rw [h]
      have hr1 := refetch_reads hr hc
      have hr2 := refetch_seen hr
      refine stepOk_setTxn k _ (.refetched ⟨hr1, hr2, ?_⟩)
      rintro (h' | h') <;> rcases hpc' with rfl | rfl <;> cases h'
  · refine stepOk_ite (fun hemp => ?_) fun _ => stepOk_plain k _ rfl rfl ⟨nofun, nofun⟩
    exact stepOk_commit k t (Or.inl (reads_nil ((Bool.and_eq_true _ _).mp hemp).1))

theorem stepCheck_ok (hpc : t.pc = .check) : StepOk g (stepCheck g i t) i t := by
  unfold stepCheck
  have hreads : ({ t with tracked := t.tracked.map (checkFlag g i) } : Txn).reads = t.reads :=
    reads_map t _ (checkFlag_same g i)
  refine stepOk_ite (fun _ => stepOk_failPath (Keeps.refl g i) _) fun _ => ?_
  refine stepOk_ite (fun _ => ?_) fun _ => ?_
  · exact stepOk_commit (Keeps.refl g i) _ (Or.inr (Or.inl ⟨fun r hr => hreads ▸ hr, Or.inl hpc⟩))
  · exact stepOk_setTxn (Keeps.refl g i) _ (.plain ⟨hreads, rfl, fun _ => Or.inl hpc⟩)

theorem stepValidate_ok (hc : ChecksAll g) (hpc : t.pc = .validate) :
    StepOk g (stepValidate g i t) i t := by
  unfold stepValidate
  have k := Keeps.refl g i
  refine stepOk_ite (fun _ => ?_) fun hrd => ?_
  · refine stepOk_ite (fun hsc => ?_) fun _ => ?_
    · exact stepOk_commit_done k t (Or.inr (Or.inl ⟨fun _ hr => hr, Or.inr (Or.inr ⟨hpc, hsc⟩)⟩))
    · split
      · exact stepOk_setTxn k _ (.dead (Or.inl rfl))
      · rename_i t2 hr
        exact stepOk_commit_done k t2 (Or.inr (Or.inr ⟨hpc, refetch_reads hr hc⟩))
  · refine stepOk_ite (fun hsc => ?_) fun _ => ?_
    · have hwin (pc : Pc) : Plain g t { t with pc := pc } := ⟨rfl, rfl, fun _ => Or.inr ⟨hpc, by simpa using hrd, hsc⟩⟩
      refine stepOk_ite (fun _ => ?_) fun _ => stepOk_setTxn k _ (.plain (hwin _))
      refine stepOk_ite (fun _ => ?_) fun _ => stepOk_setTxn k _ (.plain (hwin _))
      exact stepOk_commit k t (Or.inr (Or.inl ⟨fun _ hr => hr, Or.inr (Or.inr ⟨hpc, hsc⟩)⟩))
    · refine stepOk_ite (fun _ => stepOk_failPath k _) fun _ => ?_
      exact stepOk_ite (fun _ => stepOk_plain (keeps_locks g i _ _) _ rfl rfl ⟨nofun, nofun⟩)
        fun _ => stepOk_plain (keeps_locks g i _ _) _ rfl rfl ⟨nofun, nofun⟩

/-- the registry flip -/
structure InstallOk (g g' : G) (i : Nat) (t : Txn) : Prop where
  db : g'.db = applyW g.db (t.tracked.filter (·.writes))
  pver : g'.pver = fun p => if (t.upages g).contains p then g.pver p + 1 else g.pver p
  pageOf : g'.pageOf = g.pageOf
  others : ∀ k, k ≠ i → g'.txns k = g.txns k
  self : (g'.txns i).pc = .done ∨ (∃ k, (g'.txns i).pc = .ldel k ∧ k < 2)
  hist : g'.hist = g.hist ++ [{ txn := i, reads := t.reads, writes := t.tracked.filter (·.writes) }]

theorem InstallOk.dead {g g' : G} {i : Nat} {t : Txn} (h : InstallOk g g' i t) : Dead (g'.txns i) := h.self

theorem stepInstall_ok : InstallOk g (stepInstall g i t) i t :=
  have ⟨k, hpc⟩ := finishOk_spec (commitPoint (installData g t) i t (t.tracked.filter (·.writes))) i t
  ⟨k.db, k.pver, k.pageOf, k.others, hpc, k.hist⟩

/-- the work step -/
structure BeginOk (g g' : G) (i : Nat) : Prop where
  db : g'.db = g.db
  pver : g'.pver = g.pver
  pageOf : g'.pageOf = g.pageOf
  others : ∀ k, k ≠ i → g'.txns k = g.txns k
  self : (g'.txns i).pc = .done ∨
    ((g'.txns i).seen = seenNow g (pagesOf g.pageOf (g'.txns i).tracked (g'.txns i).xpages) ∧
     ((g'.txns i).pc = .validate ∨ (g'.txns i).pc = .plock ∨ (g'.txns i).pc = .lget))
  hist : g'.hist = g.hist ∨ ∃ h, g'.hist = g.hist ++ [h] ∧ h.writes = [] ∧ h.reads = []

theorem beginOk_setTxn (g : G) (i : Nat) (t' : Txn)
    (h : t'.pc = .done ∨ (t'.seen = seenNow g (pagesOf g.pageOf t'.tracked t'.xpages) ∧
      (t'.pc = .validate ∨ t'.pc = .plock ∨ t'.pc = .lget))) : BeginOk g (setTxn g i t') i :=
  ⟨rfl, rfl, rfl, fun _ hk => setTxn_ne g i t' hk, by rw [setTxn_self]; exact h, Or.inl rfl⟩

theorem stepBegin_ok (hint : List Nat) : BeginOk g (stepBegin g i t hint) i := by
  unfold stepBegin
  refine ite_ind (BeginOk g · i) (fun _ => beginOk_setTxn g i _ (Or.inl rfl)) fun _ => ?_
  refine ite_ind (BeginOk g · i) (fun hemp => ?_) fun _ => ?_
  · exact ⟨rfl, rfl, rfl, fun _ hk => setTxn_ne _ _ _ hk, Or.inl (by rw [setTxn_self]; rfl), Or.inr ⟨_, rfl, rfl, reads_nil hemp⟩⟩
  · refine ite_ind (BeginOk g · i) (fun _ => beginOk_setTxn g i _ (Or.inr ⟨rfl, Or.inl rfl⟩)) fun _ => ?_
    obtain ⟨pc, lk, h, hpc⟩ := startLock_eq g i (beginTxn g t hint)
    rw [h]
    exact beginOk_setTxn g i _ (Or.inr ⟨rfl, Or.inr hpc⟩)

end

theorem step_spec (g : G) (hc : ChecksAll g) (i : Nat) (hint : List Nat) :
    ((g.txns i).pc = .done ∧ step g i hint = g) ∨
    ((g.txns i).pc = .begin ∧ BeginOk g (step g i hint) i) ∨
    ((g.txns i).pc = .install ∧ InstallOk g (step g i hint) i (g.txns i)) ∨
    ((g.txns i).pc ≠ .done ∧ (g.txns i).pc ≠ .begin ∧ (g.txns i).pc ≠ .install ∧ StepOk g (step g i hint) i (g.txns i)) := by
  unfold step; simp only
  cases hpc : (g.txns i).pc
  case done => exact Or.inl ⟨rfl, rfl⟩
  case «begin» => exact Or.inr (Or.inl ⟨rfl, stepBegin_ok _ _ _ _⟩)
  case install => exact Or.inr (Or.inr (Or.inl ⟨rfl, stepInstall_ok _ _ _⟩))
  all_goals refine Or.inr (Or.inr (Or.inr ⟨nofun, nofun, nofun, ?_⟩))
  · exact stepLget_ok _ _ _
  · exact stepLset_ok _ _ _
  · exact stepLverify_ok _ _ _ _
  · exact stepPlock_ok _ _ _ hc _ hpc
  · exact stepValidate_ok _ _ _ hc hpc
  · exact stepCheck_ok _ _ _ hpc
  · exact stepLdel_ok _ _ _ _

theorem step_install {g : G} {i : Nat} (hint : List Nat) (hpc : (g.txns i).pc = .install) :
    InstallOk g (step g i hint) i (g.txns i) := by
  unfold step; simp only [hpc]; exact stepInstall_ok _ _ _

theorem step_frame {g : G} (hc : ChecksAll g) (i : Nat) (hint : List Nat) :
    (∀ k, k ≠ i → (step g i hint).txns k = g.txns k) ∧ ((g.txns i).pc ≠ .install → (step g i hint).db = g.db) := by
  rcases step_spec g hc i hint with ⟨_, h⟩ | ⟨_, h⟩ | ⟨hpc, h⟩ | ⟨_, _, _, h⟩
  · rw [h]; exact ⟨fun _ _ => rfl, fun _ => rfl⟩
  · exact ⟨h.others, fun _ => h.db⟩
  · exact ⟨h.others, fun hne => absurd hpc hne⟩
  · exact ⟨h.others, fun _ => h.db⟩

theorem step_others {g : G} (hc : ChecksAll g) (i : Nat) (hint : List Nat) {k : Nat} (hk : k ≠ i) :
    (step g i hint).txns k = g.txns k :=
  (step_frame hc i hint).1 k hk

theorem step_db {g : G} (hc : ChecksAll g) (i : Nat) (hint : List Nat) (hpc : (g.txns i).pc ≠ .install) :
    (step g i hint).db = g.db :=
  (step_frame hc i hint).2 hpc

theorem applyW_cons (db : Nat → Option Entry) (w : Tr) (ws : List Tr) : applyW db (w :: ws) = applyW (applyOne db w) ws := rfl
@[simp] theorem applyW_nil (db : Nat → Option Entry) : applyW db [] = db := rfl

/-- what a write leaves under the item it lands on (`target`) -/
def eff (w : Tr) : Option Entry :=
  match w.act with
  | .remove => none
  | _ => some ⟨w.ent.key, w.nval, w.nver⟩

/-- the item a write lands on (a legacy remove of an inner-node item lands on its alias, see `Tr.phys`) -/
def target (w : Tr) : Nat := if w.act = .remove ∧ w.phys ≠ 0 then w.phys else w.item

theorem target_of_phys {w : Tr} (h : w.phys = 0) : target w = w.item := if_neg fun hc => hc.2 h

theorem applyOne_eq (db : Nat → Option Entry) (w : Tr) :
    applyOne db w = if w.act = .get then db else fset db (target w) (eff w) := by
  unfold applyOne eff target
  cases w.act with
  | get | add | update => rfl
  | remove => by_cases h : w.phys = 0 <;> simp [h]

theorem applyOne_cases (db : Nat → Option Entry) (w : Tr) (it : Nat) :
    (applyOne db w it = db it ∧ (w.act ≠ .get → target w ≠ it)) ∨
    (w.act ≠ .get ∧ target w = it ∧ applyOne db w it = eff w) := by
  rw [applyOne_eq]
  refine ite_ind (fun f : Nat → Option Entry => (f it = db it ∧ (w.act ≠ .get → target w ≠ it)) ∨
    (w.act ≠ .get ∧ target w = it ∧ f it = eff w)) (fun hg => Or.inl ⟨rfl, fun h => absurd hg h⟩) fun hg => ?_
  by_cases hit : it = target w
  · exact Or.inr ⟨hg, hit.symm, hit ▸ fset_same _ _ _⟩
  · exact Or.inl ⟨fset_ne _ _ hit, fun _ e => hit e.symm⟩

theorem applyW_cases (ws : List Tr) : ∀ (db : Nat → Option Entry) (it : Nat),
    (applyW db ws it = db it ∧ ∀ w ∈ ws, w.act ≠ .get → target w ≠ it) ∨
    ∃ w ∈ ws, w.act ≠ .get ∧ target w = it ∧ applyW db ws it = eff w := by
  induction ws with
  | nil => intro db it; exact Or.inl ⟨rfl, fun _ h => nomatch h⟩
  | cons w ws ih =>
    intro db it
    rw [applyW_cons]
    rcases ih (applyOne db w) it with ⟨h, hno⟩ | ⟨w', hw', h⟩
    · rcases applyOne_cases db w it with ⟨h1, hno1⟩ | ⟨hg, hi, h1⟩
      · refine Or.inl ⟨h.trans h1, fun w' hw' => ?_⟩
        rcases List.mem_cons.mp hw' with rfl | hw'
        · exact hno1
        · exact hno w' hw'
      · exact Or.inr ⟨w, List.mem_cons_self, hg, hi, h.trans h1⟩
    · exact Or.inr ⟨w', List.mem_cons_of_mem _ hw', h⟩

end Sop.Occ
