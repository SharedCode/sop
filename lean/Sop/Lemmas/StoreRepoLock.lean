import Sop.Model.StoreRepoLock
/-!
# Invariant of concurrent `StoreRepository.Add` calls under the store-list lock (C12)

Any number of callers of `Add` (actors of kind `add` of `Sop.StoreRepoLock`), any interleaving of their steps, the
code's order (lock, read the list, check, write).
-/
namespace Sop.C12.Lock
open Sop.StoreRepoLock

/-- the program points of `Add` between `DualLock` granted and `Unlock` -/
def inCS : Pc → Bool
  | .aL | .aS | .aP | .aW | .aC | .aR => true
  | _ => false

/-- `Add` returned nil -/
def told (a : Actor) : Prop := a.pc = .done ∧ a.res = .created

/-- the caller has written the store (list entry, folder, store info file) -/
def owner (a : Actor) : Prop := a.pc = .aW ∨ a.pc = .aC ∨ told a

/-- the caller found the name in the list -/
def refusedP (a : Actor) : Prop := a.pc = .aR ∨ (a.pc = .done ∧ a.res = .exists_)

structure Inv (base : List String) (s : State) : Prop where
  kind : ∀ i, (s.actor i).kind = .add
  hold : ∀ i, s.lock = some i ↔ inCS (s.actor i).pc = true
  snap : ∀ i, ((s.actor i).pc = .aS ∨ (s.actor i).pc = .aP) → (s.actor i).snap = s.list
  pass : ∀ i, (s.actor i).pc = .aP → (s.actor i).name ∉ s.list
  own : ∀ i, owner (s.actor i) → (s.actor i).name ∈ s.list ∧ s.info (s.actor i).name = some (s.actor i).inf ∧
    ((s.actor i).pc ≠ .aW → s.cache (s.actor i).name = some (s.actor i).inf)
  uniq : ∀ i j, owner (s.actor i) → owner (s.actor j) → (s.actor i).name = (s.actor j).name → i = j
  /-- nothing is dropped from the list, nothing else appears -/
  src : ∀ n, n ∈ s.list ↔ n ∈ base ∨ ∃ i, owner (s.actor i) ∧ (s.actor i).name = n
  refused : ∀ i, refusedP (s.actor i) → (s.actor i).name ∈ s.list
  /-- the program points of the check-outside-the-lock order do not occur -/
  inside : ∀ i, (s.actor i).pc ≠ .oS ∧ (s.actor i).pc ≠ .oP

theorem Inv.own_cache {base : List String} {s : State} (h : Inv base s) {i : Nat} (ho : owner (s.actor i))
    (hw : (s.actor i).pc ≠ .aW) : s.cache (s.actor i).name = some (s.actor i).inf := (h.own i ho).2.2 hw

@[simp] theorem actor_setActor (s : State) (i j : Nat) (a : Actor) :
    (setActor s i a).actor j = if j = i then a else s.actor j := rfl
@[simp] theorem lock_setActor (s : State) (i : Nat) (a : Actor) : (setActor s i a).lock = s.lock := rfl
@[simp] theorem list_setActor (s : State) (i : Nat) (a : Actor) : (setActor s i a).list = s.list := rfl
@[simp] theorem info_setActor (s : State) (i : Nat) (a : Actor) : (setActor s i a).info = s.info := rfl
@[simp] theorem cache_setActor (s : State) (i : Nat) (a : Actor) : (setActor s i a).cache = s.cache := rfl

theorem frame {base : List String} {s s' : State} (h : Inv base s) (i : Nat) (a' : Actor)
    (others : ∀ j, j ≠ i → s'.actor j = s.actor j) (self : s'.actor i = a')
    (list : s'.list = s.list) (info : s'.info = s.info)
    (kind : a'.kind = .add) (name : a'.name = (s.actor i).name) (inf : a'.inf = (s.actor i).inf)
    (lock : ∀ j, s'.lock = some j ↔ inCS (s'.actor j).pc = true)
    (snap : a'.pc = .aS ∨ a'.pc = .aP → a'.snap = s.list)
    (pass : a'.pc = .aP → a'.name ∉ s.list)
    (own : owner a' ↔ owner (s.actor i))
    (cache : ∀ j, owner (s.actor j) → (s'.actor j).pc ≠ .aW → s'.cache (s.actor j).name = some (s.actor j).inf)
    (refused : refusedP a' → a'.name ∈ s.list)
    (inside : a'.pc ≠ .oS ∧ a'.pc ≠ .oP) : Inv base s' := by
  subst self
  have own' : ∀ j, (owner (s'.actor j) ↔ owner (s.actor j)) ∧ (s'.actor j).name = (s.actor j).name ∧
      (s'.actor j).inf = (s.actor j).inf := by
    intro j; by_cases hj : j = i
    · subst hj; exact ⟨own, name, inf⟩
    · rw [others j hj]; exact ⟨Iff.rfl, rfl, rfl⟩
  refine ⟨?_, lock, ?_, ?_, ?_, ?_, ?_, ?_, ?_⟩
  · intro j; by_cases hj : j = i
    · subst hj; exact kind
    · rw [others j hj]; exact h.kind j
  · intro j; rw [list]; by_cases hj : j = i
    · subst hj; exact snap
    · rw [others j hj]; exact h.snap j
  · intro j; rw [list]; by_cases hj : j = i
    · subst hj; exact pass
    · rw [others j hj]; exact h.pass j
  · intro j hoj
    obtain ⟨o, n, f⟩ := own' j
    have := h.own j (o.mp hoj)
    rw [list, info, n, f]
    exact ⟨this.1, this.2.1, cache j (o.mp hoj)⟩
  · intro j k hoj hok hnm
    exact h.uniq j k ((own' j).1.mp hoj) ((own' k).1.mp hok) ((own' j).2.1.symm.trans (hnm.trans (own' k).2.1))
  · intro n
    rw [list, h.src n]
    refine or_congr_right (exists_congr fun j => ?_)
    rw [(own' j).1, (own' j).2.1]
  · intro j; rw [list]; by_cases hj : j = i
    · subst hj; exact refused
    · rw [others j hj]; exact h.refused j
  · intro j; by_cases hj : j = i
    · subst hj; exact inside
    · rw [others j hj]; exact h.inside j

/-- what a step of actor `i` may do to the lock: leave it, take it when free, give it back when held -/
def LockMove (s : State) (i : Nat) (a' : Actor) (l' : Option Nat) : Prop :=
  (l' = s.lock ∧ inCS a'.pc = inCS (s.actor i).pc) ∨
  (l' = some i ∧ s.lock = none ∧ inCS a'.pc = true) ∨
  (l' = none ∧ s.lock = some i ∧ inCS a'.pc = false)

theorem hold_move {base : List String} {s s' : State} (h : Inv base s) (i : Nat) {a' : Actor}
    (hact : ∀ j, j ≠ i → s'.actor j = s.actor j) (hself : s'.actor i = a') (lock : LockMove s i a' s'.lock) :
    ∀ j, s'.lock = some j ↔ inCS (s'.actor j).pc = true := by
  intro j
  have hj := h.hold j
  by_cases e : j = i
  · subst e; rw [hself]
    rcases lock with ⟨l, hcs⟩ | ⟨l, _, hcs⟩ | ⟨l, _, hcs⟩ <;> rw [l, hcs]
    · exact hj
    · exact iff_of_true rfl rfl
    · exact iff_of_false nofun nofun
  · rw [hact j e]
    rcases lock with ⟨l, _⟩ | ⟨l, hfree, _⟩ | ⟨l, hheld, _⟩ <;> rw [l]
    · exact hj
    · rw [hfree] at hj
      exact ⟨fun e' => absurd (Option.some.inj e').symm e, fun e' => absurd (hj.mpr e') nofun⟩
    · rw [hheld] at hj
      exact ⟨nofun, fun e' => absurd (Option.some.inj (hj.mpr e')) (fun e'' => e e''.symm)⟩

theorem other_setActor {s : State} {i : Nat} {a : Actor} (j : Nat) (hj : j ≠ i) : (setActor s i a).actor j = s.actor j :=
  if_neg hj

theorem self_setActor {s : State} {i : Nat} {a : Actor} : (setActor s i a).actor i = a := if_pos rfl

theorem failTo_add {a : Actor} (h : a.kind = .add) (r : Res) : failTo a r = { a with pc := .done, res := r } := by
  simp [failTo, h]

/-- `frame` for a step that only moves actor `i` and the lock. The premises that are vacuous at most program points come
last as auto-params whose tactic closes the vacuous case. -/
theorem frame_quiet {base : List String} {s : State} (h : Inv base s) (i : Nat) (a' : Actor) (l' : Option Nat)
    (same : a'.kind = .add ∧ a'.name = (s.actor i).name ∧ a'.inf = (s.actor i).inf)
    (lock : LockMove s i a' l')
    (own : owner a' ↔ owner (s.actor i))
    (stays : (s.actor i).pc = .aW → a'.pc = .aW)
    (snap : a'.pc = .aS ∨ a'.pc = .aP → a'.snap = s.list := by exact nofun)
    (pass : a'.pc = .aP → a'.name ∉ s.list := by exact nofun)
    (refused : refusedP a' → a'.name ∈ s.list := by simp [refusedP])
    (inside : a'.pc ≠ .oS ∧ a'.pc ≠ .oP := by exact ⟨nofun, nofun⟩) : Inv base (setActor { s with lock := l' } i a') :=
  frame h i a' other_setActor self_setActor rfl rfl same.1 same.2.1 same.2.2
    (hold_move h i other_setActor self_setActor lock) snap pass own
    (fun j hoj hne => by
      by_cases hj : j = i
      · subst hj; rw [self_setActor] at hne; exact h.own_cache hoj fun e => hne (stays e)
      · rw [other_setActor j hj] at hne; exact h.own_cache hoj hne)
    refused inside

/-- Only `aP` (list, info file) and `aW` (cache) write anything but the actor and the lock; every other step goes
through `frame_quiet`. -/
theorem inv_stepAdd {base : List String} {s : State} (h : Inv base s) (i : Nat) : Inv base (stepAdd false s i) := by
  have hkind := h.kind i
  fun_cases stepAdd false s i
  · next hf => cases hf
  · next a hpc _ => -- a0: one DualLock attempt
    subst a
    unfold tryLock
    cases hlk : s.lock with
    | none =>
      exact frame_quiet h i _ (some i) (same := ⟨hkind, rfl, rfl⟩)
        (lock := .inr (.inl ⟨rfl, hlk, rfl⟩))
        (own := by simp [owner, told, hpc]) (stays := by rw [hpc]; nofun)
    | some k =>
      simp only
      split
      · rw [failTo_add hkind]
        exact frame_quiet h i _ s.lock (same := ⟨hkind, rfl, rfl⟩)
          (lock := .inl ⟨rfl, by rw [hpc]; rfl⟩)
          (own := by simp [owner, told, hpc]) (stays := by rw [hpc]; nofun)
      · exact frame_quiet h i _ s.lock (same := ⟨hkind, rfl, rfl⟩)
          (lock := .inl ⟨rfl, rfl⟩)
          (snap := by rw [hpc]; nofun) (pass := by rw [hpc]; nofun) (own := by simp [owner, told, hpc])
          (stays := by rw [hpc]; nofun) (refused := by simp [refusedP, hpc]) (inside := by rw [hpc]; exact ⟨nofun, nofun⟩)
  · next a hpc _ => exact absurd hpc (h.inside i).1
  · next a hpc _ => exact absurd hpc (h.inside i).1
  · next a hpc => exact absurd hpc (h.inside i).2
  · next a hpc => -- aL: read the list
    subst a
    exact frame_quiet h i _ s.lock (same := ⟨hkind, rfl, rfl⟩)
      (lock := .inl ⟨rfl, by rw [hpc]; rfl⟩)
      (snap := fun _ => rfl) (own := by simp [owner, told, hpc]) (stays := by rw [hpc]; nofun)
  · next a hpc hm => -- aS: the check finds the name
    subst a
    exact frame_quiet h i _ s.lock (same := ⟨hkind, rfl, rfl⟩)
      (lock := .inl ⟨rfl, by rw [hpc]; rfl⟩)
      (own := by simp [owner, told, hpc]) (stays := by rw [hpc]; nofun)
      (refused := fun _ => h.snap i (Or.inl hpc) ▸ hm)
  · next a hpc hm => -- aS: the check passes
    subst a
    exact frame_quiet h i _ s.lock (same := ⟨hkind, rfl, rfl⟩)
      (lock := .inl ⟨rfl, by rw [hpc]; rfl⟩)
      (snap := fun _ => h.snap i (Or.inl hpc)) (pass := fun _ => h.snap i (Or.inl hpc) ▸ hm) (own := by simp [owner, told, hpc])
      (stays := by rw [hpc]; nofun)
  · next a hpc => -- aP: write the list, the folder, the store info file
    subst a
    have hsn := h.snap i (Or.inr hpc)
    have hnot := h.pass i hpc
    have hheld : s.lock = some i := (h.hold i).mpr (by simp [hpc, inCS])
    have hnotown : ¬ owner (s.actor i) := by simp [owner, told, hpc]
    have hother : ∀ j, j ≠ i → inCS (s.actor j).pc = false := by
      intro j hj
      cases hc : inCS (s.actor j).pc with
      | false => rfl
      | true => have := (h.hold j).mpr hc; rw [hheld] at this; exact absurd (Option.some.inj this).symm hj
    rw [hsn]
    refine ⟨?_, ?_, ?_, ?_, ?_, ?_, ?_, ?_, ?_⟩
    · intro j; by_cases hj : j = i
      · simp [hj, hkind]
      · simpa [hj] using h.kind j
    · intro j; by_cases hj : j = i
      · subst hj; simp [hheld, inCS]
      · simpa [hj] using h.hold j
    · intro j; by_cases hj : j = i
      · simp [hj]
      · simp only [actor_setActor, hj, if_false]
        intro hp; have := hother j hj; rcases hp with hp | hp <;> simp [hp, inCS] at this
    · intro j; by_cases hj : j = i
      · simp [hj]
      · simp only [actor_setActor, hj, if_false]
        intro hp; have := hother j hj; simp [hp, inCS] at this
    · intro j; by_cases hj : j = i
      · subst hj; simp [upd]
      · simp only [actor_setActor, hj, if_false, list_setActor, info_setActor, cache_setActor]
        intro hoj
        have := h.own j hoj
        have hne : (s.actor j).name ≠ (s.actor i).name := fun e => hnot (e ▸ this.1)
        exact ⟨by simp [this.1], by simp [upd, hne, this.2.1], this.2.2⟩
    · intro j k hoj hok hnm
      by_cases hj : j = i <;> by_cases hk' : k = i
      · rw [hj, hk']
      · subst hj
        simp only [actor_setActor, if_true, hk', if_false] at hoj hok hnm
        exact absurd (h.own k hok).1 (by rw [← hnm]; exact hnot)
      · subst hk'
        simp only [actor_setActor, if_true, hj, if_false] at hoj hok hnm
        exact absurd (h.own j hoj).1 (by rw [hnm]; exact hnot)
      · simp only [actor_setActor, hj, hk', if_false] at hoj hok hnm
        exact h.uniq j k hoj hok hnm
    · intro n
      simp only [list_setActor, actor_setActor, List.mem_append, List.mem_singleton]
      rw [h.src n]
      constructor
      · rintro ((hb | ⟨j, hoj, hnj⟩) | he)
        · exact Or.inl hb
        · have hj : j ≠ i := fun e => hnotown (e ▸ hoj)
          exact Or.inr ⟨j, by simp only [hj, if_false]; exact ⟨hoj, hnj⟩⟩
        · exact Or.inr ⟨i, by simp [owner, he]⟩
      · rintro (hb | ⟨j, hoj, hnj⟩)
        · exact Or.inl (Or.inl hb)
        · by_cases hj : j = i
          · subst hj; simp only [if_true] at hnj; exact Or.inr hnj.symm
          · simp only [hj, if_false] at hoj hnj; exact Or.inl (Or.inr ⟨j, hoj, hnj⟩)
    · intro j; by_cases hj : j = i
      · simp [hj, refusedP]
      · simp only [actor_setActor, hj, if_false, list_setActor]
        intro hr; have := h.refused j hr; simp [this]
    · intro j; by_cases hj : j = i
      · simp [hj]
      · simpa [hj] using h.inside j
  · next a hpc => -- aW: SetStruct
    subst a
    have hown : owner (s.actor i) := Or.inl hpc
    refine frame (s' := setActor { s with cache := _ } i _) h i _ (others := other_setActor) (self := self_setActor)
      (list := rfl) (info := rfl) (kind := hkind) (name := rfl) (inf := rfl)
      (lock := hold_move h i other_setActor self_setActor (.inl ⟨rfl, by rw [hpc]; rfl⟩))
      (snap := nofun) (pass := nofun) (own := by simp [owner, hpc]) (cache := fun j hoj hne => ?_)
      (refused := by simp [refusedP]) (inside := ⟨nofun, nofun⟩)
    by_cases hj : j = i
    · subst hj; simp [upd]
    · have hnm : (s.actor j).name ≠ (s.actor i).name := fun e => hj (h.uniq j i hoj hown e)
      rw [other_setActor j hj] at hne
      simpa [upd, hnm] using h.own_cache hoj hne
  · next a hpc => -- aC: unlock, return nil
    subst a
    have hheld : s.lock = some i := (h.hold i).mpr (by rw [hpc]; rfl)
    exact frame_quiet h i _ (unlock s i) (same := ⟨hkind, rfl, rfl⟩)
      (lock := .inr (.inr ⟨by simp [unlock, hheld], hheld, rfl⟩))
      (own := by simp [owner, told, hpc]) (stays := by rw [hpc]; nofun)
  · next a hpc => -- aR: unlock, return the refusal
    subst a
    have hheld : s.lock = some i := (h.hold i).mpr (by rw [hpc]; rfl)
    rw [failTo_add hkind]
    exact frame_quiet h i _ (unlock s i) (same := ⟨hkind, rfl, rfl⟩)
      (lock := .inr (.inr ⟨by simp [unlock, hheld], hheld, rfl⟩))
      (own := by simp [owner, told, hpc]) (stays := by rw [hpc]; nofun)
      (refused := fun _ => h.refused i (Or.inl hpc))
  · exact h -- `init`, `done`, the program points of `Get`, `Remove` and `NewBtree`'s cleanup: no steps of `Add`

theorem inv_step {base : List String} {s : State} (h : Inv base s) (i : Nat) : Inv base (step false s i) := by
  unfold step
  simp only [h.kind i]
  split
  · next hpc =>
    exact frame_quiet h i _ s.lock (same := ⟨rfl, rfl, rfl⟩)
      (lock := .inl ⟨rfl, by rw [hpc]; rfl⟩)
      (own := by simp [owner, told, hpc]) (stays := by rw [hpc]; nofun)
  · exact inv_stepAdd h i

theorem inv_run {base : List String} (sched : List Nat) : ∀ {s : State}, Inv base s → Inv base (run false s sched) := by
  induction sched with
  | nil => intro s h; exact h
  | cons i is ih => intro s h; exact ih (inv_step h i)

/-- nobody holds the lock; every actor is an `Add` caller about to start, or absent (`done` with no result) -/
def Start (s : State) : Prop :=
  s.lock = none ∧ ∀ i, (s.actor i).kind = .add ∧ ((s.actor i).pc = .init ∨ ((s.actor i).pc = .done ∧ (s.actor i).res = .none))

theorem inv_start {s : State} (h : Start s) : Inv s.list s := by
  obtain ⟨hl, ha⟩ := h
  -- `init`, and `done` with no result, are outside every program point the invariant speaks of
  have at' : ∀ i (p : Pc), p ≠ .init → p ≠ .done → (s.actor i).pc ≠ p := fun i p h1 h2 e =>
    (ha i).2.elim (fun e1 => h1 (e ▸ e1)) (fun e1 => h2 (e ▸ e1.1))
  have hres : ∀ i (r : Res), r ≠ .none → ¬((s.actor i).pc = .done ∧ (s.actor i).res = r) := fun i r hr e =>
    (ha i).2.elim (fun e1 => by rw [e.1] at e1; cases e1) (fun e1 => hr (e.2 ▸ e1.2))
  have hno : ∀ i, ¬ owner (s.actor i) := fun i ho =>
    ho.elim (at' i _ nofun nofun) (·.elim (at' i _ nofun nofun) (hres i _ nofun))
  have hcs : ∀ i, inCS (s.actor i).pc = false := fun i =>
    (ha i).2.elim (fun e => by rw [e]; rfl) (fun e => by rw [e.1]; rfl)
  refine ⟨fun i => (ha i).1, fun i => ?_, fun i hp => ?_, fun i hp => ?_, fun i ho => absurd ho (hno i),
    fun i _ ho => absurd ho (hno i), fun n => ⟨.inl, ?_⟩, fun i hr => ?_, fun i => ⟨at' i _ nofun nofun, at' i _ nofun nofun⟩⟩
  · rw [hl, hcs i]; exact ⟨nofun, nofun⟩
  · exact (hp.elim (at' i _ nofun nofun) (at' i _ nofun nofun)).elim
  · exact (at' i .aP nofun nofun hp).elim
  · rintro (hb | ⟨i, ho, _⟩)
    · exact hb
    · exact absurd ho (hno i)
  · exact (hr.elim (at' i _ nofun nofun) (hres i _ nofun)).elim

end Sop.C12.Lock
