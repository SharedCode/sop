import Sop.Lemmas.BTreeCtx
import Sop.Lemmas.BTreeIndexOf
/-! In-order positions inside a node (`Pre`: before child `s`, `Gap`: between child `s` and separator `s`, `At`: a `Gap`
whose separator exists) and the `getIndexOfChild` memo. -/
namespace Sop.BTree

def Pre (t : BTree) (f : Nat) (m : NodeId) (s : Nat) (L R : List Item) : Prop :=
  ∃ p pre post nd, Ctx t f m p pre post ∧ t.get? m = some nd ∧ s ≤ nd.count ∧
    L = pre ++ nd.pre (A t) s ∧ R = A t (nd.child s) ++ nd.post (A t) s ++ post

def Gap (t : BTree) (f : Nat) (m : NodeId) (s : Nat) (L R : List Item) : Prop :=
  ∃ p pre post nd, Ctx t f m p pre post ∧ t.get? m = some nd ∧ s ≤ nd.count ∧
    L = pre ++ nd.pre (A t) s ++ A t (nd.child s) ∧ R = nd.post (A t) s ++ post

def At (t : BTree) (f : Nat) (m : NodeId) (s : Nat) (L R : List Item) : Prop :=
  Gap t f m s L R ∧ ∃ nd, t.get? m = some nd ∧ s < nd.count

-- `At` names the node a second time, to say `s < count`; `At.head` gives the node once, with the item at the head of `R`.
theorem At.gap {t : BTree} {f m s L R} (h : At t f m s L R) : Gap t f m s L R := h.1

theorem At.head {t : BTree} (hw : WFR t) {f m s L R} (h : At t f m s L R) :
    ∃ nd R', t.get? m = some nd ∧ s < nd.count ∧ R = nd.slot s :: R' := by
  obtain ⟨⟨p, pre, post, nd, hctx, hg, hs, rfl, rfl⟩, nd', hg', hlt⟩ := h
  rw [hg] at hg'; cases hg'
  have hsh := hctx.nodeShape hw hg
  exact ⟨nd, _, hg, hlt, by rw [Node.post_of_lt hsh _ hlt]; rfl⟩

theorem Pre.abs {t : BTree} (hw : WFR t) {f m s L R} (h : Pre t f m s L R) : t.abs = L ++ R := by
  obtain ⟨p, pre, post, nd, hctx, hg, hs, rfl, rfl⟩ := h
  obtain ⟨hf, lo, hi, hwf⟩ := hctx.wf hw
  rw [hctx.abs hw, A_split t hwf hf hg hs]; simp [List.append_assoc]

theorem Gap.abs {t : BTree} (hw : WFR t) {f m s L R} (h : Gap t f m s L R) : t.abs = L ++ R := by
  obtain ⟨p, pre, post, nd, hctx, hg, hs, rfl, rfl⟩ := h
  obtain ⟨hf, lo, hi, hwf⟩ := hctx.wf hw
  rw [hctx.abs hw, A_split t hwf hf hg hs]; simp [List.append_assoc]

theorem Pre.toGap {t : BTree} {f m s L R} (h : Pre t f m s L R) {nd : Node} (hg : t.get? m = some nd)
    (h0 : nd.child s = 0) : Gap t f m s L R := by
  obtain ⟨p, pre, post, nd', hctx, hg', hs, rfl, rfl⟩ := h
  rw [hg] at hg'; cases hg'
  refine ⟨p, pre, post, nd, hctx, hg, hs, ?_, ?_⟩ <;> simp [h0, A_zero]

theorem Gap.toPre {t : BTree} {f m s L R} (h : Gap t f m s L R) {nd : Node} (hg : t.get? m = some nd)
    (h0 : nd.child s = 0) : Pre t f m s L R := by
  obtain ⟨p, pre, post, nd', hctx, hg', hs, rfl, rfl⟩ := h
  rw [hg] at hg'; cases hg'
  refine ⟨p, pre, post, nd, hctx, hg, hs, ?_, ?_⟩ <;> simp [h0, A_zero]

theorem At.toPre_succ {t : BTree} (hw : WFR t) {f m s L x R} (h : At t f m s L (x :: R)) :
    Pre t f m (s + 1) (L ++ [x]) R := by
  obtain ⟨⟨p, pre, post, nd, hctx, hg, hs, rfl, hR⟩, nd', hg', hlt⟩ := h
  rw [hg] at hg'; cases hg'
  have hsh := hctx.nodeShape hw hg
  rw [Node.post_of_lt hsh _ hlt, List.cons_append, List.cons.injEq] at hR
  refine ⟨p, pre, post, nd, hctx, hg, hlt, ?_, ?_⟩
  · rw [Node.pre_succ hsh _ hlt, hR.1]; simp [List.append_assoc]
  · rw [hR.2, Node.weave_drop_succ hsh _ hlt]

theorem Pre.down {t : BTree} (hw : WFR t) {f m s L R} (h : Pre t (f + 1) m s L R) {nd : Node}
    (hg : t.get? m = some nd) (hc : nd.child s ≠ 0) : Pre t f (nd.child s) 0 L R := by
  obtain ⟨p, pre, post, nd', hctx, hg', hs, rfl, rfl⟩ := h
  rw [hg] at hg'; cases hg'
  have hchild := Ctx.child hctx hg hs rfl hc
  obtain ⟨cn, hgc⟩ := hctx.kid_some hw hg hs hc
  obtain ⟨hf, lo, hi, hwf⟩ := hchild.wf hw
  refine ⟨m, _, _, cn, hchild, hgc, Nat.zero_le _, by rw [Node.pre_zero]; simp, ?_⟩
  rw [A_split t hwf hf hgc (Nat.zero_le _), Node.pre_zero]; simp [List.append_assoc]

theorem Gap.down {t : BTree} (hw : WFR t) {f m s L R} (h : Gap t (f + 1) m s L R) {nd : Node}
    (hg : t.get? m = some nd) (hc : nd.child s ≠ 0) :
    ∃ cn, t.get? (nd.child s) = some cn ∧ Gap t f (nd.child s) cn.count L R := by
  obtain ⟨p, pre, post, nd', hctx, hg', hs, rfl, rfl⟩ := h
  rw [hg] at hg'; cases hg'
  have hchild := Ctx.child hctx hg hs rfl hc
  obtain ⟨cn, hgc⟩ := hctx.kid_some hw hg hs hc
  obtain ⟨hf, lo, hi, hwf⟩ := hchild.wf hw
  have hsh := hchild.nodeShape hw hgc
  refine ⟨cn, hgc, m, _, _, cn, hchild, hgc, Nat.le_refl _, ?_, by rw [Node.post_count hsh]; simp⟩
  rw [A_split t hwf hf hgc (Nat.le_refl _), Node.post_count hsh]; simp [List.append_assoc]

theorem Ctx.up {t : BTree} (hw : WFR t) {f : Nat} {c p : NodeId} {pre post : List Item} (h : Ctx t f c p pre post)
    {cn : Node} (hgc : t.get? c = some cn) :
    (cn.parent = 0 ∧ pre = [] ∧ post = []) ∨
    (cn.parent = p ∧ p ≠ 0 ∧ ∃ pp pre' post' pn i, Ctx t (f + 1) p pp pre' post' ∧ t.get? p = some pn ∧ i ≤ pn.count ∧
      pn.child i = c ∧ c ≠ 0 ∧ pre = pre' ++ pn.pre (A t) i ∧ post = pn.post (A t) i ++ post') := by
  have hpar := h.parent_eq hw hgc
  cases h with
  | root => exact Or.inl ⟨hpar, rfl, rfl⟩
  | child hctx hg hi hc hc0 =>
    have hp0 := hctx.ne_zero hw
    exact Or.inr ⟨hpar, hp0, _, _, _, _, _, hctx, hg, hi, hc, hc0, rfl, rfl⟩

/-- only the root may be empty, and an empty root without a first child is an empty tree -/
theorem Ctx.count_pos {t : BTree} (hw : WFR t) (hne : t.abs ≠ []) {f : Nat} {c p : NodeId} {pre post : List Item}
    (h : Ctx t f c p pre post) {cn : Node} (hgc : t.get? c = some cn) (hc0 : cn.child 0 = 0) : 1 ≤ cn.count := by
  obtain ⟨hsh, _, hnonempty, _⟩ := h.shape hw hgc
  rcases hnonempty with h0 | h1
  · rcases h.up hw hgc with ⟨_, hpre, hpost⟩ | ⟨_, hp0, _⟩
    · apply Nat.pos_of_ne_zero
      intro hz
      apply hne
      obtain ⟨hf, lo, hi, hwf⟩ := h.wf hw
      have hpc := Node.post_count hsh (A t)
      rw [hz] at hpc
      rw [h.abs hw, A_split t hwf hf hgc (Nat.zero_le _), hpre, hpost, Node.pre_zero, hc0, A_zero, hpc]
      rfl
    · exact absurd h0 hp0
  · exact h1

/-- leaving node `c` (all of it consumed) = standing between child `i` and separator `i` of the parent -/
theorem Gap.up {t : BTree} (hw : WFR t) {f c s L R} (h : Gap t f c s L R) {cn : Node} (hgc : t.get? c = some cn)
    (hs : s = cn.count) {p : NodeId} (hp : cn.parent = p) (hp0 : p ≠ 0) :
    ∃ pn i, t.get? p = some pn ∧ i ≤ pn.count ∧ pn.child i = c ∧ c ≠ 0 ∧ Gap t (f + 1) p i L R ∧
      ∃ pp pre post, Ctx t (f + 1) p pp pre post := by
  obtain ⟨p', pre, post, cn', hctx, hg', hs', rfl, rfl⟩ := h
  rw [hgc] at hg'; cases hg'
  subst hs
  have hsh := hctx.nodeShape hw hgc
  obtain ⟨hf, lo, hi, hwf⟩ := hctx.wf hw
  rcases hctx.up hw hgc with ⟨h0, _, _⟩ | ⟨hpar, _, pp, pre', post', pn, i, hctx', hg, hi', hc, hc0, rfl, rfl⟩
  · rw [hp] at h0; exact absurd h0 hp0
  · rw [hp] at hpar; subst hpar
    refine ⟨pn, i, hg, hi', hc, hc0, ⟨pp, pre', post', pn, hctx', hg, hi', ?_, ?_⟩, pp, pre', post', hctx'⟩
    · rw [hc, A_split t hwf hf hgc (Nat.le_refl _), Node.post_count hsh]; simp [List.append_assoc]
    · rw [Node.post_count hsh]; simp

/-- leaving node `c` to the left (nothing of it consumed) = standing just before child `i` of the parent -/
theorem Pre.up {t : BTree} (hw : WFR t) {f c L R} (h : Pre t f c 0 L R) {cn : Node} (hgc : t.get? c = some cn)
    {p : NodeId} (hp : cn.parent = p) (hp0 : p ≠ 0) :
    ∃ pn i, t.get? p = some pn ∧ i ≤ pn.count ∧ pn.child i = c ∧ c ≠ 0 ∧ Pre t (f + 1) p i L R ∧
      ∃ pp pre post, Ctx t (f + 1) p pp pre post := by
  obtain ⟨p', pre, post, cn', hctx, hg', hs', rfl, rfl⟩ := h
  rw [hgc] at hg'; cases hg'
  obtain ⟨hf, lo, hi, hwf⟩ := hctx.wf hw
  rcases hctx.up hw hgc with ⟨h0, _, _⟩ | ⟨hpar, _, pp, pre', post', pn, i, hctx', hg, hi', hc, hc0, rfl, rfl⟩
  · rw [hp] at h0; exact absurd h0 hp0
  · rw [hp] at hpar; subst hpar
    refine ⟨pn, i, hg, hi', hc, hc0, ⟨pp, pre', post', pn, hctx', hg, hi', ?_, ?_⟩, pp, pre', post', hctx'⟩
    · rw [Node.pre_zero]; simp
    · rw [hc, A_split t hwf hf hgc (Nat.zero_le _), Node.pre_zero]; simp [List.append_assoc]

theorem Gap.root_end {t : BTree} (hw : WFR t) {f c s L R} (h : Gap t f c s L R) {cn : Node} (hgc : t.get? c = some cn)
    (hs : s = cn.count) (hp : cn.parent = 0) : R = [] := by
  obtain ⟨p', pre, post, cn', hctx, hg', hs', rfl, rfl⟩ := h
  rw [hgc] at hg'; cases hg'
  subst hs
  have hsh := hctx.nodeShape hw hgc
  rcases hctx.up hw hgc with ⟨h0, _, rfl⟩ | ⟨hpar, hp0, _⟩
  · rw [Node.post_count hsh]; rfl
  · rw [hp] at hpar; exact absurd hpar.symm hp0

theorem Pre.root_start {t : BTree} (hw : WFR t) {f c L R} (h : Pre t f c 0 L R) {cn : Node} (hgc : t.get? c = some cn)
    (hp : cn.parent = 0) : L = [] := by
  obtain ⟨p', pre, post, cn', hctx, hg', hs', rfl, rfl⟩ := h
  rw [hgc] at hg'; cases hg'
  rcases hctx.up hw hgc with ⟨h0, rfl, _⟩ | ⟨hpar, hp0, _⟩
  · rw [Node.pre_zero]; rfl
  · rw [hp] at hpar; exact absurd hpar.symm hp0

theorem HeapEq.upd_ion {t₀ t : BTree} (he : HeapEq t₀ t) (c : NodeId) {i : Int} (hi : -1 ≤ i ∧ i ≤ (t₀.sl : Int)) :
    HeapEq t₀ (t.upd c (fun x => { x with ion := i })) := by
  have hf : ∀ x : Node, ({ x with ion := i } : Node).id = x.id := fun _ => rfl
  refine ⟨he.frame, by rw [upd_nodes_length]; exact he.len, fun n => ?_, fun n nd nd' h1 h2 hb => ?_⟩
  · rw [get?_upd _ _ _ _ hf, ← he.get n]
    cases t.get? n with
    | none => rfl
    | some x => simp only [Option.map_some]; split <;> rfl
  · rw [get?_upd _ _ _ _ hf] at h2
    obtain ⟨x, hx, _⟩ := he.get_some h1
    rw [hx] at h2
    simp only [Option.map_some, Option.some.injEq] at h2
    subst h2
    split
    · exact hi
    · exact he.ion n nd x h1 hx hb

theorem Ctx.child_index_unique {t : BTree} (hw : WFR t) {f : Nat} {p pp : NodeId} {pre post : List Item}
    (hctx : Ctx t (f + 1) p pp pre post) {pn : Node} (hg : t.get? p = some pn) {cs : Array NodeId}
    (hcs : pn.children = some cs) {i : Nat} (hi : i ≤ pn.count) (hc0 : pn.child i ≠ 0) :
    ∀ j, cs.getD j 0 = pn.child i → j = i := by
  have hsh := hctx.nodeShape hw hg
  intro j hj
  by_cases hjc : j ≤ pn.count
  · have : pn.child j = pn.child i := by rw [← hj]; simp [Node.child, hcs]
    exact (hctx.kid_inj hw hg hi hjc hc0 this.symm).symm
  · -- past `count` the array is zeroed
    exfalso
    apply hc0
    rw [← hj]
    by_cases hjs : j < cs.size
    · exact hsh.children_tail hcs _ (getD_mem_drop cs 0 (Nat.lt_of_not_le hjc) hjs)
    · simp [Array.getD, hjs]

theorem getIndexOfChild_spec {t₀ t : BTree} (hw : WFR t₀) (he : HeapEq t₀ t) {f : Nat} {p pp : NodeId}
    {pre post : List Item} (hctx : Ctx t₀ (f + 1) p pp pre post) {pn : Node} (hg : t₀.get? p = some pn) {i : Nat}
    (hi : i ≤ pn.count) {c : NodeId} (hc : pn.child i = c) (hc0 : c ≠ 0) (hpan : t.panicked = false) :
    (t.getIndexOfChild p c).2 = (i : Int) ∧ HeapEq t₀ (t.getIndexOfChild p c).1 ∧
      (t.getIndexOfChild p c).1.panicked = false ∧ (t.getIndexOfChild p c).1.cur = t.cur := by
  subst hc
  have hsh := hctx.nodeShape hw hg
  obtain ⟨cn, hgc⟩ := hctx.kid_some hw hg hi hc0
  obtain ⟨pn', hgp', hpc⟩ := he.get_some hg
  obtain ⟨cn', hgc', hcc⟩ := he.get_some hgc
  have hion := he.ion _ cn cn' hgc hgc' ((Ctx.child hctx hg hi rfl hc0).nodeShape hw hgc).ion_bounds
  cases hcs : pn.children with
  | none => exact absurd (by simp [Node.child, hcs]) hc0
  | some cs =>
    have hci : cs.getD i 0 = pn.child i := by simp [Node.child, hcs]
    have hile : i ≤ pn'.slots.size := by rw [core_eq_slots hpc, hsh.slots_size]; exact Nat.le_trans hi hsh.count_le
    obtain ⟨k, hk, hres⟩ := getIndexOfChild_eq hgp' hgc' ((core_eq_children hpc).trans hcs) hc0
      ⟨hion.1, by rw [hsh.children_size hcs]; exact Int.lt_of_le_of_lt hion.2 (Int.ofNat_lt.mpr (Nat.lt_succ_self _))⟩ hile hci
    -- the position found is the context's: a stored child stands at one index only
    have hki : k = i := hctx.child_index_unique hw hg hcs hi hc0 k hk
    subst hki
    rcases hres with e | e
    · rw [e]; exact ⟨rfl, he, hpan, rfl⟩
    · rw [e]
      exact ⟨rfl, he.upd_ion _ ⟨Int.le_trans (by decide) (Int.natCast_nonneg k),
        Int.ofNat_le.mpr (Nat.le_trans hi hsh.count_le)⟩, hpan, rfl⟩

end Sop.BTree
