import Sop.Model.RegistryGet
/-! Invariant of the registry Get / updater interleaving model for the code as it is (`wbAll = false`). -/
namespace Sop.RegGet

@[simp] theorem setFn_same {α : Type} (f : Nat → α) (i : Nat) (a : α) : setFn f i a i = a := by simp [setFn]
theorem setFn_other {α : Type} (f : Nat → α) {i j : Nat} (a : α) (h : j ≠ i) : setFn f i a j = f j := by simp [setFn, h]

structure Inv (s : St) : Prop where
  noAll : s.wbAll = false
  nodup : ∀ u, s.upd = some u → (u.dtodo ++ u.ltodo.map Prod.fst).Nodup
  /-- a pending L2 write carries the file's current value -/
  pendEq : ∀ u, s.upd = some u → ∀ i v, (i, v) ∈ u.ltodo → s.disk i = v
  /-- an untainted L2 entry is absent, equal to the file, or an updater stands between its file write and its SetStruct -/
  coh : ∀ i, s.taint i = false →
    s.l2 i = none ∨ s.l2 i = some (s.disk i) ∨ ∃ u, s.upd = some u ∧ i ∈ u.ltodo.map Prod.fst
  /-- what a Get holds from the file is the file's value, unless the id is tainted -/
  fetched : ∀ g i v, (i, v) ∈ (s.gets g).fetched → v = s.disk i ∨ s.taint i = true
  /-- a Get writes back only what it read from the file -/
  wbsub : ∀ g x, x ∈ (s.gets g).wb → x ∈ (s.gets g).fetched
  idle : ∀ g, g ∉ s.live → s.gets g = {}

theorem inv_init (n : Nat) : Inv (init false n) := by
  refine ⟨rfl, nofun, nofun, fun i _ => ?_, nofun, nofun, fun _ _ => rfl⟩
  -- the initial L2 holds version 0 of the first `n` ids, as the file does
  show (if i < n then some 0 else none) = none ∨ (if i < n then some 0 else none) = some 0 ∨ _
  split
  · exact Or.inr (Or.inl rfl)
  · exact Or.inl rfl

/-- changing only process `g`'s record: every pair it then holds from the file is current or tainted -/
theorem inv_setGet {s : St} (h : Inv s) (g : Nat) (p' : GetProc) {live' : List Nat} (hl : g ∈ live')
    (hsub : ∀ x ∈ s.live, x ∈ live') (hf : ∀ i v, (i, v) ∈ p'.fetched → v = s.disk i ∨ s.taint i = true)
    (hw : ∀ x, x ∈ p'.wb → x ∈ p'.fetched) :
    Inv { s with gets := setFn s.gets g p', live := live' } := by
  refine ⟨h.noAll, h.nodup, h.pendEq, h.coh, ?_, ?_, ?_⟩
  · intro g' i v hm
    by_cases e : g' = g
    · subst e; simp only [setFn_same] at hm; exact hf i v hm
    · simp only [setFn_other _ _ e] at hm; exact h.fetched g' i v hm
  · intro g' x hm
    by_cases e : g' = g
    · subst e; simp only [setFn_same] at hm ⊢; exact hw x hm
    · simp only [setFn_other _ _ e] at hm ⊢; exact h.wbsub g' x hm
  · intro g' hg'
    have e : g' ≠ g := fun e => hg' (e ▸ hl)
    simp only [setFn_other _ _ e]; exact h.idle g' fun hm => hg' (hsub g' hm)

theorem inv_getStart {s : St} (h : Inv s) (g : Nat) (ids : List Nat) : Inv (getStart s g ids).1 := by
  unfold getStart
  split
  · exact h
  · exact inv_setGet h g _ (List.mem_cons_self ..) (fun _ hx => List.mem_cons_of_mem _ hx) (fun _ _ hm => nomatch hm)
      (fun _ hm => nomatch hm)

theorem Inv.live {s : St} (h : Inv s) {g : Nat} (hne : s.gets g ≠ {}) : g ∈ s.live :=
  Decidable.byContradiction fun hn => hne (h.idle g hn)

theorem inv_setL2 {s : St} (h : Inv s) (i : Nat) (v : Option Nat) (hv : ∀ x, v = some x → x = s.disk i ∨ s.taint i = true) :
    Inv { s with l2 := setFn s.l2 i v } := by
  refine ⟨h.noAll, h.nodup, h.pendEq, fun j hj => ?_, h.fetched, h.wbsub, h.idle⟩
  show setFn s.l2 i v j = none ∨ setFn s.l2 i v j = some (s.disk j) ∨ _
  by_cases e : j = i
  · subst e
    rw [setFn_same]
    cases v with
    | none => exact Or.inl rfl
    | some x =>
      rcases hv x rfl with hx | hx
      · exact Or.inr (Or.inl (by rw [hx]))
      · rw [show s.taint j = false from hj] at hx; cases hx
  · rw [setFn_other _ _ e]; exact h.coh j hj

theorem inv_evict {s : St} (h : Inv s) (i : Nat) : Inv (evict s i).1 := inv_setL2 h i none fun _ hx => nomatch hx

theorem inv_getStep {s : St} (h : Inv s) (g : Nat) : Inv (getStep s g).1 := by
  by_cases ha : (s.gets g).active = false
  · simp [getStep, ha]; exact h
  · have hl : g ∈ s.live := h.live fun e => ha (by rw [e])
    simp only [getStep, if_neg ha]
    split
    · -- L2 lookup
      split
      · exact inv_setGet h g _ hl (fun _ hx => hx) (h.fetched g) (h.wbsub g)
      · exact inv_setGet h g _ hl (fun _ hx => hx) (h.fetched g) (h.wbsub g)
    · split
      · -- file read
        rename_i i r _
        apply inv_setGet h g _ hl (fun _ hx => hx)
        · intro j v hm
          simp only [List.mem_append, List.mem_singleton, Prod.mk.injEq] at hm
          rcases hm with hm | ⟨rfl, rfl⟩
          · exact h.fetched g j v hm
          · left; rfl
        · intro x hm
          simp only [h.noAll] at hm
          by_cases hr : r.isEmpty = true
          · simpa [hr] using hm
          · simp [hr] at hm
      · split
        · -- write-back of one fetched handle: its value is the file's, or the id is tainted and `coh` asks nothing
          rename_i hd i v r hwb
          have hin : (i, v) ∈ (s.gets g).fetched := h.wbsub g (i, v) (by rw [hwb]; simp)
          have hv := h.fetched g i v hin
          refine inv_setL2 (inv_setGet h g ({ s.gets g with wb := r } : GetProc) hl (fun _ hx => hx) (h.fetched g)
              (fun x hm => h.wbsub g x (by rw [hwb]; exact List.mem_cons_of_mem _ hm))) i (some v) fun x hx => by cases hx; exact hv
        · -- return
          exact inv_setGet h g _ hl (fun _ hx => hx) (fun _ _ hm => nomatch hm) (fun _ hm => nomatch hm)

theorem getStep_set {s : St} {g i v : Nat} (ho : (getStep s g).2 = .set i v) : (i, v) ∈ (s.gets g).wb := by
  simp only [getStep] at ho
  split at ho
  · cases ho
  · split at ho
    · split at ho <;> cases ho
    · split at ho
      · cases ho
      · split at ho
        · rename_i hwb
          simp only [Out.set.injEq] at ho
          rw [hwb, ← ho.1, ← ho.2]; exact List.mem_cons_self ..
        · cases ho

theorem inv_updStart {s : St} (h : Inv s) (l : Bool) (ids : List Nat) : Inv (updStart s l ids).1 := by
  unfold updStart
  split
  · exact h
  · rename_i hn
    split
    · rename_i hnd
      refine ⟨h.noAll, ?_, ?_, ?_, h.fetched, h.wbsub, h.idle⟩
      · intro u hu; simp at hu; subst hu; simpa using hnd
      · intro u hu i v hm; simp at hu; subst hu; simp at hm
      · exact fun i hi => (h.coh i hi).imp_right (Or.imp_right fun ⟨u, hu, _⟩ => by rw [hn] at hu; cases hu)
    · exact h

theorem pendingRead_true {s : St} (h : Inv s) {g i v : Nat} (hm : (i, v) ∈ (s.gets g).fetched) :
    pendingRead s i = true := by
  have hl : g ∈ s.live := h.live fun e => by rw [e] at hm; cases hm
  simp only [pendingRead, List.any_eq_true]
  exact ⟨g, hl, (i, v), hm, by simp⟩

theorem inv_doDisk {s : St} (h : Inv s) {u : Upd} (hu : s.upd = some u) {i : Nat} {r : List Nat}
    (hd : u.dtodo = i :: r) : Inv (doDisk s u i r).1 := by
  have hnd := h.nodup u hu
  rw [hd] at hnd
  have hi : i ∉ r ∧ i ∉ u.ltodo.map Prod.fst := by
    simp only [List.cons_append, List.nodup_cons, List.mem_append, not_or] at hnd
    exact hnd.1
  refine ⟨h.noAll, ?_, ?_, ?_, ?_, h.wbsub, h.idle⟩
  · intro u' hu'
    simp only [doDisk, Option.some.injEq] at hu'; subst hu'
    simp only [List.map_append, List.map_cons, List.map_nil, ← List.append_assoc]
    exact (List.perm_append_singleton i _).nodup_iff.2 hnd
  · intro u' hu' j w hm
    simp only [doDisk, Option.some.injEq] at hu'; subst hu'
    simp only [List.mem_append, List.mem_singleton, Prod.mk.injEq] at hm
    rcases hm with hm | ⟨rfl, rfl⟩
    · have e : j ≠ i := by
        intro e; subst e
        exact hi.2 (List.mem_map.mpr ⟨(j, w), hm, rfl⟩)
      simp only [doDisk, setFn_other _ _ e]; exact h.pendEq u hu j w hm
    · simp [doDisk]
  · intro j hj
    by_cases e : j = i
    · subst e; right; right
      exact ⟨_, rfl, by simp⟩
    · simp only [doDisk, setFn_other _ _ e] at hj ⊢
      refine (h.coh j hj).imp_right (Or.imp_right fun ⟨u', hu', hm⟩ => ?_)
      rw [hu] at hu'; cases hu'
      exact ⟨_, rfl, by simp only [List.map_append, List.mem_append]; exact Or.inl hm⟩
  · intro g j w hm
    simp only [doDisk] at hm ⊢
    by_cases e : j = i
    · -- some live Get holds `j` from the file: the write taints `j`
      subst e; right
      simp [pendingRead_true h hm]
    · simp only [setFn_other _ _ e]; exact h.fetched g j w hm

theorem inv_doL2 {s : St} (h : Inv s) {u : Upd} (hu : s.upd = some u) {i v : Nat} {r : List (Nat × Nat)}
    (hl : u.ltodo = (i, v) :: r) : Inv (doL2 s u i v r).1 := by
  have hnd := h.nodup u hu
  rw [hl] at hnd
  simp only [List.map_cons] at hnd
  have hsub : (u.dtodo ++ r.map Prod.fst).Nodup := by
    refine hnd.sublist ?_
    exact List.Sublist.append_left (List.sublist_cons_self _ _) _
  have hi : i ∉ r.map Prod.fst := by
    have := (List.nodup_append.mp hnd).2.1
    simp only [List.nodup_cons] at this; exact this.1
  refine ⟨h.noAll, ?_, ?_, ?_, h.fetched, h.wbsub, h.idle⟩
  · intro u' hu'
    simp only [doL2, Option.some.injEq] at hu'; subst hu'; exact hsub
  · intro u' hu' j w hm
    simp only [doL2, Option.some.injEq] at hu'; subst hu'
    exact h.pendEq u hu j w (by rw [hl]; exact List.mem_cons_of_mem _ hm)
  · intro j hj
    by_cases e : j = i
    · subst e; right; left
      have := h.pendEq u hu j v (by rw [hl]; simp)
      simp [doL2, this]
    · simp only [doL2, setFn_other _ _ e] at hj ⊢
      refine (h.coh j hj).imp_right (Or.imp_right fun ⟨u', hu', hm⟩ => ?_)
      rw [hu] at hu'; cases hu'
      rw [hl] at hm
      simp only [List.map_cons, List.mem_cons] at hm
      exact ⟨_, rfl, hm.resolve_left e⟩

theorem inv_updDone {s : St} (h : Inv s) {u : Upd} (hu : s.upd = some u) (hl : u.ltodo = []) :
    Inv { s with upd := none } := by
  refine ⟨h.noAll, (by intro u hu; cases hu), (by intro u hu; cases hu), ?_, h.fetched, h.wbsub, h.idle⟩
  exact fun i hi => (h.coh i hi).imp_right (Or.imp_right fun ⟨u', hu', hm⟩ => by
    rw [hu] at hu'; cases hu'; rw [hl] at hm; cases hm)

theorem inv_updStep {s : St} (h : Inv s) : Inv (updStep s).1 := by
  unfold updStep
  split
  · exact h
  · rename_i u hu
    split
    · split
      · rename_i hl; exact inv_doL2 h hu hl
      · rename_i hl
        split
        · rename_i hd; exact inv_doDisk h hu hd
        · exact inv_updDone h hu hl
    · split
      · rename_i hd; exact inv_doDisk h hu hd
      · split
        · rename_i hl; exact inv_doL2 h hu hl
        · rename_i hl; exact inv_updDone h hu hl

theorem inv_step {s : St} (h : Inv s) (o : Op) : Inv (step s o).1 := by
  cases o with
  | getStart g ids => exact inv_getStart h g ids
  | get g => exact inv_getStep h g
  | updStart l ids => exact inv_updStart h l ids
  | upd => exact inv_updStep h
  | evict i => exact inv_evict h i

theorem inv_run {s : St} (h : Inv s) (ops : List Op) : Inv (run s ops) := by
  induction ops generalizing s with
  | nil => exact h
  | cons o r ih => exact ih (inv_step h o)

end Sop.RegGet
