import Sop.Lemmas.BTreeRemove
/-! Remove side of Model B (C17): the in-order successor of an item of an inner node: where `moveToNext` lands
(`moveToNext_inner`), and that copying that item up is a local step (`succ_local`): the node stays, the cursor's item and
the successor `s` become `s, s` in the contents. -/
namespace Sop.BTree.Rem
open Sop.BTree

theorem WFNode.node {t : BTree} {f : Nat} {n p : NodeId} {lo hi : Option Int} (h : WFNode t f n p lo hi) :
    n ≠ 0 ∧ ∃ nd, t.get? n = some nd ∧ nd.parent = p := by
  cases f with
  | zero => exact absurd h (by simp [WFNode])
  | succ f => obtain ⟨hn, nd, hg, hp, _⟩ := h; exact ⟨hn, nd, hg, hp⟩

theorem absNode_first {t : BTree} {c : NodeId} {cn : Node} (f : Nat) (hc0 : c ≠ 0) (hg : t.get? c = some cn)
    (hs : NodeShape t cn) (hcnt : 0 < cn.count) :
    ∃ rest, absNode t (f + 1) c = absNode t f (cn.child 0) ++ cn.slot 0 :: rest := by
  have hkl := Node.kids_length hs
  have hil := Node.items_length hs
  have hi0 := items_getElem? hs hcnt
  rw [absNode_kids f hc0 hg hs, weave_split _ 0 _ _ (by omega) (Nat.zero_le _), Node.kids_getD hs (Nat.zero_le _)]
  cases hit : cn.items with
  | nil => rw [hit] at hil; simp at hil; omega
  | cons a is =>
    rw [hit] at hi0
    simp only [List.getElem?_cons_zero, Option.some.injEq] at hi0
    exact ⟨weave (absNode t f) (cn.kids.drop 1) is, by simp [weave, weaveTail, hi0]⟩

theorem weave_set_succ (g : NodeId → List Item) {x s s' : Item} {c : NodeId} {rest : List Item} (hg : g c = s :: rest) :
    ∀ (cs : List NodeId) (l : List Item) (i : Nat), l[i]? = some x → cs[i + 1]? = some c →
      Splice [x, s] [s', s] (weave g cs l) (weave g cs (l.set i s'))
  | [], _, _, _, hc => by simp at hc
  | c0 :: cs, [], _, hx, _ => by simp at hx
  | c0 :: cs, a :: l, 0, hx, hc => by
    simp only [List.getElem?_cons_zero, Option.some.injEq] at hx
    subst hx
    cases cs with
    | nil => simp at hc
    | cons c1 cs =>
      simp only [List.getElem?_cons_succ, List.getElem?_cons_zero, Option.some.injEq] at hc
      subst hc
      simp only [List.set_cons_zero]
      cases l with
      | nil => simp only [weave, hg]; exact ⟨g c0, rest ++ weave g cs [], by simp, by simp⟩
      | cons b l => simp only [weave, hg]; exact ⟨g c0, rest ++ b :: weave g cs l, by simp, by simp⟩
  | c0 :: cs, a :: l, i + 1, hx, hc => by
    simp only [List.set_cons_succ, weave]
    exact ((weave_set_succ g hg cs l i (by simpa using hx) (by simpa using hc)).cons a).pre _

/-- `hmin` is asked at every fuel because the context lemma reaches `n`, and so its kid, at a fuel the caller does not
    know -/
theorem succ_local (t : BTree) (n : NodeId) (i : Nat) (s : Item) (nd0 : Node) (c : NodeId) (hg0 : t.get? n = some nd0)
    (hi : i < nd0.count) (hcc : nd0.child (i + 1) = c) (hc0 : c ≠ 0)
    (hmin : ∀ f, WFNode t f c n none none → ∃ rest, absNode t f c = s :: rest) :
    ∀ f p, WFNode t f n p none none → (reach t f n).Nodup →
      Step t (t.upd n (fun x => x.setSlot i s)) [nd0.slot i, s] [s, s] f n p :=
  have hidp : ∀ x : Node, (x.setSlot i s).id = x.id := fun _ => rfl
  local_step t (t.upd n (fun x => x.setSlot i s)) n nd0 (nd0.setSlot i s) rfl (fun k hk => get?_upd_ne t _ hidp hk) hg0
    (get?_upd_some hidp hg0) rfl (fun hs => nodeShape_setSlot hs hi s) (Or.inr (by omega : 1 ≤ nd0.count))
    (fun c hc _ => hc) fun f hs hk => by
      have hci : nd0.kids[i + 1]? = some c := hcc ▸ kids_getElem?_child hs (show i + 1 ≤ nd0.count by omega)
      obtain ⟨rest, hrest⟩ := hmin f (hk c (List.mem_of_getElem? hci) hc0)
      rw [items_setSlot]
      exact ⟨weave_set_succ _ hrest _ _ _ (items_getElem? hs hi) hci, rfl⟩

theorem climbRight_here (t : BTree) (c : NodeId) (cn : Node) (hc0 : c ≠ 0) (hg : t.get? c = some cn) (i : Nat)
    (hi : i < cn.count) : climbRight t.fuel t c (i : Int) = (t.setCur c (i : Int), true) := by
  unfold BTree.fuel
  rw [climbRight]
  simp only [hc0, if_false, get_of_get? hg]
  rw [if_pos (by omega)]

theorem descendRight_leftmost (t : BTree) : ∀ (f fuel : Nat) (c p : NodeId) (lo hi : Option Int),
    WFNode t f c p lo hi → p ≠ 0 → f ≤ fuel →
      ∃ m mn, descendRight fuel t c 0 = (t.setCur m 0, true) ∧ m ∈ reach t f c ∧ t.get? m = some mn ∧ 0 < mn.count ∧
        mn.child 0 = 0 ∧ mn.parent ≠ 0 ∧ ∃ rest, absNode t f c = mn.slot 0 :: rest
  | 0, _, _, _, _, _, h, _, _ => absurd h (by simp [WFNode])
  | f + 1, 0, _, _, _, _, _, _, hle => by omega
  | f + 1, fuel + 1, c, p, lo, hi, h, hp, hle => by
    obtain ⟨hc0, cn, hg, _⟩ := id h
    obtain ⟨_, hpar, hs, hne, hk⟩ := wfNode_kids h hg
    have hcnt : 1 ≤ cn.count := hne.resolve_left hp
    obtain ⟨rest, hrest⟩ := absNode_first f hc0 hg hs hcnt
    rw [descendRight]
    simp only [hc0, if_false, get_of_get? hg]
    by_cases hz : cn.child 0 = 0
    · -- a leaf, or an inner node whose child 0 is nil (`goRightUpItemOnNodeWithNilChild` stays on slot 0)
      refine ⟨c, cn, ?_, self_mem_reach h, hg, hcnt, hz, hpar ▸ hp, rest, by rw [hrest, hz, absNode_zero]; rfl⟩
      split
      · simp only [hz, beq_self_eq_true, if_true]
        simpa using climbRight_here t c cn hc0 hg 0 hcnt
      · rfl
    · have hch : cn.hasChildren = true := by
        cases hcc : cn.children with
        | none => exact absurd (by simp [Node.child, hcc]) hz
        | some cs => simp [Node.hasChildren, hcc]
      have hz' : (cn.child 0 == 0) = false := by simpa using hz
      simp only [hch, if_true, hz', Bool.false_eq_true, if_false]
      rcases WFNode.kid h hg (Nat.zero_le _) with h0 | ⟨l, h', hw⟩
      · exact absurd h0 hz
      · obtain ⟨_, kn, hgk, _⟩ := WFNode.node hw
        rw [childOf_of_get hg hz (by rw [hgk]; rfl)]
        obtain ⟨m, mn, hd, hm, hgm, hmc, hmz, hmp, rest', hrest'⟩ :=
          descendRight_leftmost t f fuel (cn.child 0) c l h' hw hc0 (by omega)
        refine ⟨m, mn, hd, ?_, hgm, hmc, hmz, hmp, _, by rw [hrest, hrest']; rfl⟩
        rw [reach_kids f hc0 hg]
        exact List.mem_cons_of_mem _
          (List.mem_flatMap.mpr ⟨cn.child 0, List.mem_of_getElem? (kids_getElem?_child hs (Nat.zero_le _)), hm⟩)


theorem moveToNext_inner (t : BTree) (hwf : WFs t) (hc : CursorOn t)
    (hch : (t.get t.cur.node).children.isSome = true) (hr : (t.get t.cur.node).child (t.cur.idx.toNat + 1) ≠ 0) :
    ∃ m mn, t.moveToNext t.cur.node = (t.setCur m 0, true) ∧ m ∈ reach t (t.nodes.length + 1) t.root ∧
      t.get? m = some mn ∧ 0 < mn.count ∧ mn.child 0 = 0 ∧ mn.parent ≠ 0 ∧ m ≠ t.cur.node ∧
      ∀ f, WFNode t f ((t.get t.cur.node).child (t.cur.idx.toNat + 1)) t.cur.node none none →
        ∃ rest, absNode t f ((t.get t.cur.node).child (t.cur.idx.toNat + 1)) = mn.slot 0 :: rest := by
  obtain ⟨nd, hg, hcn, hid, hget, hi, hneg⟩ := hc.node
  rw [hget] at hch hr ⊢
  have hn0 := reach_ne_zero _ _ _ _ hc.1
  obtain ⟨f', p', lo', hi', hf', hwn, hndn, hsub⟩ := reach_facts hwf.toWFR hc.1
  cases f' with
  | zero => exact absurd hwn (by simp [WFNode])
  | succ f0 =>
    obtain ⟨_, _, hs, _, _⟩ := wfNode_kids hwn hg
    have hkid : nd.child (t.cur.idx.toNat + 1) ∈ nd.kids := List.mem_of_getElem? (kids_getElem?_child hs (by omega))
    rcases WFNode.kid hwn hg (show t.cur.idx.toNat + 1 ≤ nd.count by omega) with h0 | ⟨l, h', hwc⟩
    · exact absurd h0 hr
    · obtain ⟨_, cn, hgc, _⟩ := WFNode.node hwc
      obtain ⟨m, mn, hd, hm, hgm, hmc, hmz, hmp, rest, hrest⟩ :=
        descendRight_leftmost t f0 (t.nodes.length + 2) _ _ l h' hwc hn0 (by omega)
      have hbelow : m ∈ nd.kids.flatMap (reach t f0) := List.mem_flatMap.mpr ⟨_, hkid, hm⟩
      rw [reach_kids f0 hn0 hg] at hndn
      refine ⟨m, mn, ?_, ?_, hgm, hmc, hmz, hmp, ?_, ?_⟩
      · unfold BTree.moveToNext
        simp only [hget, Node.hasChildren, hch, if_true]
        rw [if_neg (by omega)]
        have e : (t.cur.idx + 1).toNat = t.cur.idx.toNat + 1 := by omega
        rw [e]
        unfold BTree.fuel
        rw [descendRight]
        have hr' : (nd.child (t.cur.idx.toNat + 1) == 0) = false := by simpa using hr
        simp only [hn0, if_false, hget, Node.hasChildren, hch, if_true, hr', Bool.false_eq_true]
        rw [childOf_of_get hg hr (by rw [hgc]; rfl)]; exact hd
      · refine hsub m ?_
        rw [reach_kids f0 hn0 hg]
        exact List.mem_cons_of_mem _ hbelow
      · -- `m` lies below the child, the cursor's node does not (its own subtree lists it once)
        exact fun h => (List.nodup_cons.mp hndn).1 (h ▸ hbelow)
      · intro f hw2
        rcases Nat.le_total f0 f with hle | hle
        · rw [absNode_le t hwc hle]; exact ⟨rest, hrest⟩
        · rw [← absNode_le t hw2 hle]; exact ⟨rest, hrest⟩

end Sop.BTree.Rem
