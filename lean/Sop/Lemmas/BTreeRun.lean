import Sop.Lemmas.BTreeStep
import Sop.Lemmas.BTreeRemoveFrame
import Sop.Lemmas.BTreeReadAll
import Sop.Lemmas.BTreePut
/-! The run-level invariant `Inv` of Model B (leaf load balancing off, the three repairs on) and its preservation,
together with the specification relation, by the read-only calls and the in-place updates (`Update`, `UpdateKey`,
`UpdateCurrentItem/Key/Value`); `Add`/`Remove` and the run theorem are in `BTreeRunSteps`. -/
namespace Sop.BTree
open Sop.BTree.Rem Sop.BTree.Ins

/-- what holds between public calls. `idle`: no promote/distribute action pending; `fresh`, `items`: the id counter is above
    every node and item id, so the item `Add` creates is new (the `inserted` clause of `Spec.accepts`); `cur`: the guards
    of `UpdateCurrent*`/`RemoveCurrentItem` and `Find`'s probe can read the cursor. -/
structure Inv (t : BTree) : Prop where
  wf : WF t
  ok : t.panicked = false
  cur : CursorOK t
  idle : Idle t
  fresh : Fresh t
  items : ∀ x ∈ t.abs, x.id < t.nextId
  lb : t.lb = false
  ff : t.fixFast = true
  fe : t.fixErr = true
  fi : t.fixId = true

/-- the invariant passes to any state with the same configuration (the shape of `Ins.AddOk.cfg`, BTreeInsert), given the rest -/
theorem Inv.carry {t t' : BTree} (h : Inv t)
    (hcfg : t'.sl = t.sl ∧ t'.unique = t.unique ∧ t'.lb = t.lb ∧ t'.fixFast = t.fixFast ∧ t'.fixErr = t.fixErr ∧
      t'.fixId = t.fixId)
    (hwf : WF t') (hok : t'.panicked = false) (hcur : CursorOK t') (hidle : Idle t') (hfresh : Fresh t')
    (hitems : ∀ x ∈ t'.abs, x.id < t'.nextId) : Inv t' :=
  ⟨hwf, hok, hcur, hidle, hfresh, hitems, hcfg.2.2.1.trans h.lb, hcfg.2.2.2.1.trans h.ff, hcfg.2.2.2.2.1.trans h.fe,
    hcfg.2.2.2.2.2.trans h.fi⟩

/-- with the id counter and pending actions unchanged too and no new node id (`SameFrame`), what is specific to the call
    remains: well-formedness, no panic, a readable cursor, no new item id -/
theorem Inv.transfer {t t' : BTree} (h : Inv t) (hf : SameFrame t t') (hwf : WF t') (hok : t'.panicked = false)
    (hcur : CursorOK t') (hitems : ∀ x ∈ t'.abs, ∃ y ∈ t.abs, y.id = x.id) : Inv t' := by
  obtain ⟨hnext, hsl, huniq, hlb, hff, hfe, hfi, hdist, hprom, hids⟩ := hf
  refine h.carry ⟨hsl, huniq, hlb, hff, hfe, hfi⟩ hwf hok hcur ⟨by rw [hdist]; exact h.idle.1, by rw [hprom]; exact h.idle.2⟩
    ⟨by rw [hnext]; exact h.fresh.1, ?_⟩ ?_
  · intro nd' hnd'
    obtain ⟨nd, hnd, hid⟩ := hids nd' hnd'
    rw [hnext, ← hid]; exact h.fresh.2 nd hnd
  · intro x hx
    obtain ⟨y, hy, hid⟩ := hitems x hx
    rw [hnext, ← hid]; exact h.items y hy

theorem heapEq_ids {t t' : BTree} (he : HeapEq t t') : ∀ nd' ∈ t'.nodes, ∃ nd ∈ t.nodes, nd.id = nd'.id := by
  intro nd' hnd'
  obtain ⟨x, hx⟩ := mem_get? (t := t') (n := nd'.id) (List.mem_map.mpr ⟨nd', hnd', rfl⟩)
  cases hg : t.get? nd'.id with
  | none => rw [he.get_none hg] at hx; cases hx
  | some nd =>
    refine ⟨nd, ?_, get?_id hg⟩
    unfold BTree.get? at hg
    exact List.mem_of_find?_eq_some hg

theorem HeapEq.sameFrame {t t' : BTree} (he : HeapEq t t') : SameFrame t t' :=
  have e : ∀ {α} (F : BTree → α), F t'.frame = F t.frame := fun F => congrArg F he.frame
  ⟨e BTree.nextId, e BTree.sl, e BTree.unique, e BTree.lb, e BTree.fixFast, e BTree.fixErr, e BTree.fixId,
    e BTree.distSrc, e BTree.promTarget, heapEq_ids he⟩

theorem Inv.of_good {t t' : BTree} (h : Inv t) (hg : GoodSt t t') : Inv t' :=
  h.transfer hg.1.sameFrame (WF_heapEq hg.1 h.wf) hg.2.1 ⟨hg.2.2.1, hg.2.2.2⟩
    (fun x hx => ⟨x, by rw [← abs_heapEq hg.1]; exact hx, rfl⟩)

/-- slot arrays have the configured length on both sides, so the index stays inside -/
theorem CursorOK.keep {t t' : BTree} (h : CursorOK t) (hwf : WF t) (hwf' : WF t') (hsl : t'.sl = t.sl)
    (hcur : t'.cur = t.cur) (hkeep : ∀ n, (t.get? n).isSome → (t'.get? n).isSome) : CursorOK t' := by
  refine ⟨?_, by rw [hcur]; exact h.2⟩
  rw [CursorValid, hcur]
  rcases h.1 with h0 | hc | ⟨nd, hg, h1, h2⟩
  · exact Or.inl h0
  · exact Or.inr (Or.inl hc)
  · obtain ⟨nd', hg'⟩ := Option.isSome_iff_exists.mp (hkeep t.cur.node (by rw [hg]; rfl))
    refine Or.inr (Or.inr ⟨nd', hg', h1, ?_⟩)
    rw [(hwf'.stored_shape hg').slots_size, hsl, ← (hwf.stored_shape hg).slots_size]; exact h2

/-- what `Statement_C17_inv` asks of one call: the invariant again, and the answer the specification allows -/
abbrev InvStepOk (t : BTree) (op : Op) : Prop :=
  Inv (t.step op).1 ∧ Spec.accepts t.unique t.abs op (t.step op).2 (t.step op).1.abs = true

theorem inv_read {t : BTree} (h : Inv t) (op : Op) (hro : isReadOp op = true) :
    InvStepOk t op := by
  obtain ⟨_, _, _, hg, hacc⟩ := read_op_accepts h.wf h.ok h.cur h.ff h.fi op hro
  exact ⟨h.of_good hg, hacc⟩

theorem items_replace {L R : List Item} {x x' : Item} (hid : x'.id = x.id) :
    ∀ z ∈ L ++ x' :: R, ∃ y ∈ L ++ x :: R, y.id = z.id := by
  intro z hz
  rcases List.mem_append.mp hz with hz | hz
  · exact ⟨z, List.mem_append_left _ hz, rfl⟩
  · rcases List.mem_cons.mp hz with rfl | hz
    · exact ⟨x, by simp, hid.symm⟩
    · exact ⟨z, by simp [hz], rfl⟩

/-- `0 ≤ idx` may be assumed by the `UpdateCurrent*`/`RemoveCurrentItem` lemmas: without a current node they do nothing -/
theorem CursorOK.idx {t : BTree} (h : CursorOK t) {nd : Node} (hcn : t.curNode? = some nd) : 0 ≤ t.cur.idx := by
  rcases h.2 with h0 | hi
  · unfold BTree.curNode? at hcn; simp [h0] at hcn
  · exact hi

theorem inv_updateCurrentValue {t : BTree} (h : Inv t) (v : Nat) :
    InvStepOk t (.updateCurrentValue v) := by
  cases hcn : t.curNode? with
  | none =>
    have : t.updateCurrentValue v = (t, .ok false) := updateCurrentValue_none t v hcn
    simp only [InvStepOk, BTree.step, this]
    exact ⟨h, by simp [Spec.accepts, keysSorted_of_WF h.wf, isPerm_refl]⟩
  | some nd =>
    have hi := h.cur.idx hcn
    obtain ⟨h1, h2, h3⟩ := step_updateCurrentValue h.wf h.ok hi v
    refine ⟨?_, h3⟩
    simp only [BTree.step] at h1 h2 ⊢
    have hc := h.wf.cursorOn_of_curNode hcn hi
    obtain ⟨_, _, _, h5, _, L, R, h6, h7⟩ := updateCurrentValue_ok t v h.wf h.ok hc
    obtain ⟨hf, hkeep⟩ := updateCurrentValue_frame t v
    exact h.transfer hf h1 h2 (h.cur.keep h.wf h1 hf.2.1 h5 hkeep) (by rw [h6, h7]; exact items_replace rfl)

theorem inv_updateCurrent {t : BTree} (h : Inv t) (k : Int) (val : Option Nat) :
    Inv (t.updateCurrent k val).1 := by
  cases hcn : t.curNode? with
  | none =>
    have : t.updateCurrent k val = (t, .ok false) := updateCurrent_none t k _ hcn
    rw [this]; exact h
  | some nd =>
    have hi := h.cur.idx hcn
    obtain ⟨h1, h2, h3⟩ := step_updateCurrent h.wf h.ok hi h.fe k val
    rcases h3 with ⟨_, hs⟩ | ⟨_, hs⟩ | ⟨_, hkey, L, R, ha, hb⟩
    · rw [hs]; exact h
    · rw [hs]; exact h
    · obtain ⟨hf, hkeep⟩ := updateCurrent_frame t k val
      have hcur := (updateCurrent_ok t k val h.wf h.ok (h.wf.cursorOn_of_curNode hcn hi) hkey).2.2.2.1
      exact h.transfer hf h1 h2 (h.cur.keep h.wf h1 hf.2.1 hcur hkeep) (by rw [ha, hb]; exact items_replace rfl)

theorem inv_updateCurrentItem {t : BTree} (h : Inv t) (k : Int) (v : Nat) :
    InvStepOk t (.updateCurrentItem k v) := by
  cases hcn : t.curNode? with
  | none =>
    have : t.updateCurrent k (some v) = (t, .ok false) := updateCurrent_none t k _ hcn
    simp only [InvStepOk, BTree.step, this]
    exact ⟨h, by simp [Spec.accepts, keysSorted_of_WF h.wf, isPerm_refl]⟩
  | some nd =>
    exact ⟨inv_updateCurrent h k (some v), (step_updateCurrentItem h.wf h.ok (h.cur.idx hcn) h.fe k v).2.2⟩

theorem inv_updateCurrentKey {t : BTree} (h : Inv t) (k : Int) :
    InvStepOk t (.updateCurrentKey k) := by
  cases hcn : t.curNode? with
  | none =>
    have : t.updateCurrent k none = (t, .ok false) := updateCurrent_none t k _ hcn
    simp only [InvStepOk, BTree.step, this]
    exact ⟨h, by simp [Spec.accepts, keysSorted_of_WF h.wf, isPerm_refl]⟩
  | some nd =>
    exact ⟨inv_updateCurrent h k none, (step_updateCurrentKey h.wf h.ok (h.cur.idx hcn) h.fe k).2.2⟩

theorem inv_find_any {t : BTree} (h : Inv t) (k : Int) : Inv (t.find k false).1 := by
  have := inv_read h (.find k false) rfl
  exact this.1

/-- `Update`, `UpdateKey` and `Remove` are this with their call on the current item for `cur`: `BTree.update`, `updateKey`, `remove`
    unfold to it, which is how `inv_update`, `inv_updateKey`, `inv_remove` hand `inv_byKey` to a goal about `t.step _` -/
def byKey (t : BTree) (k : Int) (cur : BTree → BTree × Ret) : BTree × Ret :=
  let (t1, ok) := t.find k false
  if !ok then (t1, .ok false) else cur t1

theorem inv_byKey {t : BTree} (h : Inv t) (k : Int) {cur : BTree → BTree × Ret} (hc : ∀ t1, Inv t1 → Inv (cur t1).1) :
    Inv (byKey t k cur).1 := by
  have h1 := inv_find_any h k
  unfold byKey
  rcases hfd : t.find k false with ⟨t1, ok⟩
  rw [hfd] at h1
  cases ok with
  | false => exact h1
  | true => exact hc t1 h1

theorem inv_update {t : BTree} (h : Inv t) (k : Int) (v : Nat) : InvStepOk t (.update k v) :=
  ⟨inv_byKey h k (fun _ h1 => inv_updateCurrent h1 k (some v)), (step_update h.wf h.ok h.cur.1 h.ff k v).2.2⟩

theorem inv_updateKey {t : BTree} (h : Inv t) (k : Int) : InvStepOk t (.updateKey k) :=
  ⟨inv_byKey h k (fun _ h1 => inv_updateCurrent h1 k none), (step_updateKey h.wf h.ok h.cur.1 h.ff k).2.2⟩

end Sop.BTree
