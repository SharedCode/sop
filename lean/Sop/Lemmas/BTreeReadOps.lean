import Sop.Lemmas.BTreeScan
/-! The read-only public calls never damage a well-formed tree: `Next`/`Previous` from ANY cursor state, the range
iterators' final state, and `FindWithID` (with the proposed repair `fixId`). -/
namespace Sop.BTree

theorem HeapEq.fixId {t t' : BTree} (h : HeapEq t t') : t'.fixId = t.fixId := by
  have := congrArg BTree.fixId h.frame; exact this

theorem getCurrentItem_good {t₀ t : BTree} (h : GoodSt t₀ t) : GoodSt t₀ t.getCurrentItem.1 := by
  obtain ⟨he, hp, hv, hx⟩ := h
  obtain ⟨h1, h2, h3, h4, h5⟩ := getCurrentItem_valid he hp hv
  refine ⟨h1, h2, ?_, by rw [h3, h4]; exact hx⟩
  by_cases h0 : t.cur.node = 0
  · left; rw [h3]; exact h0
  · right; left; exact (h5 h0).1

/-- `Next`/`Previous` from any cursor state: their guards send them away, or the cursor stands on an in-order
    position (every stored node is reachable) -/
theorem cursorPos_of_guards {t₀ t : BTree} (hwf : WF t₀) (he : HeapEq t₀ t) (hp : t.panicked = false) :
    (t.next = (t, false) ∧ t.prev = (t, false)) ∨ ∃ L R, CursorPos t₀ t L R := by
  by_cases hguard : (t.count == 0 || !t.isCurSelected) = true
  · left; constructor
    · unfold BTree.next; rw [if_pos hguard]
    · unfold BTree.prev; rw [if_pos hguard]
  · have hguard' : (t.count == 0 || !t.isCurSelected) = false := by simpa using hguard
    cases hg : t.get? t.cur.node with
    | none =>
      left; constructor
      · unfold BTree.next; simp only [hguard', Bool.false_eq_true, if_false, hg]
      · unfold BTree.prev; simp only [hguard', Bool.false_eq_true, if_false, hg]
    | some nd =>
      by_cases hidx : t.cur.idx ≥ (nd.count : Int)
      · left; constructor
        · unfold BTree.next; simp only [hguard', Bool.false_eq_true, if_false, hg, hidx, if_true]
        · unfold BTree.prev; simp only [hguard', Bool.false_eq_true, if_false, hg, hidx, if_true]
      · right
        have hsel : t.isCurSelected = true := by
          simp only [Bool.or_eq_false_iff, Bool.not_eq_false'] at hguard'
          exact hguard'.2
        unfold BTree.isCurSelected at hsel
        simp only [Bool.and_eq_true, bne_iff_ne, ne_eq, decide_eq_true_eq] at hsel
        obtain ⟨nd0, hg0⟩ : ∃ nd0, t₀.get? t.cur.node = some nd0 := by
          cases h : t₀.get? t.cur.node with
          | some nd0 => exact ⟨nd0, rfl⟩
          | none => rw [he.get_none h] at hg; cases hg
        obtain ⟨nd', hg', hcore⟩ := he.get_some hg0
        rw [hg] at hg'; cases hg'
        have hcnt : nd.count = nd0.count := core_eq_count hcore
        obtain ⟨f, L, R, hat⟩ := hwf.at_of_slot hg0 ((Int.toNat_lt hsel.2).mpr (hcnt ▸ Int.not_le.mp hidx))
        exact ⟨L, R, he, hp, f, _, _, rfl, (Int.toNat_of_nonneg hsel.2).symm, hat⟩

theorem next_any {t₀ t : BTree} (hwf : WF t₀) (hgood : GoodSt t₀ t) : GoodSt t₀ t.next.1 := by
  rcases cursorPos_of_guards hwf hgood.1 hgood.2.1 with ⟨h, _⟩ | ⟨L, R, hpos⟩
  · rw [h]; exact hgood
  · have hw := hpos.wfr hwf
    obtain ⟨_, _, x, R', hR, _⟩ := cursorPos_abs hw hpos
    subst hR
    obtain ⟨h1, h2, hnil, hcons⟩ := next_spec hwf hpos
    by_cases hR' : R' = []
    · exact ⟨h1, h2, Or.inl (hnil hR').2, Or.inl (hnil hR').2⟩
    · exact cursorPos_good hwf (hcons hR').2.1

theorem prev_any {t₀ t : BTree} (hwf : WF t₀) (hgood : GoodSt t₀ t) : GoodSt t₀ t.prev.1 := by
  rcases cursorPos_of_guards hwf hgood.1 hgood.2.1 with ⟨_, h⟩ | ⟨L, R, hpos⟩
  · rw [h]; exact hgood
  · obtain ⟨h1, h2, hnil, hcons⟩ := prev_spec hwf hpos
    by_cases hL : L = []
    · exact ⟨h1, h2, Or.inl (hnil hL).2, Or.inl (hnil hL).2⟩
    · obtain ⟨_, L', x, _, hp', _⟩ := hcons hL
      exact cursorPos_good hwf hp'

theorem move_any {t₀ t : BTree} (hwf : WF t₀) (asc : Bool) (h : GoodSt t₀ t) :
    GoodSt t₀ (if asc = true then t.next else t.prev).1 := by
  cases asc with
  | true => exact next_any hwf h
  | false => exact prev_any hwf h

theorem rangeSkip_good {t₀ : BTree} (hwf : WF t₀) (a : Int) (asc : Bool) (fuel : Nat) : ∀ (t : BTree),
    GoodSt t₀ t → GoodSt t₀ (rangeSkip a asc fuel t).1 := by
  induction fuel with
  | zero => exact fun t h => h
  | succ fuel ih =>
    intro t h
    have hstep := move_any hwf asc h
    rw [rangeSkip]
    by_cases hcond : (if asc = true then t.getCurrentKey.key < a else t.getCurrentKey.key > a)
    · rw [if_pos hcond]
      rcases hx : (if asc = true then t.next else t.prev) with ⟨t', ok⟩
      rw [hx] at hstep
      cases ok with
      | false => simpa using hstep
      | true => simpa using ih t' hstep
    · rw [if_neg hcond]; exact h

theorem rangeCollect_good {t₀ : BTree} (hwf : WF t₀) (b : Int) (asc : Bool) (fuel : Nat) : ∀ (t : BTree) (acc : List Item),
    GoodSt t₀ t → GoodSt t₀ (rangeCollect b asc fuel t acc).1 := by
  induction fuel with
  | zero => exact fun t acc h => h
  | succ fuel ih =>
    intro t acc h
    rw [rangeCollect]
    by_cases hcond : (if asc = true then t.getCurrentKey.key > b else t.getCurrentKey.key < b)
    · rw [if_pos hcond]; exact h
    · rw [if_neg hcond]
      have h1 := getCurrentItem_good h
      rcases hgc : t.getCurrentItem with ⟨t1, v⟩
      rw [hgc] at h1
      simp only at h1 ⊢
      have hstep := move_any hwf asc h1
      rcases hx : (if asc = true then t1.next else t1.prev) with ⟨t', ok⟩
      rw [hx] at hstep
      cases ok with
      | false => simpa using hstep
      | true => simpa using ih t' _ hstep

/-! The searches and `First`/`Last` on ANY well-formed tree, the empty store included: the state stays readable, and the
answer is the specification's. -/

theorem first_answer {t : BTree} (hwf : WF t) (hp : t.panicked = false) (hc : CursorOK t) :
    GoodSt t t.first.1 ∧ (t.first.2 = true ↔ (!t.abs.isEmpty) = true) := by
  by_cases hne : t.abs = []
  · rw [first_empty hwf hne, hne]; exact ⟨GoodSt.refl hp hc, by simp⟩
  · obtain ⟨h1, h2, _⟩ := first_spec hwf hp hne
    exact ⟨cursorPos_good hwf h2, by rw [h1]; simp [hne]⟩

theorem last_answer {t : BTree} (hwf : WF t) (hp : t.panicked = false) (hc : CursorOK t) :
    GoodSt t t.last.1 ∧ (t.last.2 = true ↔ (!t.abs.isEmpty) = true) := by
  by_cases hne : t.abs = []
  · rw [last_empty hwf hne, hne]; exact ⟨GoodSt.refl hp hc, by simp⟩
  · obtain ⟨h1, L, x, _, h2, _⟩ := last_spec hwf hp hne
    exact ⟨cursorPos_good hwf h2, by rw [h1]; simp [hne]⟩

theorem findDesc_answer {t : BTree} (hwf : WF t) (hp : t.panicked = false) (hc : CursorOK t) (k : Int) :
    GoodSt t (t.findDesc k).1 ∧ ((t.findDesc k).2 = true ↔ hasKey t.abs k = true) := by
  by_cases hne : t.abs = []
  · rw [findDesc_empty hwf hne, hne]; exact ⟨GoodSt.refl hp hc, by simp [hasKey]⟩
  · have h := (findDesc_spec hwf hp hne k).2.2.2
    exact ⟨h.good hwf, h.iff_hasKey (hwf.wfr (hwf.count_ne hne).2)⟩

/-- `Find(k, first)`; the fast path of `Find(k, false)` needs the repair `fixFast` -/
theorem find_answer {t : BTree} (hwf : WF t) (hp : t.panicked = false) (hc : CursorOK t) (k : Int) (f : Bool)
    (hff : f = false → t.fixFast = true) :
    GoodSt t (t.find k f).1 ∧ ((t.find k f).2 = true ↔ hasKey t.abs k = true) := by
  by_cases hne : t.abs = []
  · rw [find_empty hwf hne, hne]; exact ⟨GoodSt.refl hp hc, by simp [hasKey]⟩
  · have hw := hwf.wfr (hwf.count_ne hne).2
    cases f with
    | true =>
      have h := (find_spec hwf hp hc.1 hne k).2.2.2
      exact ⟨h.good hwf, h.iff_hasKey hw⟩
    | false =>
      rcases (find_any_spec hwf hp hc.1 (hff rfl) hne k).2.2 with ⟨hr, L, y, R, hpos, hy⟩ | ⟨hr, hno, L, R, hpos⟩
      · refine ⟨cursorPos_good hwf hpos, ?_⟩
        rw [hr]
        exact ⟨fun _ => hasKey_of_mem (by rw [(cursorPos_abs hw hpos).1]; simp) hy, fun _ => rfl⟩
      · exact ⟨cursorPos_good hwf hpos, by rw [hr, hasKey_false hno]⟩

theorem range_state {t : BTree} (hwf : WF t) (hp : t.panicked = false) (hc : CursorOK t) (a b : Int) (asc : Bool) : GoodSt t (t.range a b asc).1 := by
  have hfind : GoodSt t (if asc = true then t.find a true else t.findDesc a).1 := by
    cases asc with
    | true => exact (find_answer hwf hp hc a true (fun h => nomatch h)).1
    | false => exact (findDesc_answer hwf hp hc a).1
  unfold BTree.range
  rcases hfd : (if asc = true then t.find a true else t.findDesc a) with ⟨t1, found⟩
  rw [hfd] at hfind
  simp only at hfind ⊢
  have hgo : GoodSt t (if found = true then (t1, true) else if t1.getCurrentKey.id = 0 then (t1, false)
      else rangeSkip a asc (t1.count.toNat + 3) t1).1 := by
    split
    · exact hfind
    · split
      · exact hfind
      · exact rangeSkip_good hwf a asc _ t1 hfind
  rcases hg : (if found = true then (t1, true) else if t1.getCurrentKey.id = 0 then (t1, false)
      else rangeSkip a asc (t1.count.toNat + 3) t1) with ⟨t2, go⟩
  rw [hg] at hgo
  simp only at hgo ⊢
  cases go with
  | false => exact hgo
  | true => exact rangeCollect_good hwf b asc (t1.count.toNat + 3) t2 [] hgo

theorem getCurrentItem_pos {t₀ t : BTree} (hwf : WF t₀) {L R : List Item} {y : Item} (h : CursorPos t₀ t L (y :: R)) :
    t.getCurrentItem = (t.getCurrentItem.1, some y) := by
  have hw := h.wfr hwf
  obtain ⟨_, _, y', R', hR, hcur⟩ := cursorPos_abs hw h
  exact Prod.ext rfl (((getCurrentItem_valid h.1 h.2.1 (cursorPos_good hwf h).2.2.1).2.2.2.2
    (cursorPos_node_ne hw h)).2.trans (by rw [hcur, (List.cons.inj hR).1]))

theorem findWithIdLoop_spec {t₀ : BTree} (hwf : WF t₀) (hfix : t₀.fixId = true)
    (k : Int) (id : Nat) (fuel : Nat) : ∀ (t : BTree) (L R : List Item) (y : Item),
    CursorPos t₀ t L (y :: R) → (∀ x ∈ L, ¬ (x.key = k ∧ x.id = id)) → k ≤ y.key → R.length + 1 ≤ fuel →
    GoodSt t₀ (findWithIdLoop k id fuel t).1 ∧
      ((findWithIdLoop k id fuel t).2 = true ↔ ∃ x ∈ t₀.abs, x.key = k ∧ x.id = id) := by
  induction fuel with
  | zero => intro t L R y h hL hy hf; omega
  | succ fuel ih =>
    intro t L R y h hL hy hf
    have hw := h.wfr hwf
    obtain ⟨hc1, hc2⟩ := cursorPos_cache hw h
    obtain ⟨habs, _⟩ := cursorPos_abs hw h
    have hs : Sorted (L ++ y :: R) := by rw [← habs]; exact (abs_sorted_of_WF t₀ hwf).1
    rw [findWithIdLoop, getCurrentItem_pos hwf h]
    simp only [hc1.1.fixId, hfix, Bool.true_and]
    by_cases hyk : y.key = k
    · have : (y.key != k) = false := by simp [hyk]
      simp only [this, Bool.false_eq_true, if_false]
      by_cases hyid : y.id = id
      · simp only [hyid, beq_self_eq_true, if_true]
        exact ⟨cursorPos_good hwf hc1, fun _ => ⟨y, by rw [habs]; simp, hyk, hyid⟩, fun _ => trivial⟩
      · have : (y.id == id) = false := by simpa using hyid
        simp only [this, Bool.false_eq_true, if_false]
        obtain ⟨hn1, hn2, hnil, hcons⟩ := next_spec hwf hc1
        have hng := next_any hwf (cursorPos_good hwf hc1)
        by_cases hR : R = []
        · have h2 := (hnil hR).1
          rcases hnx : t.getCurrentItem.1.next with ⟨t', ok⟩
          rw [hnx] at h2 hn1 hn2 hng
          simp only at h2 hn1 hn2 hng
          subst h2
          simp only [Bool.not_false, if_true]
          refine ⟨hng, fun h' => absurd h' (by simp), ?_⟩
          rintro ⟨x, hx, hxk, hxi⟩
          exfalso
          rw [habs, hR] at hx
          rcases List.mem_append.mp hx with hx | hx
          · exact hL x hx ⟨hxk, hxi⟩
          · have : x = y := by simpa using hx
            subst this; exact hyid hxi
        · obtain ⟨h1, h2, _⟩ := hcons hR
          rcases hnx : t.getCurrentItem.1.next with ⟨t', ok⟩
          rw [hnx] at h1 h2
          simp only at h1 h2
          subst h1
          simp only [Bool.not_true, Bool.false_eq_true, if_false]
          obtain ⟨_, _, y', R', hR', _⟩ := cursorPos_abs hw h2
          subst hR'
          have hy' : k ≤ y'.key := Int.le_trans hy ((sorted_mid hs).2 y' List.mem_cons_self)
          exact ih t' (L ++ [y]) R' y' h2
            (by
              intro x hx
              rcases List.mem_append.mp hx with hx | hx
              · exact hL x hx
              · have : x = y := by simpa using hx
                subst this; exact fun h' => hyid h'.2)
            hy' (Nat.le_of_succ_le_succ hf)
    · have : (y.key != k) = true := by simp [hyk]
      simp only [this, if_true]
      refine ⟨cursorPos_good hwf hc1, fun h' => absurd h' (by simp), ?_⟩
      rintro ⟨x, hx, hxk, hxi⟩
      exfalso
      rw [habs] at hx
      rcases List.mem_append.mp hx with hx | hx
      · exact hL x hx ⟨hxk, hxi⟩
      · rcases List.mem_cons.mp hx with rfl | hx
        · exact hyk hxk
        · exact hyk (Int.le_antisymm (hxk ▸ (sorted_mid hs).2 x hx) hy)

theorem findWithID_spec {t : BTree} (hwf : WF t) (hp : t.panicked = false) (hc : CursorOK t) (hfix : t.fixId = true) (k : Int) (id : Nat) :
    GoodSt t (t.findWithID k id).1 ∧
      ((t.findWithID k id).2 = true ↔ ∃ x ∈ t.abs, x.key = k ∧ x.id = id) := by
  unfold BTree.findWithID
  by_cases hne : t.abs = []
  · have h1 : t.find k true = (t, false) := find_empty hwf hne _ _
    simp only [h1, Bool.false_eq_true, if_false, hne]
    exact ⟨GoodSt.refl hp hc, by simp⟩
  · have hw := hwf.wfr (hwf.count_ne hne).2
    obtain ⟨he, hp', _, hres⟩ := find_spec hwf hp hc.1 hne k
    rcases hfd : t.find k true with ⟨t1, found⟩
    rw [hfd] at he hp' hres
    simp only at he hp' hres ⊢
    rcases hres with ⟨hr, L, y, R, hpos, hy, hL⟩ | ⟨hr, Lo, Hi, hLo, hHi, hpos⟩
    · subst hr
      simp only [if_true]
      obtain ⟨habs, _⟩ := cursorPos_abs hw hpos
      exact findWithIdLoop_spec hwf hfix k id _ t1 L R y hpos
        (fun x hx h' => Int.ne_of_lt (hL x hx) h'.1) (Int.le_of_eq hy.symm) (by
          rw [he.count, count_toNat hwf, habs, List.length_append, List.length_cons]; omega)
    · subst hr
      simp only [Bool.false_eq_true, if_false]
      have hgood : GoodSt t t1 := by
        rcases hpos with hpos | ⟨_, _, _, hpos⟩ <;> exact cursorPos_good hwf hpos
      refine ⟨hgood, fun h' => absurd h' (by simp), ?_⟩
      rintro ⟨x, hx, hxk, _⟩
      exact absurd hxk ((miss_no_key hw hLo hHi hpos).2 x hx)

end Sop.BTree
