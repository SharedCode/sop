import Sop.Lemmas.BTreeWalk
import Sop.Lemmas.BTreeKeyStep
/-! `node.find` of Model B on a well-formed tree: the descent keeps "everything before the current
subtree is `< k`, everything after is `≥ k`", so it ends on the lower bound of `k`. -/
namespace Sop.BTree

/-- The two ways a search for `k` with answer `b` ends, over any notion `P L R` of "the cursor stands at `L | R`"; on a hit `Q L R`
    is what the search promises of the items before and after the hit `y` (without it). On a miss
    the cursor is on the head of `Hi` or on the last item of `Lo`: the code parks on the predecessor when the descent ends
    past the last slot of a node. -/
def SearchEnd (k : Int) (b : Bool) (P Q : List Item → List Item → Prop) : Prop :=
  (b = true ∧ ∃ L y R, P L (y :: R) ∧ y.key = k ∧ Q L R) ∨
  (b = false ∧ ∃ Lo Hi, (∀ x ∈ Lo, x.key < k) ∧ (∀ x ∈ Hi, k < x.key) ∧
    (P Lo Hi ∨ ∃ Lo' x, Lo = Lo' ++ [x] ∧ P Lo' (x :: Hi)))

theorem SearchEnd.imp {k : Int} {b : Bool} {P P' Q Q' : List Item → List Item → Prop} (hP : ∀ L R, P L R → P' L R)
    (hQ : ∀ L R, Q L R → Q' L R) (h : SearchEnd k b P Q) : SearchEnd k b P' Q' := by
  rcases h with ⟨hb, L, y, R, hp, hy, hq⟩ | ⟨hb, Lo, Hi, hLo, hHi, hp⟩
  · exact .inl ⟨hb, L, y, R, hP _ _ hp, hy, hQ _ _ hq⟩
  · exact .inr ⟨hb, Lo, Hi, hLo, hHi, hp.imp (hP _ _) fun ⟨Lo', x, e, hp⟩ => ⟨Lo', x, e, hP _ _ hp⟩⟩

theorem SearchEnd.pos {k : Int} {b : Bool} {P Q : List Item → List Item → Prop} (h : SearchEnd k b P Q) : ∃ L R, P L R := by
  rcases h with ⟨_, L, y, R, hp, _⟩ | ⟨_, Lo, Hi, _, _, hp | ⟨Lo', x, _, hp⟩⟩
  · exact ⟨L, y :: R, hp⟩
  · exact ⟨Lo, Hi, hp⟩
  · exact ⟨Lo', x :: Hi, hp⟩

/-- what a descent returns: `SearchEnd` over the raw cursor (`RawPos`, not yet cached), with `Q L R` split into a condition
    `PL` on what stands before the hit and `PR` on what stands after it; the public form over `CursorPos` is `SearchOutcome` -/
def SearchResult (t₀ : BTree) (k : Int) (PL PR : List Item → Prop) (r : BTree × Bool) : Prop :=
  HeapEq t₀ r.1 ∧ r.1.panicked = false ∧ SearchEnd k r.2 (RawPos t₀ r.1) (fun L R => PL L ∧ PR R)

/-- outcome of `find`: on a hit with `first` the cursor is on the first item of key `k` in order -/
abbrev FindResult (t₀ : BTree) (k : Int) (first : Bool) : BTree × Bool → Prop :=
  SearchResult t₀ k (fun L => first = true → ∀ x ∈ L, x.key < k) (fun _ => True)

theorem findTail_some (t : BTree) (fn : NodeId) (fi : Nat) (n : NodeId) (i : Nat) :
    findTail t (some (fn, fi)) n i = (t.setCur fn fi, true) := rfl

/-- `findTail` without a remembered hit, the descent having stopped between (nil) child `idx` and separator `idx`
    of `m`: the cursor goes to that separator, or to the one before it when `idx` is past the last one -/
theorem findTail_none {t₀ t : BTree} (hw : WFR t₀) (he : HeapEq t₀ t) (hp : t.panicked = false) (hne : t₀.abs ≠ [])
    {f : Nat} {m : NodeId} {idx : Nat} {L R : List Item} (hgap : Gap t₀ f m idx L R) {nd : Node}
    (hg : t₀.get? m = some nd) (hc0 : nd.child idx = 0) :
    HeapEq t₀ (findTail t none m idx).1 ∧ (findTail t none m idx).1.panicked = false ∧
    (findTail t none m idx).2 = false ∧
      (RawPos t₀ (findTail t none m idx).1 L R ∨ ∃ L' x, L = L' ++ [x] ∧ RawPos t₀ (findTail t none m idx).1 L' (x :: R)) := by
  obtain ⟨p, pre, post, nd', hctx, hg', hidx, hL, hR⟩ := id hgap
  rw [hg] at hg'; cases hg'
  have hm0 := hctx.ne_zero hw
  have hcnt : (t.get m).count = nd.count := (core_eq (he.node hg).1).2.2.2.1
  by_cases hlt : idx < nd.count
  · have e : findTail t none m idx = (t.setCur m idx, false) := by
      have h2 : ((idx : Int) ≥ 0 ∧ (idx : Int) < (nd.count : Int)) := ⟨Int.natCast_nonneg idx, Int.ofNat_lt.mpr hlt⟩
      unfold findTail
      simp only [hm0, if_false, hcnt, Nat.ne_of_lt hlt, h2, and_self, if_true]
    rw [e]
    exact ⟨he.setCur _ _, hp, rfl, Or.inl ⟨f, m, idx, rfl, hgap, nd, hg, hlt⟩⟩
  · have h1 : idx = nd.count := Nat.le_antisymm hidx (Nat.not_lt.mp hlt)
    cases hcj : nd.count with
    | zero =>
      have hi0 : idx = 0 := h1.trans hcj
      exact absurd (hctx.count_pos hw hne hg (hi0 ▸ hc0)) (by rw [hcj]; decide)
    | succ j =>
      have e : findTail t none m idx = (t.setCur m j, false) := by
        have h2 : ((j : Int) ≥ 0 ∧ (j : Int) < ((j + 1 : Nat) : Int)) :=
          ⟨Int.natCast_nonneg j, Int.ofNat_lt.mpr (Nat.lt_succ_self j)⟩
        unfold findTail
        simp only [hm0, if_false, hcnt, h1, hcj, if_true, cast_succ_sub_one, h2, and_self]
      rw [e]
      have hpre' : Pre t₀ f m (j + 1) L R := hcj ▸ h1 ▸ hgap.toPre hg hc0
      obtain ⟨L', x, hLx, hat⟩ := hpre'.toAt_pred hw
      exact ⟨he.setCur _ _, hp, rfl, Or.inr ⟨L', x, hLx, f, m, j, rfl, hat⟩⟩

/-- the invariant of the descent about the remembered hit, with the contents split as `pre ++ mid ++ post` where `mid` is
    the subtree being entered: nothing remembered and no `k` in `post`, or the remembered slot is the head of `post` -/
def FoundInv (t₀ : BTree) (k : Int) (pre mid post : List Item) : Option (NodeId × Nat) → Prop
  | none => ∀ x ∈ post, x.key ≠ k
  | some (fn, fi) => ∃ ff y Q, post = y :: Q ∧ y.key = k ∧ At t₀ ff fn fi (pre ++ mid) post

theorem FoundInv.descend {t₀ : BTree} {k : Int} {pre post P M Q : List Item} {found : Option (NodeId × Nat)}
    (hs : Sorted (pre ++ P ++ M ++ (Q ++ post))) (hQ : ∀ x ∈ Q, k < x.key)
    (h : FoundInv t₀ k pre (P ++ M ++ Q) post found) : FoundInv t₀ k (pre ++ P) M (Q ++ post) found := by
  cases found with
  | none =>
    intro x hx
    rcases List.mem_append.mp hx with hx | hx
    · exact Int.ne_of_gt (hQ x hx)
    · exact h x hx
  | some fp =>
    obtain ⟨fn, fi⟩ := fp
    obtain ⟨ff, y, R, hR, hy, hat⟩ := h
    -- the remembered hit is the head of `post`, so nothing `> k` can stand before it
    cases Q with
    | nil =>
      refine ⟨ff, y, R, hR, hy, ?_⟩
      rw [List.append_nil, ← List.append_assoc] at hat
      exact hat
    | cons z zs =>
      exfalso
      have hz := hQ z List.mem_cons_self
      have := (sorted_mid (a := pre ++ P ++ M) (x := z) (b := zs ++ post) hs).2 y
        (by rw [hR]; exact List.mem_append_right _ List.mem_cons_self)
      exact absurd (hy ▸ this) (Int.not_le.mpr hz)

theorem hit_test_iff (c idx : Nat) (a k : Int) :
    (decide (c > 0) && decide (idx < c) && (a == k)) = true ↔ (idx < c ∧ a = k) := by
  simp only [Bool.and_eq_true, decide_eq_true_eq, beq_iff_eq]
  exact ⟨fun h => ⟨h.1.2, h.2⟩, fun h => ⟨⟨Nat.lt_of_le_of_lt (Nat.zero_le _) h.1, h.1⟩, h.2⟩⟩

theorem findAux_spec {t₀ : BTree} (hw : WFR t₀) (hsorted : Sorted t₀.abs) (hne : t₀.abs ≠ []) (k : Int) (first : Bool)
    (fuel : Nat) : ∀ (t : BTree) (f : Nat) (m p : NodeId) (pre post : List Item) (found : Option (NodeId × Nat)),
    HeapEq t₀ t → t.panicked = false → Ctx t₀ f m p pre post → f ≤ fuel →
    (∀ x ∈ pre, x.key < k) → (∀ x ∈ post, k ≤ x.key) → FoundInv t₀ k pre (A t₀ m) post found →
    FindResult t₀ k first (findAux k first fuel t m found) := by
  induction fuel with
  | zero =>
    intro t f m p pre post found he hp hctx hfuel
    exact absurd (hctx.fuel_pos hw) (Nat.not_lt.mpr hfuel)
  | succ fuel ih =>
    intro t f m p pre post found he hp hctx hfuel hpre hpost hfound
    obtain ⟨nd, hg⟩ := hctx.node hw
    obtain ⟨hsh, hpar, hnonempty, hm0, f', hf'⟩ := hctx.shape hw hg
    subst hf'
    obtain ⟨hf, lo, hi, hwf⟩ := hctx.wf hw
    obtain ⟨hcore, _⟩ := he.node hg
    obtain ⟨hidx, hA, hB, hC⟩ := find_step hw hsorted hctx hg k hpre hpost
    have hgap : Gap t₀ (f' + 1) m (searchIdx nd k) (pre ++ nd.pre (A t₀) (searchIdx nd k) ++ A t₀ (nd.child (searchIdx nd k)))
        (nd.post (A t₀) (searchIdx nd k) ++ post) := ⟨p, pre, post, nd, hctx, hg, hidx, rfl, rfl⟩
    have hsplit := A_split t₀ hwf hf hg hidx
    have habs := hgap.abs hw
    rw [findAux]
    have hidx_eq : (if nd.count > 0 then sortSearch nd.count (fun i => decide ((nd.slot i).key ≥ k)) else 0)
        = searchIdx nd k := rfl
    simp only [hm0, if_false, core_eq_count hcore, core_eq_slot hcore, core_eq_hasChildren hcore,
      core_eq_child hcore, hidx_eq]
    generalize searchIdx nd k = idx at *
    have hdown : ∀ found', nd.child idx ≠ 0 →
        FoundInv t₀ k (pre ++ nd.pre (A t₀) idx) (A t₀ (nd.child idx)) (nd.post (A t₀) idx ++ post) found' →
        FindResult t₀ k first (findAux k first fuel t (t.childOf m idx) found') := by
      intro found' hc hfi
      obtain ⟨cn, hgc⟩ := hctx.kid_some hw hg hidx hc
      rw [childOf_eq he hg hc hgc]
      exact ih t f' (nd.child idx) m _ _ found' he hp (Ctx.child hctx hg hidx rfl hc) (Nat.le_of_succ_le_succ hfuel) hA hB hfi
    by_cases hhit : idx < nd.count ∧ (nd.slot idx).key = k
    · obtain ⟨hlt, hkey⟩ := hhit
      simp only [(hit_test_iff _ _ _ _).mpr ⟨hlt, hkey⟩, if_true, Bool.true_and]
      have hpost_eq : nd.post (A t₀) idx ++ post = nd.slot idx ::
          (weave (A t₀) (nd.kids.drop (idx + 1)) (nd.items.drop (idx + 1)) ++ post) := by
        rw [Node.post_of_lt hsh _ hlt]; rfl
      have hat : At t₀ (f' + 1) m idx (pre ++ nd.pre (A t₀) idx ++ A t₀ (nd.child idx)) (nd.slot idx ::
          (weave (A t₀) (nd.kids.drop (idx + 1)) (nd.items.drop (idx + 1)) ++ post)) := hpost_eq ▸ ⟨hgap, nd, hg, hlt⟩
      -- stopping here: allowed with `first` only when nothing lies between `pre` and the slot
      have hstop : (first = true → nd.child idx = 0) → FindResult t₀ k first (findTail t (some (m, idx)) m idx) := by
        intro hc0
        refine ⟨he.setCur _ _, hp, Or.inl ⟨rfl, _, _, _, ⟨f' + 1, m, idx, rfl, hat⟩, hkey, fun hf x hx => ?_, trivial⟩⟩
        rw [hc0 hf, A_zero, List.append_nil] at hx
        exact hA x hx
      cases first with
      | false => exact hstop (fun h => absurd h (by decide))
      | true =>
        simp only [Bool.not_true, Bool.false_eq_true, if_false]
        cases hch : nd.hasChildren with
        | false => exact hstop (fun _ => leaf_child_zero hch _)
        | true =>
          simp only [if_true]
          by_cases hc : nd.child idx = 0
          · simp only [hc, beq_self_eq_true, if_true]
            exact hstop (fun _ => hc)
          · simp only [beq_eq_false_iff_ne.mpr hc, Bool.false_eq_true, if_false]
            exact hdown _ hc ⟨f' + 1, nd.slot idx, _, hpost_eq, hkey, hpost_eq ▸ hat⟩
    · have hhitb : (decide (nd.count > 0) && decide (idx < nd.count) && ((nd.slot idx).key == k)) = false :=
        Bool.eq_false_iff.mpr (fun h => hhit ((hit_test_iff _ _ _ _).mp h))
      simp only [hhitb, Bool.false_eq_true, if_false, Bool.false_and]
      have hfound' : FoundInv t₀ k (pre ++ nd.pre (A t₀) idx) (A t₀ (nd.child idx)) (nd.post (A t₀) idx ++ post) found :=
        FoundInv.descend (habs ▸ hsorted) (hC hhit) (hsplit ▸ hfound)
      have hstop : nd.child idx = 0 → FindResult t₀ k first (findTail t found m idx) := by
        intro hc0
        rw [hc0, A_zero] at hgap hfound'
        rw [List.append_nil] at hgap
        cases found with
        | some fp =>
          obtain ⟨fn, fi⟩ := fp
          obtain ⟨ff, y, Q, hQ, hy, hat⟩ := hfound'
          rw [List.append_nil, hQ] at hat
          exact ⟨he.setCur _ _, hp, Or.inl ⟨rfl, _, y, Q, ⟨ff, fn, fi, rfl, hat⟩, hy, fun _ => hA, trivial⟩⟩
        | none =>
          obtain ⟨h1, h2, h3, hcur⟩ := findTail_none hw he hp hne hgap hg hc0
          refine ⟨h1, h2, Or.inr ⟨h3, _, _, hA, fun x hx => ?_, hcur⟩⟩
          exact Int.lt_iff_le_and_ne.mpr ⟨hB x hx, Ne.symm (hfound' x hx)⟩
      cases hch : nd.hasChildren with
      | false => exact hstop (leaf_child_zero hch _)
      | true =>
        simp only [if_true]
        by_cases hc : nd.child idx = 0
        · simp only [hc, beq_self_eq_true, if_true]
          exact hstop hc
        · simp only [beq_eq_false_iff_ne.mpr hc, Bool.false_eq_true, if_false]
          exact hdown found hc hfound'

end Sop.BTree
