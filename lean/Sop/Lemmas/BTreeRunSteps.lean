import Sop.Lemmas.BTreeRun
import Sop.Lemmas.BTreeInsertCases
/-! `Inv` along `Add`/`AddIfNotExist`/`Upsert` (every path of `node.add`, leaf load balancing off) and
`RemoveCurrentItem`/`Remove` (every branch), and the run theorem `run_inv`. -/
namespace Sop.BTree
open Sop.BTree.Rem Sop.BTree.Ins

theorem Inv.of_addOk {t : BTree} (h : Inv t) {key : Int} {val : Nat} {r : BTree × Bool} (ha : AddOk t key val r) :
    Inv r.1 := by
  refine h.carry ha.cfg ha.wf ha.ok (h.cur.keep h.wf ha.wf ha.cfg.1 ha.cur ha.keep) ha.idle ha.fresh ?_
  obtain ⟨L, R, hb, ha', _⟩ := ha.abs
  intro x hx
  rw [ha'] at hx
  have hn := ha.next
  rcases List.mem_append.mp hx with hx | hx
  · exact Nat.lt_trans (h.items x (by rw [hb]; exact List.mem_append_left _ hx)) hn
  · rcases List.mem_cons.mp hx with rfl | hx
    · exact hn
    · exact Nat.lt_trans (h.items x (by rw [hb]; exact List.mem_append_right _ hx)) hn

theorem Inv.of_rejected {t : BTree} (h : Inv t) {r : BTree × Bool} (ha : AddRejected t r) (hcur : CursorOK r.1) :
    Inv r.1 := by
  refine h.carry ha.cfg ha.wf ha.ok hcur ha.idle ha.fresh ?_
  intro x hx
  rw [ha.abs] at hx
  exact Nat.lt_trans (h.items x hx) ha.next

theorem get?_of_nodes_eq {t t' : BTree} (h : t'.nodes = t.nodes) (n : NodeId) : t'.get? n = t.get? n := by
  unfold BTree.get?; rw [h]

theorem inv_addU {t : BTree} (h : Inv t) (uniq : Bool) (key : Int) (val : Nat) :
    Inv (t.addU uniq key val).1 ∧
    (((uniq && hasKey t.abs key) = true ∧ (t.addU uniq key val).2 = false ∧ (t.addU uniq key val).1.abs = t.abs) ∨
     ((uniq && hasKey t.abs key) = false ∧ AddOk t key val (t.addU uniq key val))) := by
  have hk := addTargetOf_key t uniq key h.wf
  have so := addStart_ok t uniq h.wf
  cases htg : addTargetOf t uniq key with
  | dup n i =>
    rw [htg] at hk
    obtain ⟨hu, hhas, nd, hg, hi⟩ := hk
    have hrej := addU_dup t uniq key val n i h.wf h.ok h.idle h.fresh htg
    obtain ⟨hc1, hc2⟩ := addU_dup_cur t uniq key val n i htg
    have hne : t.abs ≠ [] := by intro e; rw [e] at hhas; simp [hasKey] at hhas
    have hr := (h.wf.count_ne hne).2
    have hg' : (t.addU uniq key val).1.get? n = some nd := by
      rw [get?_of_nodes_eq (hrej.nodes hr).1, ← get?_of_nodes_eq (so.same hr).1]; exact hg
    have hsh := so.wf.stored_shape hg
    have hcur : CursorOK (t.addU uniq key val).1 := by
      refine ⟨Or.inr (Or.inr ⟨nd, by rw [hc1]; exact hg', hc2, ?_⟩), Or.inr hc2⟩
      rw [hc1, hsh.slots_size]; exact Int.ofNat_lt.mpr (Nat.lt_of_lt_of_le hi hsh.count_le)
    exact ⟨h.of_rejected hrej hcur, Or.inl ⟨by simp [hu, hhas], hrej.ret, hrej.abs⟩⟩
  | nilc n i =>
    rw [htg] at hk
    have hok := addU_nilc t uniq key val n i h.wf h.ok h.idle h.fresh htg
    refine ⟨h.of_addOk hok, Or.inr ⟨?_, hok⟩⟩
    cases uniq with
    | false => rfl
    | true => simp [hk rfl]
  | leaf n i =>
    rw [htg] at hk
    have hok : AddOk t key val (t.addU uniq key val) := by
      by_cases hroom : ((addStart t uniq).1.get n).count < t.sl
      · exact addU_leaf_room t uniq key val n i h.wf h.ok h.idle h.fresh htg hroom
      · by_cases hroot : ((addStart t uniq).1.get n).isRoot = true
        · exact addU_root_split t uniq key val n i h.wf h.ok h.idle h.fresh htg hroom hroot
        · have hnotroot : ((addStart t uniq).1.get n).isRoot = false := by simpa using hroot
          have htg' := htg
          unfold addTargetOf at htg'
          rw [so.rootEq] at htg'
          have hroom' : ¬ ((addStart t uniq).1.get n).count < (addStart t uniq).1.sl := by rw [so.sl]; exact hroom
          rcases path_cases key _ _ _ htg' hroom' with ⟨q, hq1, hq2, hq3, hq4⟩ | hfp
          · exact addU_leaf_split_cascade t uniq key val n i q h.wf h.ok h.idle h.fresh h.lb htg hroom hnotroot hq1
              (by rw [← so.sl]; exact hq2) hq3 hq4
          · exact addU_leaf_split_cascade_root t uniq key val n i h.wf h.ok h.idle h.fresh h.lb htg hroom hnotroot hfp
    refine ⟨h.of_addOk hok, Or.inr ⟨?_, hok⟩⟩
    cases uniq with
    | false => rfl
    | true => simp [hk rfl]
  | stuck => rw [htg] at hk; exact hk.elim
  | fuel => rw [htg] at hk; exact hk.elim

theorem inserted_ok {before L R : List Item} {item : Item} {k : Int} {v : Nat} (hb : before = L ++ R)
    (hk : item.key = k) (hv : item.val = v) (hid : ∀ x ∈ before, x.id ≠ item.id) :
    removedOne (fun x => x.key == k && x.val == v && !(before.any (·.id == x.id))) (L ++ item :: R) before = true := by
  subst hb
  apply removedOne_mid
  simp only [hk, hv, beq_self_eq_true, Bool.true_and, Bool.not_eq_true', List.any_eq_false, beq_iff_eq]
  intro x hx; exact hid x hx

theorem accepts_add_core {t : BTree} (h : Inv t) (uniq : Bool) (key : Int) (val : Nat) :
    keysSorted (t.addU uniq key val).1.abs = true ∧
    (if (uniq && hasKey t.abs key) = true then
        (!(t.addU uniq key val).2 && t.abs.isPerm (t.addU uniq key val).1.abs) = true
     else ((t.addU uniq key val).2 &&
        removedOne (fun x => x.key == key && x.val == val && !(t.abs.any (·.id == x.id)))
          (t.addU uniq key val).1.abs t.abs) = true) := by
  obtain ⟨hinv, hres⟩ := inv_addU h uniq key val
  refine ⟨keysSorted_of_WF hinv.wf, ?_⟩
  rcases hres with ⟨hc, hr, ha⟩ | ⟨hc, hok⟩
  · rw [if_pos hc, hr, ha]; simp [isPerm_refl]
  · have hc' : ¬ ((uniq && hasKey t.abs key) = true) := by rw [hc]; simp
    rw [if_neg hc', hok.ret]
    obtain ⟨L, R, hb, ha, _⟩ := hok.abs
    rw [ha]
    simp only [Bool.true_and]
    exact inserted_ok hb rfl rfl (fun x hx => Nat.ne_of_lt (h.items x hx))

theorem inv_add {t : BTree} (h : Inv t) (k : Int) (v : Nat) :
    InvStepOk t (.add k v) := by
  obtain ⟨h1, h2⟩ := accepts_add_core h t.unique k v
  refine ⟨(inv_addU h t.unique k v).1, ?_⟩
  simp only [BTree.step, okb, BTree.add, Spec.accepts, h1, Bool.true_and]
  by_cases hc : (t.unique && hasKey t.abs k) = true
  · rw [if_pos hc] at h2; rw [if_pos hc]; exact h2
  · rw [if_neg hc] at h2; rw [if_neg hc]; exact h2

theorem inv_addIfNotExist {t : BTree} (h : Inv t) (k : Int) (v : Nat) :
    InvStepOk t (.addIfNotExist k v) := by
  obtain ⟨h1, h2⟩ := accepts_add_core h true k v
  refine ⟨(inv_addU h true k v).1, ?_⟩
  simp only [BTree.step, okb, BTree.addIfNotExist, Spec.accepts, h1, Bool.true_and] at h2 ⊢
  by_cases hc : hasKey t.abs k = true
  · rw [if_pos hc] at h2; rw [if_pos hc]; exact h2
  · rw [if_neg hc] at h2; rw [if_neg hc]; exact h2

theorem inv_upsert {t : BTree} (h : Inv t) (k : Int) (v : Nat) :
    InvStepOk t (.upsert k v) := by
  obtain ⟨hinv, hres⟩ := inv_addU h true k v
  have hstep : t.step (.upsert k v) =
      (if (!(t.addU true k v).2) = true then (t.addU true k v).1.update k v else ((t.addU true k v).1, .ok true)) := rfl
  unfold InvStepOk
  rw [hstep]
  rcases hres with ⟨hc, hr, ha⟩ | ⟨hc, hok⟩
  · -- the key exists: `Update`
    rw [hr]
    simp only [Bool.not_false, if_true]
    have hhas : hasKey t.abs k = true := by simpa using hc
    obtain ⟨g1, g2⟩ := inv_update hinv k v
    simp only [BTree.step] at g1 g2
    refine ⟨g1, ?_⟩
    rw [ha] at g2
    cases hu : ((t.addU true k v).1.update k v).2 with
    | ok r =>
      rw [hu] at g2
      simp only [Spec.accepts, hhas, if_true, Bool.and_eq_true] at g2 ⊢
      exact ⟨g2.1, g2.2.1, g2.2.2⟩
    | err => rw [hu] at g2; simp [Spec.accepts] at g2
    | items l => rw [hu] at g2; simp [Spec.accepts] at g2
  · rw [hok.ret]
    simp only [Bool.not_true, Bool.false_eq_true, if_false]
    refine ⟨hinv, ?_⟩
    have hno : hasKey t.abs k = false := by simpa using hc
    obtain ⟨L, R, hb, ha, _⟩ := hok.abs
    rw [ha]
    have hks : keysSorted (L ++ (⟨t.nextId, k, v⟩ : Item) :: R) = true := by
      have := keysSorted_of_WF hinv.wf; rw [ha] at this; exact this
    simp only [Spec.accepts, hks, hno, Bool.true_and, Bool.false_eq_true, if_false]
    exact inserted_ok hb rfl rfl (fun x hx => Nat.ne_of_lt (h.items x hx))

theorem inv_removeCurrent' {t : BTree} (h : Inv t) :
    Inv t.removeCurrent.1 ∧
    ((t.removeCurrent.2 = .ok false ∧ t.removeCurrent.1 = t) ∨
     (t.removeCurrent.2 = .ok true ∧ t.removeCurrent.1.count = t.count - 1 ∧
        ∃ L R, t.abs = L ++ t.curItem :: R ∧ (L ++ R).Perm t.removeCurrent.1.abs)) := by
  cases hcn : t.curNode? with
  | none =>
    have : t.removeCurrent = (t, .ok false) := removeCurrent_none t hcn
    rw [this]; exact ⟨h, Or.inl ⟨rfl, rfl⟩⟩
  | some nd =>
    have hc := h.wf.cursorOn_of_curNode hcn (h.cur.idx hcn)
    obtain ⟨h1, h2, h3, h4, h5, L, R, h6, h7⟩ := removeCurrent_ok t h.wf h.ok hc
    refine ⟨h.transfer (removeCurrent_frame t) h1 h2 ⟨Or.inl (by rw [h4]), Or.inl (by rw [h4])⟩ ?_,
      Or.inr ⟨h3, h5, L, R, h6, h7⟩⟩
    intro x hx
    have hx' : x ∈ L ++ R := h7.symm.subset hx
    refine ⟨x, ?_, rfl⟩
    rw [h6]
    rcases List.mem_append.mp hx' with hx' | hx'
    · exact List.mem_append_left _ hx'
    · exact List.mem_append_right _ (List.mem_cons_of_mem _ hx')

theorem inv_removeCurrent {t : BTree} (h : Inv t) :
    InvStepOk t .removeCurrent := by
  refine ⟨(inv_removeCurrent' h).1, ?_⟩
  cases hcn : t.curNode? with
  | none =>
    simp only [BTree.step, removeCurrent_none t hcn]
    simp [Spec.accepts, keysSorted_of_WF h.wf, isPerm_refl]
  | some nd => exact (step_removeCurrent h.wf h.ok (h.cur.idx hcn)).2.2

theorem inv_remove {t : BTree} (h : Inv t) (k : Int) : InvStepOk t (.remove k) :=
  ⟨inv_byKey h k (fun _ h1 => (inv_removeCurrent' h1).1), (step_remove h.wf h.ok h.cur.1 h.ff k).2.2⟩

theorem step_inv {t : BTree} (h : Inv t) (op : Op) :
    InvStepOk t op := by
  cases op with
  | add k v => exact inv_add h k v
  | addIfNotExist k v => exact inv_addIfNotExist h k v
  | upsert k v => exact inv_upsert h k v
  | update k v => exact inv_update h k v
  | updateKey k => exact inv_updateKey h k
  | remove k => exact inv_remove h k
  | find k f => exact inv_read h _ rfl
  | findDesc k => exact inv_read h _ rfl
  | findWithID k id => exact inv_read h _ rfl
  | first => exact inv_read h _ rfl
  | last => exact inv_read h _ rfl
  | next => exact inv_read h _ rfl
  | prev => exact inv_read h _ rfl
  | removeCurrent => exact inv_removeCurrent h
  | updateCurrentKey k => exact inv_updateCurrentKey h k
  | updateCurrentItem k v => exact inv_updateCurrentItem h k v
  | updateCurrentValue v => exact inv_updateCurrentValue h v
  | range a b => exact inv_read h _ rfl
  | rangeDesc a b => exact inv_read h _ rfl

theorem run_inv : ∀ (ops : List Op) (t : BTree), Inv t →
    ∀ k, k ≤ ops.length → Inv (t.run (ops.take k)) ∧
      (∀ (hk : k < ops.length), Spec.accepts (t.run (ops.take k)).unique (t.run (ops.take k)).abs ops[k]
        ((t.run (ops.take k)).step ops[k]).2 ((t.run (ops.take k)).step ops[k]).1.abs = true)
  | [], t, h, k, hk => by
    have : k = 0 := by simpa using hk
    subst this
    exact ⟨h, fun hk' => absurd hk' (by simp)⟩
  | op :: ops, t, h, k, hk => by
    cases k with
    | zero =>
      refine ⟨h, fun _ => ?_⟩
      exact (step_inv h op).2
    | succ k =>
      have ih := run_inv ops (t.step op).1 (step_inv h op).1 k (by simpa using hk)
      simp only [List.take_succ_cons, BTree.run]
      refine ⟨ih.1, fun hk' => ?_⟩
      have := ih.2 (by simpa using hk')
      simpa using this

end Sop.BTree
