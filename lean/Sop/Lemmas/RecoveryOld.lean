import Sop.Lemmas.RecoveryPre
/-! Crash before the phase-2 registry write, or right after it with the priority log still there: recovery leaves every
node loadable at the start as it was. -/
namespace Sop.Recovery
open Sop.Commit

section
variable {s0 : State} {w : WS} {fresh : List (UUID × UUID)}

theorem cnt_of_noCnt (p : List DOp) (h : hasCnt p = false) (d : DState) : (run d p).s.cnt = d.s.cnt := by
  apply run_cnt
  intro o ho
  unfold hasCnt at h
  rw [List.any_eq_false] at h
  simpa using h o ho

/-- what the flip write leaves at the logical ids of the two lists; a removed id may be listed twice, with the same handle (`remSame`) -/
theorem reg_after_flip_write {resv remv : List Handle} (L : Lists s0 fresh resv remv)
    (remSame : ∀ g ∈ remv, ∀ g' ∈ remv, g.lid = g'.lid → g = g') (s : State) :
    (∀ h ∈ resv, (s.setRegs (finalImgs resv remv)).reg h.lid = some (activate h)) ∧
    (∀ g ∈ remv, (s.setRegs (finalImgs resv remv)).reg g.lid = some (touch g)) := by
  refine ⟨fun _ hx => setRegs_final_resv L.resNodup L.disj s hx, fun x hx => ?_⟩
  obtain ⟨g, hg, e, h⟩ := setRegs_final_remv (resv := resv) L.disj s hx
  rw [h, remSame g hg x hx e]

theorem rolledBack_of_none (wf : WF s0 w fresh) (d : DState) (c : CInv s0 w fresh d) (hc : d.s.cnt = s0.cnt)
    (hp : d.plg = none) : RolledBack s0 w fresh (recover d).1 := by
  have e : (priorityRollback (d, [])).1 = d := congrArg (·.1) (priorityRollback_none (d, []) hp)
  exact recover_old wf.pre d (e.symm ▸ c) (e.symm ▸ hp) (e.symm ▸ hc)

/-- The priority rollback writes the logged images (the two lists) back over a registry write `X` at their logical
ids: the state invariant holds again, because `X` wrote only at logical ids of the two lists (`hX`) and is overwritten.
`X = []`: crash before the flip; `X` = the flipped images: crash right after it. -/
theorem rolledBack_of_plog (wf : WF s0 w fresh) (d0 : DState) (c : CInv s0 w fresh d0) (hc : d0.s.cnt = s0.cnt)
    (hp : d0.plg = some (reservedOf s0 fresh w ++ markedOf s0 w)) (X : List Handle)
    (hX : ∀ x ∈ X, ∃ y ∈ reservedOf s0 fresh w ++ markedOf s0 w, y.lid = x.lid)
    (hfit : ∀ g ∈ reservedOf s0 fresh w ++ markedOf s0 w, ∃ c, (d0.s.setRegs X).reg g.lid = some c
      ∧ (g.version = c.version ∨ g.version + 1 = c.version)) :
    RolledBack s0 w fresh (recover { d0 with s := d0.s.setRegs X }).1 := by
  have e := priorityRollback_fits ({ d0 with s := d0.s.setRegs X }, []) _ hp hfit
  refine recover_old wf.pre _ ?_ (e ▸ rfl) ?_
  · rw [e]
    exact ⟨(c.sinv.setRegs_restore wf.twoLists.known hX).of_same (setPlog_reg ..) (setPlog_blob ..), c.logok⟩
  · rw [e]
    exact (setPlog_cnt ..).trans (by rw [State.setRegs_cnt, State.setRegs_cnt, hc])

/-- **Crash before the phase-2 registry write, before any count update** -/
theorem old_before_flip (wf : WF s0 w fresh) (tid : Tid) (m : Nat)
    (hc : hasCnt ((segPre s0 fresh w).take m) = false) :
    RolledBack s0 w fresh (recover (run (start s0 tid w) ((segPre s0 fresh w).take m))).1 := by
  have c := cinv_pre wf tid m
  have hcnt := (cnt_of_noCnt _ hc (start s0 tid w)).trans (congrArg (·.s.cnt) (start_eq wf tid))
  generalize run (start s0 tid w) ((segPre s0 fresh w).take m) = d at c hcnt
  rcases c.plg with hp | ⟨_, hp⟩
  · exact rolledBack_of_none wf d c.toCInv hcnt hp
  · exact rolledBack_of_plog wf d c.toCInv hcnt hp [] (fun _ h => nomatch h)
      fun g hg => (c.vers g hg).imp fun _ h => ⟨h.1, .inl h.2⟩

/-! `ResOK` … `before_flip_lists`: of what they establish the later proofs read one half, that the staged blobs are stored (`before_flip`);
that both lists are in the registry as written has no reader. -/

def ResOK (s0 : State) (fresh : List (UUID × UUID)) (w : WS) (d : DState) : Prop :=
  ∀ h ∈ reservedOf s0 fresh w, d.s.reg h.lid = some h ∧ d.s.blob h.inactive = true

def RemOK (s0 : State) (w : WS) (d : DState) : Prop := ∀ g ∈ markedOf s0 w, d.s.reg g.lid = some g

theorem resOK_run (l : List DOp) (hl : ∀ o ∈ l, (∀ h ∈ reservedOf s0 fresh w, h.lid ∉ o.lids) ∧ o.dels = [])
    (d : DState) (h : ResOK s0 fresh w d) : ResOK s0 fresh w (run d l) := fun x hx =>
  run_keeps l (fun o ho => ⟨(hl o ho).1 x hx, (hl o ho).2 ▸ List.not_mem_nil⟩) (h x hx).1 (h x hx).2

theorem remOK_run (l : List DOp) (hl : ∀ o ∈ l, ∀ g ∈ markedOf s0 w, g.lid ∉ o.lids)
    (d : DState) (h : RemOK s0 w d) : RemOK s0 w (run d l) := fun x hx =>
  (run_reg l _ (fun o ho => hl o ho x hx) d).trans (h x hx)

/-- at the end of phase 1's node work both lists are in the registry as written and the staged blobs exist: each is
written once, and no later call of phase 1 writes at a logical id of either list -/
theorem atEnd_P1 (wf : WF s0 w fresh) (tid : Tid) :
    ResOK s0 fresh w (run (start s0 tid w) (segPhase1 s0 fresh w)) ∧ RemOK s0 w (run (start s0 tid w) (segPhase1 s0 fresh w)) := by
  have rl := wf.twoLists
  have hnew : ∀ k ∈ w.addedIds, k ∈ w.newIds := fun k hk => List.mem_append_right _ hk
  unfold segPhase1
  rw [run_append, run_append, run_append, run_append]
  generalize run (run (run (start s0 tid w) (segValues w)) (segRoot w)) segIntactLog = dX
  have hU : ResOK s0 fresh w (run dX (segUpdated s0 fresh w)) := by
    intro h hh
    obtain ⟨x, hx, _⟩ := List.mem_map.mp (rl.resUpd h hh)
    rw [segUpdated, when_of_nonempty hx]
    refine ⟨?_, ?_⟩
    · show ((dX.s.setRegs _).addBlobs _).reg h.lid = some h
      rw [State.addBlobs_reg]
      exact State.setRegs_reg_nodup _ _ rl.lists.resNodup hh
    · show ((dX.s.setRegs _).addBlobs _).blob h.inactive = true
      rw [State.addBlobs_blob]
      simp only [Bool.or_eq_true, decide_eq_true_eq]
      exact .inr (List.mem_map_of_mem (f := (·.inactive)) hh)
  generalize run dX (segUpdated s0 fresh w) = dU at hU
  rw [run_append, run_append]
  have hC : ResOK s0 fresh w (run dU (segUpdRemLogs s0 fresh w)) :=
    resOK_run _ (fun o ho => ⟨fun _ _ => (segUpdRemLogs_frame o ho).1 ▸ List.not_mem_nil, (segUpdRemLogs_frame o ho).2⟩) _ hU
  generalize run dU (segUpdRemLogs s0 fresh w) = dC at hC
  have hR : ResOK s0 fresh w (run dC (segRemoved s0 w)) ∧ RemOK s0 w (run dC (segRemoved s0 w)) := by
    refine ⟨resOK_run _ (fun o ho => ⟨fun h hh hm => ?_, (segRemoved_frame o ho).2⟩) _ hC, fun g hg => ?_⟩
    · obtain ⟨g, hg, e⟩ := List.mem_map.mp ((segRemoved_frame o ho).1 _ hm)
      exact rl.lists.disj h hh g hg e.symm
    · obtain ⟨x, hx, _⟩ := List.mem_map.mp (rl.remRem g hg)
      rw [segRemoved, when_of_nonempty hx]
      obtain ⟨y, hy, e1, e2⟩ := State.setRegs_reg_mem dC.s (markedOf s0 w) g.lid ⟨g, hg, rfl⟩
      show (dC.s.setRegs _).reg g.lid = some g
      rw [e2, rl.remSame y hy g hg e1]
  generalize run dC (segRemoved s0 w) = dR at hR
  refine ⟨resOK_run _ (fun o ho => ⟨fun h hh hm => ?_, (segAdded_frame o ho).2⟩) _ hR.1,
    remOK_run _ (fun o ho g hg hm => ?_) _ hR.2⟩
  · exact wf.pre2.updOld _ (rl.resUpd h hh) (hnew _ ((segAdded_frame o ho).1 _ hm))
  · exact wf.pre2.remOld _ (rl.remRem g hg) (hnew _ ((segAdded_frame o ho).1 _ hm))

/-- … and still right before the phase-2 registry write: the calls in between make no registry or blob call -/
theorem before_flip_lists (wf : WF s0 w fresh) (tid : Tid) :
    ResOK s0 fresh w (run (start s0 tid w) (segPre s0 fresh w)) ∧ RemOK s0 w (run (start s0 tid w) (segPre s0 fresh w)) := by
  obtain ⟨a1, a2⟩ := atEnd_P1 wf tid
  have tail : ∀ o ∈ segTail s0 fresh w, ∀ k : UUID, k ∉ o.lids := fun o ho k =>
    (safe_segTail (s0 := s0) o ho).noReg ▸ List.not_mem_nil
  rw [segPre, run_append]
  exact ⟨resOK_run _ (fun o ho => ⟨fun h _ => tail o ho _, (safe_segTail (s0 := s0) o ho).op.safe.dels⟩) _ a1,
    remOK_run _ (fun o ho g _ => tail o ho _) _ a2⟩

theorem before_flip (wf : WF s0 w fresh) (tid : Tid) :
    PreFlipInv s0 w fresh (run (start s0 tid w) (segPre s0 fresh w))
    ∧ ∀ h ∈ reservedOf s0 fresh w, (run (start s0 tid w) (segPre s0 fresh w)).s.blob h.inactive = true := by
  have c := cinv_pre wf tid (segPre s0 fresh w).length
  rw [List.take_length] at c
  exact ⟨c, fun h hh => ((before_flip_lists wf tid).1 h hh).2⟩

theorem plg_before_flip (tid : Tid) (h : finalOf s0 fresh w ≠ []) :
    (run (start s0 tid w) (segPre s0 fresh w)).plg = some (reservedOf s0 fresh w ++ markedOf s0 w) := by
  rw [segPre, run_append]
  unfold segTail
  rw [run_append, run_append]
  simp only [segPlogAdd, when, finalImgs_ne_nil.mp h, ↓reduceIte, segFinalizeLog, List.cons_append, List.nil_append, run_cons, run_nil, DOp.apply]

/-- **Crash right after the phase-2 registry write, the priority log still there** (no count update in this
commit): the priority rollback writes the logged pre-flip images back, the expired-log rollback then undoes the rest. -/
theorem old_at_flip (wf : WF s0 w fresh) (tid : Tid) (hne : finalOf s0 fresh w ≠ [])
    (hc : hasCnt (segPre s0 fresh w) = false) :
    RolledBack s0 w fresh (recover (run (start s0 tid w) (segPre s0 fresh w ++ [.regUpd (finalOf s0 fresh w) true]))).1 := by
  obtain ⟨c, _⟩ := before_flip wf tid
  have hp := plg_before_flip (s0 := s0) (w := w) (fresh := fresh) tid hne
  have hcnt := (cnt_of_noCnt _ hc (start s0 tid w)).trans (congrArg (·.s.cnt) (start_eq wf tid))
  rw [run_append]
  generalize run (start s0 tid w) (segPre s0 fresh w) = d0 at c hp hcnt
  obtain ⟨f1, f2⟩ := reg_after_flip_write wf.twoLists.lists wf.twoLists.remSame d0.s
  refine rolledBack_of_plog wf d0 c.toCInv hcnt hp (finalOf s0 fresh w) (fun x hx => ?_) (fun g hg => ?_)
  · rcases List.mem_append.mp hx with hx | hx
    · obtain ⟨z, hz, rfl⟩ := List.mem_map.mp hx
      exact ⟨z, List.mem_append_left _ hz, (activate_spec z).1.symm⟩
    · obtain ⟨z, hz, rfl⟩ := List.mem_map.mp hx
      exact ⟨z, List.mem_append_right _ hz, rfl⟩
  · rcases List.mem_append.mp hg with hg | hg
    · exact ⟨activate g, f1 g hg, .inr (activate_spec g).2.2.2.1.symm⟩
    · exact ⟨touch g, f2 g hg, .inr rfl⟩

end
end Sop.Recovery
