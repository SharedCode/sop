import Sop.Lemmas.CommitStaged
import Sop.Lemmas.CommitFlipState
/-!
Phase 2: the flip (`registry.UpdateNoLocks` of the activated images, all-or-nothing) makes exactly the staged
versions visible, and nothing the transaction does afterwards (lock release, cleanup of the old blobs, of the removed
nodes' handles and of obsolete value blobs — each of which may fail and is then merely logged) changes what a reader
sees: updated nodes show the new blob and version + 1, untouched nodes are as they were.
-/
namespace Sop.Commit

def touch_lid (g : Handle) : (touch g).lid = g.lid := rfl

/-- after the flip, relative to the lists the transaction reserved (`resv`) and marked removed (`remv`) -/
structure Flipped (s0 : State) (resv remv : List Handle) (r : Run) : Prop where
  eqR : r.reserved = resv
  eqM : r.removedH = remv
  new : ∀ h ∈ resv, h.inactive ≠ 0 → r.s.reg h.lid = some (activate h) ∧ r.s.blob h.inactive = true
  old : ∀ lid, (s0.view lid).isSome → (∀ h ∈ resv, h.lid ≠ lid) → (∀ g ∈ remv, g.lid ≠ lid) → r.s.view lid = s0.view lid

section
variable {s0 : State} {w : WS} {fresh0 : List (UUID × UUID)} {resv remv : List Handle}

theorem Flipped.state {r : Run} (h : Flipped s0 resv remv r) : FlippedS s0 resv remv r.s := ⟨h.new, h.old⟩

theorem Flipped.of_state {r r' : Run} (h : Flipped s0 resv remv r) (h1 : r'.reserved = r.reserved) (h2 : r'.removedH = r.removedH)
    (f : FlippedS s0 resv remv r'.s) : Flipped s0 resv remv r' :=
  ⟨h1.trans h.eqR, h2.trans h.eqM, f.new, f.old⟩

theorem Staged.lists {r : Run} (h : Staged s0 w fresh0 r) (pre2 : Pre2 s0 w fresh0) : Lists s0 fresh0 r.reserved r.removedH :=
  ⟨h.resAct, h.resFresh, h.resSub.nodup pre2.updNodup, h.remAct,
    fun x hx g hg e => pre2.updRem _ (h.resLid hx) (e ▸ h.remSub g hg)⟩

instance : Frame (Flipped s0 resv remv) where
  frame r r' h hr hb _ h1 h2 := h.of_state h1 h2 (h.state.of_same hr hb)

/-- the invariant between the end of phase 1 and the flip -/
def P2 (s0 : State) (w : WS) (fresh0 : List (UUID × UUID)) (resv remv : List Handle) (r : Run) : Prop :=
  Staged s0 w fresh0 r ∧ r.reserved = resv ∧ r.removedH = remv

theorem P2.staged {r : Run} (h : P2 s0 w fresh0 resv remv r) : Staged s0 w fresh0 r := h.1
theorem P2.eqR {r : Run} (h : P2 s0 w fresh0 resv remv r) : r.reserved = resv := h.2.1
theorem P2.eqM {r : Run} (h : P2 s0 w fresh0 resv remv r) : r.removedH = remv := h.2.2

instance : Frame (P2 s0 w fresh0 resv remv) where
  frame r r' h hr hb hf h1 h2 := ⟨Frame.frame r r' h.staged hr hb hf h1 h2, by rw [h1]; exact h.eqR, by rw [h2]; exact h.eqM⟩

theorem flip_establishes (L : Lists s0 fresh0 resv remv) {r : Run} (h : P2 s0 w fresh0 resv remv r)
    (occs : List (Cls × Nat)) (tr : List Ev) :
    Flipped s0 resv remv { r with occs := occs, trace := tr, s := r.s.setRegs (finalImgs resv remv) } :=
  have f := FlippedS.establish L h.staged.rinv.sinv.stable (fun x hx => (h.staged.res x (h.eqR ▸ hx)).2)
  ⟨h.eqR, h.eqM, f.new, f.old⟩

theorem flipped_of_empty {r : Run} (h : P2 s0 w fresh0 resv remv r) (he : finalImgs resv remv = []) :
    Flipped s0 resv remv r := by
  obtain ⟨hS, e1, e2⟩ := h
  have hnil := finalImgs_eq_nil.mp he
  refine ⟨e1, e2, ?_, ?_⟩
  · intro x hx; rw [hnil.1] at hx; cases hx
  · intro lid hl _ _; exact hS.rinv.sinv.stable lid hl

/-- `cleanup` after the flip changes no reader's view -/
theorem flipped_cleanup (pre : Pre s0 w fresh0) (pre2 : Pre2 s0 w fresh0) (L : Lists s0 fresh0 resv remv) :
    Preserves (Flipped s0 resv remv) (cleanup w) :=
  cleanup_keeps w (fun _ h => ⟨h.eqR, h.eqM⟩)
    (fun _ hr => hr.of_state rfl rfl (hr.state.delBlobs (cleanable_unused (news := []) pre pre2 L nofun)))
    (fun _ hr => hr.of_state rfl rfl (hr.state.delRegs_dead L))
    (fun _ hst _ hr => hr.of_state rfl rfl
      (hr.state.delBlobs (cleanable_obsolete (news := []) pre2 L nofun fun _ hx => obsolete_sub hst hx)))

/-- **Phase 2 is atomic for readers.** However phase 2 ends — normally, at a failing call, or stopped by an observer
right before ANY of its calls — the state is either still the staged one (every pre-existing node as before) or the
flipped one (every updated node at its new version, every other node as before): there is no exit in between. -/
theorem phase2_atomic (pre : Pre s0 w fresh0) (pre2 : Pre2 s0 w fresh0) (L : Lists s0 fresh0 resv remv) :
    Triple (P2 s0 w fresh0 resv remv) (phase2 w) (fun _ => Flipped s0 resv remv)
      (fun r' => Staged s0 w fresh0 r' ∨ Flipped s0 resv remv r') :=
  Triple.conseq (phase2_keeps (A := P2 s0 w fresh0 resv remv) (B := Flipped s0 resv remv) w (fun _ h => h.2) (fun _ o t h => flip_establishes L h o t)
      (fun he _ h => flipped_of_empty h he) (flipped_cleanup pre pre2 L))
    (fun _ h => h) (fun _ _ h => h) (fun _ h => h.imp (fun a => a.1) id)

theorem Flipped.view_new {r : Run} (h : Flipped s0 resv remv r) {x : Handle} (hx : x ∈ resv) (hz : x.inactive ≠ 0) :
    r.s.view x.lid = some (x.inactive, x.version + 1) :=
  h.state.view_new hx hz

end
end Sop.Commit
