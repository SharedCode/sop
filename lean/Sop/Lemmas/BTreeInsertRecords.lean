import Sop.Lemmas.BTreeSlices
import Sop.Lemmas.BTreeSubtree
/-! # C17 update side, `Btree.Add`: the records a step writes, at list level.
A stored record is described by what its arrays hold: a leaf by its items (`leafShape_of_toList`), an inner node by its
items `X` and kids `K` (`InnerRec`, `innerRec_of_toList`; a leaf is one over nil kids, `leafRec_of`). An insertion into a
node with a spare entry is `insert_spare`; a cut of an over-full node goes through a scratch array holding all its items
(`splitTemp` for a leaf) and copies the two halves out (`half_lower`, `half_upper`, `half_arrays`): the records of the
halves (`leftHalf`, `rightHalf` of a leaf; `half_recs` of an inner node, whatever their ids and parents) and the record a
root that is cut in place keeps (`rootRec`). -/
namespace Sop.BTree.Ins
open Sop.BTree

theorem leafShape_of_toList {t : BTree} {nd : Node} {L : List Item}
    (hs : nd.slots.toList = L ++ List.replicate (t.sl - L.length) ({} : Item)) (hle : L.length ≤ t.sl)
    (hc : nd.count = L.length)
    (hion : -1 ≤ nd.ion ∧ nd.ion ≤ (t.sl : Int)) (hch : nd.children = none) :
    NodeShape t nd ∧ nd.items = L := by
  refine ⟨⟨?_, hc ▸ hle, hion, ?_, fun cs h => by rw [hch] at h; cases h⟩, ?_⟩
  · rw [← Array.length_toList, hs, List.length_append, List.length_replicate, Nat.add_sub_cancel' hle]
  · intro x hx
    rw [hs, hc, List.drop_left] at hx
    exact List.eq_of_mem_replicate hx
  · unfold Node.items
    rw [hs, hc, List.take_left]

theorem slots_toList {t : BTree} {nd : Node} (hs : NodeShape t nd) :
    nd.slots.toList = nd.items ++ List.replicate (t.sl - nd.count) ({} : Item) := by
  have h : nd.slots.toList.drop nd.count = List.replicate (t.sl - nd.count) ({} : Item) :=
    List.eq_replicate_iff.mpr ⟨by rw [List.length_drop, Array.length_toList, hs.1], hs.2.2.2.1⟩
  rw [← h]
  exact (List.take_append_drop nd.count _).symm

/-- what the pure lemmas ask of a stored record: a non-empty node with items `X` over kids `K` (an inner node, or a leaf
    over nil kids: `leafRec_of`); `inner_snode` (BTreeInsert) makes a subtree of it -/
structure InnerRec (t : BTree) (nd : Node) (p : NodeId) (X : List Item) (K : List NodeId) : Prop where
  shape : NodeShape t nd
  parent : nd.parent = p
  count : 1 ≤ nd.count
  items : nd.items = X
  kids : nd.kids = K

theorem InnerRec.congr {t t' : BTree} (hsl : t'.sl = t.sl) {nd : Node} {p : NodeId} {X : List Item} {K : List NodeId}
    (h : InnerRec t nd p X K) : InnerRec t' nd p X K :=
  ⟨nodeShape_congr hsl h.shape, h.parent, h.count, h.items, h.kids⟩

theorem innerRec_of_toList {t : BTree} {nd : Node} {cs : Array NodeId} {X : List Item} {K : List NodeId}
    (hslots : nd.slots.toList = X ++ List.replicate (t.sl - X.length) ({} : Item))
    (hcs : nd.children = some cs) (hkids : cs.toList = K ++ List.replicate (t.sl - X.length) 0)
    (hc : nd.count = X.length) (h1 : 1 ≤ X.length) (hle : X.length ≤ t.sl) (hK : K.length = X.length + 1)
    (hion : -1 ≤ nd.ion ∧ nd.ion ≤ (t.sl : Int)) :
    InnerRec t nd nd.parent X K := by
  refine ⟨⟨?_, hc ▸ hle, hion, fun x hx => ?_, fun cs' h => ?_⟩, rfl, hc ▸ h1, ?_, ?_⟩
  · rw [← Array.length_toList, hslots, List.length_append, List.length_replicate, Nat.add_sub_cancel' hle]
  · rw [hslots, hc, List.drop_left] at hx
    exact List.eq_of_mem_replicate hx
  · cases hcs.symm.trans h
    refine ⟨by rw [← Array.length_toList, hkids, List.length_append, List.length_replicate]; omega, fun c hc' => ?_⟩
    rw [hkids, hc, ← hK, List.drop_left] at hc'
    exact List.eq_of_mem_replicate hc'
  · unfold Node.items
    rw [hslots, hc, List.take_left]
  · rw [Node.kids_some hcs, hkids, hc, ← hK, List.take_left]

/-- a leaf record is such a record over nil kids -/
theorem leafRec_of {t : BTree} {nd : Node} {p : NodeId} {X : List Item} {K : List NodeId} (hs : NodeShape t nd)
    (hch : nd.children = none) (hp : nd.parent = p) (h1 : 1 ≤ nd.count) (hX : nd.items = X) (hK : ∀ c ∈ K, c = 0)
    (hlen : K.length = nd.count + 1) : InnerRec t nd p X K :=
  ⟨hs, hp, h1, hX, (Node.kids_none hch).trans (List.eq_replicate_iff.mpr ⟨hlen, hK⟩).symm⟩

theorem children_toList {t : BTree} {nd : Node} {cs : Array NodeId} (hs : NodeShape t nd) (hcs : nd.children = some cs) :
    cs.toList = nd.kids ++ List.replicate (t.sl - nd.count) 0 := by
  obtain ⟨hsz, htail⟩ := hs.2.2.2.2 cs hcs
  have h : cs.toList.drop (nd.count + 1) = List.replicate (t.sl - nd.count) 0 :=
    List.eq_replicate_iff.mpr ⟨by rw [List.length_drop, Array.length_toList, hsz, Nat.add_sub_add_right], htail⟩
  rw [← h, Node.kids_some hcs]
  exact (List.take_append_drop _ _).symm

/-- `v` put in at `pos` among the first `n` entries of a list with spare entries behind them: one spare entry is used up -/
theorem insert_spare {α} (I Z : List α) (v : α) {pos n : Nat} (hn : I.length = n) (h : pos ≤ n) :
    (((I ++ Z).take pos ++ v :: ((I ++ Z).drop pos).take (n - pos)) ++ (I ++ Z).drop (n + 1)) =
      (I.take pos ++ v :: I.drop pos) ++ Z.drop 1 := by
  subst hn
  have e : (I.drop pos ++ Z).take (I.length - pos) = I.drop pos := by
    rw [← List.length_drop, List.take_left]
  rw [List.take_append_of_le_length h, List.drop_append_of_le_length h, e, ← List.drop_drop, List.drop_left]

/-- the `sl + 1`-slot scratch array of `addOnLeaf`'s split: the full node plus the new item in order -/
def splitTemp (slots : Array Item) (sl idx : Nat) (item : Item) : Array Item :=
  (goCopy (goCopy (zeros (sl + 1)) 0 slots 0 slots.size) (idx + 1) (goCopy (zeros (sl + 1)) 0 slots 0 slots.size) idx
    (goCopy (zeros (sl + 1)) 0 slots 0 slots.size).size).setIfInBounds idx item

/-- the two fresh leaves of the root-leaf split; ids in the order of the `newNode` calls in `addOnLeaf` (node.go): the right
    node is created first. The non-root split creates `rightHalf` only (under the leaf's parent) and keeps the lower half
    in place (`leafKeep`, BTreeInsertLeafSplit) -/
def leftHalf (t : BTree) (n : NodeId) (temp : Array Item) : Node :=
  { id := t.nextId + 1, parent := n, slots := goCopy (zeros t.sl) 0 temp 0 (t.sl / 2), count := t.sl / 2,
    children := none, ion := -1 }

def rightHalf (t : BTree) (n : NodeId) (temp : Array Item) : Node :=
  { id := t.nextId, parent := n, slots := goCopy (zeros t.sl) 0 temp (t.sl / 2 + 1) (t.sl / 2 + 1 + t.sl / 2),
    count := t.sl / 2, children := none, ion := -1 }

/-- what a root that is split in place keeps: the middle item over the two new nodes `a`, `b` -/
def rootRec (sl : Nat) (a b : NodeId) (mid : Item) (x : Node) : Node :=
  { x with slots := (zeros x.slots.size).setIfInBounds 0 mid, count := 1,
           children := some (((zeroIds (sl + 1)).setIfInBounds 0 a).setIfInBounds 1 b) }

theorem splitTemp_toList (slots : Array Item) (sl idx : Nat) (item : Item) (hs : slots.size = sl) (hi : idx ≤ sl) :
    (splitTemp slots sl idx item).toList = slots.toList.take idx ++ item :: slots.toList.drop idx := by
  subst hs
  have hlen : slots.toList.length = slots.size := Array.length_toList
  have hi' : idx ≤ slots.toList.length := hlen ▸ hi
  have h1 : (goCopy (zeros (slots.size + 1)) 0 slots 0 slots.size).toList = slots.toList ++ [({} : Item)] := by
    rw [zeros, goCopy0_toList (slots.size + 1) slots 0 slots.size (Nat.le_succ _) (Nat.le_refl _), List.drop_zero, Nat.sub_zero,
      List.take_of_length_le (Nat.le_of_eq hlen), Nat.add_sub_cancel_left]
    rfl
  unfold splitTemp
  rw [insertShift_toList _ _ _ (by rw [zeros, goCopy0_size]; exact Nat.lt_succ_of_le hi), h1, zeros, goCopy0_size,
    List.take_append_of_le_length hi', List.drop_append_of_le_length hi', ← List.cons_append, ← List.append_assoc,
    List.take_left' (by
      rw [List.length_append, List.length_cons, List.length_take_of_le hi', List.length_drop, hlen]; omega)]

theorem splitTemp_size (slots : Array Item) (sl idx : Nat) (item : Item) : (splitTemp slots sl idx item).size = sl + 1 := by
  unfold splitTemp
  rw [insertShift_size, zeros, goCopy0_size]

/-- the lower half `addOnLeaf` and `promote` copy out of the scratch array, as a list -/
theorem half_lower {sl m : Nat} (hm : m ≤ sl) {temp : Array Item} {X : List Item} (hX : temp.toList = X)
    (hXlen : X.length = sl + 1) :
    (X.take m).length = m ∧
    (goCopy (zeros sl) 0 temp 0 m).toList = X.take m ++ List.replicate (sl - m) ({} : Item) := by
  refine ⟨List.length_take_of_le (hXlen ▸ Nat.le_succ_of_le hm), ?_⟩
  rw [zeros, goCopy0_toList _ _ _ _ hm (by rw [← Array.length_toList, hX, hXlen]; exact Nat.le_succ_of_le hm), hX, Nat.sub_zero,
    List.drop_zero]

theorem half_upper {sl m : Nat} (hsl : sl = 2 * m) {temp : Array Item} {X : List Item} (hX : temp.toList = X)
    (hXlen : X.length = sl + 1) :
    (X.drop (m + 1)).length = m ∧
    (goCopy (zeros sl) 0 temp (m + 1) (m + 1 + m)).toList = X.drop (m + 1) ++ List.replicate (sl - m) ({} : Item) := by
  have l2 : (X.drop (m + 1)).length = m := by rw [List.length_drop, hXlen, hsl]; omega
  refine ⟨l2, ?_⟩
  rw [zeros, goCopy0_toList _ _ _ _ (by rw [Nat.add_sub_cancel_left]; omega)
      (by rw [← Array.length_toList, hX, hXlen, hsl]; omega), hX, Nat.add_sub_cancel_left,
    List.take_of_length_le (Nat.le_of_eq l2)]

theorem leftHalf_facts {T T' : BTree} (n : NodeId) {temp : Array Item} {X : List Item} (hX : temp.toList = X)
    (hXlen : X.length = T.sl + 1) (hsl' : T'.sl = T.sl) :
    NodeShape T' (leftHalf T n temp) ∧ (leftHalf T n temp).items = X.take (T.sl / 2) := by
  obtain ⟨l1, a1⟩ := half_lower (Nat.div_le_self T.sl 2) hX hXlen
  exact leafShape_of_toList (by rw [l1, hsl']; exact a1) (by rw [l1, hsl']; exact Nat.div_le_self _ _) l1.symm
    (show (-1 : Int) ≤ -1 ∧ (-1 : Int) ≤ (T'.sl : Int) from ⟨Int.le_refl _, by omega⟩) rfl

theorem rightHalf_facts {T T' : BTree} (n : NodeId) {temp : Array Item} {X : List Item} (hX : temp.toList = X)
    (hXlen : X.length = T.sl + 1) (hsl : 2 ≤ T.sl ∧ T.sl % 2 = 0) (hsl' : T'.sl = T.sl) :
    NodeShape T' (rightHalf T n temp) ∧ (rightHalf T n temp).items = X.drop (T.sl / 2 + 1) := by
  obtain ⟨l2, a2⟩ := half_upper (m := T.sl / 2) (by omega) hX hXlen
  exact leafShape_of_toList (by rw [l2, hsl']; exact a2) (by rw [l2, hsl']; exact Nat.div_le_self _ _) l2.symm
    (show (-1 : Int) ≤ -1 ∧ (-1 : Int) ≤ (T'.sl : Int) from ⟨Int.le_refl _, by omega⟩) rfl

theorem rootRec_rec {t t' : BTree} {nd : Node} (hs : NodeShape t nd) (a b : NodeId) (mid : Item) (hsl : 2 ≤ t.sl)
    (hsl' : t'.sl = t.sl) : InnerRec t' (rootRec t.sl a b mid nd) nd.parent [mid] [a, b] := by
  refine InnerRec.congr hsl' (innerRec_of_toList (X := [mid]) ?_ rfl ?_ rfl (Nat.le_refl 1) (Nat.le_of_succ_le hsl) rfl hs.2.2.1)
  · show ((zeros nd.slots.size).setIfInBounds 0 mid).toList = [mid] ++ List.replicate (t.sl - 1) ({} : Item)
    rw [hs.1]
    conv => lhs; rw [(Nat.sub_add_cancel (Nat.le_of_succ_le hsl)).symm]
    simp [zeros, List.replicate_succ]
  · show (((zeroIds (t.sl + 1)).setIfInBounds 0 a).setIfInBounds 1 b).toList = [a, b] ++ List.replicate (t.sl - 1) 0
    conv => lhs; rw [(Nat.sub_add_cancel (Nat.le_of_succ_le hsl)).symm]
    simp [zeroIds, List.replicate_succ]

theorem half_arrays {sl m : Nat} (hsl : sl = 2 * m) {temp : Array Item} {tc : Array NodeId} {X : List Item}
    {K : List NodeId} (hX : temp.toList = X) (hK : tc.toList = K) (hXlen : X.length = sl + 1) (hKlen : K.length = sl + 2) :
    (X.take m).length = m ∧ (X.drop (m + 1)).length = m ∧ (K.take (m + 1)).length = m + 1 ∧
    (K.drop (m + 1)).length = m + 1 ∧
    (goCopy (zeros sl) 0 temp 0 m).toList = X.take m ++ List.replicate (sl - m) ({} : Item) ∧
    (goCopy (zeros sl) 0 temp (m + 1) (m + 1 + m)).toList = X.drop (m + 1) ++ List.replicate (sl - m) ({} : Item) ∧
    (goCopy (zeroIds (sl + 1)) 0 tc 0 (m + 1)).toList = K.take (m + 1) ++ List.replicate (sl - m) 0 ∧
    (goCopy (zeroIds (sl + 1)) 0 tc (m + 1) (m + 1 + m + 1)).toList = K.drop (m + 1) ++ List.replicate (sl - m) 0 := by
  have hcs : tc.size = sl + 2 := by rw [← Array.length_toList, hK, hKlen]
  have hm : m ≤ sl := by omega
  have e : m + 1 + m + 1 - (m + 1) = m + 1 := Nat.add_sub_cancel_left (m + 1) (m + 1)
  have e' : sl + 1 - (m + 1) = sl - m := Nat.add_sub_add_right sl 1 m
  have l4 : (K.drop (m + 1)).length = m + 1 := by rw [List.length_drop, hKlen, hsl]; omega
  have h2 : m + 1 + m + 1 ≤ tc.size := by rw [hcs, hsl]; omega
  obtain ⟨l1, a1⟩ := half_lower hm hX hXlen
  obtain ⟨l2, a2⟩ := half_upper hsl hX hXlen
  refine ⟨l1, l2, List.length_take_of_le (hKlen ▸ Nat.succ_le_succ (Nat.le_succ_of_le hm)), l4, a1, a2, ?_, ?_⟩
  · rw [zeroIds, goCopy0_toList _ _ _ _ (Nat.succ_le_succ hm) (Nat.le_trans (Nat.le_add_right (m + 1) (m + 1)) h2), hK, Nat.sub_zero,
      List.drop_zero, e']
  · rw [zeroIds, goCopy0_toList _ _ _ _ (by rw [e]; exact Nat.succ_le_succ hm) h2, hK, e, List.take_of_length_le (Nat.le_of_eq l4), e']

/-- the two nodes a cut writes from the scratch arrays `temp`, `tc` holding the over-full items `X` and kids `K`, whatever
    their ids and parents -/
theorem half_recs {t : BTree} {temp : Array Item} {tc : Array NodeId} {X : List Item} {K : List NodeId} {ndL ndR : Node}
    (hsl2 : 2 ≤ t.sl ∧ t.sl % 2 = 0) (hX : temp.toList = X) (hK : tc.toList = K)
    (hXlen : X.length = t.sl + 1) (hKlen : K.length = t.sl + 2)
    (hLs : ndL.slots = goCopy (zeros t.sl) 0 temp 0 (t.sl / 2))
    (hLc : ndL.children = some (goCopy (zeroIds (t.sl + 1)) 0 tc 0 (t.sl / 2 + 1)))
    (hLn : ndL.count = t.sl / 2) (hLi : -1 ≤ ndL.ion ∧ ndL.ion ≤ (t.sl : Int))
    (hRs : ndR.slots = goCopy (zeros t.sl) 0 temp (t.sl / 2 + 1) (t.sl / 2 + 1 + t.sl / 2))
    (hRc : ndR.children = some (goCopy (zeroIds (t.sl + 1)) 0 tc (t.sl / 2 + 1) (t.sl / 2 + 1 + t.sl / 2 + 1)))
    (hRn : ndR.count = t.sl / 2) (hRi : -1 ≤ ndR.ion ∧ ndR.ion ≤ (t.sl : Int)) :
    InnerRec t ndL ndL.parent (X.take (t.sl / 2)) (K.take (t.sl / 2 + 1)) ∧
    InnerRec t ndR ndR.parent (X.drop (t.sl / 2 + 1)) (K.drop (t.sl / 2 + 1)) ∧
    (goCopy (zeroIds (t.sl + 1)) 0 tc 0 (t.sl / 2 + 1)).toList = K.take (t.sl / 2 + 1) ++ List.replicate (t.sl - t.sl / 2) 0 ∧
    (goCopy (zeroIds (t.sl + 1)) 0 tc (t.sl / 2 + 1) (t.sl / 2 + 1 + t.sl / 2 + 1)).toList =
      K.drop (t.sl / 2 + 1) ++ List.replicate (t.sl - t.sl / 2) 0 := by
  have hh : t.sl = 2 * (t.sl / 2) ∧ 1 ≤ t.sl / 2 ∧ t.sl / 2 ≤ t.sl := by omega
  obtain ⟨l1, l2, l3, l4, a1, a2, b1, b2⟩ := half_arrays (m := t.sl / 2) hh.1 hX hK hXlen hKlen
  exact ⟨innerRec_of_toList (by rw [hLs, l1]; exact a1) hLc (by rw [l1]; exact b1) (hLn.trans l1.symm) (l1.symm ▸ hh.2.1)
      (l1.symm ▸ hh.2.2) (by rw [l1, l3]) hLi,
    innerRec_of_toList (by rw [hRs, l2]; exact a2) hRc (by rw [l2]; exact b2) (hRn.trans l2.symm) (l2.symm ▸ hh.2.1)
      (l2.symm ▸ hh.2.2) (by rw [l2, l4]) hRi, b1, b2⟩

end Sop.BTree.Ins
