import Sop.Lemmas.BTreeInsert
import Sop.Lemmas.BTreeIndexOf
/-! # C17 update side, `Btree.Add`: the model's computation when a full NON-ROOT leaf is split (leaf load balancing
off): `addOnLeaf` on such a leaf spelled out (`leafSplit`), `getIndexOfChild` there, `promoteStep` into a node with room
(`promoteRoom`). -/
namespace Sop.BTree.Ins
open Sop.BTree

theorem getIndexOfChild_val {S : BTree} {p c : NodeId} {pn cn : Node} {cs : Array NodeId} {i : Nat}
    (hgp : S.get? p = some pn) (hgc : S.get? c = some cn) (hcs : pn.children = some cs)
    (hc0 : c ≠ 0) (hi : i ≤ pn.slots.size) (hci : cs.getD i 0 = c) (huniq : ∀ j, cs.getD j 0 = c → j = i)
    (hion1 : -1 ≤ cn.ion) (hion2 : cn.ion < cs.size) :
    (S.getIndexOfChild p c).2 = (i : Int) ∧
      ((S.getIndexOfChild p c).1 = S ∨ (S.getIndexOfChild p c).1 = S.upd c (fun x => { x with ion := (i : Int) })) := by
  obtain ⟨k, hk, hres⟩ := getIndexOfChild_eq hgp hgc hcs hc0 ⟨hion1, hion2⟩ hi hci
  have := huniq k hk
  subst this
  rcases hres with e | e <;> rw [e]
  · exact ⟨rfl, Or.inl rfl⟩
  · exact ⟨rfl, Or.inr rfl⟩

/-- slots, children and count come from `gnd`, the parent as `promoteStep` read it; `upd` applies this to the stored
    record `x`, which is that same node -/
def promoteRoom (t : BTree) (gnd : Node) (cs : Array NodeId) (idx : Nat) (x : Node) : Node :=
  { x with slots := (shiftSlots gnd.slots idx gnd.count).setIfInBounds idx t.tempParent,
           children := some ((shiftSlots (cs.setIfInBounds idx t.tpc0) (idx + 1) (gnd.count + 1)).setIfInBounds (idx + 1) t.tpc1),
           count := gnd.count + 1 }

theorem promoteStep_room {t : BTree} {g : NodeId} {gnd : Node} {cs : Array NodeId} {idx : Nat}
    (hg : t.get? g = some gnd) (hcs : gnd.children = some cs) (hroom : gnd.count < t.sl) (hidx : idx ≤ gnd.count)
    (hsz : cs.size = t.sl + 1) :
    t.promoteStep g (idx : Int) = t.upd g (promoteRoom t gnd cs idx) := by
  unfold BTree.promoteStep
  simp only [get_of_get? hg, hcs]
  have h1 : ¬ ((idx : Int) < 0) := Int.not_lt.mpr (Int.natCast_nonneg idx)
  simp only [h1, if_false, hroom, if_true, Int.toNat_natCast]
  have h2 : ¬ idx > gnd.count := Nat.not_lt.mpr hidx
  simp only [h2, if_false]
  have h3 : ¬ (idx + 1 ≥ cs.size + 1) :=
    Nat.not_le.mpr (Nat.succ_lt_succ (hsz ▸ Nat.lt_succ_of_le (Nat.le_trans hidx (Nat.le_of_lt hroom))))
  simp only [h3, if_false]
  rfl

def leafKeep (t : BTree) (temp : Array Item) (x : Node) : Node :=
  { x with slots := goCopy (zeros x.slots.size) 0 temp 0 (t.sl / 2), count := t.sl / 2 }

/-- the state of `addOnLeaf`'s non-root split just before it asks the parent for the leaf's index -/
def leafSplitPre (t : BTree) (n : NodeId) (item : Item) (idx : Nat) : BTree :=
  ({ (({ t with nextId := t.nextId + 1 } : BTree).upd n (leafKeep t (splitTemp (t.get n).slots t.sl idx item))) with
       tempParent := (splitTemp (t.get n).slots t.sl idx item).getD (t.sl / 2) {}, tpc0 := n, tpc1 := t.nextId } : BTree).put
    (rightHalf t (t.get n).parent (splitTemp (t.get n).slots t.sl idx item))

/-- `addOnLeaf` on a full non-root leaf, load balancing off -/
def leafSplit (t : BTree) (n : NodeId) (item : Item) (idx : Nat) : BTree :=
  { ((leafSplitPre t n item idx).getIndexOfChild (t.get n).parent n).1 with
      promTarget := (t.get n).parent, promIdx := ((leafSplitPre t n item idx).getIndexOfChild (t.get n).parent n).2 }

theorem addOnLeaf_leafSplit {t : BTree} {n : NodeId} {item : Item} {idx : Nat}
    (h1 : ¬ (t.get n).count < t.sl) (h2 : (t.get n).isRoot = false) (hlb : t.lb = false)
    (hp : (t.get? (t.get n).parent).isSome) :
    t.addOnLeaf n item idx = leafSplit t n item idx := by
  unfold BTree.addOnLeaf
  simp only [h1, if_false, h2, Bool.not_false, if_true, hlb, Bool.false_eq_true, Bool.or_self, Bool.and_self]
  split
  · -- impossible: the parent is stored and the update of `n` keeps every id.  Stated on the node list, because the
    -- unifier would compare the two trees field by field before it unfolds `get?`.
    rename_i hnone
    have hf : ∀ x : Node,
        (if (x.id == n) = true then leafKeep t (splitTemp (t.get n).slots t.sl idx item) x else x).id = x.id :=
      fun x => by split <;> rfl
    have : (t.nodes.map
        (fun x => if (x.id == n) = true then leafKeep t (splitTemp (t.get n).slots t.sl idx item) x else x)).find?
        (fun x => x.id == (t.get n).parent) = none := hnone
    rw [find?_map_id _ _ hf] at this
    unfold BTree.get? at hp
    cases hq : t.nodes.find? (fun x => x.id == (t.get n).parent) with
    | none => rw [hq] at hp; cases hp
    | some y => rw [hq] at this; cases this
  · rfl

/-- `ion` is arbitrary within its bounds: `getIndexOfChild` may have overwritten the leaf's memo meanwhile -/
theorem leafKeep_facts {T T' : BTree} {nd : Node} (hs : NodeShape T nd) (hch : nd.children = none)
    {temp : Array Item} {X : List Item} (hX : temp.toList = X)
    (hXlen : X.length = T.sl + 1) (_hsl : 2 ≤ T.sl ∧ T.sl % 2 = 0) (hsl' : T'.sl = T.sl) (ion : Int)
    (hion : -1 ≤ ion ∧ ion ≤ (T.sl : Int)) :
    NodeShape T' ({ leafKeep T temp nd with ion := ion } : Node) ∧
      ({ leafKeep T temp nd with ion := ion } : Node).items = X.take (T.sl / 2) := by
  obtain ⟨hLs, hLi⟩ := leftHalf_facts (T := T) (T' := T') 0 hX hXlen hsl'
  have e : ({ leafKeep T temp nd with ion := ion } : Node).slots = (leftHalf T 0 temp).slots := by
    show goCopy (zeros nd.slots.size) 0 temp 0 (T.sl / 2) = goCopy (zeros T.sl) 0 temp 0 (T.sl / 2)
    rw [hs.1]
  refine ⟨⟨?_, hLs.2.1, by rw [hsl']; exact hion, ?_, ?_⟩, ?_⟩
  · rw [e]; exact hLs.1
  · intro x hx
    have hx' : x ∈ ({ leafKeep T temp nd with ion := ion } : Node).slots.toList.drop (T.sl / 2) := hx
    rw [e] at hx'
    exact hLs.2.2.2.1 x hx'
  · intro cs hcs
    have : ({ leafKeep T temp nd with ion := ion } : Node).children = nd.children := rfl
    rw [this, hch] at hcs; cases hcs
  · show ({ leafKeep T temp nd with ion := ion } : Node).slots.toList.take (T.sl / 2) = _
    rw [e]; exact hLi

theorem promoteRoom_facts {T T' Tm : BTree} {gnd : Node} {cs : Array NodeId} {idx : Nat}
    (hs : NodeShape T gnd) (hcs : gnd.children = some cs) (hroom : gnd.count < T.sl) (hidx : idx ≤ gnd.count)
    (hci : cs.getD idx 0 = Tm.tpc0) (hsl' : T'.sl = T.sl) :
    InnerRec T' (promoteRoom Tm gnd cs idx gnd) gnd.parent (gnd.items.take idx ++ Tm.tempParent :: gnd.items.drop idx)
      (gnd.kids.take (idx + 1) ++ Tm.tpc1 :: gnd.kids.drop (idx + 1)) := by
  have hil := Node.items_length hs
  have hkl := Node.kids_length hs
  have hcsz := (hs.2.2.2.2 cs hcs).1
  have hXl : (gnd.items.take idx ++ Tm.tempParent :: gnd.items.drop idx).length = gnd.count + 1 := by
    rw [List.length_append, List.length_cons, List.length_take_of_le (hil ▸ hidx), List.length_drop, hil, ← Nat.add_assoc,
      Nat.add_sub_cancel' hidx]
  have hkids := children_toList hs hcs
  have hself : (cs.setIfInBounds idx Tm.tpc0).toList = cs.toList := by
    have hlt : idx < cs.toList.length := by rw [Array.length_toList, hcsz]; omega
    rw [Array.toList_setIfInBounds, ← hci, Array.getD_eq_getD_getElem?, ← Array.getElem?_toList,
      List.getElem?_eq_getElem hlt]
    exact List.set_getElem_self hlt
  refine InnerRec.congr hsl' (innerRec_of_toList (t := T) (X := gnd.items.take idx ++ Tm.tempParent :: gnd.items.drop idx) ?_ rfl ?_
    hXl.symm (by rw [hXl]; exact Nat.succ_pos _) (by rw [hXl]; exact hroom) ?_ hs.2.2.1)
  · show ((shiftSlots gnd.slots idx gnd.count).setIfInBounds idx Tm.tempParent).toList = _
    rw [(shiftSet_toList _ idx gnd.count _ hidx (hs.1 ▸ hroom)).1, slots_toList hs, insert_spare _ _ _ hil hidx, hXl,
      List.drop_replicate, Nat.sub_sub]
  · show ((shiftSlots (cs.setIfInBounds idx Tm.tpc0) (idx + 1) (gnd.count + 1)).setIfInBounds (idx + 1) Tm.tpc1).toList = _
    rw [(shiftSet_toList _ (idx + 1) (gnd.count + 1) _ (Nat.succ_le_succ hidx)
        (by rw [Array.size_setIfInBounds, hcsz]; exact Nat.succ_lt_succ hroom)).1, hself, hkids,
      insert_spare _ _ _ hkl (Nat.succ_le_succ hidx), hXl, List.drop_replicate, Nat.sub_sub]
  · rw [hXl, List.length_append, List.length_cons, List.length_take_of_le (hkl ▸ Nat.succ_le_succ hidx), List.length_drop, hkl,
      ← Nat.add_assoc, Nat.add_sub_cancel' (Nat.succ_le_succ hidx)]

theorem gi_facts {S GI1 : BTree} {n : NodeId} {idx : Nat} {cn : Node} (hgc : S.get? n = some cn)
    (h : GI1 = S ∨ GI1 = S.upd n (fun x => { x with ion := (idx : Int) })) :
    (∀ x, x ≠ n → GI1.get? x = S.get? x) ∧
    (∃ ion', (ion' = cn.ion ∨ ion' = (idx : Int)) ∧ GI1.get? n = some { cn with ion := ion' }) ∧
    Alloc S GI1 0 ∧ ({ GI1 with nodes := S.nodes } : BTree) = S := by
  rcases h with rfl | rfl
  · exact ⟨fun _ _ => rfl, ⟨cn.ion, Or.inl rfl, hgc⟩, Alloc.refl _, rfl⟩
  · refine ⟨fun x hx => get?_upd_ne _ _ (fun _ => rfl) hx, ⟨(idx : Int), Or.inr rfl, ?_⟩,
      Alloc.of_ids_eq (ids_upd S n _ fun _ => rfl) rfl, rfl⟩
    rw [get?_upd_eq S n (fun x => { x with ion := (idx : Int) }) (fun _ => rfl), hgc]; rfl

theorem leafSplitPre_get? (T : BTree) (n : NodeId) (item : Item) (i : Nat) (x : NodeId) :
    (leafSplitPre T n item i).get? x =
      if T.nextId = x then some (rightHalf T (T.get n).parent (splitTemp (T.get n).slots T.sl i item))
      else (T.get? x).map (fun y => if x = n then leafKeep T (splitTemp (T.get n).slots T.sl i item) y else y) := by
  unfold leafSplitPre
  rw [get?_put]
  have h1 : (rightHalf T (T.get n).parent (splitTemp (T.get n).slots T.sl i item)).id = T.nextId := rfl
  rw [h1]
  have h2 : ∀ (B : BTree) (a : Item) (b c : NodeId), ({ B with tempParent := a, tpc0 := b, tpc1 := c } : BTree).get? x = B.get? x :=
    fun _ _ _ _ => rfl
  rw [h2, get?_upd _ n x (leafKeep T (splitTemp (T.get n).slots T.sl i item)) (fun _ => rfl)]
  rfl

theorem leafSplitPre_alloc {T : BTree} (hfresh : Fresh T) (n : NodeId) (item : Item) (i : Nat) :
    Alloc T (leafSplitPre T n item i) 1 := by
  unfold leafSplitPre
  have hF : ∀ x, (leafKeep T (splitTemp (T.get n).slots T.sl i item) x).id = x.id := fun _ => rfl
  have hRid : (rightHalf T (T.get n).parent (splitTemp (T.get n).slots T.sl i item)).id = T.nextId := rfl
  generalize leafKeep T (splitTemp (T.get n).slots T.sl i item) = F at hF
  generalize rightHalf T (T.get n).parent (splitTemp (T.get n).slots T.sl i item) = R at hRid
  generalize (splitTemp (T.get n).slots T.sl i item).getD (T.sl / 2) {} = a
  have h1 : ids ({ (({ T with nextId := T.nextId + 1 } : BTree).upd n F) with tempParent := a, tpc0 := n, tpc1 := T.nextId } : BTree) =
      ids T := ids_upd _ n F hF
  refine Alloc.of_ids ?_ rfl
  rw [ids_put _ _ (by rw [h1, hRid]; exact fresh_not_mem hfresh (Nat.le_refl _)), h1, hRid]
  exact List.Perm.refl _

end Sop.BTree.Ins
