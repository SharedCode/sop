import Sop.Lemmas.BTree
/-! The node repository of Model B: node lookup/update (`get?_upd`), what the cursor and the parent/child links read
(`curItem_of_get`, `childOf_of_get`, `parentOf_of_get`), the node ids of the repository (`ids`) under `upd`/`put`/
`updateChildrenParent` and the tree without its nodes (`shell`) under these and `del`; a node as lists: the `weave` algebra, `Node.kids` (a leaf
has `count + 1` nil kids), the clauses of `NodeShape`, `setChild`; the fixed-fuel abstraction `A`. -/
namespace Sop.BTree

theorem get?_id {t : BTree} {n : NodeId} {nd : Node} (h : t.get? n = some nd) : nd.id = n := by
  unfold BTree.get? at h
  have := List.find?_some h
  simpa using this

theorem get?_mem {t : BTree} {n : NodeId} {nd : Node} (h : t.get? n = some nd) : n ∈ t.nodes.map (·.id) :=
  List.mem_map.mpr ⟨nd, List.mem_of_find?_eq_some h, get?_id h⟩

theorem get_of_get? {t : BTree} {n : NodeId} {nd : Node} (h : t.get? n = some nd) : t.get n = nd := by
  simp [BTree.get, h]

theorem curItem_of_get {t : BTree} {nd : Node} (h : t.get t.cur.node = nd) : t.curItem = nd.slot t.cur.idx.toNat := by
  unfold BTree.curItem; rw [h]

theorem childOf_of_get {t : BTree} {n : NodeId} {nd : Node} {i : Nat} (hg : t.get? n = some nd) (hc : nd.child i ≠ 0)
    (hs : (t.get? (nd.child i)).isSome = true) : t.childOf n i = nd.child i := by
  unfold BTree.childOf
  simp only [get_of_get? hg, hc, if_false, hs, if_true]

theorem parentOf_of_get {t : BTree} {n : NodeId} {nd : Node} (hg : t.get? n = some nd) (hp : nd.parent ≠ 0)
    (hs : (t.get? nd.parent).isSome = true) : t.parentOf n = nd.parent := by
  unfold BTree.parentOf
  simp only [get_of_get? hg, hp, if_false, hs, if_true]

theorem curNode?_some {t : BTree} {nd : Node} (h : t.curNode? = some nd) :
    t.get? t.cur.node = some nd ∧ t.cur.idx < (nd.count : Int) := by
  unfold BTree.curNode? at h
  split at h
  · cases h
  · split at h
    · cases h
    · rename_i nd' hg
      split at h
      · cases h
      · cases h; exact ⟨hg, by omega⟩

theorem find?_map_id (l : List Node) (g : Node → Node) (hg : ∀ x, (g x).id = x.id) (m : NodeId) :
    (l.map g).find? (fun x => x.id == m) = (l.find? (fun x => x.id == m)).map g := by
  induction l with
  | nil => rfl
  | cons x xs ih =>
    simp only [List.map_cons, List.find?_cons, hg]
    cases hx : x.id == m
    · simpa using ih
    · simp

theorem get?_upd (t : BTree) (n m : NodeId) (f : Node → Node) (hf : ∀ x, (f x).id = x.id) :
    (t.upd n f).get? m = (t.get? m).map (fun x => if m = n then f x else x) := by
  unfold BTree.upd BTree.get?
  simp only
  rw [find?_map_id _ _ (by intro x; split <;> simp [hf])]
  cases h : List.find? (fun x => x.id == m) t.nodes with
  | none => rfl
  | some nd =>
    have hid : nd.id = m := by simpa using List.find?_some h
    simp [hid]

theorem get?_upd_ne (t : BTree) {n m : NodeId} (f : Node → Node) (hf : ∀ x, (f x).id = x.id) (h : m ≠ n) :
    (t.upd n f).get? m = t.get? m := by
  rw [get?_upd _ _ _ _ hf]; cases t.get? m <;> simp [h]

theorem get?_upd_eq (t : BTree) (n : NodeId) (f : Node → Node) (hf : ∀ x, (f x).id = x.id) :
    (t.upd n f).get? n = (t.get? n).map f := by
  rw [get?_upd _ _ _ _ hf]; cases t.get? n <;> simp

@[simp] theorem upd_nodes_length (t : BTree) (n : NodeId) (f : Node → Node) :
    (t.upd n f).nodes.length = t.nodes.length := by simp [BTree.upd]

/-- the ids under which the repository stores a node: what is stored, what is absent and how many depend only on this list -/
def ids (t : BTree) : List NodeId := t.nodes.map (·.id)

theorem ids_length (t : BTree) : (ids t).length = t.nodes.length := List.length_map _

theorem get?_eq_none_iff (t : BTree) (x : NodeId) : t.get? x = none ↔ x ∉ ids t := by
  unfold BTree.get? ids
  rw [List.find?_eq_none, List.mem_map]
  exact ⟨fun h ⟨nd, hnd, e⟩ => h nd hnd (by simpa using e), fun h nd hnd e => h ⟨nd, hnd, by simpa using e⟩⟩

theorem isSome_get?_iff (t : BTree) (x : NodeId) : (t.get? x).isSome ↔ x ∈ ids t := by
  rw [← Decidable.not_iff_not, ← get?_eq_none_iff, Option.not_isSome_iff_eq_none]

theorem ids_upd (t : BTree) (n : NodeId) (F : Node → Node) (hF : ∀ x, (F x).id = x.id) : ids (t.upd n F) = ids t := by
  unfold ids BTree.upd
  rw [List.map_map]
  refine List.map_congr_left fun x _ => ?_
  show (if (x.id == n) = true then F x else x).id = x.id
  split
  · exact hF x
  · rfl

theorem updParent_foldl_nodes (p : NodeId) : ∀ (l : List NodeId) (t : BTree),
    ∃ ns, ns.map (·.id) = ids t ∧
      l.foldl (fun t c => if c = 0 then t else t.upd c (fun y => { y with parent := p })) t = { t with nodes := ns }
  | [], t => ⟨t.nodes, rfl, rfl⟩
  | c :: l, t => by
    rw [List.foldl_cons]
    by_cases hc0 : c = 0
    · rw [if_pos hc0]; exact updParent_foldl_nodes p l t
    · rw [if_neg hc0]
      obtain ⟨ns, h1, h2⟩ := updParent_foldl_nodes p l (t.upd c (fun y => { y with parent := p }))
      exact ⟨ns, h1.trans (ids_upd t c _ fun _ => rfl), h2⟩

theorem updateChildrenParent_eq (t : BTree) (p : NodeId) (ks : Array NodeId) :
    ∃ ns, ns.map (·.id) = ids t ∧ t.updateChildrenParent p ks = { t with nodes := ns } := by
  unfold BTree.updateChildrenParent
  rw [← Array.foldl_toList]
  exact updParent_foldl_nodes p ks.toList t

theorem ids_updateChildrenParent (t : BTree) (p : NodeId) (ks : Array NodeId) : ids (t.updateChildrenParent p ks) = ids t := by
  obtain ⟨ns, h1, h2⟩ := updateChildrenParent_eq t p ks
  rw [h2]; exact h1

theorem ids_putNode (nd : Node) : ∀ (l : List Node), nd.id ∉ l.map (·.id) → (putNode nd l).map (·.id) = l.map (·.id) ++ [nd.id]
  | [], _ => rfl
  | y :: ys, h => by
    rw [List.map_cons, List.mem_cons, not_or] at h
    unfold putNode
    rw [if_neg (by simpa using fun e => h.1 (Eq.symm e)), List.map_cons, ids_putNode nd ys h.2]
    rfl

theorem ids_put (t : BTree) (nd : Node) (h : nd.id ∉ ids t) : ids (t.put nd) = ids t ++ [nd.id] := ids_putNode nd t.nodes h

/-- a tree without its node repository: the fields no heap update touches -/
def shell (t : BTree) : BTree := { t with nodes := [] }

theorem shell_upd (t : BTree) (n : NodeId) (F : Node → Node) : shell (t.upd n F) = shell t := rfl
theorem shell_put (t : BTree) (nd : Node) : shell (t.put nd) = shell t := rfl

theorem shell_of_nodes {A B : BTree} {l : List Node} (h : ({ A with nodes := l } : BTree) = B) : shell A = shell B := by
  rw [← h]; rfl

theorem shell_fields {A B : BTree} (h : shell A = shell B) :
    A.sl = B.sl ∧ A.nextId = B.nextId ∧ A.panicked = B.panicked ∧ A.unique = B.unique ∧ A.promTarget = B.promTarget ∧
    A.promIdx = B.promIdx ∧ A.tempParent = B.tempParent ∧ A.tpc0 = B.tpc0 ∧ A.tpc1 = B.tpc1 :=
  have e : ∀ {α} (F : BTree → α), F (shell A) = F (shell B) := fun F => congrArg F h
  ⟨e BTree.sl, e BTree.nextId, e BTree.panicked, e BTree.unique, e BTree.promTarget, e BTree.promIdx, e BTree.tempParent,
    e BTree.tpc0, e BTree.tpc1⟩

theorem shell_updateChildrenParent (t : BTree) (p : NodeId) (ks : Array NodeId) : shell (t.updateChildrenParent p ks) = shell t := by
  obtain ⟨ns, -, h⟩ := updateChildrenParent_eq t p ks
  rw [h]; rfl

theorem shell_del (t : BTree) (n : NodeId) : shell (t.del n) = shell t := by
  unfold BTree.del; split <;> rfl

@[simp] theorem setCur_get? (t : BTree) (n : NodeId) (i : Int) (m : NodeId) : (t.setCur n i).get? m = t.get? m := rfl
@[simp] theorem setCur_nodes (t : BTree) (n : NodeId) (i : Int) : (t.setCur n i).nodes = t.nodes := rfl

theorem updParent_foldl_get? (p : NodeId) : ∀ (l : List NodeId) (t : BTree) (x : NodeId),
    (l.foldl (fun t c => if c = 0 then t else t.upd c (fun y => { y with parent := p })) t).get? x =
      (t.get? x).map (fun y => if x ≠ 0 ∧ x ∈ l then { y with parent := p } else y)
  | [], t, x => by cases h : t.get? x <;> simp [h]
  | c :: l, t, x => by
    rw [List.foldl_cons, updParent_foldl_get? p l]
    by_cases hc0 : c = 0
    · rw [if_pos hc0]
      have : (x ≠ 0 ∧ x ∈ c :: l) ↔ (x ≠ 0 ∧ x ∈ l) := by
        rw [List.mem_cons]
        exact ⟨fun ⟨h0, h⟩ => ⟨h0, h.resolve_left (fun e => h0 (e.trans hc0))⟩, fun ⟨h0, h⟩ => ⟨h0, Or.inr h⟩⟩
      simp only [this]
    · rw [if_neg hc0, get?_upd _ c x (fun y => { y with parent := p }) (fun _ => rfl)]
      cases t.get? x with
      | none => rfl
      | some y =>
        simp only [Option.map_some, Option.some.injEq, List.mem_cons]
        by_cases hxc : x = c
        · subst hxc
          simp only [if_true, hc0, ne_eq, not_false_eq_true, true_or, and_self]
          split <;> rfl
        · simp only [hxc, if_false, false_or]

theorem updateChildrenParent_get? (t : BTree) (p : NodeId) (ks : Array NodeId) (x : NodeId) :
    (t.updateChildrenParent p ks).get? x =
      (t.get? x).map (fun y => if x ≠ 0 ∧ x ∈ ks.toList then { y with parent := p } else y) := by
  unfold BTree.updateChildrenParent
  rw [← Array.foldl_toList]
  exact updParent_foldl_get? p ks.toList t x

theorem updateChildrenParent_length (t : BTree) (p : NodeId) (ks : Array NodeId) :
    (t.updateChildrenParent p ks).nodes.length = t.nodes.length := by
  rw [← ids_length, ids_updateChildrenParent, ids_length]

theorem updateChildrenParent_fields (t : BTree) (p : NodeId) (ks : Array NodeId) :
    (t.updateChildrenParent p ks).sl = t.sl ∧ (t.updateChildrenParent p ks).root = t.root ∧
    (t.updateChildrenParent p ks).count = t.count ∧ (t.updateChildrenParent p ks).panicked = t.panicked := by
  obtain ⟨l, _, h⟩ := updateChildrenParent_eq t p ks
  rw [h]; exact ⟨rfl, rfl, rfl, rfl⟩

theorem getD_mem_drop {α} (a : Array α) (d : α) {n j : Nat} (hn : n ≤ j) (hj : j < a.size) :
    a.getD j d ∈ a.toList.drop n := by
  rw [List.mem_drop_iff_getElem]
  exact ⟨j - n, by simp; omega, by simp [Array.getD, hj, Nat.add_sub_cancel' hn]⟩

/-- the part of `weave` after a child: the next separator and the rest -/
def weaveTail (g : NodeId → List Item) : List NodeId → List Item → List Item
  | _, [] => []
  | cs, i :: is => i :: weave g cs is

theorem weave_congr {g g' : NodeId → List Item} : ∀ (cs : List NodeId) (is : List Item),
    (∀ c ∈ cs, g c = g' c) → weave g cs is = weave g' cs is
  | [], _, _ => by simp [weave]
  | c :: cs, [], h => by
    simp only [weave]
    rw [h c (List.mem_cons_self), weave_congr cs [] (fun x hx => h x (List.mem_cons_of_mem _ hx))]
  | c :: cs, i :: is, h => by
    simp only [weave]
    rw [h c (List.mem_cons_self), weave_congr cs is (fun x hx => h x (List.mem_cons_of_mem _ hx))]

theorem weave_split (g : NodeId → List Item) : ∀ (i : Nat) (cs : List NodeId) (is : List Item),
    cs.length = is.length + 1 → i ≤ is.length →
    weave g cs is = weave g (cs.take i) (is.take i) ++ g (cs.getD i 0) ++ weaveTail g (cs.drop (i + 1)) (is.drop i)
  | 0, c :: cs, [], _, _ => by
    cases cs with
    | nil => simp [weave, weaveTail]
    | cons _ _ => simp at *
  | 0, c :: cs, x :: is, _, _ => by simp [weave, weaveTail]
  | 0, [], _, h, _ => by simp at h
  | i + 1, [], _, h, _ => by simp at h
  | i + 1, c :: cs, [], _, hi => by simp at hi
  | i + 1, c :: cs, x :: is, h, hi => by
    have ih := weave_split g i cs is (by simpa using h) (by simpa using hi)
    simp only [weave, List.take_succ_cons, List.drop_succ_cons, List.getD_cons_succ, List.append_assoc,
      List.cons_append]
    rw [ih]
    simp [List.append_assoc]

theorem weave_take_succ (g : NodeId → List Item) : ∀ (i : Nat) (cs : List NodeId) (is : List Item),
    i < is.length → i + 1 < cs.length →
    weave g (cs.take (i + 1)) (is.take (i + 1)) = weave g (cs.take i) (is.take i) ++ g (cs.getD i 0) ++ [is.getD i {}]
  | 0, c :: cs, x :: is, _, _ => by simp [weave]
  | i + 1, c :: cs, x :: is, hi, hc => by
    have ih := weave_take_succ g i cs is (by simpa using hi) (by simpa using hc)
    simp only [List.take_succ_cons, weave, List.getD_cons_succ]
    rw [ih]; simp [List.append_assoc]
  | _, [], _, _, hc => by simp at hc
  | _, _ :: _, [], hi, _ => by simp at hi

theorem weaveTail_drop (g : NodeId → List Item) (cs : List NodeId) (is : List Item) (i : Nat) (hi : i < is.length) :
    weaveTail g (cs.drop (i + 1)) (is.drop i) = is.getD i {} :: weave g (cs.drop (i + 1)) (is.drop (i + 1)) := by
  have : is.drop i = is.getD i {} :: is.drop (i + 1) := by
    rw [List.getD_eq_getElem?_getD, List.getElem?_eq_getElem hi]; exact List.drop_eq_getElem_cons hi
  rw [this]; rfl

theorem weave_drop_split (g : NodeId → List Item) (cs : List NodeId) (is : List Item) (i : Nat)
    (hc : cs.length = is.length + 1) (hi : i ≤ is.length) :
    weave g (cs.drop i) (is.drop i) = g (cs.getD i 0) ++ weaveTail g (cs.drop (i + 1)) (is.drop i) := by
  have h := weave_split g 0 (cs.drop i) (is.drop i) (by simp; omega) (Nat.zero_le _)
  simp only [List.take_zero, weave, List.nil_append, List.drop_drop] at h
  rw [h]
  congr 2
  simp [List.getD_eq_getElem?_getD]

theorem weave_zero (g : NodeId → List Item) (g0 : g 0 = []) : ∀ (is : List Item) (k : Nat), k = is.length + 1 →
    weave g (List.replicate k 0) is = is
  | [], k, hk => by subst hk; simp [weave, List.replicate, g0]
  | x :: is, k, hk => by
    subst hk
    have ih := weave_zero g g0 is _ rfl
    simp only [List.replicate_succ] at ih
    simp only [List.length_cons, List.replicate_succ, weave, g0, List.nil_append, ih]

theorem KidsOk.imp {P Q : NodeId → Option Int → Option Int → Prop} (hPQ : ∀ c l h, P c l h → Q c l h) :
    ∀ (cs : List NodeId) (is : List Item) (lo hi : Option Int), KidsOk P lo hi cs is → KidsOk Q lo hi cs is
  | [], _, _, _, _ => trivial
  | _ :: _, [], _, _, h => ⟨h.1.imp id (hPQ _ _ _), h.2⟩
  | _ :: cs, _ :: is, _, _, h => ⟨h.1.imp id (hPQ _ _ _), h.2.1, h.2.2.1, h.2.2.2.1, KidsOk.imp hPQ cs is _ _ h.2.2.2.2⟩

theorem KidsOk.mem {P : NodeId → Option Int → Option Int → Prop} :
    ∀ (cs : List NodeId) (is : List Item) (lo hi : Option Int), KidsOk P lo hi cs is →
      ∀ c ∈ cs, c = 0 ∨ ∃ l h, P c l h
  | [], _, _, _, _, c, hc => by simp at hc
  | c :: cs, [], lo, hi, h, x, hx => by
    obtain ⟨h1, h2⟩ := h
    subst h2
    have : x = c := by simpa using hx
    subst this
    exact h1.imp id (fun h => ⟨_, _, h⟩)
  | c :: cs, i :: is, lo, hi, h, x, hx => by
    rcases List.mem_cons.mp hx with rfl | hx
    · exact h.1.imp id (fun h => ⟨_, _, h⟩)
    · exact KidsOk.mem cs is _ _ h.2.2.2.2 x hx

/-- the in-order contents of the subtree at `n` with the repository-size fuel -/
def A (t : BTree) (n : NodeId) : List Item := absNode t (t.nodes.length + 1) n

theorem A_zero (t : BTree) : A t 0 = [] := absNode_zero t _

theorem abs_eq_A (t : BTree) : t.abs = A t t.root := rfl

/-- the children of a node as the list `weave` consumes (`count + 1` entries; all nil for a leaf) -/
def Node.kids (nd : Node) : List NodeId :=
  match nd.children with
  | none => List.replicate (nd.count + 1) 0
  | some cs => cs.toList.take (nd.count + 1)

theorem Node.kids_some {nd : Node} {cs : Array NodeId} (h : nd.children = some cs) :
    nd.kids = cs.toList.take (nd.count + 1) := by unfold Node.kids; rw [h]

theorem Node.kids_none {nd : Node} (h : nd.children = none) : nd.kids = List.replicate (nd.count + 1) 0 := by
  unfold Node.kids; rw [h]


theorem NodeShape.slots_size {t : BTree} {nd : Node} (h : NodeShape t nd) : nd.slots.size = t.sl := h.1
theorem NodeShape.count_le {t : BTree} {nd : Node} (h : NodeShape t nd) : nd.count ≤ t.sl := h.2.1
theorem NodeShape.ion_bounds {t : BTree} {nd : Node} (h : NodeShape t nd) : -1 ≤ nd.ion ∧ nd.ion ≤ (t.sl : Int) := h.2.2.1
theorem NodeShape.slots_tail {t : BTree} {nd : Node} (h : NodeShape t nd) :
    ∀ i ∈ nd.slots.toList.drop nd.count, i = ({} : Item) := h.2.2.2.1
theorem NodeShape.children_size {t : BTree} {nd : Node} (h : NodeShape t nd) {cs : Array NodeId}
    (hc : nd.children = some cs) : cs.size = t.sl + 1 := (h.2.2.2.2 cs hc).1
theorem NodeShape.children_tail {t : BTree} {nd : Node} (h : NodeShape t nd) {cs : Array NodeId}
    (hc : nd.children = some cs) : ∀ c ∈ cs.toList.drop (nd.count + 1), c = 0 := (h.2.2.2.2 cs hc).2

theorem Node.kids_length {t : BTree} {nd : Node} (hs : NodeShape t nd) : nd.kids.length = nd.count + 1 := by
  cases hc : nd.children with
  | none => rw [Node.kids_none hc]; exact List.length_replicate
  | some cs =>
    rw [Node.kids_some hc, List.length_take, Array.length_toList, hs.children_size hc]
    exact Nat.min_eq_left (Nat.succ_le_succ hs.count_le)

theorem Node.items_length {t : BTree} {nd : Node} (hs : NodeShape t nd) : nd.items.length = nd.count := by
  unfold Node.items
  rw [List.length_take, Array.length_toList, hs.slots_size]
  exact Nat.min_eq_left hs.count_le

theorem Node.kids_getD {t : BTree} {nd : Node} (hs : NodeShape t nd) {i : Nat} (hi : i ≤ nd.count) :
    nd.kids.getD i 0 = nd.child i := by
  unfold Node.kids Node.child
  cases hc : nd.children with
  | none => simp [List.getD_eq_getElem?_getD, show i < nd.count + 1 by omega]
  | some cs =>
    have := hs.children_size hc
    have := hs.count_le
    simp only [Option.getD_some, List.getD_eq_getElem?_getD, Array.getD_eq_getD_getElem?]
    rw [List.getElem?_take]
    simp [show i < nd.count + 1 by omega]

-- `hs` is not needed for this one; its callers pass it as for `Node.kids_getD`
set_option linter.unusedVariables false in
theorem Node.items_getD {t : BTree} {nd : Node} (hs : NodeShape t nd) {i : Nat} (hi : i < nd.count) :
    nd.items.getD i {} = nd.slot i := by
  unfold Node.items Node.slot
  simp only [List.getD_eq_getElem?_getD, Array.getD_eq_getD_getElem?]
  rw [List.getElem?_take]
  simp [hi]

theorem Node.kids_getElem {t : BTree} {nd : Node} (hs : NodeShape t nd) {i : Nat} (hi : i < nd.kids.length) :
    nd.kids[i] = nd.child i := by
  have := Node.kids_getD hs (show i ≤ nd.count by rw [Node.kids_length hs] at hi; exact Nat.le_of_lt_succ hi)
  rwa [List.getD_eq_getElem?_getD, List.getElem?_eq_getElem hi, Option.getD_some] at this

theorem Node.child_mem_kids {t : BTree} {nd : Node} (hs : NodeShape t nd) {i : Nat} (hi : i ≤ nd.count) :
    nd.child i ∈ nd.kids := by
  have h : i < nd.kids.length := by rw [Node.kids_length hs]; exact Nat.lt_succ_of_le hi
  rw [← Node.kids_getElem hs h]
  exact List.getElem_mem h

theorem setChild_kids {nd : Node} {cs : Array NodeId} (hcs : nd.children = some cs) (i : Nat) (c : NodeId) :
    (nd.setChild i c).kids = nd.kids.set i c := by
  unfold Node.kids Node.setChild
  simp only [hcs, Option.map_some, Array.toList_setIfInBounds]
  rw [List.take_set]

theorem setChild_shape {t : BTree} {nd : Node} (hs : NodeShape t nd) {i : Nat} (hi : i ≤ nd.count) (c : NodeId) :
    NodeShape t (nd.setChild i c) := by
  obtain ⟨h1, h2, h3, h4, h5⟩ := hs
  refine ⟨h1, h2, h3, h4, ?_⟩
  intro cs' hcs'
  cases hc : nd.children with
  | none => simp [Node.setChild, hc] at hcs'
  | some cs =>
    simp only [Node.setChild, hc, Option.map_some, Option.some.injEq] at hcs'
    subst hcs'
    obtain ⟨h6, h7⟩ := h5 cs hc
    refine ⟨by simp [h6], ?_⟩
    intro x hx
    simp only [Array.toList_setIfInBounds] at hx
    rw [List.drop_set_of_lt (by show i < nd.count + 1; omega)] at hx
    exact h7 x hx

theorem Ins.keep_upd (t : BTree) (n : NodeId) (F : Node → Node) (hF : ∀ x, (F x).id = x.id) (x : NodeId)
    (h : (t.get? x).isSome) : ((t.upd n F).get? x).isSome := by
  rw [get?_upd _ _ _ _ hF, Option.isSome_map]
  exact h

end Sop.BTree

