import Sop.Lemmas.BTreeHeap
/-! # Go slice statements of `/repo/btree/node.go` at list level: `copy` (`writeAt`, `goCopy`), then the shifts built on it -/
namespace Sop.BTree

theorem writeAt_size {α} : ∀ (l : List α) (dst : Array α) (off : Nat), (writeAt dst off l).size = dst.size
  | [], _, _ => rfl
  | x :: xs, dst, off => by
    unfold writeAt
    split
    · rw [writeAt_size xs]; simp
    · rfl

theorem writeAt_getElem? {α} : ∀ (l : List α) (dst : Array α) (off k : Nat),
    (writeAt dst off l)[k]? = if off ≤ k ∧ k < off + l.length ∧ k < dst.size then l[k - off]? else dst[k]?
  | [], dst, off, k => by
    simp only [writeAt, List.length_nil, Nat.add_zero]
    rw [if_neg (by omega)]
  | x :: xs, dst, off, k => by
    unfold writeAt
    by_cases ho : off < dst.size
    · rw [if_pos ho, writeAt_getElem? xs]
      simp only [Array.size_setIfInBounds, List.length_cons]
      by_cases h1 : off + 1 ≤ k ∧ k < off + 1 + xs.length ∧ k < dst.size
      · rw [if_pos h1, if_pos (by omega)]
        have : k - off = (k - (off + 1)) + 1 := by omega
        rw [this, List.getElem?_cons_succ]
      · rw [if_neg h1]
        by_cases hk : k = off
        · subst hk
          rw [if_pos (by omega), Array.getElem?_setIfInBounds_self_of_lt ho]
          simp
        · rw [if_neg (by omega), Array.getElem?_setIfInBounds_ne (by omega)]
    · rw [if_neg ho, if_neg (by omega)]

/-- Go's `copy` writes as much of `xs` as fits: the spliced list, cut to the old length -/
theorem writeAt_toList_cut {α} : ∀ (xs : List α) (dst : Array α) (off : Nat), off ≤ dst.size →
    (writeAt dst off xs).toList = (dst.toList.take off ++ xs ++ dst.toList.drop (off + xs.length)).take dst.size
  | [], dst, off, _ => by
    rw [writeAt, List.append_nil, List.length_nil, Nat.add_zero, List.take_append_drop,
      List.take_of_length_le (by rw [Array.length_toList]; exact Nat.le_refl _)]
  | x :: xs, dst, off, h => by
    unfold writeAt
    by_cases hlt : off < dst.size
    · have hl : off < dst.toList.length := by rw [Array.length_toList]; exact hlt
      rw [if_pos hlt, writeAt_toList_cut xs _ _ (by rw [Array.size_setIfInBounds]; exact hlt),
        Array.size_setIfInBounds, Array.toList_setIfInBounds, List.take_set, List.take_add_one,
        List.getElem?_eq_getElem hl, Option.toList_some,
        List.set_append_right _ _ (by rw [List.length_take]; omega),
        List.length_take, Nat.min_eq_left (Nat.le_of_lt hl), Nat.sub_self, List.set_cons_zero,
        List.drop_set_of_lt (by omega), List.length_cons]
      simp only [List.append_assoc, List.cons_append, List.nil_append, Nat.add_assoc, Nat.add_comm 1]
    · rw [if_neg hlt, List.append_assoc,
        List.take_append_of_le_length (by rw [List.length_take, Array.length_toList]; omega),
        List.take_take, Nat.min_eq_left (by omega),
        List.take_of_length_le (by rw [Array.length_toList]; exact Nat.le_refl _)]

theorem goCopy_toList {α} (dst : Array α) (d : Nat) (src : Array α) (s e : Nat) (hd : d ≤ dst.size) :
    (goCopy dst d src s e).toList =
      (dst.toList.take d ++ (src.toList.drop s).take (e - s) ++
        dst.toList.drop (d + ((src.toList.drop s).take (e - s)).length)).take dst.size :=
  writeAt_toList_cut _ dst d hd

end Sop.BTree

namespace Sop.BTree.Ins
open Sop.BTree

/-- `copy(a[i+1:], a[i:e]); a[i] = v` as a list: `v` inserted at `i` among the first `e` entries (the last of
    them falls off the end when `e` is the size), the entries behind `e` stay -/
theorem shiftStore_toList {α} (a : Array α) (i e : Nat) (v : α) (hie : i ≤ e) (he : e ≤ a.size) (hi : i < a.size) :
    ((goCopy a (i + 1) a i e).setIfInBounds i v).toList =
      (a.toList.take i ++ v :: (a.toList.drop i).take (e - i)).take a.size ++ a.toList.drop (e + 1) := by
  have hl : i < a.toList.length := by rw [Array.length_toList]; exact hi
  have hW : ((a.toList.drop i).take (e - i)).length = e - i := by
    rw [List.length_take, List.length_drop, Array.length_toList]; omega
  rw [Array.toList_setIfInBounds, goCopy_toList a (i + 1) a i e (Nat.succ_le_of_lt hi), hW, ← List.take_set, List.take_add_one,
    List.getElem?_eq_getElem hl, Option.toList_some, List.append_assoc, List.append_assoc,
    List.set_append_right _ _ (by rw [List.length_take]; omega), List.length_take, Nat.min_eq_left (Nat.le_of_lt hl),
    Nat.sub_self, List.singleton_append, List.set_cons_zero, show i + 1 + (e - i) = e + 1 by omega]
  generalize hP : a.toList.take i ++ v :: (a.toList.drop i).take (e - i) = P
  have hPl : P.length = e + 1 := by
    rw [← hP, List.length_append, List.length_cons, hW, List.length_take, Nat.min_eq_left (Nat.le_of_lt hl)]; omega
  rw [show a.toList.take i ++ v :: ((a.toList.drop i).take (e - i) ++ a.toList.drop (e + 1)) = P ++ a.toList.drop (e + 1) by
    rw [← hP, List.append_assoc]; rfl]
  -- either the shifted block still fits (`e < a.size`) or nothing lies behind it
  by_cases hes : e < a.size
  · rw [List.take_of_length_le (l := P) (by omega), List.take_of_length_le]
    rw [List.length_append, hPl, List.length_drop, Array.length_toList]; omega
  · rw [List.drop_of_length_le (by rw [Array.length_toList]; omega), List.append_nil, List.append_nil]

/-- the list after `insertSlotItem`-style shifting: `copy(a[i+1:], a[i:]); a[i] = v` -/
theorem insertShift_toList {α} (a : Array α) (i : Nat) (v : α) (hi : i < a.size) :
    ((goCopy a (i + 1) a i a.size).setIfInBounds i v).toList = (a.toList.take i ++ v :: a.toList.drop i).take a.size := by
  rw [shiftStore_toList a i a.size v (Nat.le_of_lt hi) (Nat.le_refl _) hi,
    List.drop_of_length_le (l := a.toList) (i := a.size + 1) (by simp), List.append_nil,
    List.take_of_length_le (l := a.toList.drop i) (i := a.size - i) (by simp)]

theorem insertShift_size {α} (a : Array α) (i : Nat) (v : α) :
    ((goCopy a (i + 1) a i a.size).setIfInBounds i v).size = a.size := by
  simp [goCopy, writeAt_size]

theorem writeAt0_toList {α} (z : α) (k : Nat) (l : List α) (hl : l.length ≤ k) :
    (writeAt (Array.replicate k z) 0 l).toList = l ++ List.replicate (k - l.length) z := by
  rw [writeAt_toList_cut l _ 0 (Nat.zero_le _)]
  simp [List.take_of_length_le, hl]

theorem goCopy0_toList {α} {z : α} (k : Nat) (src : Array α) (s e : Nat) (hk : e - s ≤ k) (he : e ≤ src.size) :
    (goCopy (Array.replicate k z) 0 src s e).toList = (src.toList.drop s).take (e - s) ++ List.replicate (k - (e - s)) z := by
  unfold goCopy
  have hlen : ((src.toList.drop s).take (e - s)).length = e - s :=
    List.length_take_of_le (by rw [List.length_drop, Array.length_toList]; exact Nat.sub_le_sub_right he s)
  rw [writeAt0_toList _ _ _ (by rw [hlen]; exact hk), hlen]

theorem goCopy0_size {α} {z : α} (k : Nat) (src : Array α) (s e : Nat) : (goCopy (Array.replicate k z) 0 src s e).size = k := by
  simp [goCopy, writeAt_size]

theorem shiftSlots_size {α} (a : Array α) (pos occ : Nat) : (shiftSlots a pos occ).size = a.size := by
  unfold shiftSlots moveElems
  split
  · split
    · rfl
    · simp [goCopy, writeAt_size]
  · rfl

theorem shiftSlots_eq_goCopy {α} (a : Array α) (pos occ : Nat) (hpo : pos ≤ occ) (ho : occ < a.size) :
    shiftSlots a pos occ = goCopy a (pos + 1) a pos occ := by
  unfold shiftSlots
  by_cases hlt : pos < occ
  · have hc : ¬ (((occ : Int) - (pos : Int)) ≤ 0 ∨ pos + 1 ≥ a.size ∨ pos ≥ a.size) := fun h =>
      h.elim (Int.not_le.mpr (Int.sub_pos_of_lt (Int.ofNat_lt.mpr hlt)))
        (fun h => h.elim (Nat.not_le.mpr (Nat.lt_of_le_of_lt hlt ho))
          (Nat.not_le.mpr (Nat.lt_of_le_of_lt hpo ho)))
    rw [if_pos hlt, moveElems, if_neg hc]
    simp only [Int.toNat_sub occ pos, Nat.add_sub_cancel' hpo, Nat.min_eq_left (Nat.le_of_lt ho)]
  · rw [if_neg hlt, Nat.le_antisymm (Nat.le_of_not_lt hlt) hpo, goCopy, Nat.sub_self, List.take_zero]
    rfl

/-- `shiftSlots(a, pos, occ); a[pos] = v` as a list: `v` inserted at `pos` among the `occ` occupied entries, the
    first unoccupied entry gone -/
theorem shiftSet_toList {α} (a : Array α) (pos occ : Nat) (v : α) (hpo : pos ≤ occ) (ho : occ < a.size) :
    ((shiftSlots a pos occ).setIfInBounds pos v).toList =
      (a.toList.take pos ++ v :: (a.toList.drop pos).take (occ - pos)) ++ a.toList.drop (occ + 1) ∧
    (a.toList.take pos ++ v :: (a.toList.drop pos).take (occ - pos)).length = occ + 1 := by
  have hl : (a.toList.take pos ++ v :: (a.toList.drop pos).take (occ - pos)).length = occ + 1 := by
    rw [List.length_append, List.length_cons,
      List.length_take_of_le (by rw [Array.length_toList]; exact Nat.le_trans hpo (Nat.le_of_lt ho)),
      List.length_take_of_le (by
        rw [List.length_drop, Array.length_toList]; exact Nat.sub_le_sub_right (Nat.le_of_lt ho) pos),
      ← Nat.add_assoc, Nat.add_sub_cancel' hpo]
  rw [shiftSlots_eq_goCopy a pos occ hpo ho, shiftStore_toList a pos occ v hpo (Nat.le_of_lt ho) (by omega),
    List.take_of_length_le (by rw [hl]; exact ho)]
  exact ⟨rfl, hl⟩

/-- no user in the development -/
theorem shiftSet_take {α} (a : Array α) (pos occ : Nat) (v : α) (hpo : pos ≤ occ) (ho : occ < a.size) :
    ((shiftSlots a pos occ).setIfInBounds pos v).toList.take (occ + 1) =
      (a.toList.take occ).take pos ++ v :: (a.toList.take occ).drop pos := by
  obtain ⟨h, hl⟩ := shiftSet_toList a pos occ v hpo ho
  rw [h, List.take_left' hl, List.take_take, Nat.min_eq_left hpo, List.drop_take]

theorem shiftSet_size {α} (a : Array α) (pos occ : Nat) (v : α) :
    ((shiftSlots a pos occ).setIfInBounds pos v).size = a.size := by
  simp [shiftSlots_size]

end Sop.BTree.Ins
