import Sop.Lemmas.BTreeKeyStep
import Sop.Lemmas.BTreeInsert
/-! The descent of `node.add` (`Ins.addTarget`) and key existence: on a well-formed tree the descent ends in
`dup` only in a unique store that holds the key, and in a unique store it ends in `nilc`/`leaf` only if the key
is absent; it never gets stuck or runs out of fuel. -/
namespace Sop.BTree
open Sop.BTree.Ins

def TargetKeyOk (T : BTree) (key : Int) : Target → Prop
  | .dup n i => T.unique = true ∧ (∃ x ∈ T.abs, x.key = key) ∧ ∃ nd, T.get? n = some nd ∧ i < nd.count
  | .nilc _ _ => T.unique = true → ∀ x ∈ T.abs, x.key ≠ key
  | .leaf _ _ => T.unique = true → ∀ x ∈ T.abs, x.key ≠ key
  | .stuck => False
  | .fuel => False

theorem getIndexToInsertTo_snd (T : BTree) (nd : Node) (key : Int) :
    (getIndexToInsertTo T nd key).2 = true ↔
      (nd.count ≠ 0 ∧ T.unique = true ∧
        (nd.slot (if searchIdx nd key ≥ nd.count then searchIdx nd key - 1 else searchIdx nd key)).key = key) := by
  unfold getIndexToInsertTo searchIdx
  by_cases hc : nd.count = 0
  · simp [hc]
  · have : nd.count > 0 := by omega
    simp only [hc, if_false, this, if_true, ne_eq, not_false_eq_true, true_and]
    cases T.unique <;> simp

theorem slot_mem_items {t : BTree} {nd : Node} (hs : NodeShape t nd) {i : Nat} (hi : i < nd.count) :
    nd.slot i ∈ nd.items := by
  rw [← Node.items_getD hs hi, List.getD_eq_getElem?_getD]
  have : i < nd.items.length := by rw [Node.items_length hs]; exact hi
  rw [List.getElem?_eq_getElem this]; simp

/-- the existence test of `getIndexToInsertTo` looks at the search index, or one slot before it when the index is past
    the last slot; the latter never matches because everything before the search index is smaller than the key -/
theorem getIndexToInsertTo_hit (T : BTree) (nd : Node) (key : Int)
    (hprev : ∀ j, j + 1 = searchIdx nd key → (nd.slot j).key < key) :
    (getIndexToInsertTo T nd key).2 = true ↔
      (T.unique = true ∧ searchIdx nd key < nd.count ∧ (nd.slot (searchIdx nd key)).key = key) := by
  rw [getIndexToInsertTo_snd]
  generalize searchIdx nd key = idx at hprev ⊢
  constructor
  · rintro ⟨hc0, hu, hk⟩
    by_cases hge : idx ≥ nd.count
    · exfalso
      rw [if_pos hge] at hk
      have hpos : 0 < idx := Nat.lt_of_lt_of_le (Nat.pos_of_ne_zero hc0) hge
      exact absurd hk (Int.ne_of_lt (hprev (idx - 1) (Nat.sub_add_cancel hpos)))
    · rw [if_neg hge] at hk
      exact ⟨hu, Nat.lt_of_not_ge hge, hk⟩
  · rintro ⟨hu, hlt, hk⟩
    rw [if_neg (Nat.not_le.mpr hlt)]
    exact ⟨Nat.ne_of_gt (Nat.lt_of_le_of_lt (Nat.zero_le _) hlt), hu, hk⟩

theorem leafDup_some {T : BTree} {nd : Node} {key : Int} {idx ci : Nat} (h : leafDup T nd key idx = some ci)
    (hidx : idx ≤ nd.count) : T.unique = true ∧ ci < nd.count ∧ (nd.slot ci).key = key := by
  unfold leafDup at h
  by_cases hg1 : (T.unique && decide (nd.count > 0)) = true
  · rw [if_pos hg1] at h
    simp only [Bool.and_eq_true, decide_eq_true_eq] at hg1
    simp only at h
    generalize hci0 : (if (decide (idx > 0) && decide (idx ≥ nd.count)) = true then idx - 1 else idx) = ci0 at h
    have hlt : ci0 < nd.count := by
      rw [← hci0]
      by_cases hcc : (decide (idx > 0) && decide (idx ≥ nd.count)) = true
      · rw [if_pos hcc]; simp only [Bool.and_eq_true, decide_eq_true_eq] at hcc; omega
      · rw [if_neg hcc]; simp only [Bool.and_eq_true, decide_eq_true_eq, not_and] at hcc; omega
    by_cases hk : ((nd.slot ci0).key == key) = true
    · rw [if_pos hk] at h; cases h; exact ⟨hg1.1, hlt, by simpa using hk⟩
    · rw [if_neg hk] at h; cases h
  · rw [if_neg hg1] at h; cases h

theorem addTarget_key {T : BTree} (hw : WFR T) (hsorted : Sorted T.abs) (key : Int) (fuel : Nat) :
    ∀ (f : Nat) (m p : NodeId) (pre post : List Item), Ctx T f m p pre post → f ≤ fuel →
    (∀ x ∈ pre, x.key < key) → (∀ x ∈ post, key ≤ x.key) → (T.unique = true → ∀ x ∈ post, x.key ≠ key) →
    TargetKeyOk T key (addTarget key fuel T m) := by
  induction fuel with
  | zero =>
    intro f m p pre post hctx hfuel hpre hpost hinv
    exact absurd (hctx.fuel_pos hw) (Nat.not_lt.mpr hfuel)
  | succ fuel ih =>
    intro f m p pre post hctx hfuel hpre hpost hinv
    obtain ⟨nd, hg⟩ := hctx.node hw
    obtain ⟨hsh, hpar, hnonempty, hm0, f', hf'⟩ := hctx.shape hw hg
    subst hf'
    obtain ⟨hf, lo, hi, hwf⟩ := hctx.wf hw
    obtain ⟨hidx, hA, hB, hC⟩ := find_step hw hsorted hctx hg key hpre hpost
    have habs := hctx.abs hw
    have hsplit := A_split T hwf hf hg hidx
    have hitem_abs : ∀ i, i < nd.count → nd.slot i ∈ T.abs := by
      intro i hi
      rw [habs, A_unfold T hwf hf hg]
      exact List.mem_append_left _ (List.mem_append_right _
        ((items_sublist_weave _ _ _ (by rw [Node.kids_length hsh, Node.items_length hsh])).subset (slot_mem_items hsh hi)))
    have hprev : ∀ j, j + 1 = searchIdx nd key → (nd.slot j).key < key := by
      intro j hj
      have hjc : j < nd.count := by show j + 1 ≤ nd.count; rw [hj]; exact hidx
      apply hA
      rw [← hj, Node.pre_succ hsh _ hjc]
      simp
    have hex := getIndexToInsertTo_hit T nd key hprev
    rw [addTarget]
    simp only [get_of_get? hg, insIdx_eq_searchIdx]
    generalize searchIdx nd key = idx at *
    by_cases hdup : (getIndexToInsertTo T nd key).2 = true
    · simp only [hdup, if_true]
      obtain ⟨hu, hlt, hk⟩ := hex.mp hdup
      exact ⟨hu, ⟨nd.slot idx, hitem_abs idx hlt, hk⟩, nd, hg, hlt⟩
    · have hdup' : (getIndexToInsertTo T nd key).2 = false := by simpa using hdup
      simp only [hdup', Bool.false_eq_true, if_false]
      have hnohit : T.unique = true → ¬ (idx < nd.count ∧ (nd.slot idx).key = key) :=
        fun hu hh => hdup (hex.mpr ⟨hu, hh.1, hh.2⟩)
      -- in a unique store nothing from the search index on equals the key
      have hpost' : T.unique = true → ∀ x ∈ nd.post (A T) idx ++ post, x.key ≠ key := by
        intro hu x hx
        rcases List.mem_append.mp hx with hx | hx
        · exact Int.ne_of_gt (hC (hnohit hu) x hx)
        · exact hinv hu x hx
      have hend : nd.child idx = 0 → T.unique = true → ∀ x ∈ T.abs, x.key ≠ key := by
        intro hc0 hu x hx
        rw [habs, hsplit, hc0, A_zero] at hx
        simp only [List.append_nil, List.append_assoc, List.mem_append] at hx
        rcases hx with hx | hx | hx | hx
        · exact Int.ne_of_lt (hpre x hx)
        · exact Int.ne_of_lt (hA x (List.mem_append_right _ hx))
        · exact hpost' hu x (List.mem_append_left _ hx)
        · exact hpost' hu x (List.mem_append_right _ hx)
      cases hch : nd.hasChildren with
      | true =>
        simp only [if_true]
        by_cases hc : nd.child idx = 0
        · simp only [hc, beq_self_eq_true, if_true]
          exact hend hc
        · simp only [beq_eq_false_iff_ne.mpr hc, Bool.false_eq_true, if_false]
          obtain ⟨cn, hgc⟩ := hctx.kid_some hw hg hidx hc
          have hco : T.childOf m idx = nd.child idx := childOf_eq (HeapEq.refl T) hg hc hgc
          rw [hco]
          simp only [hc, if_false]
          exact ih f' (nd.child idx) m _ _ (Ctx.child hctx hg hidx rfl hc) (Nat.le_of_succ_le_succ hfuel)
            hA hB hpost'
      | false =>
        simp only [Bool.false_eq_true, if_false]
        cases hld : leafDup T nd key idx with
        | some ci =>
          obtain ⟨hu, hci, hk⟩ := leafDup_some hld hidx
          exact ⟨hu, ⟨nd.slot ci, hitem_abs ci hci, hk⟩, nd, hg, hci⟩
        | none =>
          simp only
          exact hend (leaf_child_zero hch _)

theorem addStart_unique (t : BTree) (uniq : Bool) : (addStart t uniq).1.unique = uniq := rfl

theorem addTargetOf_key (t : BTree) (uniq : Bool) (key : Int) (hwf : WF t) :
    match addTargetOf t uniq key with
    | .dup n i => uniq = true ∧ hasKey t.abs key = true ∧ ∃ nd, (addStart t uniq).1.get? n = some nd ∧ i < nd.count
    | .nilc _ _ => uniq = true → hasKey t.abs key = false
    | .leaf _ _ => uniq = true → hasKey t.abs key = false
    | .stuck => False
    | .fuel => False := by
  have so := addStart_ok t uniq hwf
  have hw := so.wf.wfr so.root
  have hsorted := (abs_sorted_of_WF _ so.wf).1
  have h := addTarget_key hw hsorted key (addStart t uniq).1.fuel _ _ 0 [] [] Ctx.root (fuel_root (HeapEq.refl _))
    (fun _ h => nomatch h) (fun _ h => nomatch h) (fun _ _ h => nomatch h)
  rw [← so.rootEq] at h
  unfold addTargetOf
  generalize addTarget key (addStart t uniq).1.fuel (addStart t uniq).1 (addStart t uniq).2 = tg at h ⊢
  cases tg with
  | dup n i =>
    obtain ⟨hu, ⟨x, hx, hk⟩, hnd⟩ := h
    rw [so.abs] at hx
    exact ⟨hu, hasKey_of_mem hx hk, hnd⟩
  | nilc n i =>
    intro hu
    have := h hu
    rw [so.abs] at this
    exact hasKey_false this
  | leaf n i =>
    intro hu
    have := h hu
    rw [so.abs] at this
    exact hasKey_false this
  | stuck => exact h
  | fuel => exact h

end Sop.BTree
