import Sop.Model.StoreInfoHistory
import Sop.Lemmas.Basics
/-! `StoreRepository.Update` on one store's file and cache entry (one forward, one undo iteration), lifted to `loop` / `undoAll` /
`update`: coherence, restoration on failure, the undisturbed call, the count an ok call leaves. -/
namespace Sop.SICache

def Cell.Coh (c : Cell) : Prop := c.cache = none ∨ c.cache = c.disk

/-- coherent, and the file (when it exists) describes the store whose static part is `m`: what `Update` must leave
alone (its fast path keeps the file's, its fallback writes the caller's) -/
def Cell.Inv (m : Nat) (c : Cell) : Prop := c.Coh ∧ ∀ d, c.disk = some d → d.info = m

theorem Cell.Inv.coh {m : Nat} {c : Cell} (h : c.Inv m) : c.Coh := h.1

theorem Cell.Inv.info {m : Nat} {c : Cell} (h : c.Inv m) {d : Rec} (hd : c.disk = some d) : d.info = m := h.2 d hd

/-- a failing step of this kind left nothing behind: no `SetStruct` failure, no write that took effect and then
reported failure without a later write repairing it -/
def Flt.clean (f : Flt) : Bool :=
  !f.setErr && f.fullWrite != .after && !(f.fastWrite == .after && f.fullWrite == .before)

/-- nothing prevents the iteration from completing: the store is still there, the file can be read when the cache
misses, the full write works, the cache accepts the entry (the fast path may still fail in any way) -/
def Flt.quiet (f : Flt) : Bool :=
  !f.gone && !f.getErr && f.fullWrite == .ok && !f.setErr

theorem Flt.quiet_iff {f : Flt} :
    f.quiet = true ↔ f.gone = false ∧ f.getErr = false ∧ f.fullWrite = .ok ∧ f.setErr = false := by
  simp [Flt.quiet, and_assoc]

theorem Flt.clean_iff {f : Flt} :
    f.clean = true ↔ f.setErr = false ∧ f.fullWrite ≠ .after ∧ (f.fastWrite = .after → f.fullWrite ≠ .before) := by
  simp [Flt.clean, and_assoc, Decidable.imp_iff_not_or]

theorem Flt.clean_of_quiet {f : Flt} (h : f.quiet = true) : f.clean = true := by
  obtain ⟨-, -, hw, hs⟩ := Flt.quiet_iff.1 h
  rw [Flt.clean_iff, hw]
  exact ⟨hs, by decide, fun _ => by decide⟩

theorem env_inv {m c} (f : Flt) (h : Cell.Inv m c) : Cell.Inv m (c.env f) := by
  unfold Cell.env
  split
  · exact ⟨Or.inl rfl, by intro d hd; cases hd⟩
  · split
    · exact ⟨Or.inl rfl, fun _ => h.info⟩
    · exact h

theorem env_not_gone (c : Cell) (f : Flt) (h : f.gone = false) : (c.env f).disk = c.disk := by
  unfold Cell.env
  simp only [h, Bool.false_eq_true, if_false]
  split <;> rfl

/-- `GetWithTTL`: a hit; nothing there; or a miss with the file present — unreadable, or read and cached -/
theorem get_cases (c : Cell) (f : Flt) :
    (∃ r, c.cache = some r ∧ c.get f = (c, .found r)) ∨ (c.cache = none ∧ c.disk = none ∧ c.get f = (c, .missing)) ∨
    (∃ r, c.cache = none ∧ c.disk = some r ∧ (f.getErr = true ∧ c.get f = (c, .error) ∨
      f.getErr = false ∧ c.get f = (c.setCache f r, .found r))) := by
  unfold Cell.get
  cases hc : c.cache with
  | some r => exact Or.inl ⟨r, rfl, rfl⟩
  | none =>
    cases hd : c.disk with
    | none => exact Or.inr (Or.inl ⟨rfl, rfl, rfl⟩)
    | some r =>
      cases hg : f.getErr with
      | true => exact Or.inr (Or.inr ⟨r, rfl, rfl, Or.inl ⟨rfl, rfl⟩⟩)
      | false => exact Or.inr (Or.inr ⟨r, rfl, rfl, Or.inr ⟨rfl, rfl⟩⟩)

theorem setCache_disk (c : Cell) (f : Flt) (r : Rec) : (c.setCache f r).disk = c.disk := by
  unfold Cell.setCache; split <;> rfl

theorem get_disk (c : Cell) (f : Flt) : (c.get f).1.disk = c.disk := by
  rcases get_cases c f with ⟨r, -, e⟩ | ⟨-, -, e⟩ | ⟨r, -, -, ⟨-, e⟩ | ⟨-, e⟩⟩ <;> rw [e]
  exact setCache_disk c f r

theorem get_inv {m c} (f : Flt) (h : Cell.Inv m c) : Cell.Inv m (c.get f).1 := by
  rcases get_cases c f with ⟨r, -, e⟩ | ⟨-, -, e⟩ | ⟨r, -, hd, ⟨-, e⟩ | ⟨-, e⟩⟩ <;> rw [e]
  any_goals exact h
  refine ⟨?_, fun d hd' => h.info ((setCache_disk c f r).symm.trans hd')⟩
  unfold Cell.setCache
  split
  · exact h.coh
  · exact Or.inr hd.symm

theorem get_found {m c} (f : Flt) (h : Cell.Inv m c) {r} (hr : (c.get f).2 = .found r) :
    c.disk = some r ∧ r.info = m := by
  have hd : c.disk = some r := by
    rcases get_cases c f with ⟨r', hc, e⟩ | ⟨-, -, e⟩ | ⟨r', -, hd, ⟨-, e⟩ | ⟨-, e⟩⟩ <;> rw [e] at hr <;> cases hr
    · -- a hit: the coherent cache holds the file's record
      exact (h.coh.resolve_left (by rw [hc]; exact nofun)).symm.trans hc
    · exact hd
  exact ⟨hd, h.info hd⟩

theorem get_quiet {c : Cell} {f : Flt} {d : Rec} (hc : c.Coh) (hd : c.disk = some d) (hg : f.getErr = false)
    (hs : f.setErr = false) : c.get f = (⟨some d, some d⟩, .found d) := by
  obtain ⟨cd, cc⟩ := c
  cases hd
  rcases get_cases ⟨some d, cc⟩ f with ⟨r, hcc, e⟩ | ⟨-, hd', -⟩ | ⟨r, hcc, hd', ⟨hg', -⟩ | ⟨-, e⟩⟩
  · cases hcc
    cases hc.resolve_left nofun
    exact e
  · cases hd'
  · rw [hg] at hg'; cases hg'
  · cases hcc; cases hd'
    rw [e, Cell.setCache, hs]; rfl

/-- `store`, when patching the existing file would produce `r` itself: it completes; fails without effect; or fails after
a write took effect, which `Flt.clean` excludes -/
theorem store_spec {c : Cell} (f : Flt) (t : Bool) (r : Rec) (hm : ∀ d, c.disk = some d → d.info = r.info) :
    c.store f t r = (({ c with disk := some r } : Cell).setCache f r, true) ∨
    f.fullWrite ≠ .ok ∧ (c.store f t r = (c, false) ∨
      f.clean = false ∧ c.store f t r = ({ c with disk := some r }, false)) := by
  cases hd : c.disk with
  | none => cases hu : f.fullWrite <;> simp [Cell.store, hd, hu, Flt.clean]
  | some d =>
    have hp : ({ d with count := r.count, ts := r.ts } : Rec) = r := by rw [hm d hd]
    cases hb : (t && !f.fastRead) with
    | false => cases hu : f.fullWrite <;> simp [Cell.store, hu, hb, Flt.clean]
    | true =>
      cases hfw : f.fastWrite <;> cases hu : f.fullWrite <;> simp [Cell.store, hd, hu, hb, hfw, hp, Flt.clean]

theorem store_inv {m c} (f : Flt) (t : Bool) (r : Rec) (h : Cell.Inv m c) (hr : r.info = m)
    (hf : f.clean = true) : Cell.Inv m (c.store f t r).1 := by
  rcases store_spec f t r (fun d hd => (h.info hd).trans hr.symm) with e | ⟨_, e | ⟨hc, _⟩⟩
  · rw [e, Cell.setCache, (Flt.clean_iff.1 hf).1]
    exact ⟨Or.inr rfl, fun d hd => by cases hd; exact hr⟩
  · rw [e]; exact h
  · rw [hf] at hc; cases hc

theorem store_true_disk {c : Cell} (f : Flt) (t : Bool) (r : Rec) (hm : ∀ d, c.disk = some d → d.info = r.info)
    (h : (c.store f t r).2 = true) : (c.store f t r).1.disk = some r := by
  rcases store_spec f t r hm with e | ⟨_, e | ⟨_, e⟩⟩
  · rw [e, Cell.setCache]; split <;> rfl
  · rw [e] at h; cases h
  · rw [e] at h; cases h

theorem store_false_disk {c : Cell} (f : Flt) (t : Bool) (r : Rec) (hm : ∀ d, c.disk = some d → d.info = r.info)
    (hf : f.clean = true) (h : (c.store f t r).2 = false) : (c.store f t r).1.disk = c.disk := by
  rcases store_spec f t r hm with e | ⟨_, e | ⟨hc, _⟩⟩
  · rw [e] at h; cases h
  · rw [e]
  · rw [hf] at hc; cases hc

theorem store_quiet {c : Cell} (f : Flt) (t : Bool) (r : Rec) (hm : ∀ d, c.disk = some d → d.info = r.info)
    (hf : f.quiet = true) : c.store f t r = (⟨some r, some r⟩, true) := by
  obtain ⟨-, -, hw, hs⟩ := Flt.quiet_iff.1 hf
  rcases store_spec f t r hm with e | ⟨hne, _⟩
  · rw [e, Cell.setCache, hs]; rfl
  · exact absurd hw hne

theorem fwd_inv {m c} (u : Upd) (h : Cell.Inv m c) (hu : u.info = m) (hf : u.fwd.clean = true) :
    Cell.Inv m (c.fwd u).1 := by
  have h1 := get_inv u.fwd (env_inv u.fwd h)
  unfold Cell.fwd
  split
  case h_3 c1 si heq =>
    rw [heq] at h1
    exact store_inv _ _ _ h1 hu hf
  all_goals
    rename_i c1 heq
    rw [heq] at h1; exact h1

theorem undo_inv {m c} (u : Upd) (o : Rec) (h : Cell.Inv m c) (hf : u.und.clean = true) :
    Cell.Inv m (c.undo u o) := by
  have h0 := env_inv u.und h
  have h1 := get_inv u.und h0
  unfold Cell.undo
  split
  · rename_i c1 si heq
    have hsi := (get_found u.und h0 (r := si) (by rw [heq])).2
    rw [heq] at h1
    exact store_inv _ _ _ h1 hsi hf
  · rename_i c1 x _ heq
    rw [heq] at h1; exact h1

theorem fwd_done {m c} (u : Upd) (h : Cell.Inv m c) (hu : u.info = m) {o}
    (hd : (c.fwd u).2 = .done o) :
    c.disk = some o ∧ (c.fwd u).1.disk = some ⟨o.count + u.delta, u.ts, m⟩ := by
  have h0 := env_inv u.fwd h
  have h1 := get_inv u.fwd h0
  unfold Cell.fwd at hd ⊢
  split at hd
  · cases hd
  · cases hd
  · rename_i c1 si heq
    simp only at hd ⊢
    have hf := get_found u.fwd h0 (r := si) (by rw [heq])
    rw [heq] at h1
    split at hd
    · rename_i hw
      simp only [StepRes.done.injEq] at hd
      subst hd
      refine ⟨?_, ?_⟩
      · -- the store was not removed: otherwise nothing would have been found
        cases hg : u.fwd.gone with
        | false => rw [← env_not_gone c u.fwd hg]; exact hf.1
        | true =>
          have : (c.env u.fwd).disk = none := by simp [Cell.env, hg]
          rw [this] at hf; cases hf.1
      · have := store_true_disk u.fwd (!u.needsSave) ⟨si.count + u.delta, u.ts, u.info⟩
          (c := c1) (by intro d hd'; simp only; rw [hu]; exact h1.info hd') hw
        rw [this, hu]
    · cases hd

theorem fwd_fail_disk {m c} (u : Upd) (h : Cell.Inv m c) (hu : u.info = m) (hf : u.fwd.clean = true)
    (hg : u.fwd.gone = false) (hn : ∀ o, (c.fwd u).2 ≠ .done o) : (c.fwd u).1.disk = c.disk := by
  have h1 := get_inv u.fwd (env_inv u.fwd h)
  have e1 := get_disk (c.env u.fwd) u.fwd
  rw [env_not_gone c u.fwd hg] at e1
  unfold Cell.fwd at hn ⊢
  split
  · rename_i c1 heq; rw [heq] at e1; exact e1
  · rename_i c1 heq; rw [heq] at e1; exact e1
  · rename_i c1 si heq
    rw [heq] at e1 h1
    simp only at e1 hn h1 ⊢
    rw [heq] at hn
    simp only at hn
    cases hw : (c1.store u.fwd (!u.needsSave) ⟨si.count + u.delta, u.ts, u.info⟩).2 with
    | true => exact absurd (by simp [hw]) (hn si)
    | false =>
      rw [store_false_disk _ _ _ (fun d hd => (h1.info hd).trans hu.symm) hf hw]; exact e1

theorem fwd_quiet {m c} (u : Upd) (h : Cell.Inv m c) (hu : u.info = m) (hq : u.fwd.quiet = true) {d}
    (hd : c.disk = some d) :
    c.fwd u = (⟨some ⟨d.count + u.delta, u.ts, m⟩, some ⟨d.count + u.delta, u.ts, m⟩⟩, .done d) := by
  obtain ⟨hg, hge, -, hs⟩ := Flt.quiet_iff.1 hq
  have hd0 : (c.env u.fwd).disk = some d := by rw [env_not_gone c _ hg]; exact hd
  subst hu
  unfold Cell.fwd
  rw [get_quiet (env_inv u.fwd h).coh hd0 hge hs]
  simp only
  rw [store_quiet _ _ _ (fun d' hd' => by cases hd'; exact h.info hd) hq]
  rfl

theorem undo_restores {m c1} (u : Upd) (o : Rec) (h : Cell.Inv m c1) (hq : u.und.quiet = true) (ho : o.info = m)
    (hd : c1.disk = some ⟨o.count + u.delta, u.ts, m⟩) : (c1.undo u o).disk = some o := by
  obtain ⟨hg, hge, -, hs⟩ := Flt.quiet_iff.1 hq
  have hd0 : (c1.env u.und).disk = some ⟨o.count + u.delta, u.ts, m⟩ := by rw [env_not_gone _ _ hg]; exact hd
  unfold Cell.undo
  rw [get_quiet (env_inv u.und h).coh hd0 hge hs]
  simp only
  rw [store_quiet _ _ _ (fun d' hd' => by cases hd'; rfl) hq]
  cases o with
  | mk oc ots oi =>
    simp only at ho
    subst ho
    have : oc + u.delta - u.delta = oc := by omega
    simp [this]

def Inv (M : String → Nat) (s : St) : Prop := ∀ n, (s n).Inv (M n)

@[simp] theorem set_same (s : St) (n : String) (c : Cell) : (s.set n c) n = c := by simp [St.set]

theorem set_other (s : St) {n m : String} (c : Cell) (h : m ≠ n) : (s.set n c) m = s m := by simp [St.set, h]

theorem set_inv {M s} (n : String) (c : Cell) (h : Inv M s) (hc : c.Inv (M n)) : Inv M (s.set n c) := by
  intro m
  by_cases hm : m = n
  · subst hm; rw [set_same]; exact hc
  · rw [set_other s c hm]; exact h m

theorem undoAll_inv {M} : ∀ (done : List (Upd × Rec)) (s : St), Inv M s →
    (∀ p ∈ done, p.1.und.clean = true) → Inv M (undoAll s done)
  | [], s, h, _ => h
  | p :: rest, s, h, hc => by
    unfold undoAll
    exact undoAll_inv rest _ (set_inv _ _ h (undo_inv p.1 p.2 (h _) (hc p (by simp))))
      (fun q hq => hc q (by simp [hq]))

theorem loop_inv {M} : ∀ (rest : List Upd) (s : St) (done : List (Upd × Rec)), Inv M s →
    (∀ p ∈ done, p.1.und.clean = true) →
    (∀ u ∈ rest, u.info = M u.name ∧ u.fwd.clean = true ∧ u.und.clean = true) →
    Inv M (loop s done rest).1
  | [], s, done, h, _, _ => h
  | u :: rest, s, done, h, hd, hr => by
    obtain ⟨hu, hf, hun⟩ := hr u (by simp)
    have hc := fwd_inv u (h u.name) hu hf
    unfold loop
    split
    · rename_i c o heq
      rw [heq] at hc
      refine loop_inv rest _ _ (set_inv _ _ h hc) ?_ (fun v hv => hr v (by simp [hv]))
      intro p hp
      rcases List.mem_append.1 hp with hp | hp
      · exact hd p hp
      · simp only [List.mem_singleton] at hp; subst hp; exact hun
    all_goals
      rename_i c heq
      rw [heq] at hc
      exact undoAll_inv done _ (set_inv _ _ h hc) hd

theorem insertByName_cons (x y : Upd) (r : List Upd) :
    insertByName x (y :: r) = x :: y :: r ∨ insertByName x (y :: r) = y :: insertByName x r := by
  rw [insertByName]; split <;> simp

theorem insertByName_perm (u : Upd) (l : List Upd) : (insertByName u l).Perm (u :: l) :=
  Ins.ins_perm (ins := insertByName) (fun _ => rfl) insertByName_cons u l

theorem sortByName_perm : ∀ l : List Upd, (sortByName l).Perm l
  | [] => .refl _
  | u :: rest => (insertByName_perm u _).trans ((sortByName_perm rest).cons u)

theorem mem_sortByName {l : List Upd} {u : Upd} : u ∈ sortByName l ↔ u ∈ l := (sortByName_perm l).mem_iff

theorem nodup_sortByName {l : List Upd} (h : (l.map (·.name)).Nodup) : ((sortByName l).map (·.name)).Nodup :=
  ((sortByName_perm l).map _).nodup_iff.2 h

/-- undoing `done` from `s` leaves the files `D`, the stores in `G` (removed concurrently) apart: each undo step yields
`D`'s file, and outside `done` the files of `s` are `D`'s already -/
def Undoes (D : String → Option Rec) (G : String → Prop) (done : List (Upd × Rec)) (s : St) : Prop :=
  (∀ p ∈ done, ((s p.1.name).undo p.1 p.2).disk = D p.1.name) ∧
  ∀ n, n ∉ done.map (·.1.name) → ¬ G n → (s n).disk = D n

theorem undoAll_disk (D : String → Option Rec) (G : String → Prop) :
    ∀ (done : List (Upd × Rec)) (s : St), (done.map (·.1.name)).Nodup → Undoes D G done s →
    ∀ n, ¬ G n → (undoAll s done n).disk = D n
  | [], s, _, ⟨_, h⟩, n, hn => h n (by simp) hn
  | p :: rest, s, hnd, ⟨hp, h⟩, n, hn => by
    unfold undoAll
    simp only [List.map_cons, List.nodup_cons] at hnd
    refine undoAll_disk D G rest _ hnd.2 ⟨?_, ?_⟩ n hn
    · intro q hq
      have hne : q.1.name ≠ p.1.name := by
        intro e; exact hnd.1 (e ▸ List.mem_map_of_mem (f := fun x : Upd × Rec => x.1.name) hq)
      rw [set_other _ _ hne]
      exact hp q (by simp [hq])
    · intro m hm hg
      by_cases e : m = p.1.name
      · subst e; rw [set_same]; exact hp p (by simp)
      · rw [set_other _ _ e]
        exact h m (by simp only [List.map_cons, List.mem_cons, not_or]; exact ⟨e, hm⟩) hg

/-- When the forward loop fails, `undo` restores the files `D`. Any store of `rest` may complete and need undoing later,
hence `und.quiet` for all of them; a store removed concurrently is not restored, wherever the loop stops. -/
theorem loop_restore {M} (D : String → Option Rec) :
    ∀ (rest : List Upd) (s : St) (done : List (Upd × Rec)), Inv M s →
    (done.map (·.1.name) ++ rest.map (·.name)).Nodup → Undoes D (fun _ => False) done s →
    (∀ u ∈ rest, u.info = M u.name ∧ u.fwd.clean = true ∧ u.und.quiet = true) →
    (loop s done rest).2 ≠ .ok →
    ∀ n, (∀ u ∈ rest, u.fwd.gone = true → u.name ≠ n) → ((loop s done rest).1 n).disk = D n
  | [], s, done, _, _, _, _, hne, _, _ => by simp [loop] at hne
  | u :: rest, s, done, h, hnd, ⟨hp, hd'⟩, hr, hne, n, hn => by
    have hd : ∀ n, n ∉ done.map (·.1.name) → (s n).disk = D n := fun n hn => hd' n hn not_false
    obtain ⟨hu, hf, hq⟩ := hr u (by simp)
    have hc := fwd_inv u (h u.name) hu hf
    have hnd' : (done.map (·.1.name)).Nodup := (List.nodup_append.1 hnd).1
    have hu_notin : u.name ∉ done.map (·.1.name) := by
      intro hm
      exact (List.nodup_append.1 hnd).2.2 _ hm _ (by simp) rfl
    have hdone_ne : ∀ p ∈ done, p.1.name ≠ u.name := by
      intro p hpm e
      exact hu_notin (e ▸ List.mem_map_of_mem (f := fun x : Upd × Rec => x.1.name) hpm)
    -- a failing iteration: undo from a state that differs from `s` at most in this store's cache entry
    have fail : ∀ c r, (s u.name).fwd u = (c, r) → (∀ o, r ≠ .done o) →
        (undoAll (s.set u.name c) done n).disk = D n := by
      intro c r heq hr
      refine undoAll_disk D (fun m => m = u.name ∧ u.fwd.gone = true) done _ hnd' ⟨?_, ?_⟩ n ?_
      · intro p hpm
        rw [set_other _ _ (hdone_ne p hpm)]; exact hp p hpm
      · intro m hm hg
        by_cases e : m = u.name
        · subst e
          rw [set_same]
          have hgone : u.fwd.gone = false := by
            cases hgg : u.fwd.gone with
            | false => rfl
            | true => exact absurd ⟨rfl, hgg⟩ hg
          have := fwd_fail_disk u (h u.name) hu hf hgone (by rw [heq]; exact hr)
          rw [heq] at this
          rw [this]; exact hd _ hm
        · rw [set_other _ _ e]; exact hd m hm
      · rintro ⟨e, hg⟩
        exact hn u (by simp) hg e.symm
    unfold loop at hne ⊢
    split
    · rename_i c o heq
      rw [heq] at hc hne
      simp only at hne
      have hdn := fwd_done u (h u.name) hu (o := o) (by rw [heq])
      rw [heq] at hdn
      simp only at hdn
      refine loop_restore D rest _ _ (set_inv _ _ h hc) ?_ ⟨?_, ?_⟩ (fun v hv => hr v (by simp [hv])) hne n
        (fun v hv => hn v (by simp [hv]))
      · simpa [List.map_append, List.append_assoc] using hnd
      · intro p hpm
        rcases List.mem_append.1 hpm with hpm | hpm
        · rw [set_other _ _ (hdone_ne p hpm)]; exact hp p hpm
        · simp only [List.mem_singleton] at hpm
          subst hpm
          simp only [set_same]
          have ho : o.info = M u.name := (h u.name).info hdn.1
          rw [undo_restores u o hc hq ho hdn.2, ← hdn.1]
          exact hd _ hu_notin
      · intro m hm _
        have hm' : m ∉ done.map (·.1.name) ∧ m ≠ u.name := by
          simp only [List.map_append, List.map_cons, List.map_nil, List.mem_append, List.mem_singleton,
            not_or] at hm
          exact hm
        rw [set_other _ _ hm'.2]; exact hd m hm'.1
    · rename_i c heq
      exact fail c _ heq nofun
    · rename_i c heq
      exact fail c _ heq nofun

theorem read_fresh {s : St} {n : String} (h : (s n).Coh) : (s.read n).2 = (s n).disk := by
  unfold St.read Cell.get
  cases hcache : (s n).cache with
  | some r =>
    rcases h with h | h
    · rw [hcache] at h; cases h
    · simp only [← h, hcache]
  | none => cases (s n).disk <;> rfl

theorem loop_ok {M} : ∀ (rest : List Upd) (s : St) (done : List (Upd × Rec)), Inv M s →
    (rest.map (·.name)).Nodup →
    (∀ u ∈ rest, u.info = M u.name ∧ u.fwd.quiet = true ∧ ∃ d, (s u.name).disk = some d) →
    (loop s done rest).2 = .ok ∧
    (∀ u ∈ rest, ∀ d, (s u.name).disk = some d →
      (loop s done rest).1 u.name = ⟨some ⟨d.count + u.delta, u.ts, M u.name⟩, some ⟨d.count + u.delta, u.ts, M u.name⟩⟩) ∧
    (∀ n, n ∉ rest.map (·.name) → (loop s done rest).1 n = s n)
  | [], s, done, _, _, _ => by simp [loop]
  | u :: rest, s, done, h, hnd, hr => by
    obtain ⟨hu, hq, d, hd⟩ := hr u (by simp)
    simp only [List.map_cons, List.nodup_cons] at hnd
    have hstep := fwd_quiet u (h u.name) hu hq hd
    have hne : ∀ v ∈ rest, v.name ≠ u.name := by
      intro v hv e; exact hnd.1 (e ▸ List.mem_map_of_mem (f := fun x : Upd => x.name) hv)
    have hinv := set_inv (M := M) u.name _ h (by
      have := fwd_inv u (h u.name) hu (Flt.clean_of_quiet hq); rw [hstep] at this; exact this)
    have ih := loop_ok rest (s.set u.name ⟨some ⟨d.count + u.delta, u.ts, M u.name⟩, some ⟨d.count + u.delta, u.ts, M u.name⟩⟩)
      (done ++ [(u, d)]) hinv hnd.2 (by
        intro v hv
        obtain ⟨a, b, c⟩ := hr v (by simp [hv])
        rw [set_other _ _ (hne v hv)]; exact ⟨a, b, c⟩)
    unfold loop
    rw [hstep]
    simp only
    refine ⟨ih.1, ?_, ?_⟩
    · intro v hv d' hd'
      rcases List.mem_cons.1 hv with e | hv
      · subst e
        rw [hd] at hd'; cases hd'
        rw [ih.2.2 _ hnd.1, set_same]
      · have := ih.2.1 v hv d' (by rw [set_other _ _ (hne v hv)]; exact hd')
        exact this
    · intro n hn
      simp only [List.map_cons, List.mem_cons, not_or] at hn
      rw [ih.2.2 n hn.2, set_other _ _ hn.1]

end Sop.SICache

/-! One more induction over `loop`, for C13's count history: `sumDelta` is `Sop.Model.StoreInfoHistory`'s (hence the import),
the names are in C13's namespace, the subject is `loop`. -/
namespace Sop.C13
open Sop.SICache Sop.SIHist

theorem sumDelta_perm {l l' : List Upd} (h : l.Perm l') (n : String) : sumDelta l n = sumDelta l' n := by
  induction h with
  | nil => rfl
  | cons u _ ih => simp only [sumDelta, ih]
  | swap u v l => simp only [sumDelta]; omega
  | trans _ _ ih1 ih2 => exact ih1.trans ih2

theorem loop_ok_count {M} : ∀ (rest : List Upd) (s : St) (done : List (Upd × Rec)), Inv M s →
    (∀ u ∈ rest, u.info = M u.name ∧ u.fwd.clean = true) →
    (loop s done rest).2 = .ok →
    ∀ n, ((loop s done rest).1 n).disk.map (·.count) = ((s n).disk).map (fun d => d.count + sumDelta rest n)
  | [], s, done, _, _, _, n => by
    simp only [loop, sumDelta]
    cases (s n).disk <;> simp
  | u :: rest, s, done, h, hr, hok, n => by
    obtain ⟨hu, hf⟩ := hr u (by simp)
    have hc := fwd_inv u (h u.name) hu hf
    unfold loop at hok ⊢
    split at hok
    · rename_i c o heq
      rw [heq] at hc
      have hd := fwd_done u (h u.name) hu (o := o) (by rw [heq])
      rw [heq] at hd
      simp only at hd
      have ih := loop_ok_count rest (s.set u.name c) (done ++ [(u, o)]) (set_inv _ _ h hc)
        (fun v hv => hr v (by simp [hv])) hok n
      rw [ih]
      by_cases e : n = u.name
      · subst e
        rw [set_same, hd.2, hd.1]
        simp only [Option.map_some, sumDelta, if_true]
        congr 1; omega
      · rw [set_other _ _ e]
        have : ¬ u.name = n := fun x => e x.symm
        simp only [sumDelta, this, if_false, Int.zero_add]
    · simp at hok
    · simp at hok

end Sop.C13
