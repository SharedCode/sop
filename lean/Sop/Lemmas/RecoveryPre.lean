import Sop.Lemmas.RecoveryWalk
/-! Before the phase-2 registry write: every durable call of the commit keeps `PreFlipInv` — the state invariant `SInv` (every node
loadable at the start reads as it did), only harmless lines in the log, and what the priority rollback's version check will find — and
every line the expired-log walk undoes keeps `SInv`. The premises `WF` of the general theorem (RecoveryAtomic) are stated here too: this is
where they are first needed. -/
namespace Sop.Recovery
open Sop.Commit

section
variable {s0 : State} {w : WS} {fresh : List (UUID × UUID)}

/-- a blob id the recovery may delete without touching a node that was loadable at the start -/
def DelOK (s0 : State) (w : WS) (fresh : List (UUID × UUID)) (x : UUID) : Prop :=
  x ∈ w.newIds ∨ x ∈ w.values ∨ (x ≠ 0 ∧ ∃ i, InactOK s0 fresh i x)

/-- a log line whose undo touches no node that was loadable at the start, whichever line the walk will find to be the last one -/
structure Harmless (s0 : State) (w : WS) (fresh : List (UUID × UUID)) (e : Entry) : Prop where
  notCreate : e.step ≠ .createStore
  beforeCleanup : e.step.ord < Step.deleteObsoleteEntries.ord
  dels : ∀ x ∈ e.undoAll.dels, DelOK s0 w fresh x
  unreg : ∀ x ∈ e.undoAll.unreg, x ∈ w.newIds

theorem undoOf_known {s : State} (inv : SInv s0 w fresh s) (lids : List UUID) :
    ∀ h' ∈ undoOf s lids, Known s0 w fresh h' := by
  intro h' hm
  unfold undoOf at hm
  obtain ⟨h, hh, rfl⟩ := List.mem_map.mp hm
  have hk := inv.known_of_filterMap lids h (List.mem_filter.mp hh).1
  exact known_congr hk rfl rfl rfl hk.2.1

theorem entryEff_sinv (pre : Pre s0 w fresh) {s : State} (inv : SInv s0 w fresh s) (e : Entry)
    (h : Harmless s0 w fresh e) (last : Nat) : SInv s0 w fresh (entryEff last e s) := by
  unfold entryEff
  exact ((inv.delBlobs_static pre _ fun x hx => h.dels x ((e.undo_sub last).1 x hx)).delRegs pre _
    fun x hx => h.unreg x ((e.undo_sub last).2 x hx)).setRegs_known _ (undoOf_known inv _)

theorem walkState_sinv (pre : Pre s0 w fresh) (last : Nat) (l : List Entry) (hl : ∀ e ∈ l, Harmless s0 w fresh e)
    (s : State) (inv : SInv s0 w fresh s) : SInv s0 w fresh (walkState last l s) :=
  walkState_inv (SInv s0 w fresh) last l (fun e he _ inv => entryEff_sinv pre inv e (hl e he) last) s inv

theorem walkState_cnt (last : Nat) (l : List Entry) (s : State) : (walkState last l s).cnt = s.cnt :=
  walkState_inv (·.cnt = s.cnt) last l
    (fun e _ s' h => by unfold entryEff; rw [State.setRegs_cnt, State.delRegs_cnt, State.delBlobs_cnt, h]) s rfl

/-- The durable calls that keep `CInv`. The last arm lists, by being `False`, the calls that cannot occur before the phase-2 registry
write (removal of a blob, a handle, a log file): what a `SafeOp` is NOT (`SafeOp.dels`, `.not_plogRemove`, `.not_tlogRemove`,
`.not_log12`) follows by cases. -/
def SafeOp (s0 : State) (w : WS) (fresh : List (UUID × UUID)) : DOp → Prop
  | .log e => Harmless s0 w fresh e
  | .blobAdd _ | .cnt _ | .plogAdd _ => True
  | .regAdd hs | .regUpd hs _ => ∀ h ∈ hs, Known s0 w fresh h
  | _ => False

/-- every node loadable at the start reads as it did, and the log carries only lines whose undo is harmless -/
structure CInv (s0 : State) (w : WS) (fresh : List (UUID × UUID)) (d : DState) : Prop where
  sinv : SInv s0 w fresh d.s
  logok : ∀ e ∈ d.log, Harmless s0 w fresh e

theorem safe_apply (o : DOp) (ho : SafeOp s0 w fresh o) (d : DState) (h : CInv s0 w fresh d) : CInv s0 w fresh (o.apply d) := by
  obtain ⟨h1, h2⟩ := h
  cases o with
  | log e =>
    refine ⟨h1.of_same rfl rfl, fun e' he' => ?_⟩
    rcases List.mem_append.mp he' with he' | he'
    · exact h2 e' he'
    · exact List.mem_singleton.mp he' ▸ ho
  | blobAdd ids => exact ⟨h1.addBlobs ids, h2⟩
  | cnt ds => exact ⟨h1.of_same (addCnts_reg ds d.s) (addCnts_blob ds d.s), h2⟩
  | plogAdd hs => exact ⟨h1.of_same rfl rfl, h2⟩
  | regAdd hs | regUpd hs _ => exact ⟨h1.setRegs_known hs ho, h2⟩
  | plogRemove | blobRemove _ | regRemove _ | tlogRemove => exact ho.elim

/-- an image that may be written to the registry before the flip: its provenance is known, and where it sits at a logical id of the two
lists it has the version of the list's image (so that the priority rollback's version check still passes) -/
structure SafeImg (s0 : State) (w : WS) (fresh : List (UUID × UUID)) (h : Handle) : Prop where
  known : Known s0 w fresh h
  version : ∀ g ∈ reservedOf s0 fresh w ++ markedOf s0 w, g.lid = h.lid → g.version = h.version

/-- a `SafeOp` that also keeps what the priority rollback's version check needs: what the commit's own calls before the phase-2 registry
write are (`preFlipOp_segPre`) -/
def PreFlipOp (s0 : State) (w : WS) (fresh : List (UUID × UUID)) : DOp → Prop
  | .log e => Harmless s0 w fresh e
  | .blobAdd _ | .cnt _ => True
  | .plogAdd hs => finalOf s0 fresh w ≠ [] ∧ hs = reservedOf s0 fresh w ++ markedOf s0 w
  | .regAdd hs | .regUpd hs _ => ∀ h ∈ hs, SafeImg s0 w fresh h
  | _ => False

theorem PreFlipOp.safe {o : DOp} (h : PreFlipOp s0 w fresh o) : SafeOp s0 w fresh o := by
  cases o with
  | regAdd hs | regUpd hs _ => exact fun x hx => (h x hx).known
  | plogAdd _ => trivial
  | _ => exact h

/-- what holds at every crash point before the phase-2 registry write: `CInv`, and the version check of `doPriorityRollbacks` will pass
on the priority log if it has been written -/
structure PreFlipInv (s0 : State) (w : WS) (fresh : List (UUID × UUID)) (d : DState) : Prop extends CInv s0 w fresh d where
  vers : ∀ g ∈ reservedOf s0 fresh w ++ markedOf s0 w, ∃ c, d.s.reg g.lid = some c ∧ g.version = c.version
  plg : d.plg = none ∨ (finalOf s0 fresh w ≠ [] ∧ d.plg = some (reservedOf s0 fresh w ++ markedOf s0 w))

theorem preFlip_apply (o : DOp) (ho : PreFlipOp s0 w fresh o) (d : DState) (h : PreFlipInv s0 w fresh d) :
    PreFlipInv s0 w fresh (o.apply d) := by
  obtain ⟨hc, hv, hp⟩ := h
  have hc' := safe_apply o ho.safe d hc
  have setRegs : ∀ hs : List Handle, (∀ h ∈ hs, ∀ g ∈ reservedOf s0 fresh w ++ markedOf s0 w, g.lid = h.lid → g.version = h.version) →
      ∀ g ∈ reservedOf s0 fresh w ++ markedOf s0 w, ∃ c, (d.s.setRegs hs).reg g.lid = some c ∧ g.version = c.version := by
    intro hs hok g hg
    by_cases hx : ∃ x ∈ hs, x.lid = g.lid
    · obtain ⟨x, hx, e1, e2⟩ := State.setRegs_reg_mem d.s hs g.lid hx
      exact ⟨x, e2, hok x hx g hg e1.symm⟩
    · rw [State.setRegs_reg_of_not_mem d.s hs g.lid (fun x hx' e' => hx ⟨x, hx', e'⟩)]
      exact hv g hg
  cases o with
  | log e => exact ⟨hc', hv, hp⟩
  | blobAdd ids => exact ⟨hc', fun g hg => (State.addBlobs_reg d.s ids) ▸ hv g hg, hp⟩
  | cnt ds => exact ⟨hc', fun g hg => (addCnts_reg ds d.s) ▸ hv g hg, hp⟩
  | plogAdd hs => exact ⟨hc', hv, .inr ⟨ho.1, congrArg some ho.2⟩⟩
  | regAdd hs | regUpd hs _ => exact ⟨hc', setRegs hs (fun h hh => (ho h hh).version), hp⟩
  | plogRemove | blobRemove _ | regRemove _ | tlogRemove => exact ho.elim

/-- `Pre`/`Pre2` are those of the commit lemmas. Nothing here says that an updated node is registered or that the
reservation succeeds: `reservedOf` is `[]` when it does not. -/
structure WF (s0 : State) (w : WS) (fresh : List (UUID × UUID)) : Prop where
  pre : Pre s0 w fresh
  pre2 : Pre2 s0 w fresh
  noCreate : ∀ st ∈ w.stores, st.created = false
  stagedNZ : ∀ h ∈ reservedOf s0 fresh w, h.inactive ≠ 0
  newObs : ∀ i ∈ w.newIds, i ∉ w.obsoleteValues
  newVals : ∀ i ∈ w.newIds, i ∉ w.values
  newDisj : ∀ i ∈ w.rootIds, i ∉ w.addedIds

theorem known_of_reg (pre : Pre s0 w fresh) {i : UUID} {h : Handle} (e : s0.reg i = some h) : Known s0 w fresh h :=
  (SInv.init s0 w fresh pre).known e

theorem regPairs_sublist (pre : Pre s0 w fresh) (u : List (UUID × Int)) :
    ((u.filterMap (fun (x : UUID × Int) => (s0.reg x.1).map (fun h => (h, x.2)))).map (·.1.lid)).Sublist (u.map (·.1)) := by
  induction u with
  | nil => exact List.Sublist.slnil
  | cons x t ih =>
    rw [List.filterMap_cons]
    cases hf : s0.reg x.1 with
    | none => simp only [Option.map_none, List.map_cons]; exact List.Sublist.cons _ ih
    | some h =>
      simp only [Option.map_some, List.map_cons]
      rw [pre.regwf _ _ hf]
      exact List.Sublist.cons_cons _ ih

/-- what recovery needs to know of the commit's two lists (`reservedOf`, `markedOf`) beyond the commit side's `Lists` -/
structure TwoLists (s0 : State) (w : WS) (fresh : List (UUID × UUID)) (resv remv : List Handle) : Prop where
  known : ∀ h ∈ resv ++ remv, Known s0 w fresh h
  lists : Lists s0 fresh resv remv
  resUpd : ∀ h ∈ resv, h.lid ∈ w.updated.map (·.1)
  remRem : ∀ g ∈ remv, g.lid ∈ w.removed.map (·.1)
  remSame : ∀ g ∈ remv, ∀ g' ∈ remv, g.lid = g'.lid → g = g'
  resNZ : ∀ h ∈ resv, h.inactive ≠ 0
  vers0 : ∀ g ∈ resv ++ remv, ∃ c, s0.reg g.lid = some c ∧ g.version = c.version

theorem reservedOf_facts (pre : Pre s0 w fresh) :
    (∀ h ∈ reservedOf s0 fresh w, Known s0 w fresh h) ∧
    (∀ h ∈ reservedOf s0 fresh w, OldAct s0 h) ∧
    (∀ h ∈ reservedOf s0 fresh w, h.inactive = 0 ∨ ∃ p ∈ fresh, p.2 = h.inactive) ∧
    ((reservedOf s0 fresh w).map (·.lid)).Sublist (w.updated.map (·.1)) ∧
    (∀ h ∈ reservedOf s0 fresh w, ∃ c, s0.reg h.lid = some c ∧ h.version = c.version) := by
  unfold reservedOf
  simp only
  generalize hp : (w.updated.filterMap (fun (x : UUID × Int) => (s0.reg x.1).map (fun h => (h, x.2)))) = pairs
  have hpk : ∀ p ∈ pairs, ∃ i, s0.reg i = some p.1 := by
    intro p hm
    rw [← hp] at hm
    obtain ⟨x, _, e⟩ := List.mem_filterMap.mp hm
    cases hr : s0.reg x.1 with
    | none => simp [hr] at e
    | some h => simp [hr] at e; subst e; exact ⟨x.1, hr⟩
  cases hres : reserveAll s0.now s0.hour fresh pairs with
  | none => simp
  | some r =>
    obtain ⟨res, fr'⟩ := r
    simp only
    obtain ⟨k1, _⟩ := reserveAll_known (s0 := s0) (w := w) (fresh0 := fresh) _ _ _ _ hres (fun _ h => h)
      (fun p hm => by obtain ⟨i, e⟩ := hpk p hm; exact known_of_reg pre e)
    obtain ⟨sh1, sh2⟩ := reserveAll_shape _ _ _ _ hres
    have hsub : (res.map (·.lid)).Sublist (w.updated.map (·.1)) := by
      rw [sh1, ← hp]; exact regPairs_sublist pre _
    have old : ∀ h ∈ res, ∃ c, s0.reg h.lid = some c ∧ h.active = c.active ∧ h.version = c.version := by
      intro h hm
      obtain ⟨_, p, hpm, e1, e2, e3⟩ := sh2 h hm
      obtain ⟨i, e⟩ := hpk p hpm
      exact ⟨p.1, by rw [e1, pre.regwf _ _ e]; exact e, e2, e3⟩
    exact ⟨k1, fun h hm => (old h hm).imp fun _ a => ⟨a.1, a.2.1⟩, fun h hm => (sh2 h hm).1, hsub,
      fun h hm => (old h hm).imp fun _ a => ⟨a.1, a.2.2⟩⟩

theorem WF.twoLists (wf : WF s0 w fresh) : TwoLists s0 w fresh (reservedOf s0 fresh w) (markedOf s0 w) := by
  obtain ⟨r1, r2, r3, r4, r5⟩ := reservedOf_facts wf.pre
  have hm : ∀ g ∈ markedOf s0 w, ∃ i h, i ∈ w.removed.map (·.1) ∧ s0.reg i = some h ∧ h.lid = i ∧
      g = { h with deleted := true, wip := s0.now } := by
    intro g hg
    unfold markedOf at hg
    obtain ⟨h, hh, rfl⟩ := List.mem_map.mp hg
    obtain ⟨x, hx, e⟩ := List.mem_filterMap.mp hh
    exact ⟨x.1, h, List.mem_map_of_mem hx, e, wf.pre.regwf _ _ e, rfl⟩
  have resUpd : ∀ h ∈ reservedOf s0 fresh w, h.lid ∈ w.updated.map (·.1) :=
    fun h hh => r4.subset (List.mem_map_of_mem (f := (·.lid)) hh)
  have remRem : ∀ g ∈ markedOf s0 w, g.lid ∈ w.removed.map (·.1) := by
    intro g hg
    obtain ⟨i, h, hi, _, e, rfl⟩ := hm g hg
    exact e ▸ hi
  refine ⟨?_, ⟨r2, r3, r4.nodup wf.pre2.updNodup, ?_, ?_⟩, resUpd, remRem, ?_, wf.stagedNZ, ?_⟩
  · intro h hh
    rcases List.mem_append.mp hh with hh | hh
    · exact r1 h hh
    · obtain ⟨i, h0, _, e, _, rfl⟩ := hm h hh
      have hk := known_of_reg wf.pre e
      exact known_congr hk rfl rfl rfl hk.2.1
  · intro g hg
    obtain ⟨i, h0, _, e, el, rfl⟩ := hm g hg
    exact ⟨h0, by simpa [el] using e, rfl⟩
  · intro h hh g hg e
    exact wf.pre2.updRem _ (resUpd h hh) (e ▸ remRem g hg)
  · intro g hg g' hg' e
    obtain ⟨i, h0, _, e0, el, rfl⟩ := hm g hg
    obtain ⟨i', h0', _, e0', el', rfl⟩ := hm g' hg'
    simp only at e
    have : i = i' := by rw [← el, ← el', e]
    subst this
    rw [e0] at e0'; cases e0'; rfl
  · intro g hg
    rcases List.mem_append.mp hg with hg | hg
    · exact r5 g hg
    · obtain ⟨i, h0, _, e, el, rfl⟩ := hm g hg
      exact ⟨h0, by simpa [el] using e, rfl⟩

/-- the reserved images follow the write set's updated nodes in order (a node that is not registered has none) -/
theorem WF.resSub (wf : WF s0 w fresh) : ((reservedOf s0 fresh w).map (·.lid)).Sublist (w.updated.map (·.1)) :=
  (reservedOf_facts wf.pre).2.2.2.1

theorem TwoLists.lid_inj {resv remv : List Handle} (rl : TwoLists s0 w fresh resv remv) :
    ∀ a ∈ resv ++ remv, ∀ b ∈ resv ++ remv, a.lid = b.lid → a = b := by
  intro a ha b hb e
  rcases List.mem_append.mp ha with ha | ha <;> rcases List.mem_append.mp hb with hb | hb
  · exact inj_of_nodup_map (f := (·.lid)) rl.lists.resNodup ha hb e
  · exact absurd e (rl.lists.disj a ha b hb)
  · exact absurd e.symm (rl.lists.disj b hb a ha)
  · exact rl.remSame a ha b hb e

theorem lists_old (wf : WF s0 w fresh) : ∀ g ∈ reservedOf s0 fresh w ++ markedOf s0 w, g.lid ∉ w.newIds := by
  have rl := wf.twoLists
  intro g hg
  rcases List.mem_append.mp hg with hg | hg
  · exact wf.pre2.updOld _ (rl.resUpd g hg)
  · exact wf.pre2.remOld _ (rl.remRem g hg)

/-- what the pre-flip arguments need of a call of phase 1 (up to `commitStoreInfo`) -/
structure Phase1Call (s0 : State) (w : WS) (fresh : List (UUID × UUID)) (o : DOp) : Prop where
  op : PreFlipOp s0 w fresh o
  noCnt : o.isCnt = false

theorem Phase1Call.log {e : Entry} (h : Harmless s0 w fresh e) : Phase1Call s0 w fresh (.log e) := ⟨h, rfl⟩

theorem Phase1Call.blobAdd (ids : List UUID) : Phase1Call s0 w fresh (.blobAdd ids) := ⟨trivial, rfl⟩

theorem newHandle_safe (wf : WF s0 w fresh) (h : Handle) (hn : h.lid ∈ w.newIds) (ha : h.active = h.lid) (hi : h.inactive = 0) :
    SafeImg s0 w fresh h :=
  ⟨known_new wf.pre h hn ha hi, fun g hg e => absurd (e ▸ hn) (lists_old wf g hg)⟩

theorem listHandle_safe (wf : WF s0 w fresh) (h : Handle) (hh : h ∈ reservedOf s0 fresh w ++ markedOf s0 w) :
    SafeImg s0 w fresh h :=
  ⟨wf.twoLists.known h hh, fun g hg e => congrArg (·.version) (wf.twoLists.lid_inj g hg h hh e)⟩

theorem phase1_segValues : ∀ o ∈ segValues w, Phase1Call s0 w fresh o := by
  intro o ho
  simp only [segValues, List.mem_append, List.mem_cons, List.mem_map, List.not_mem_nil, or_false] at ho
  rcases ho with ((rfl | rfl) | ⟨st, _, rfl⟩) | rfl
  · exact .log ⟨nofun, of_decide_eq_true rfl, List.forall_mem_nil _, List.forall_mem_nil _⟩
  · exact .log ⟨nofun, of_decide_eq_true rfl, fun _ hx => .inr (.inl hx), List.forall_mem_nil _⟩
  · exact .blobAdd _
  · exact .log ⟨nofun, of_decide_eq_true rfl, fun _ hx => .inl (List.mem_append_left _ hx), List.forall_mem_nil _⟩

theorem phase1_segRoot (wf : WF s0 w fresh) : ∀ o ∈ segRoot w, Phase1Call s0 w fresh o :=
  all_when (all_two (.blobAdd _) ⟨fun h hh => by
    obtain ⟨i, hi, rfl⟩ := List.mem_map.mp hh
    exact newHandle_safe wf _ (List.mem_append_left _ hi) rfl rfl, rfl⟩)

theorem phase1_segUpdated (wf : WF s0 w fresh) : ∀ o ∈ segUpdated s0 fresh w, Phase1Call s0 w fresh o :=
  all_when (all_two ⟨fun h hh => listHandle_safe wf h (List.mem_append_left _ hh), rfl⟩ (.blobAdd _))

theorem phase1_segUpdRemLogs (wf : WF s0 w fresh) : ∀ o ∈ segUpdRemLogs s0 fresh w, Phase1Call s0 w fresh o := by
  have rl := wf.twoLists
  refine all_two (.log ⟨nofun, of_decide_eq_true rfl, fun x hx => ?_, List.forall_mem_nil _⟩)
    (.log ⟨nofun, of_decide_eq_true rfl, List.forall_mem_nil _, List.forall_mem_nil _⟩)
  -- a staged id is a generated one
  obtain ⟨h, hh, rfl⟩ := List.mem_map.mp hx
  refine .inr (.inr ⟨rl.resNZ h hh, h.lid, ?_⟩)
  rcases rl.lists.resFresh h hh with z | ⟨p, hp, e⟩
  · exact .inl z
  · exact .inr (.inr ⟨p, hp, e⟩)

theorem phase1_segRemoved (wf : WF s0 w fresh) : ∀ o ∈ segRemoved s0 w, Phase1Call s0 w fresh o :=
  all_when (all_one ⟨fun h hh => listHandle_safe wf h (List.mem_append_right _ hh), rfl⟩)

theorem phase1_segAdded (wf : WF s0 w fresh) : ∀ o ∈ segAdded w, Phase1Call s0 w fresh o := by
  have hadd : ∀ i ∈ w.addedIds, i ∈ w.newIds := fun i hi => List.mem_append_right _ hi
  intro o ho
  rcases List.mem_append.mp ho with ho | ho
  · rcases List.mem_append.mp ho with ho | ho
    · cases List.mem_singleton.mp ho
      exact .log ⟨nofun, of_decide_eq_true rfl, fun x hx => .inl (hadd x hx), hadd⟩
    · refine all_when (all_two ⟨fun h hh => ?_, rfl⟩ (.blobAdd _)) o ho
      obtain ⟨i, hi, rfl⟩ := List.mem_map.mp hh
      exact newHandle_safe wf _ (hadd i hi) rfl rfl
  · cases List.mem_singleton.mp ho
    exact .log ⟨nofun, of_decide_eq_true rfl, List.forall_mem_nil _, List.forall_mem_nil _⟩

theorem safe_segPhase1 (wf : WF s0 w fresh) : ∀ o ∈ segPhase1 s0 fresh w, Phase1Call s0 w fresh o := by
  simp only [segPhase1, List.forall_mem_append]
  exact ⟨phase1_segValues, phase1_segRoot wf, all_one (.log ⟨nofun, of_decide_eq_true rfl, List.forall_mem_nil _, List.forall_mem_nil _⟩),
    phase1_segUpdated wf, phase1_segUpdRemLogs wf, phase1_segRemoved wf, phase1_segAdded wf⟩

/-- what the pre-flip arguments need of a call between the count update and the log line of `finalizeCommit` -/
structure TailCall (s0 : State) (w : WS) (fresh : List (UUID × UUID)) (o : DOp) : Prop where
  op : PreFlipOp s0 w fresh o
  noReg : o.lids = []

theorem safe_segTail : ∀ o ∈ segTail s0 fresh w, TailCall s0 w fresh o := by
  simp only [segTail, List.forall_mem_append]
  refine ⟨all_when (all_one ?countUpdate), all_one ?beforeFinalizeLine, ?plogAdd, ?finalizeLine⟩
  case countUpdate => exact ⟨trivial, rfl⟩
  case beforeFinalizeLine => exact ⟨⟨nofun, of_decide_eq_true rfl, List.forall_mem_nil _, List.forall_mem_nil _⟩, rfl⟩
  case plogAdd =>
    -- written only when there is something to flip
    intro o ho
    have hc := cond_of_mem_when ho
    cases List.mem_singleton.mp (mem_when ho)
    refine ⟨⟨fun hf => ?_, rfl⟩, rfl⟩
    obtain ⟨h1, h2⟩ := finalImgs_eq_nil.mp hf
    rw [h1, h2] at hc
    cases hc
  case finalizeLine =>
    unfold segFinalizeLog finEntry
    exact all_one (P := TailCall s0 w fresh) ⟨⟨nofun, of_decide_eq_true rfl, List.forall_mem_nil _, List.forall_mem_nil _⟩, rfl⟩

theorem preFlipOp_segPre (wf : WF s0 w fresh) : ∀ o ∈ segPre s0 fresh w, PreFlipOp s0 w fresh o := by
  intro o ho
  rcases List.mem_append.mp ho with ho | ho
  · exact (safe_segPhase1 wf o ho).op
  · exact (safe_segTail o ho).op

theorem safe_segPre (wf : WF s0 w fresh) : ∀ o ∈ segPre s0 fresh w, SafeOp s0 w fresh o :=
  fun o ho => (preFlipOp_segPre wf o ho).safe

theorem SafeOp.dels {o : DOp} (h : SafeOp s0 w fresh o) : o.dels = [] := by
  cases o <;> first | rfl | exact h.elim

theorem SafeOp.not_plogRemove {o : DOp} (h : SafeOp s0 w fresh o) : o.isPlogRemove = false := by
  cases o <;> first | rfl | exact h.elim

theorem SafeOp.not_tlogRemove {o : DOp} (h : SafeOp s0 w fresh o) : o.isTlogRemove = false := by
  cases o <;> first | rfl | exact h.elim

theorem segPre_noTlogRemove (wf : WF s0 w fresh) : ∀ o ∈ segPre s0 fresh w, o.isTlogRemove = false :=
  fun o ho => (safe_segPre wf o ho).not_tlogRemove

theorem SafeOp.not_log12 {o : DOp} (h : SafeOp s0 w fresh o) : o.isLog .deleteObsoleteEntries = false := by
  cases o with
  | log e => exact beq_false_of_ne fun he => absurd (he ▸ h.beforeCleanup) (by decide)
  | plogRemove | blobRemove _ | regRemove _ | tlogRemove => exact h.elim
  | _ => rfl

theorem start_eq (wf : WF s0 w fresh) (tid : Tid) : start s0 tid w = { s := s0, tid := tid, log := [] } := by
  have : w.stores.filter (·.created) = [] := by
    rw [List.filter_eq_nil_iff]
    intro st hst
    simp [wf.noCreate st hst]
  simp [start, this]

/-! `segPre_eq`, `segTail_frame`, `plg_P1`: no user in the development. -/

theorem segPre_eq : segPre s0 fresh w = segPhase1 s0 fresh w ++ segTail s0 fresh w := rfl

theorem segTail_frame : ∀ o ∈ segTail s0 fresh w, o.lids = [] ∧ o.dels = [] :=
  fun o ho => ⟨(safe_segTail (s0 := s0) o ho).noReg, (safe_segTail (s0 := s0) o ho).op.safe.dels⟩

theorem plg_P1 (wf : WF s0 w fresh) (tid : Tid) (m : Nat) : (run (start s0 tid w) ((segPhase1 s0 fresh w).take m)).plg = none := by
  rw [run_plg _ (fun o ho => segPhase1_noPlog o (List.mem_of_mem_take ho)), start_eq wf]

theorem preFlipInv_start (wf : WF s0 w fresh) (tid : Tid) : PreFlipInv s0 w fresh (start s0 tid w) := by
  rw [start_eq wf]
  exact ⟨⟨SInv.init s0 w fresh wf.pre, (fun _ he => nomatch he)⟩, wf.twoLists.vers0, .inl rfl⟩

/-- **at every crash point before the phase-2 registry write `PreFlipInv` holds**: in particular every node loadable at the start reads as it did -/
theorem cinv_pre (wf : WF s0 w fresh) (tid : Tid) (m : Nat) :
    PreFlipInv s0 w fresh (run (start s0 tid w) ((segPre s0 fresh w).take m)) :=
  run_take_inv _ _ (fun o ho d hd => preFlip_apply o (preFlipOp_segPre wf o ho) d hd) m _ (preFlipInv_start wf tid)

theorem lastOrd_lt {log : List Entry} (h : ∀ e ∈ log, Harmless s0 w fresh e) :
    lastOrd log < Step.deleteObsoleteEntries.ord := by
  unfold lastOrd
  cases hg : log.getLast? with
  | none => simp [Step.ord]
  | some l => exact (h l (List.mem_of_getLast? hg)).beforeCleanup

/-- what recovery leaves of a commit that had not flipped -/
structure RolledBack (s0 : State) (w : WS) (fresh : List (UUID × UUID)) (d : DState) : Prop where
  sinv : SInv s0 w fresh d.s
  cnt : d.s.cnt = s0.cnt
  plg : d.plg = none

/-- recovery of a state that had not flipped, once the priority rollback has run: the expired-log walk keeps `SInv`
and the counts -/
theorem recover_preFlip (pre : Pre s0 w fresh) (d : DState) (c : CInv s0 w fresh (priorityRollback (d, [])).1)
    (hp : (priorityRollback (d, [])).1.plg = none) :
    SInv s0 w fresh (recover d).1.s ∧ (recover d).1.s.cnt = (priorityRollback (d, [])).1.s.cnt
      ∧ (recover d).1.plg = none := by
  rw [recover_fst]
  generalize priorityRollback (d, []) = x at c hp
  have hplg := (expiredRollback_spec x).2.2.trans hp
  rcases expiredRollback_nf x (lastOrd_lt c.logok) (fun e he => (c.logok e he).notCreate) with ⟨h1, h2, h3⟩ | ⟨_, h⟩
  · have := walkState_sinv pre (lastOrd x.1.log) x.1.log.reverse (fun e he => c.logok e (by simpa using he)) _ c.sinv
    exact ⟨this.of_same h1 h2, by rw [h3, walkState_cnt], hplg⟩
  · rw [h]; exact ⟨c.sinv, rfl, hp⟩

theorem recover_old (pre : Pre s0 w fresh) (d : DState) (c : CInv s0 w fresh (priorityRollback (d, [])).1)
    (hp : (priorityRollback (d, [])).1.plg = none) (hc : (priorityRollback (d, [])).1.s.cnt = s0.cnt) :
    RolledBack s0 w fresh (recover d).1 :=
  let ⟨a, b, e⟩ := recover_preFlip pre d c hp
  ⟨a, b.trans hc, e⟩

end
end Sop.Recovery
