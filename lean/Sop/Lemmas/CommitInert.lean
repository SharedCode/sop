import Sop.Lemmas.CommitFrame
/-!
Facts about the parts of a run the commit code never changes: the injected fault, the observation stop point, and —
when no stop point is set — the `halted` flag. Needed to say "this error exit was not the flip failing after its
effect" and "this run was not stopped by an observer".
-/
namespace Sop.Commit

/-- no observer, not stopped, and the fault is `f0` -/
def HF (f0 : Option Fault) (r : Run) : Prop := r.stopAt = none ∧ r.halted = false ∧ r.fault = f0

section
variable {f0 : Option Fault}
local notation "I" => HF f0

theorem HF.congr {r r' : Run} (h : I r) (e1 : r'.stopAt = r.stopAt) (e2 : r'.halted = r.halted) (e3 : r'.fault = r.fault) : I r' :=
  ⟨e1 ▸ h.1, e2 ▸ h.2.1, e3 ▸ h.2.2⟩

/-- no commit code writes the fault or the stop point, and with no stop point none sets `halted` -/
theorem Reads.hf : Reads [] I := fun _ _ _ _ a h => h.congr a.stopAt (a.halted h.1) a.fault

theorem h_phase2 (w : WS) : Preserves I (phase2 w) := (foot_phase2 w).keeps Reads.hf

/-- a successful phase 1 leaves the fault, the (absent) stop point and the `halted` flag as they were -/
theorem h_phase1 (w : WS) (n : Nat) : Triple I (phase1 w n) (fun _ => I) (fun _ => True) :=
  ((foot_phase1 w n).keeps Reads.hf).dropE

-- `Keeps.getS`, `Triple.modify`, `Preserves.attempt` for this invariant; no user in the development
theorem H.getS : Preserves I getS := Triple.getS (fun _ h => h)
theorem H.modify (f : Run → Run) (h : ∀ r, (f r).stopAt = r.stopAt ∧ (f r).halted = r.halted ∧ (f r).fault = r.fault) :
    Preserves I (modify f) :=
  Triple.modify f fun r hr => hr.congr (h r).1 (h r).2.1 (h r).2.2
theorem H.attempt {m : M Unit} (h : Preserves I m) : Preserves I (attempt m) := Triple.attempt h (fun _ h => h)

end
end Sop.Commit
