import Sop.Lemmas.BTreeDesc
/-! Enumeration by `First`/`Next` and `Last`/`Previous`, and the range iterators `Range`/`RangeDesc`, on a
well-formed tree. -/
namespace Sop.BTree

def scanFwd : Nat → BTree → List Item
  | 0, _ => []
  | fuel + 1, t => t.curItem :: (if t.next.2 then scanFwd fuel t.next.1 else [])

def scanBwd : Nat → BTree → List Item
  | 0, _ => []
  | fuel + 1, t => t.curItem :: (if t.prev.2 then scanBwd fuel t.prev.1 else [])

def BTree.scanAll (t : BTree) : List Item := if t.first.2 then scanFwd t.count.toNat t.first.1 else []

def BTree.scanAllDesc (t : BTree) : List Item := if t.last.2 then scanBwd t.count.toNat t.last.1 else []

/-! Both directions are one argument: `ahead asc L R` is what a walk in direction `asc` still has to visit from the
position `L | R` (the cursor's item first), and `Next`/`Previous` take its tail. -/

def ahead (asc : Bool) (L R : List Item) : List Item := if asc then R else R.head?.toList ++ L.reverse

theorem ahead_length_le (asc : Bool) (L R : List Item) : (ahead asc L R).length ≤ (L ++ R).length := by
  cases asc with
  | true => simp [ahead]
  | false =>
    cases R with
    | nil => simp [ahead]
    | cons r R => simp [ahead]

theorem move_spec {t₀ t : BTree} (hwf : WF t₀) (asc : Bool) {L R : List Item} (h : CursorPos t₀ t L R) :
    ∃ x S, ahead asc L R = x :: S ∧ t.curItem = x ∧
      (S = [] → (if asc = true then t.next else t.prev).2 = false) ∧
      (S ≠ [] → (if asc = true then t.next else t.prev).2 = true ∧ ∃ L' R',
        CursorPos t₀ (if asc = true then t.next else t.prev).1 L' R' ∧
        (if asc = true then t.next else t.prev).1.cur.cached = true ∧ ahead asc L' R' = S) := by
  obtain ⟨_, _, x, R', hR, hx⟩ := cursorPos_abs (h.wfr hwf) h
  subst hR
  cases asc with
  | true =>
    obtain ⟨_, _, hnil, hcons⟩ := next_spec hwf h
    exact ⟨x, R', rfl, hx, fun hS => (hnil hS).1, fun hS => ⟨(hcons hS).1, _, _, (hcons hS).2.1, (hcons hS).2.2, rfl⟩⟩
  | false =>
    obtain ⟨_, _, hnil, hcons⟩ := prev_spec hwf h
    refine ⟨x, L.reverse, rfl, hx, fun hS => (hnil (List.reverse_eq_nil_iff.mp hS)).1, fun hS => ?_⟩
    obtain ⟨h1, L', y, hLy, h2, h3⟩ := hcons (fun e => hS (List.reverse_eq_nil_iff.mpr e))
    exact ⟨h1, L', y :: x :: R', h2, h3, by rw [hLy, List.reverse_append]; rfl⟩

def scanDir (asc : Bool) : Nat → BTree → List Item
  | 0, _ => []
  | fuel + 1, t => t.curItem :: (if (if asc = true then t.next else t.prev).2
      then scanDir asc fuel (if asc = true then t.next else t.prev).1 else [])

theorem scanFwd_eq : ∀ (fuel : Nat) (t : BTree), scanFwd fuel t = scanDir true fuel t
  | 0, _ => rfl
  | fuel + 1, t => by rw [scanFwd, scanDir, scanFwd_eq fuel]; rfl

theorem scanBwd_eq : ∀ (fuel : Nat) (t : BTree), scanBwd fuel t = scanDir false fuel t
  | 0, _ => rfl
  | fuel + 1, t => by rw [scanBwd, scanDir, scanBwd_eq fuel]; rfl

theorem scanDir_spec {t₀ : BTree} (hwf : WF t₀) (asc : Bool) (fuel : Nat) : ∀ (t : BTree) (L R : List Item),
    CursorPos t₀ t L R → (ahead asc L R).length ≤ fuel → scanDir asc fuel t = ahead asc L R := by
  induction fuel with
  | zero =>
    intro t L R h hf
    obtain ⟨x, S, hS, _⟩ := move_spec hwf asc h
    rw [hS] at hf; exact absurd hf (Nat.not_succ_le_zero _)
  | succ fuel ih =>
    intro t L R h hf
    obtain ⟨x, S, hS, hx, hnil, hcons⟩ := move_spec hwf asc h
    rw [hS] at hf ⊢
    rw [scanDir, hx]
    by_cases hS' : S = []
    · rw [hnil hS', hS']; rfl
    · obtain ⟨h1, L', R', h2, _, h4⟩ := hcons hS'
      rw [h1, if_pos rfl, ih _ _ _ h2 (h4 ▸ Nat.le_of_succ_le_succ hf), h4]

theorem count_toNat {t : BTree} (hwf : WF t) : t.count.toNat = t.abs.length := by
  have := (abs_sorted_of_WF t hwf).2.2
  omega

theorem scanAll_eq_abs {t : BTree} (hwf : WF t) (hp : t.panicked = false) : t.scanAll = t.abs := by
  unfold BTree.scanAll
  by_cases hne : t.abs = []
  · have : t.first = (t, false) := first_empty hwf hne
    rw [this, hne]; rfl
  · obtain ⟨h1, h2, _⟩ := first_spec hwf hp hne
    have hw := hwf.wfr (hwf.count_ne hne).2
    rw [h1]
    simp only [if_true]
    exact (scanFwd_eq _ _).trans (scanDir_spec hwf true _ _ _ _ h2 (by rw [count_toNat hwf]; exact Nat.le_refl _))

theorem scanAllDesc_eq_abs_reverse {t : BTree} (hwf : WF t) (hp : t.panicked = false) : t.scanAllDesc = t.abs.reverse := by
  unfold BTree.scanAllDesc
  by_cases hne : t.abs = []
  · have : t.last = (t, false) := last_empty hwf hne
    rw [this, hne]; rfl
  · obtain ⟨h1, L, x, hLx, h2, _⟩ := last_spec hwf hp hne
    have hw := hwf.wfr (hwf.count_ne hne).2
    rw [h1]
    simp only [if_true]
    rw [scanBwd_eq, scanDir_spec hwf false _ _ _ _ h2 (by rw [count_toNat hwf, hLx]; simp [ahead]), hLx]
    simp [ahead]

theorem getCurrentKey_cached {t : BTree} (hc : t.cur.cached = true) : t.getCurrentKey = t.curItem := by
  simp [BTree.getCurrentKey, hc]

theorem getCurrentItem_cached {t : BTree} (hn : t.cur.node ≠ 0) (hc : t.cur.cached = true) :
    t.getCurrentItem = (t, some t.curItem) := by
  simp [BTree.getCurrentItem, hn, hc]

theorem rangeCollect_spec {t₀ : BTree} (hwf : WF t₀) (b : Int) (asc : Bool) (q : Item → Bool)
    (hq : ∀ i : Item, (if asc = true then i.key > b else i.key < b) ↔ q i = false) (fuel : Nat) :
    ∀ (t : BTree) (L R acc : List Item), CursorPos t₀ t L R → t.cur.cached = true →
    (ahead asc L R).length ≤ fuel →
    (rangeCollect b asc fuel t acc).2 = acc.reverse ++ (ahead asc L R).takeWhile q := by
  induction fuel with
  | zero =>
    intro t L R acc h hc hf
    obtain ⟨x, S, hS, _⟩ := move_spec hwf asc h
    rw [hS] at hf; exact absurd hf (Nat.not_succ_le_zero _)
  | succ fuel ih =>
    intro t L R acc h hc hf
    obtain ⟨x, S, hS, hx, hnil, hcons⟩ := move_spec hwf asc h
    rw [hS] at hf ⊢
    rw [rangeCollect]
    simp only [getCurrentKey_cached hc, hx, getCurrentItem_cached (cursorPos_node_ne (h.wfr hwf) h) hc, Option.getD_some]
    by_cases hxb : (if asc = true then x.key > b else x.key < b)
    · rw [if_pos hxb, List.takeWhile_cons, (hq x).mp hxb]; simp
    · have hqx : q x = true := by
        cases h' : q x with
        | true => rfl
        | false => exact absurd ((hq x).mpr h') hxb
      rw [if_neg hxb, List.takeWhile_cons, hqx]
      rcases hnx : (if asc = true then t.next else t.prev) with ⟨t', ok⟩
      rw [hnx] at hnil hcons
      by_cases hS' : S = []
      · have := hnil hS'
        simp only at this
        subst this
        simp [hS']
      · obtain ⟨h1, L', R', h2, h3, h4⟩ := hcons hS'
        simp only at h1 h2 h3
        subst h1
        simp only [Bool.not_true, Bool.false_eq_true, if_false]
        rw [ih t' L' R' _ h2 h3 (by rw [h4]; exact Nat.le_of_succ_le_succ hf), h4]
        simp

theorem rangeSkip_spec {t₀ : BTree} (hwf : WF t₀) (a : Int) (asc : Bool) (p : Item → Bool)
    (hp : ∀ i : Item, (if asc = true then i.key < a else i.key > a) ↔ p i = true) (fuel : Nat) :
    ∀ (t : BTree) (L R : List Item), CursorPos t₀ t L R → t.cur.cached = true → (ahead asc L R).length ≤ fuel →
    ((ahead asc L R).dropWhile p = [] → (rangeSkip a asc fuel t).2 = false) ∧
    ((ahead asc L R).dropWhile p ≠ [] → (rangeSkip a asc fuel t).2 = true ∧ ∃ L' R',
      CursorPos t₀ (rangeSkip a asc fuel t).1 L' R' ∧ (rangeSkip a asc fuel t).1.cur.cached = true ∧
      ahead asc L' R' = (ahead asc L R).dropWhile p) := by
  induction fuel with
  | zero =>
    intro t L R h hc hf
    obtain ⟨x, S, hS, _⟩ := move_spec hwf asc h
    rw [hS] at hf; exact absurd hf (Nat.not_succ_le_zero _)
  | succ fuel ih =>
    intro t L R h hc hf
    obtain ⟨x, S, hS, hx, hnil, hcons⟩ := move_spec hwf asc h
    rw [hS] at hf
    rw [rangeSkip, hS, List.dropWhile_cons]
    simp only [getCurrentKey_cached hc, hx]
    by_cases hxa : (if asc = true then x.key < a else x.key > a)
    · rw [if_pos hxa, (hp x).mp hxa]
      simp only [if_true]
      rcases hnx : (if asc = true then t.next else t.prev) with ⟨t', ok⟩
      rw [hnx] at hnil hcons
      by_cases hS' : S = []
      · have := hnil hS'
        simp only at this
        subst this
        simp [hS']
      · obtain ⟨h1, L', R', h2, h3, h4⟩ := hcons hS'
        simp only at h1 h2 h3
        subst h1
        simp only [Bool.not_true, Bool.false_eq_true, if_false]
        have := ih t' L' R' h2 h3 (by rw [h4]; exact Nat.le_of_succ_le_succ hf)
        rwa [h4] at this
    · have hpx : p x = false := by
        cases h' : p x with
        | false => rfl
        | true => exact absurd ((hp x).mpr h') hxa
      rw [if_neg hxa, hpx]
      exact ⟨fun e => (nomatch e), fun _ => ⟨rfl, L, R, h, hc, hS⟩⟩

/-- the part of `BTree.range` after the initial search, with the search result as arguments (`range_eq`) -/
def rangeFrom (a b : Int) (asc : Bool) (t1 : BTree) (found : Bool) : BTree × List Item :=
  let fuel := t1.count.toNat + 3
  let (t, go) :=
    if found then (t1, true)
    else if t1.getCurrentKey.id = 0 then (t1, false)
    else rangeSkip a asc fuel t1
  if !go then (t, []) else rangeCollect b asc fuel t []

theorem range_eq (t : BTree) (a b : Int) (asc : Bool) :
    t.range a b asc = rangeFrom a b asc (if asc then t.find a true else t.findDesc a).1
      (if asc then t.find a true else t.findDesc a).2 := rfl

theorem rangeFrom_spec {t₀ t1 : BTree} (hwf : WF t₀) (a b : Int) (asc : Bool) (p q : Item → Bool)
    (hp : ∀ i : Item, (if asc = true then i.key < a else i.key > a) ↔ p i = true)
    (hq : ∀ i : Item, (if asc = true then i.key > b else i.key < b) ↔ q i = false)
    {L R : List Item} {found : Bool} (h : CursorPos t₀ t1 L R) (hc : t1.cur.cached = true)
    (hlen : (ahead asc L R).length ≤ t1.count.toNat + 3)
    (hfound : found = true → (ahead asc L R).dropWhile p = ahead asc L R) :
    (rangeFrom a b asc t1 found).2 = ((ahead asc L R).dropWhile p).takeWhile q := by
  unfold rangeFrom
  cases found with
  | true =>
    simp only [if_true, Bool.not_true, Bool.false_eq_true, if_false]
    rw [rangeCollect_spec hwf b asc q hq _ t1 L R [] h hc hlen, hfound rfl]; rfl
  | false =>
    -- the cursor's item is stored, hence live
    have hlive : t1.getCurrentKey.id ≠ 0 := by
      obtain ⟨habs, _, x, R', hR, hx⟩ := cursorPos_abs (h.wfr hwf) h
      rw [getCurrentKey_cached hc, hx]
      exact (abs_sorted_of_WF t₀ hwf).2.1 x (by rw [habs, hR]; simp)
    simp only [Bool.false_eq_true, if_false, hlive]
    obtain ⟨hnil, hcons⟩ := rangeSkip_spec hwf a asc p hp _ t1 L R h hc hlen
    rcases hsk : rangeSkip a asc (t1.count.toNat + 3) t1 with ⟨t2, go⟩
    rw [hsk] at hnil hcons
    by_cases hS : (ahead asc L R).dropWhile p = []
    · have := hnil hS
      simp only at this
      subst this
      simp [hS]
    · obtain ⟨h1, L', R', h2, h3, h4⟩ := hcons hS
      simp only at h1 h2 h3
      subst h1
      simp only [Bool.not_true, Bool.false_eq_true, if_false]
      rw [rangeCollect_spec hwf b asc q hq _ t2 L' R' [] h2 h3
        (by rw [h4]; exact Nat.le_trans (List.dropWhile_sublist p).length_le hlen), h4]; rfl

theorem range_asc_spec {t : BTree} (hwf : WF t) (hp : t.panicked = false) (hv : CursorValid t) (a b : Int) :
    (t.range a b true).2 = t.abs.filter (inRange a b) := by
  rw [← scan_from_lower_bound_exact a b t.abs (abs_sorted_of_WF t hwf).1]
  by_cases hne : t.abs = []
  · have : t.find a true = (t, false) := find_empty hwf hne _ _
    simp [range_eq, rangeFrom, this, empty_curKey hwf hne, hne]
  · have hw := hwf.wfr (hwf.count_ne hne).2
    obtain ⟨he, _, hcached, hres⟩ := find_spec hwf hp hv hne a
    rw [range_eq]
    simp only [if_true]
    -- wherever the search ends, everything before the cursor is below `a`
    have hloc : ∃ L R, CursorPos t (t.find a true).1 L R ∧ (∀ x ∈ L, x.key < a) ∧
        ((t.find a true).2 = true → R.dropWhile (fun i => decide (i.key < a)) = R) := by
      rcases hres with ⟨_, L, y, R, hpos, hy, hL⟩ | ⟨hr, Lo, Hi, hLo, _, hpos | ⟨Lo', x, hLx, hpos⟩⟩
      · exact ⟨L, _, hpos, hL, fun _ => List.dropWhile_cons_of_neg (by simp [hy])⟩
      · exact ⟨Lo, Hi, hpos, hLo, fun h => by rw [hr] at h; cases h⟩
      · exact ⟨Lo', _, hpos, fun z hz => hLo z (by rw [hLx]; exact List.mem_append_left _ hz),
          fun h => by rw [hr] at h; cases h⟩
    obtain ⟨L, R, hpos, hL, hfound⟩ := hloc
    have habs := (cursorPos_abs hw hpos).1
    rw [rangeFrom_spec hwf a b true (fun i => decide (i.key < a)) (fun i => decide (i.key ≤ b)) (by simp) (by simp)
      hpos hcached (Nat.le_trans (ahead_length_le true L R)
        (by rw [he.count, count_toNat hwf, habs]; exact Nat.le_add_right _ 3)) hfound,
      habs, List.dropWhile_append_of_pos (l₁ := L) (l₂ := R) (fun x hx => by simpa using hL x hx)]
    rfl

theorem scan_desc_exact_reverse (a b : Int) (l : List Item) (h : Sorted l) :
    (l.reverse.dropWhile (fun i => decide (a < i.key))).takeWhile (fun i => decide (b ≤ i.key)) =
      (l.filter (inRange b a)).reverse := by
  -- the reversed list is sorted by the negated keys
  have := scan_exact_of (fun i => -i.key) (-a) (-b) l.reverse
    ((List.pairwise_reverse.mpr h).imp (fun hxy => Int.neg_le_neg hxy))
  simp only [Int.neg_lt_neg_iff, Int.neg_le_neg_iff] at this
  rw [this, ← List.filter_reverse]
  exact List.filter_congr (fun i _ => Bool.and_comm _ _)

theorem range_desc_spec {t : BTree} (hwf : WF t) (hp : t.panicked = false) (a b : Int) :
    (t.range a b false).2 = (t.abs.filter (inRange b a)).reverse := by
  rw [← scan_desc_exact_reverse a b t.abs (abs_sorted_of_WF t hwf).1]
  by_cases hne : t.abs = []
  · have : t.findDesc a = (t, false) := findDesc_empty hwf hne _
    simp [range_eq, rangeFrom, this, empty_curKey hwf hne, hne]
  · have hw := hwf.wfr (hwf.count_ne hne).2
    obtain ⟨he, _, hcached, hres⟩ := findDesc_spec hwf hp hne a
    rw [range_eq]
    simp only [Bool.false_eq_true, if_false]
    -- wherever the search ends, everything after the cursor's item is above `a`
    have hloc : ∃ L r R, CursorPos t (t.findDesc a).1 L (r :: R) ∧ (∀ x ∈ R, a < x.key) ∧
        ((t.findDesc a).2 = true → (r :: L.reverse).dropWhile (fun i => decide (a < i.key)) = r :: L.reverse) := by
      rcases hres with ⟨_, L, y, R, hpos, hy, _, hR⟩ | ⟨hr, Lo, Hi, _, hHi, hpos | ⟨Lo', x, _, hpos⟩⟩
      · exact ⟨L, y, R, hpos, hR, fun _ => List.dropWhile_cons_of_neg (by simp [hy])⟩
      · obtain ⟨_, _, y, Hi', hH, _⟩ := cursorPos_abs hw hpos
        subst hH
        exact ⟨Lo, y, Hi', hpos, fun z hz => hHi z (List.mem_cons_of_mem _ hz), fun h => by rw [hr] at h; cases h⟩
      · exact ⟨Lo', x, Hi, hpos, hHi, fun h => by rw [hr] at h; cases h⟩
    obtain ⟨L, r, R, hpos, hR, hfound⟩ := hloc
    have habs := (cursorPos_abs hw hpos).1
    have hrev : t.abs.reverse = R.reverse ++ (r :: L.reverse) := by rw [habs]; simp
    rw [rangeFrom_spec hwf a b false (fun i => decide (a < i.key)) (fun i => decide (b ≤ i.key)) (by simp) (by simp)
      hpos hcached (Nat.le_trans (ahead_length_le false L (r :: R))
        (by rw [he.count, count_toNat hwf, habs]; exact Nat.le_add_right _ 3)) hfound,
      hrev, List.dropWhile_append_of_pos (l₁ := R.reverse) (fun x hx => by simpa using hR x (List.mem_reverse.mp hx))]
    rfl

end Sop.BTree
