import Sop.Model.Replication
import Sop.Lemmas.Assoc
/-! Association-list lemmas for `Sop.Replication` (C27): `get` after `put`/`del`/`filter`, and `MapEq` (two lists that answer every
`get` alike) kept by the registry operations. The replication invariant itself (`Replica`, `write_both`) is in `Sop.Props.C27`. -/
namespace Sop.Replication

variable {α β : Type} [DecidableEq α]

def MapEq (m1 m2 : List (α × β)) : Prop := ∀ k, get k m1 = get k m2

theorem MapEq.refl (m : List (α × β)) : MapEq m m := fun _ => rfl
theorem MapEq.symm {m1 m2 : List (α × β)} (h : MapEq m1 m2) : MapEq m2 m1 := fun k => (h k).symm
theorem MapEq.trans {m1 m2 m3 : List (α × β)} (h : MapEq m1 m2) (h' : MapEq m2 m3) : MapEq m1 m3 :=
  fun k => (h k).trans (h' k)

theorem get_nil (k : α) : get k ([] : List (α × β)) = none := rfl

theorem get_cons (k k' : α) (v : β) (m : List (α × β)) :
    get k ((k', v) :: m) = if k' = k then some v else get k m := by
  unfold get
  by_cases h : k' = k <;> simp [h]

theorem get_isLookup : Assoc.IsLookup fun (m : List (α × β)) k => get k m :=
  ⟨get_nil, fun e m k => get_cons k e.1 e.2 m⟩

theorem get_filter_key (P : α → Bool) (k : α) (m : List (α × β)) :
    get k (m.filter (fun e => P e.1)) = if P k then get k m else none :=
  Assoc.look_filterKey get_isLookup P m k

theorem get_del (k k' : α) (m : List (α × β)) : get k (del k' m) = if k = k' then none else get k m :=
  Assoc.look_filter get_isLookup (fun e => by simp) m k

theorem get_put (k k' : α) (v : β) (m : List (α × β)) : get k (put k' v m) = if k' = k then some v else get k m := by
  unfold put
  rw [get_cons, get_del]
  by_cases h : k' = k
  · rw [if_pos h, if_pos h]
  · rw [if_neg h, if_neg (Ne.symm h), if_neg h]

/-- no user in the development -/
theorem get_append (k : α) (m1 m2 : List (α × β)) :
    get k (m1 ++ m2) = match get k m1 with | some v => some v | none => get k m2 := by
  refine (Assoc.look_append get_isLookup m1 m2 k).trans ?_
  cases get k m1 <;> rfl

theorem MapEq.put {m1 m2 : List (α × β)} (h : MapEq m1 m2) (k : α) (v : β) : MapEq (put k v m1) (put k v m2) := by
  intro k'; rw [get_put, get_put, h k']

theorem MapEq.del {m1 m2 : List (α × β)} (h : MapEq m1 m2) (k : α) : MapEq (del k m1) (del k m2) := by
  intro k'; rw [get_del, get_del, h k']

theorem MapEq.putAll {r1 r2 : Reg} (h : MapEq r1 r2) (hs : List (RKey × String)) : MapEq (putAll hs r1) (putAll hs r2) := by
  induction hs generalizing r1 r2 with
  | nil => exact h
  | cons x xs ih => exact ih (h.put x.1 x.2)

theorem MapEq.delAll {r1 r2 : Reg} (h : MapEq r1 r2) (ks : List RKey) : MapEq (delAll ks r1) (delAll ks r2) := by
  induction ks generalizing r1 r2 with
  | nil => exact h
  | cons x xs ih => exact ih (h.del x)

theorem MapEq.regApply {r1 r2 : Reg} (h : MapEq r1 r2) (ro ad up : List (RKey × String)) (rm : List RKey) :
    MapEq (regApply ro ad up rm r1) (regApply ro ad up rm r2) :=
  (((h.putAll ro).putAll ad).putAll up).delAll rm

theorem MapEq.dropTable {r1 r2 : Reg} (h : MapEq r1 r2) (t : String) : MapEq (dropTable t r1) (dropTable t r2) := by
  intro k
  unfold Sop.Replication.dropTable
  rw [get_filter_key fun k : RKey => !decide (k.1 = t), get_filter_key fun k : RKey => !decide (k.1 = t), h k]

theorem MapEq.all_isSome {r1 r2 : Reg} (h : MapEq r1 r2) (ks : List RKey) :
    ks.all (fun k => (get k r1).isSome) = ks.all (fun k => (get k r2).isSome) := by
  induction ks with
  | nil => rfl
  | cons k ks ih => simp only [List.all_cons, ih, h k]

theorem regReplicate_ok {ro ad up : List (RKey × String)} {rm : List RKey} {r : Reg}
    (h : rm.all (fun k => (get k (putAll up (putAll ad (putAll ro r)))).isSome) = true) :
    regReplicate ro ad up rm r = (regApply ro ad up rm r, true) := by
  unfold regReplicate regApply
  simp only [h, ↓reduceIte]

theorem regReplicate_fail {ro ad up : List (RKey × String)} {rm : List RKey} {r : Reg}
    (h : ¬ rm.all (fun k => (get k (putAll up (putAll ad (putAll ro r)))).isSome) = true) :
    regReplicate ro ad up rm r = (putAll up (putAll ad (putAll ro r)), false) := by
  unfold regReplicate
  exact if_neg h

end Sop.Replication
