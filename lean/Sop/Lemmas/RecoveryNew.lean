import Sop.Lemmas.RecoveryCleanup
/-! The state at the flip (`FlippedInv` holds from there on) and the crash points after cleanup's first log line. -/
namespace Sop.Recovery
open Sop.Commit

section
variable {s0 : State} {w : WS} {fresh : List (UUID × UUID)}

theorem segRoot_written {i : UUID} (hi : i ∈ w.rootIds) (d : DState) :
    (run d (segRoot w)).s.reg i = some (Handle.new i) ∧ (run d (segRoot w)).s.blob i = true := by
  rw [segRoot, when_of_nonempty hi]
  exact FixedS.establish (m := Handle.new) (fun _ => rfl) d.s i hi

theorem segAdded_written {i : UUID} (hi : i ∈ w.addedIds) (d : DState) :
    (run d (segAdded w)).s.reg i = some (addedImage i) ∧ (run d (segAdded w)).s.blob i = true := by
  rw [segAdded, when_of_nonempty hi]
  exact FixedS.establish' (m := addedImage) (fun _ => rfl) (setTlog d.s d.tid true) i hi

/-- nothing after the call that wrote the new nodes touches their logical ids, and no blob is deleted before cleanup -/
theorem news_flip (wf : WF s0 w fresh) (tid : Tid) :
    NewsOK w (run (start s0 tid w) (segPre s0 fresh w ++ segFlip s0 fresh w)).s := by
  have tailFlip : ∀ i ∈ w.newIds, ∀ o ∈ segTail s0 fresh w ++ segFlip s0 fresh w, i ∉ o.lids ∧ i ∉ o.dels := by
    intro i hi o ho
    rcases List.mem_append.mp ho with ho | ho
    · rw [(safe_segTail (s0 := s0) o ho).noReg, (safe_segTail (s0 := s0) o ho).op.safe.dels]
      exact ⟨List.not_mem_nil, List.not_mem_nil⟩
    · rw [(segFlip_frame o ho).2]
      exact ⟨fun hm => new_not_final wf hi ((segFlip_frame o ho).1 i hm), List.not_mem_nil⟩
  refine ⟨fun i hi => ?_, fun i hi => ?_⟩
  · have hin : i ∈ w.newIds := List.mem_append_left _ hi
    rw [segPre_append, run_append, run_append]
    refine run_keeps (h := Handle.new i) _ (fun o ho => ?_) (segRoot_written hi _).1 (segRoot_written hi _).2
    simp only [List.mem_append, segIntactLog, List.mem_cons, List.not_mem_nil, or_false] at ho
    rcases ho with rfl | ho | ho | ho | ho | ho
    · exact ⟨List.not_mem_nil, List.not_mem_nil⟩
    · rw [(segUpdated_frame o ho).2]
      exact ⟨fun hm => new_not_resv wf hin ((segUpdated_frame o ho).1 i hm), List.not_mem_nil⟩
    · rw [(segUpdRemLogs_frame o ho).1, (segUpdRemLogs_frame o ho).2]
      exact ⟨List.not_mem_nil, List.not_mem_nil⟩
    · rw [(segRemoved_frame o ho).2]
      exact ⟨fun hm => new_not_dead wf hin ((segRemoved_frame o ho).1 i hm), List.not_mem_nil⟩
    · rw [(segAdded_frame o ho).2]
      exact ⟨fun hm => wf.newDisj i hi ((segAdded_frame o ho).1 i hm), List.not_mem_nil⟩
    · exact tailFlip i hin o (List.mem_append.mpr ho)
  · rw [segPre_append, run_append, run_append, run_append, run_append, run_append, run_append, run_append]
    exact run_keeps (h := addedImage i) _ (tailFlip i (List.mem_append_right _ hi))
      (segAdded_written hi _).1 (segAdded_written hi _).2

/-! `segRoot_blob`, `rootBlob_flip`: halves of `segRoot_written` / `news_flip`; no user in the development. -/

theorem segRoot_blob {i : UUID} (hi : i ∈ w.rootIds) (d : DState) : (run d (segRoot w)).s.blob i = true :=
  (segRoot_written hi d).2

theorem rootBlob_flip (wf : WF s0 w fresh) (tid : Tid) {i : UUID} (hi : i ∈ w.rootIds) :
    (run (start s0 tid w) (segPre s0 fresh w ++ segFlip s0 fresh w)).s.blob i = true :=
  ((news_flip wf tid).root hi).2

theorem cnt_before_flip (wf : WF s0 w fresh) (tid : Tid) :
    (run (start s0 tid w) (segPre s0 fresh w)).s.cnt = (addCnts s0 (dsOf w)).cnt := by
  unfold segPre segTail
  rw [run_append, run_append]
  have h1 : (run (start s0 tid w) (segPhase1 s0 fresh w)).s.cnt = s0.cnt := by
    rw [run_cnt _ (fun o ho => (safe_segPhase1 wf o ho).noCnt), start_eq wf]
  generalize run (start s0 tid w) (segPhase1 s0 fresh w) = d1 at h1
  rw [run_cnt]
  · unfold segCnt when
    split
    · simp only [run_cons, run_nil, DOp.apply]
      exact addCnts_cnt_congr _ _ _ h1
    · rename_i hc
      have : dsOf w = [] := by simpa using hc
      rw [this]; exact h1
  · intro o ho
    simp only [segBeforeFinalizeLog, segFinalizeLog, List.mem_append, List.mem_cons, List.not_mem_nil, or_false] at ho
    rcases ho with rfl | ho | rfl
    · rfl
    · cases List.mem_singleton.mp (mem_when ho)
      rfl
    · rfl

theorem segFlip_nil (h : finalOf s0 fresh w = []) : segFlip s0 fresh w = [] := by
  simp only [segFlip, h]; rfl

theorem segFlip_cons (h : finalOf s0 fresh w ≠ []) :
    segFlip s0 fresh w = [.regUpd (finalOf s0 fresh w) true, .plogRemove] := by
  cases hf : finalOf s0 fresh w with
  | nil => exact absurd hf h
  | cons _ _ => simp only [segFlip, hf]; rfl

theorem flippedInv_at_flip (wf : WF s0 w fresh) (tid : Tid) :
    FlippedInv s0 fresh w tid (run (start s0 tid w) (segPre s0 fresh w ++ segFlip s0 fresh w)) := by
  obtain ⟨c, hb⟩ := before_flip wf tid
  have hp := c.plg
  have hfl := flippedS_establish wf.twoLists.lists c.sinv hb
  have hcnt := cnt_before_flip wf tid
  have htid : (run (start s0 tid w) (segPre s0 fresh w)).tid = tid := by rw [run_tid, start_eq wf]
  have hnews := news_flip (s0 := s0) (w := w) (fresh := fresh) wf tid
  rw [run_append] at hnews ⊢
  generalize run (start s0 tid w) (segPre s0 fresh w) = d0 at hfl hcnt htid hnews hp
  by_cases hne : finalOf s0 fresh w = []
  · rw [segFlip_nil hne] at hnews ⊢
    rw [show finalImgs (reservedOf s0 fresh w) (markedOf s0 w) = [] from hne] at hfl
    exact ⟨hfl, hnews, hcnt, hp.resolve_right (fun h => h.1 hne), htid⟩
  · rw [segFlip_cons hne] at hnews ⊢
    exact ⟨hfl.of_same (setPlog_reg ..) (setPlog_blob ..), hnews,
      (setPlog_cnt ..).trans ((State.setRegs_cnt ..).trans hcnt), rfl, htid⟩

theorem at_cleanupLog (wf : WF s0 w fresh) (tid : Tid) : CleanupInv s0 fresh w tid (run (start s0 tid w) (segUptoCleanupLog s0 fresh w)) := by
  have j := flippedInv_at_flip wf tid
  -- the log at the flip ends with the line of `finalizeCommit`: the last call before it, and the flip logs nothing
  have hlog : ∃ preL, (run (start s0 tid w) (segPre s0 fresh w ++ segFlip s0 fresh w)).log = preL ++ [finEntry s0 fresh w] := by
    have noRemove : ∀ o ∈ segPre s0 fresh w ++ segFlip s0 fresh w, o.isTlogRemove = false := fun o ho =>
      (List.mem_append.mp ho).elim (segPre_noTlogRemove wf o) fun h => (segFlip_ops o h).1
    obtain ⟨preL, e⟩ := logsOf_segPre (s := s0) (fresh := fresh) (w := w)
    exact ⟨preL, by rw [run_log _ noRemove, start_eq wf, logsOf_append, logsOf_segFlip, e, List.append_nil]; rfl⟩
  unfold segUptoCleanupLog
  rw [← List.append_assoc, run_append]
  generalize run (start s0 tid w) (segPre s0 fresh w ++ segFlip s0 fresh w) = d at j hlog
  obtain ⟨preL, hlog⟩ := hlog
  refine ⟨clean_apply wf tid _ (List.mem_append_left _ (List.mem_singleton_self _)) _ j,
    ⟨preL, [⟨.deleteObsoleteEntries, .none⟩], ?_, List.cons_ne_nil _ _, fun e he => ?_⟩, if_pos rfl⟩
  · show d.log ++ _ = _
    rw [hlog, List.append_assoc]; rfl
  · cases List.mem_singleton.mp he
    rfl

/-- **Crash after cleanup's first log line** (anywhere in cleanup, or after its end): recovery finishes the cleanup. -/
theorem new_after_log12 (wf : WF s0 w fresh) (tid : Tid) (k : Nat) :
    Finished s0 fresh w tid
      (recover (run (start s0 tid w) (segUptoCleanupLog s0 fresh w ++ (segClean s0 fresh w ++ [DOp.tlogRemove]).take k))).1 := by
  have k12 := at_cleanupLog wf tid
  rw [run_append]
  generalize run (start s0 tid w) (segUptoCleanupLog s0 fresh w) = d12 at k12
  rcases take_append_cases (segClean s0 fresh w) [DOp.tlogRemove] k with e | ⟨k', e⟩
  · -- the log is still there: recovery finishes the cleanup
    rw [e]
    exact recover_cleanup wf tid _ (run_take_inv _ _ (clean_step wf tid) k _ k12)
  · -- the commit ran to its end: nothing to recover
    rw [e, List.take_succ_cons, List.take_nil, run_append]
    have j : FlippedInv s0 fresh w tid (run d12 (segClean s0 fresh w)) := (run_inv _ _ (clean_step wf tid) _ k12).flipped
    have dead : ∀ g ∈ markedOf s0 w, (run d12 (segClean s0 fresh w)).s.reg g.lid = none := by
      intro g hg
      unfold segClean segCleanNodes
      rw [run_append, run_append, run_reg]
      · exact State.delRegs_reg_mem _ _ _ (List.mem_map_of_mem hg)
      · intro o ho
        simp only [segCleanValues, List.mem_append, List.mem_cons, List.mem_map, List.not_mem_nil, or_false] at ho
        rcases ho with rfl | ⟨st, _, rfl⟩ <;> exact List.not_mem_nil
    generalize run d12 (segClean s0 fresh w) = dC at j dead
    have hj : FlippedInv s0 fresh w tid (DOp.tlogRemove.apply dC) := j.setTlog _ _
    have hrec : (recover (DOp.tlogRemove.apply dC)).1 = DOp.tlogRemove.apply dC := by
      rw [recover_fst, priorityRollback_none _ hj.plg, expiredRollback_no_log _ (if_pos rfl)]
    rw [run_cons, run_nil, hrec]
    exact ⟨hj, dead⟩

end
end Sop.Recovery
