import Sop.Model.Recovery
/-! Shared by C08 and C09: every step of the expired-log walk keeps the transaction id and the priority log, the walk
always ends with the log removed; the priority rollback keeps the transaction log and removes the priority log when
the logged versions fit. What the routines do to the data is in `RecoveryWalk`. -/
namespace Sop.Recovery
open Sop.Commit

theorem setPlog_reg (s : State) (t : Tid) (b : Bool) : (setPlog s t b).reg = s.reg := rfl
theorem setPlog_blob (s : State) (t : Tid) (b : Bool) : (setPlog s t b).blob = s.blob := rfl
theorem setPlog_cnt (s : State) (t : Tid) (b : Bool) : (setPlog s t b).cnt = s.cnt := rfl

theorem emit_tid (l : Ev) (f : DState → DState) (x : DState × List Ev) (hf : ∀ d, (f d).tid = d.tid) :
    (emit l f x).1.tid = x.1.tid := hf x.1

theorem removeLog_frame (x : DState × List Ev) :
    (removeLog x).1.tid = x.1.tid ∧ (removeLog x).1.s.tlog x.1.tid = false ∧ (removeLog x).1.plg = x.1.plg :=
  ⟨rfl, if_pos rfl, rfl⟩

theorem blobRemove_spec (ids : List UUID) (x : DState × List Ev) :
    (blobRemove ids x).1.tid = x.1.tid ∧ (blobRemove ids x).1.plg = x.1.plg := ⟨rfl, rfl⟩

theorem deleteObsolete_spec (dead unused : List UUID) (x : DState × List Ev) :
    (deleteObsolete dead unused x).1.tid = x.1.tid ∧ (deleteObsolete dead unused x).1.plg = x.1.plg := by
  unfold deleteObsolete
  split <;> exact ⟨rfl, rfl⟩

/-- the shape of the arms of `walkEntry` that let the walk go on; the last conjunct (of `walkEntry_frame`) holds of
them vacuously -/
theorem undo_or_skip_frame (c : Prop) [Decidable c] (x y : DState × List Ev) (hy : y.1.tid = x.1.tid ∧ y.1.plg = x.1.plg) :
    (if c then (false, y) else (false, x)).2.1.tid = x.1.tid ∧ (if c then (false, y) else (false, x)).2.1.plg = x.1.plg
    ∧ ((if c then (false, y) else (false, x)).1 = true → (if c then (false, y) else (false, x)).2.1.s.tlog x.1.tid = false) := by
  split
  · exact ⟨hy.1, hy.2, nofun⟩
  · exact ⟨rfl, rfl, nofun⟩

theorem walkEntry_frame (last : Nat) (e : Entry) (x : DState × List Ev) :
    (walkEntry last e x).2.1.tid = x.1.tid ∧ (walkEntry last e x).2.1.plg = x.1.plg
    ∧ ((walkEntry last e x).1 = true → (walkEntry last e x).2.1.s.tlog x.1.tid = false) := by
  unfold walkEntry
  split
  · exact ⟨rfl, rfl, nofun⟩
  · rename_i dead unused vals _ _
    dsimp only
    generalize hx' : (if (last == Step.deleteTrackedItemsValues.ord && !vals.isEmpty) = true then blobRemove vals x else x) = x'
    have h' : x'.1.tid = x.1.tid ∧ x'.1.plg = x.1.plg := by subst hx'; split <;> exact ⟨rfl, rfl⟩
    split
    · obtain ⟨r1, r2, r3⟩ := removeLog_frame (deleteObsolete dead unused x')
      obtain ⟨d1, d2⟩ := deleteObsolete_spec dead unused x'
      exact ⟨r1.trans (d1.trans h'.1), r3.trans (d2.trans h'.2), fun _ => (d1.trans h'.1) ▸ r2⟩
    · exact ⟨h'.1, h'.2, nofun⟩
  · exact undo_or_skip_frame _ x _ ⟨rfl, rfl⟩
  · exact undo_or_skip_frame _ x _ ⟨rfl, rfl⟩
  · exact undo_or_skip_frame _ x _ ⟨rfl, rfl⟩
  · exact undo_or_skip_frame _ x _ ⟨rfl, rfl⟩
  · exact undo_or_skip_frame _ x _ ⟨rfl, rfl⟩
  · exact undo_or_skip_frame _ x _ ⟨rfl, rfl⟩
  · exact ⟨rfl, rfl, nofun⟩

theorem walk_spec (last : Nat) (l : List Entry) :
    ∀ x : DState × List Ev, (walk last l x).1.tid = x.1.tid ∧ (walk last l x).1.s.tlog x.1.tid = false
      ∧ (walk last l x).1.plg = x.1.plg := by
  induction l with
  | nil => intro x; simpa [walk] using removeLog_frame x
  | cons e rest ih =>
    intro x
    have hs := walkEntry_frame last e x
    unfold walk
    generalize hw : walkEntry last e x = r at hs
    obtain ⟨b, x'⟩ := r
    cases b with
    | true => simp at hs ⊢; exact ⟨hs.1, hs.2.2, hs.2.1⟩
    | false =>
      simp at hs ⊢
      have := ih x'
      rw [hs.1, hs.2] at this
      exact this

theorem expiredRollback_spec (x : DState × List Ev) :
    (expiredRollback x).1.tid = x.1.tid ∧ (expiredRollback x).1.s.tlog x.1.tid = false
    ∧ (expiredRollback x).1.plg = x.1.plg := by
  unfold expiredRollback
  by_cases h : x.1.s.tlog x.1.tid = true
  · simp [h]
    split
    · exact removeLog_frame x
    · exact walk_spec _ _ x
  · simp at h; simp [h]

theorem expiredRollback_no_log (x : DState × List Ev) (h : x.1.s.tlog x.1.tid = false) : expiredRollback x = x := by
  unfold expiredRollback
  simp only [h, Bool.not_false, ↓reduceIte]

theorem setRegs_tlog (hs : List Handle) : ∀ s : State, (s.setRegs hs).tlog = s.tlog := by
  induction hs with
  | nil => intro s; rfl
  | cons h t ih => intro s; simp only [State.setRegs, List.foldl_cons] at ih ⊢; rw [ih]; rfl

theorem priorityRollback_spec (x : DState × List Ev) :
    (priorityRollback x).1.tid = x.1.tid ∧ (priorityRollback x).1.s.tlog = x.1.s.tlog := by
  unfold priorityRollback
  dsimp only
  split
  · exact ⟨rfl, rfl⟩
  · split
    · exact ⟨rfl, rfl⟩
    · exact ⟨rfl, setRegs_tlog _ _⟩

theorem priorityRollback_none (x : DState × List Ev) (h : x.1.plg = none) : priorityRollback x = x := by
  unfold priorityRollback
  simp [h]

theorem priorityRollback_fits (x : DState × List Ev) (imgs : List Handle) (h : x.1.plg = some imgs)
    (hf : ∀ g ∈ imgs, ∃ c, x.1.s.reg g.lid = some c ∧ (g.version = c.version ∨ g.version + 1 = c.version)) :
    (priorityRollback x).1 = { x.1 with s := setPlog (x.1.s.setRegs imgs) x.1.tid false, plg := none } := by
  unfold priorityRollback
  simp only [h]
  split
  · rename_i hc
    exfalso
    simp only [Bool.not_eq_true', List.all_eq_false] at hc
    obtain ⟨g, hg, hm⟩ := hc
    obtain ⟨c, e, hv⟩ := hf g hg
    rw [e] at hm
    rcases hv with hv | hv <;> simp [hv] at hm
  · simp [emit]

/-- the version check of `doPriorityRollbacks` -/
def plogFits (d : DState) : Bool :=
  match d.plg with
  | none => true
  | some imgs => imgs.all (fun h => match d.s.reg h.lid with
      | some c => h.version == c.version || h.version + 1 == c.version
      | none => false)

theorem priorityRollback_plg (x : DState × List Ev) (h : plogFits x.1 = true) : (priorityRollback x).1.plg = none := by
  cases hp : x.1.plg with
  | none => rw [priorityRollback_none x hp]; exact hp
  | some imgs =>
    rw [priorityRollback_fits x imgs hp]
    intro g hg
    unfold plogFits at h
    rw [hp] at h
    have := List.all_eq_true.mp h g hg
    split at this
    · rename_i c hc
      exact ⟨c, hc, by simpa using this⟩
    · cases this

theorem recover_fst (d : DState) : (recover d).1 = (expiredRollback (priorityRollback (d, []))).1 := rfl

theorem recover_tid (d : DState) : (recover d).1.tid = d.tid :=
  (expiredRollback_spec _).1.trans (priorityRollback_spec (d, [])).1

theorem recover_removes_log (d : DState) : (recover d).1.s.tlog d.tid = false :=
  (priorityRollback_spec (d, [])).1 ▸ (expiredRollback_spec (priorityRollback (d, []))).2.1

theorem recover_removes_plog (d : DState) (h : plogFits d = true) : (recover d).1.plg = none :=
  (expiredRollback_spec _).2.2.trans (priorityRollback_plg (d, []) h)

end Sop.Recovery
