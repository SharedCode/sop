import Sop.Lemmas.CommitHoare
/-!
The three ways `commit` ends, each unfolded once: both phases end normally; phase 1 raises without a conflict and
the live rollback runs; phase 2 raises and `Phase2Commit`'s error handling runs.
-/
namespace Sop.Commit

/-- `Phase2Commit`'s error handling (the block `commit` runs when `phase2` raises: the priority rollback where node keys are
held, then the live rollback), under a name so that triples can be stated about it -/
def phase2Handler (w : WS) : M Unit := do
  let r ← get
  if !(keysOrEmpty r).isEmpty then
    priorityRollbackSelf
    unlockNodesKeys
  else
    let _ ← attempt (call .plogRemove .none (fun s => { s with plog := fun k => if k = r.tid then false else s.plog k }))
  rollback w true

variable {w : WS} {n : Nat} {r0 r1 r2 : Run}

theorem commit_ok_inv (hok : commit w n r0 = (.ok, r2)) : ∃ r1, phase1 w n r0 = .ok ((), r1) ∧ phase2 w r1 = .ok ((), r2) := by
  unfold commit at hok
  cases hp : phase1 w n r0 with
  | error r1 =>
    rw [hp] at hok
    simp only at hok
    split at hok
    · cases hok
    · split at hok <;> cases hok
  | ok p =>
    obtain ⟨u, r1⟩ := p
    rw [hp] at hok
    simp only at hok
    cases hq : phase2 w r1 with
    | error r2' => rw [hq] at hok; cases hok
    | ok q =>
      obtain ⟨u', r2'⟩ := q
      rw [hq] at hok
      simp only [Prod.mk.injEq, true_and] at hok
      exact ⟨r1, rfl, by rw [hq, hok]⟩

theorem commit_of_ok (h1 : phase1 w n r0 = .ok ((), r1)) (h2 : phase2 w r1 = .ok ((), r2)) : commit w n r0 = (.ok, r2) := by
  unfold commit
  simp only [h1, h2]

theorem commit_of_phase1_conflict (h1 : phase1 w n r0 = .error r1) (hc : r1.conflicted = true) : commit w n r0 = (.conflict, r1) := by
  unfold commit
  simp only [h1, hc, ↓reduceIte]

theorem commit_of_phase1_error {P Q E : Run → Prop}
    (h1 : phase1 w n r0 = .error r1) (hc : r1.conflicted = false)
    (hk : Triple P (rollback w true) (fun _ => Q) E) (hE : ∀ r, E r → Q r) (hp : P r1) : Q (commit w n r0).2 := by
  have := hk r1 hp
  unfold commit
  simp only [h1, hc, Bool.false_eq_true, ↓reduceIte]
  split
  · rename_i e; rw [e] at this; exact this
  · rename_i e; rw [e] at this; exact hE _ this

theorem commit_of_phase2_error {P Q E : Run → Prop}
    (h1 : phase1 w n r0 = .ok ((), r1)) (h2 : phase2 w r1 = .error r2)
    (hk : Triple P (phase2Handler w) (fun _ => Q) E) (hE : ∀ r, E r → Q r) (hp : P r2) : Q (commit w n r0).2 := by
  have := hk r2 hp
  unfold phase2Handler at this
  unfold commit
  simp only [h1, h2]
  split
  · rename_i e; rw [e] at this; exact this
  · rename_i e; rw [e] at this; exact hE _ this

end Sop.Commit
