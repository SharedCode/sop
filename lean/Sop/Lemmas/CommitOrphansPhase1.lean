import Sop.Lemmas.CommitStaged
import Sop.Lemmas.CommitOrphans
/-!
Phase 1 keeps "no orphans except the staged blobs": the invariant `BIStaged Y r` = every blob is a registered handle's
active blob, a listed exception `Y` (value blobs) or one of the staged ids `r.reserved.map inactive`.
-/
namespace Sop.Commit

def BIRun (Z : List UUID) (r : Run) : Prop := BI Z r.s

def BIStaged (Y : List UUID) (r : Run) : Prop := BI (Y ++ r.reserved.map (·.inactive)) r.s

def NoRes (r : Run) : Prop := r.reserved = []

def Current (hs : List Handle) (r : Run) : Prop := ∀ h ∈ hs, r.s.reg h.lid = some h

instance {Z : List UUID} : Frame (BIRun Z) where
  frame _ _ h hr hb _ _ _ := BI.of_same h hr hb

instance {Y : List UUID} : Frame (BIStaged Y) where
  frame r r' h hr hb _ h1 _ := by
    unfold BIStaged at *
    rw [h1]; exact BI.of_same h hr hb

section
variable {s0 : State} {w : WS} {fresh0 : List (UUID × UUID)} {Y : List UUID}

theorem regGet_current {I : Run → Prop} [Frame I] (hI : ∀ r, I r → ∀ i h, r.s.reg i = some h → h.lid = i) (ids : List UUID) :
    Triple I (regGet ids) (fun hs r => I r ∧ Current hs r) (fun _ => True) :=
  Triple.conseq (regGet_exact ids) (fun _ h => h) (fun hs r ⟨h, e⟩ => ⟨h, fun x hx => by
    subst e
    obtain ⟨i, _, e⟩ := List.mem_filterMap.mp hx
    rw [hI r h i x e]; exact e⟩) (fun _ _ => trivial)

theorem active_of_new (pre : Pre s0 w fresh0) {s : State} (inv : SInv s0 w fresh0 s) {i : UUID} {h : Handle}
    (hi : i ∈ w.newIds) (e : s.reg i = some h) : h.active = i := by
  rcases (inv.prov i h e).1 with ⟨_, a⟩ | ⟨h0, e0, _⟩
  · exact a
  · rw [pre.newAbsent i hi] at e0; cases e0

theorem bi_addValues (hv : ∀ b ∈ w.values, b ∈ Y) : Preserves (BIStaged Y) (addValues w) := by
  unfold addValues
  refine Keeps.bind (Triple.forIn_mem _ _ (fun st hst => ?_)) (fun _ => Keeps.pure _)
  refine Keeps.bind (Keeps.whenM _ (Reads.frame.call (fun r hr => ?_))) (fun _ => Keeps.pure _)
  exact BI.addBlobs hr _ (fun i hi => .inr (List.mem_append_left _ (hv i (values_sub hst hi))))

theorem bi_commitNewRoots (pre : Pre s0 w fresh0) :
    Triple (AndI (Unstaged s0 w fresh0) (BIStaged Y)) (commitNewRoots w) (fun _ => BIStaged Y) (fun _ => True) := by
  refine Triple.ite (fun _ => Triple.pure _ (fun _ h => h.2)) (fun _ => ?_)
  · refine Triple.bind (gen_regGet _).dropE (fun hs => Triple.ite (fun _ => Triple.pure _ (fun _ h => h.2)) (fun _ => ?_))
    · refine Triple.bind (Q1 := fun _ r => Unstaged s0 w fresh0 r ∧ BI ((Y ++ r.reserved.map (·.inactive)) ++ w.rootIds) r.s) ?_ (fun _ => ?_)
      · exact Triple.call_dropE (fun r o t hr => ⟨unstaged_eff o t hr.1 (hr.1.rinv.sinv.addBlobs _), BI.addBlobs_ex hr.2 _⟩)
      · refine Triple.bind (Q1 := fun _ => BIStaged Y) ?_ (fun _ => Triple.pure _ (fun _ h => h))
        refine Triple.call_dropE (fun r o t hr => ?_)
        refine BI.setRegs_new w.rootIds hr.2 _ ?_ ?_ ?_
        · intro x hx; obtain ⟨i, _, rfl⟩ := List.mem_map.mp hx; rfl
        · intro i hi; exact ⟨Handle.new i, List.mem_map_of_mem hi, rfl⟩
        · intro x hx g e
          obtain ⟨i, hi, rfl⟩ := List.mem_map.mp hx
          exact active_of_new pre hr.1.rinv.sinv (rootIds_new hi) e

theorem mem_pairs {u : List (UUID × Int)} {hs : List Handle} {p : Handle × Int}
    (hp : p ∈ u.filterMap (fun (x : UUID × Int) => (hs.find? (·.lid == x.1)).map (fun h => (h, x.2)))) : p.1 ∈ hs := by
  obtain ⟨x, _, e⟩ := List.mem_filterMap.mp hp
  cases hf : hs.find? (·.lid == x.1) with
  | none => simp [hf] at e
  | some h =>
    simp only [hf, Option.map_some, Option.some.injEq] at e
    subst e
    exact List.mem_of_find?_eq_some hf

theorem bi_commitUpdated :
    Triple (AndI (Unstaged s0 w fresh0) (BIStaged Y)) (commitUpdated w) (fun _ => BIStaged Y) (fun _ => True) := by
  refine Triple.ite (fun _ => Triple.pure _ (fun _ h => h.2)) (fun _ => ?_)
  · refine Triple.bind (regGet_current (fun r h => h.1.rinv.sinv.regwf) _) (fun hs => ?_)
    refine Triple.conseq (P' := fun r => (BIStaged Y r ∧ NoRes r) ∧ Current hs r) (Q' := fun _ => BIStaged Y) (E' := fun _ => True) ?_
      (fun r h => ⟨⟨h.1.2, h.1.1.noRes⟩, h.2⟩) (fun _ _ h => h) (fun _ h => h)
    refine Triple.ite (fun _ => Triple.pure _ (fun _ h => h.1.1)) (fun _ => ?_)
    · refine Triple.bind Keeps.get (fun r0 => ?_)
      dsimp only
      split
      · exact Triple.pure _ (fun _ h => h.1.1)
      · rename_i res fr' e
        obtain ⟨_, sh2⟩ := reserveAll_shape _ _ _ _ e
        refine Triple.bind (Q1 := fun _ r => (BIStaged Y r ∧ NoRes r) ∧ Current hs r) (Triple.modify _ (fun r hr => hr)) (fun _ => ?_)
        refine Triple.bind (Q1 := fun _ r => BIStaged Y r ∧ NoRes r) ?_ (fun _ => ?_)
        · refine Triple.call_dropE (fun r o t hr => ⟨BI.setRegs_same hr.1.1 _ ?_, hr.1.2⟩)
          intro x hx g eg
          obtain ⟨_, p, hp, e1, e2, _⟩ := sh2 x hx
          have := hr.2 p.1 (mem_pairs hp)
          rw [e1, this] at eg
          cases eg
          exact e2
        refine Triple.bind (Q1 := fun _ r => BI (Y ++ res.map (·.inactive)) r.s) ?_ (fun _ => ?_)
        · refine Triple.call_dropE (fun r o t hr => ?_)
          have h1 : BI Y r.s := by
            have := hr.1
            unfold BIStaged at this
            rw [show r.reserved = [] from hr.2] at this
            exact this.mono (fun b hb => by simpa using hb)
          exact BI.addBlobs_ex h1 _
        exact Triple.bind (Q1 := fun _ => BIStaged Y) (Triple.modify _ (fun r hr => hr)) (fun _ => Triple.pure _ (fun _ h => h))

theorem bi_commitRemoved :
    Triple (AndI (Staged s0 w fresh0) (BIStaged Y)) (commitRemoved w) (fun _ => BIStaged Y) (fun _ => True) := by
  refine Triple.ite (fun _ => Triple.pure _ (fun _ h => h.2)) (fun _ => ?_)
  · refine Triple.bind (regGet_current (fun r h => h.1.rinv.sinv.regwf) _) (fun hs => ?_)
    refine Triple.conseq (P' := fun r => BIStaged Y r ∧ Current hs r) (Q' := fun _ => BIStaged Y) (E' := fun _ => True) ?_
      (fun r h => ⟨h.1.2, h.2⟩) (fun _ _ h => h) (fun _ h => h)
    refine Triple.bind Keeps.get (fun r0 => Triple.ite (fun _ => Triple.pure _ (fun _ h => h.1)) (fun _ => ?_))
    · refine Triple.bind (Q1 := fun _ => BIStaged Y) ?_ (fun _ => ?_)
      · refine Triple.call_dropE (fun r o t hr => BI.setRegs_same hr.1 _ ?_)
        intro x hx g eg
        obtain ⟨y, hy, rfl⟩ := List.mem_map.mp hx
        have := hr.2 y hy
        rw [show ({ y with deleted := true, wip := r0.s.now } : Handle).lid = y.lid from rfl, this] at eg
        cases eg
        rfl
      · exact Triple.bind (Q1 := fun _ => BIStaged Y) (Triple.modify _ (fun r hr => hr)) (fun _ => Triple.pure _ (fun _ h => h))

theorem bi_commitAdded (pre : Pre s0 w fresh0) :
    Triple (AndI (Staged s0 w fresh0) (BIStaged Y)) (commitAdded w) (fun _ => BIStaged Y) (fun _ => True) := by
  refine Triple.ite (fun _ => Triple.pure _ (fun _ h => h.2)) (fun _ => ?_)
  · refine Triple.bind (Q1 := fun _ r => BIStaged Y r ∧ ∀ i ∈ w.addedIds, ∃ lid g, r.s.reg lid = some g ∧ g.active = i) ?_ (fun _ => ?_)
    · refine Triple.call_dropE (fun r o t hr => ⟨?_, ?_⟩)
      · refine BI.setRegs_same hr.2 _ ?_
        intro x hx g e
        obtain ⟨i, hi, rfl⟩ := List.mem_map.mp hx
        exact (active_of_new pre hr.1.rinv.sinv (addedIds_new hi) e).symm
      · intro i hi
        obtain ⟨x, hx, e1, e2⟩ := State.setRegs_reg_mem r.s (w.addedIds.map (fun i => { Handle.new i with version := 1 })) i
          ⟨_, List.mem_map_of_mem hi, rfl⟩
        refine ⟨i, x, e2, ?_⟩
        obtain ⟨j, _, rfl⟩ := List.mem_map.mp hx
        exact e1
    · exact Triple.call_dropE (fun r o t hr => BI.addBlobs hr.1 _ (fun i hi => .inl (hr.2 i hi)))

abbrev UnstagedBI (s0 : State) (w : WS) (fresh0 : List (UUID × UUID)) (Y : List UUID) : Run → Prop := AndI (Unstaged s0 w fresh0) (BIStaged Y)
abbrev StagedBI (s0 : State) (w : WS) (fresh0 : List (UUID × UUID)) (Y : List UUID) : Run → Prop := AndI (Staged s0 w fresh0) (BIStaged Y)

/-- every removed node of the write set has a marked handle in `removedH` -/
def RemCov (w : WS) (r : Run) : Prop := ∀ i ∈ w.removed.map (·.1), ∃ g ∈ r.removedH, g.lid = i

theorem Reads.remCov : Reads [.removedH] (RemCov w) := fun _ r r' d a h => by
  have e : r'.removedH = r.removedH := a.same .removedH (d _ (by decide))
  unfold RemCov; rw [e]; exact h

instance : Frame (RemCov w) where
  frame r r' h _ _ _ _ h2 := by unfold RemCov at *; rw [h2]; exact h

theorem remCov_commitRemoved :
    Triple (Staged s0 w fresh0) (commitRemoved w) (fun ok r => ok = true → RemCov w r) (fun _ => True) := by
  refine Triple.ite (fun he => Triple.pure _ (fun r _ _ i hi => ?_)) (fun _ => ?_)
  · rw [List.isEmpty_iff.mp he] at hi; cases hi
  · refine Triple.bindFact _ (regGet_known (fun _ h => h.rinv) _).dropE (fun hs hk => ?_)
    obtain ⟨_, _, hall⟩ := hk
    refine Triple.bind (Q1 := fun _ _ => True) Triple.triv (fun r0 =>
      Triple.ite (fun _ => Triple.pure _ (fun _ _ e => by cases e)) (fun hc => ?_))
    have hlen : hs.length = (w.removed.map (·.1)).length := by
      rw [List.length_map]
      simp only [Bool.or_eq_true, Bool.not_eq_true', bne_iff_ne, ne_eq, not_or, Bool.not_eq_false, Decidable.not_not] at hc
      exact hc.2
    refine Triple.bind (Q1 := fun _ _ => True) Triple.triv (fun _ => ?_)
    refine Triple.bind (Q1 := fun _ => RemCov w) (Triple.modify _ (fun r _ i hi => ?_)) (fun _ => Triple.pure _ (fun _ h _ => h))
    obtain ⟨h, hm, e⟩ := hall hlen i hi
    exact ⟨_, List.mem_map_of_mem hm, e⟩

theorem bi_phase1Body (pre : Pre s0 w fresh0) (pre2 : Pre2 s0 w fresh0) (hv : ∀ b ∈ w.values, b ∈ Y) :
    Triple (UnstagedBI s0 w fresh0 Y) (phase1Body w) (fun ok r => ok = true → AndI (StagedBI s0 w fresh0 Y) (RemCov w) r) (fun _ => True) :=
  phase1Body_ok (B := UnstagedBI s0 w fresh0 Y) (C := StagedBI s0 w fresh0 Y) (D := AndI (StagedBI s0 w fresh0 Y) (RemCov w)) w
    (hval := Triple.mapE (Triple.and unstaged_addValues (bi_addValues hv)) fun _ _ => trivial)
    (hroots := Triple.conseq (Triple.and (unstaged_commitNewRoots pre).dropE (bi_commitNewRoots pre))
      (fun _ h => ⟨h.1, h⟩) (fun _ _ h _ => h) fun _ _ => trivial)
    (hupd := Triple.conseq (Triple.and (staged_commitUpdated pre pre2) bi_commitUpdated)
      (fun _ h => ⟨h.1, h⟩) (fun _ _ h _ => ⟨h.1.1, h.2⟩) fun _ _ => trivial)
    (hrem := Triple.conseq (Triple.and (Triple.and (staged_commitRemoved pre pre2) bi_commitRemoved) remCov_commitRemoved)
      (fun _ h => ⟨⟨h.1, h⟩, h.1⟩) (fun _ _ h e => ⟨h.1, h.2 e⟩) fun _ _ => trivial)
    (hadd := Triple.conseq (Triple.and (Triple.and (staged_commitAdded pre pre2).dropE (bi_commitAdded pre)) ((foot_commitAdded w).keeps Reads.remCov).dropE)
      (fun _ h => ⟨⟨h.1.1, h.1⟩, h.2⟩) (fun _ _ h => h) fun _ _ => trivial)

/-- **a successful phase 1 leaves no orphan except the staged blobs (and the value blobs it wrote)**, and has marked
every removed node of the write set -/
theorem bi_phase1 (pre : Pre s0 w fresh0) (pre2 : Pre2 s0 w fresh0) (hv : ∀ b ∈ w.values, b ∈ Y) (n : Nat) :
    Triple (UnstagedBI s0 w fresh0 Y) (phase1 w n) (fun _ r => StagedBI s0 w fresh0 Y r ∧ (w.hasTracked = true → RemCov w r)) (fun _ => True) := by
  refine Triple.conseq (phase1_keeps (A := UnstagedBI s0 w fresh0 Y) (B := AndI (StagedBI s0 w fresh0 Y) (RemCov w)) w n
    (bi_phase1Body pre pre2 hv)) (fun _ h => h) (fun _ r h => ?_) (fun _ h => h)
  by_cases ht : w.hasTracked = true
  · rw [if_pos ht] at h
    exact ⟨h.1, fun _ => h.2⟩
  · rw [if_neg ht] at h
    exact ⟨⟨staged_of_unstaged h.1, h.2⟩, fun e => absurd e ht⟩

end
end Sop.Commit
