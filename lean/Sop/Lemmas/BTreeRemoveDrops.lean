import Sop.Lemmas.BTreeRemove
import Sop.Lemmas.BTreeIndexOf
import Sop.Lemmas.Assoc
/-! Remove side of Model B (C17): a node leaves the repository (`del`, `unlink`). -/
namespace Sop.BTree.Rem
open Sop.BTree Sop.Assoc

theorem get?_del (t : BTree) {n : NodeId} (hn : n ≠ 0) (k : NodeId) :
    (t.del n).get? k = if k = n then none else t.get? k := by
  unfold BTree.del BTree.get?
  rw [if_neg hn]
  split
  · next h => exact find?_filter_drop fun x _ hx => by simp [h, beq_iff_eq.mp hx]
  · next h => exact find?_filter_keep fun x _ hx => by simpa [beq_iff_eq.mp hx] using h

theorem del_length_lt (t : BTree) {n : NodeId} (hn : n ≠ 0) {nd : Node} (hg : t.get? n = some nd) :
    (t.del n).nodes.length < t.nodes.length := by
  unfold BTree.del
  rw [if_neg hn]
  apply List.length_filter_lt_length_iff_exists.mpr
  unfold BTree.get? at hg
  refine ⟨nd, List.mem_of_find?_eq_some hg, ?_⟩
  have := List.find?_some hg
  simpa using this

theorem del_sl (t : BTree) (n : NodeId) : (t.del n).sl = t.sl := (congrArg BTree.sl (shell_del t n) :)

theorem del_root (t : BTree) (n : NodeId) : (t.del n).root = t.root := (congrArg BTree.root (shell_del t n) :)

theorem del_count (t : BTree) (n : NodeId) : (t.del n).count = t.count := (congrArg BTree.count (shell_del t n) :)

theorem del_panicked (t : BTree) (n : NodeId) : (t.del n).panicked = t.panicked := (congrArg BTree.panicked (shell_del t n) :)

theorem splice_drop_nodup {n : NodeId} {l l' : List NodeId} (h : Splice [n] [] l l') (hnd : l.Nodup) :
    l'.Nodup ∧ n ∉ l' ∧ l'.length + 1 = l.length := by
  obtain ⟨L, R, h1, h2⟩ := h
  subst h1 h2
  simp only [List.append_nil, List.append_assoc, List.singleton_append] at hnd ⊢
  obtain ⟨hL, hR, hd⟩ := List.nodup_append.mp hnd
  obtain ⟨hnR, hR'⟩ := List.nodup_cons.mp hR
  refine ⟨List.nodup_append.mpr ⟨hL, hR', fun a ha b hb => hd a ha b (List.mem_cons_of_mem _ hb)⟩, ?_, by simp; omega⟩
  intro hm
  rcases List.mem_append.mp hm with h | h
  · exact hd n h n List.mem_cons_self rfl
  · exact hnR h

theorem splice_drop_mem {α : Type} {X l l' : List α} (h : Splice X [] l l') : ∀ x ∈ l', x ∈ l := by
  obtain ⟨L, R, rfl, rfl⟩ := h
  intro x hx
  rw [List.append_nil] at hx
  rcases List.mem_append.mp hx with hx | hx
  · exact List.mem_append_left _ (List.mem_append_left _ hx)
  · exact List.mem_append_right _ hx

theorem upd_id (t : BTree) (n : NodeId) : t.upd n (fun x => x) = t := by
  unfold BTree.upd
  have : (fun x : Node => if (x.id == n) = true then x else x) = id := by funext x; simp
  rw [this, List.map_id]

theorem getIndexOfChild_spec_ion (t : BTree) (p n : NodeId) (pn cn : Node) (cs : Array NodeId)
    (hgp : t.get? p = some pn) (hgn : t.get? n = some cn) (hcs : pn.children = some cs)
    (hsp : NodeShape t pn) (hion : -1 ≤ cn.ion ∧ cn.ion ≤ (t.sl : Int)) (hn0 : n ≠ 0)
    (j : Nat) (hj : j ≤ pn.count) (hcj : cs.getD j 0 = n) :
    ∃ (i : Nat) (g : Node → Node), (∀ x, ∃ v, g x = { x with ion := v }) ∧
      t.getIndexOfChild p n = (t.upd n g, (i : Int)) ∧ cs.getD i 0 = n ∧ i < cs.size := by
  have hsz := hsp.children_size hcs
  have hj' : j ≤ pn.slots.size := hsp.slots_size ▸ Nat.le_trans hj hsp.count_le
  obtain ⟨i, hi, hres⟩ := getIndexOfChild_eq hgp hgn hcs hn0 ⟨hion.1, by rw [hsz]; omega⟩ hj' hcj
  have hlt : i < cs.size := by
    refine Nat.lt_of_not_le (fun hge => hn0 ?_)
    rw [← hi]; simp [Array.getD, Nat.not_lt.mpr hge]
  rcases hres with e | e
  · exact ⟨i, fun x => x, fun x => ⟨x.ion, rfl⟩, by rw [upd_id]; exact e, hi, hlt⟩
  · exact ⟨i, _, fun x => ⟨_, rfl⟩, e, hi, hlt⟩

/-- what `unlink` does to the parent: nil the child entry, and turn the parent into a leaf when no child is left -/
def dropKid (i : Nat) (x : Node) : Node :=
  if (x.setChild i 0).isNilChildren then { x.setChild i 0 with children := none } else x.setChild i 0

theorem dropKid_id (i : Nat) (x : Node) : (dropKid i x).id = x.id := by
  unfold dropKid; split <;> rfl

theorem upd_upd (t : BTree) (p : NodeId) (f g : Node → Node) (hf : ∀ x, (f x).id = x.id) :
    (t.upd p f).upd p g = t.upd p (fun x => g (f x)) := by
  unfold BTree.upd
  simp only [List.map_map]
  congr 1
  apply List.map_congr_left
  intro x _
  simp only [Function.comp]
  by_cases h : x.id = p
  · simp [h, hf]
  · have : (x.id == p) = false := by simpa using h
    simp [this]

theorem parentOf_eq {t : BTree} {p n : NodeId} {pn cn : Node} (hgn : t.get? n = some cn) (hpar : cn.parent = p)
    (hp0 : p ≠ 0) (hgp : t.get? p = some pn) : t.parentOf n = p := by
  subst hpar
  exact parentOf_of_get hgn hp0 (by rw [hgp]; rfl)

theorem unlink_eq (t : BTree) (p n : NodeId) (pn cn : Node) (cs : Array NodeId)
    (hgp : t.get? p = some pn) (hgn : t.get? n = some cn) (hpar : cn.parent = p) (hp0 : p ≠ 0) (hpn : p ≠ n)
    (hcs : pn.children = some cs) (i : Nat) (g : Node → Node) (hg : ∀ x, (g x).id = x.id)
    (hioc : t.getIndexOfChild p n = (t.upd n g, (i : Int))) (hi : i < cs.size) :
    t.unlink n = ((t.upd n g).upd p (dropKid i)).del n := by
  have hgp1 : (t.upd n g).get? p = some pn := by rw [get?_upd_ne t g hg hpn]; exact hgp
  unfold BTree.unlink
  have hpo := parentOf_eq hgn hpar hp0 hgp
  simp only [hpo, hp0, if_false, get_of_get? hgp, Node.hasChildren, hcs, Option.isSome_some, Bool.not_true,
    Bool.false_eq_true, hioc, get_of_get? hgp1, Option.getD_some]
  rw [if_neg (by omega)]
  rw [upd_upd (t.upd n g) p (fun x => x.setChild (i : Int).toNat 0) _ (fun _ => rfl)]
  have : (fun x : Node => if ((x.setChild (i : Int).toNat 0).isNilChildren) = true
      then { x.setChild (i : Int).toNat 0 with children := none } else x.setChild (i : Int).toNat 0) = dropKid i := by
    funext x; simp [dropKid]
  rw [this]

theorem dropKid_parent (i : Nat) (x : Node) : (dropKid i x).parent = x.parent := by unfold dropKid; split <;> rfl

theorem dropKid_count (i : Nat) (x : Node) : (dropKid i x).count = x.count := by unfold dropKid; split <;> rfl

theorem dropKid_items (i : Nat) (x : Node) : (dropKid i x).items = x.items := by unfold dropKid; split <;> rfl

theorem kid_index_le {t : BTree} {pn : Node} {cs : Array NodeId} (hs : NodeShape t pn) (hcs : pn.children = some cs)
    {i : Nat} {n : NodeId} (hi : i < cs.size) (hci : cs.getD i 0 = n) (hn0 : n ≠ 0) : i ≤ pn.count := by
  -- behind `count + 1` the children array holds nil only
  exact Nat.le_of_not_lt fun h => hn0 (hci ▸ hs.children_tail hcs _ (getD_mem_drop cs 0 h hi))

theorem kids_getElem? {t : BTree} {pn : Node} {cs : Array NodeId} (hs : NodeShape t pn) (hcs : pn.children = some cs)
    {i : Nat} {n : NodeId} (hi : i < cs.size) (hci : cs.getD i 0 = n) (hn0 : n ≠ 0) : pn.kids[i]? = some n := by
  rw [kids_getElem?_child hs (kid_index_le hs hcs hi hci hn0), ← hci]
  unfold Node.child
  rw [hcs]
  rfl

theorem dropKid_kids {t : BTree} {pn : Node} {cs : Array NodeId} (hs : NodeShape t pn) (hcs : pn.children = some cs)
    (i : Nat) : (dropKid i pn).kids = pn.kids.set i 0 := by
  have hsz := hs.children_size hcs
  have hc := hs.count_le
  have hk := Node.kids_some hcs
  rw [hk]
  unfold dropKid
  split
  · rename_i hnil
    simp only [Node.isNilChildren, Node.setChild, hcs, Option.map_some, Option.getD_some] at hnil
    show List.replicate (pn.count + 1) 0 = _
    rw [← List.take_set, ← Array.toList_setIfInBounds]
    symm
    apply List.eq_replicate_iff.mpr
    constructor
    · simp; omega
    · intro b hb
      have hb' := List.mem_of_mem_take hb
      have := Array.all_eq_true_iff_forall_mem.mp hnil b (Array.mem_def.mpr hb')
      simpa using this
  · rw [← hk]
    exact setChild_kids hcs i 0

theorem dropKid_shape {t : BTree} {pn : Node} (hs : NodeShape t pn) {i : Nat} (hi : i ≤ pn.count) : NodeShape t (dropKid i pn) := by
  unfold dropKid
  split
  · exact ⟨hs.slots_size, hs.count_le, hs.ion_bounds, hs.slots_tail, fun cs' h => by cases h⟩
  · exact setChild_shape hs hi 0

theorem fixVacatedSlot_unlink (t : BTree) (n : NodeId) (cn : Node) (hget : t.get n = cn) (hneg : ¬ t.cur.idx < 0)
    (hone : cn.count = 1) (hpar : cn.parent ≠ 0) (hleaf : cn.children = none) :
    t.fixVacatedSlot n = t.unlink n := by
  unfold BTree.fixVacatedSlot
  have hr : (cn.parent == 0) = false := by simpa using hpar
  simp [hget, hneg, hone, Node.isRoot, hr, Node.isNilChildren, hleaf]

end Sop.BTree.Rem
