import Sop.Lemmas.CommitHoare
/-!
Footprints: which parts of a run a function of Model P can write. A run is cut into `Part`s; `Agree ch r r'`: `r'` is
`r` except in the parts listed in `ch`; `Foot ch m`: every run of `m`, however it ends, agrees with its start outside
`ch`. One `foot_*` theorem per function of the model, proved by one walk through its code.

An invariant that looks only at the parts `F` says so once (`Reads F I`, next to its definition); `(foot_f).keeps` then gives
`Preserves I f` with no walk, disjointness of `F` and the footprint being decided; `Reads.call` gives the rule for a backend call.
-/
namespace Sop.Commit

/-- what commit code writes: tables of the shared state, then the transaction's own bookkeeping. (`occs` and `trace`
change at every call and are nobody's business; `tid`, `fault`, `stopAt` are never written; `halted` is written only
at an observer's stop point.) -/
inductive Part where
  | reg | blob | cnt | stores | tlog | plog | nodeLock | itemLock
  | cs | nodesKeys | lockOwner | fresh | reserved | removedH | conflicted
deriving DecidableEq

def Part.ty : Part → Type
  | .reg => UUID → Option Handle
  | .blob => UUID → Bool
  | .cnt => Nat → Int
  | .stores => Nat → Bool
  | .tlog => Tid → Bool
  | .plog => Tid → Bool
  | .nodeLock => UUID → Option Tid
  | .itemLock => (Nat → Option Tid) × (Nat → Bool)
  | .cs => Step
  | .nodesKeys => Option (List UUID)
  | .lockOwner => List Nat
  | .fresh => List (UUID × UUID)
  | .reserved => List Handle
  | .removedH => List Handle
  | .conflicted => Bool

def Part.val : (p : Part) → Run → p.ty
  | .reg, r => r.s.reg
  | .blob, r => r.s.blob
  | .cnt, r => r.s.cnt
  | .stores, r => r.s.storeExists
  | .tlog, r => r.s.tlog
  | .plog, r => r.s.plog
  | .nodeLock, r => r.s.nodeLock
  | .itemLock, r => (r.s.itemLock, r.s.itemLockW)
  | .cs, r => r.cs
  | .nodesKeys, r => r.nodesKeys
  | .lockOwner, r => r.lockOwner
  | .fresh, r => r.fresh
  | .reserved, r => r.reserved
  | .removedH, r => r.removedH
  | .conflicted, r => r.conflicted

def Part.set : (p : Part) → p.ty → Run → Run
  | .reg, x, r => { r with s := { r.s with reg := x } }
  | .blob, x, r => { r with s := { r.s with blob := x } }
  | .cnt, x, r => { r with s := { r.s with cnt := x } }
  | .stores, x, r => { r with s := { r.s with storeExists := x } }
  | .tlog, x, r => { r with s := { r.s with tlog := x } }
  | .plog, x, r => { r with s := { r.s with plog := x } }
  | .nodeLock, x, r => { r with s := { r.s with nodeLock := x } }
  | .itemLock, x, r => { r with s := { r.s with itemLock := x.1, itemLockW := x.2 } }
  | .cs, x, r => { r with cs := x }
  | .nodesKeys, x, r => { r with nodesKeys := x }
  | .lockOwner, x, r => { r with lockOwner := x }
  | .fresh, x, r => { r with fresh := x }
  | .reserved, x, r => { r with reserved := x }
  | .removedH, x, r => { r with removedH := x }
  | .conflicted, x, r => { r with conflicted := x }

theorem Part.val_set_ne {p q : Part} (h : p ≠ q) (x : q.ty) (r : Run) : p.val (q.set x r) = p.val r := by
  cases q <;> cases p <;> first | rfl | exact absurd rfl h

structure Agree (ch : List Part) (r r' : Run) : Prop where
  same : ∀ p, p ∉ ch → p.val r' = p.val r
  tid : r'.tid = r.tid
  fault : r'.fault = r.fault
  stopAt : r'.stopAt = r.stopAt
  /-- with a stop point set, `halted` may flip at any call: it is constant only when there is none -/
  halted : r.stopAt = none → r'.halted = r.halted

namespace Agree
variable {ch ch' : List Part} {r r' r'' : Run}

theorem refl (r : Run) : Agree ch r r := ⟨fun _ _ => rfl, rfl, rfl, rfl, fun _ => rfl⟩

theorem trans (a : Agree ch r r') (b : Agree ch r' r'') : Agree ch r r'' :=
  ⟨fun p h => (b.same p h).trans (a.same p h), b.tid.trans a.tid, b.fault.trans a.fault, b.stopAt.trans a.stopAt,
    fun h => (b.halted (a.stopAt.trans h)).trans (a.halted h)⟩

theorem mono (a : Agree ch r r') (hs : ∀ p ∈ ch, p ∈ ch') : Agree ch' r r' :=
  ⟨fun p h => a.same p (fun m => h (hs p m)), a.tid, a.fault, a.stopAt, a.halted⟩

theorem noise (r : Run) (occs : List (Cls × Nat)) (tr : List Ev) : Agree ch r { r with occs := occs, trace := tr } :=
  ⟨fun p _ => by cases p <;> rfl, rfl, rfl, rfl, fun _ => rfl⟩

theorem stop (occs : List (Cls × Nat)) (hs : r.stopAt.isSome) : Agree ch r { r with occs := occs, halted := true } :=
  ⟨fun p _ => by cases p <;> rfl, rfl, rfl, rfl, fun h => by rw [h] at hs; cases hs⟩

theorem set (q : Part) {x : q.ty} (hq : q ∈ ch := by decide) : Agree ch r (q.set x r) :=
  ⟨fun p hp => Part.val_set_ne (fun (e : p = q) => hp (e ▸ hq)) x r, by cases q <;> rfl, by cases q <;> rfl, by cases q <;> rfl,
    fun _ => by cases q <;> rfl⟩

theorem foldl {β : Type} (f : State → β → State) (h : ∀ (r : Run) b, Agree ch r { r with s := f r.s b }) (l : List β) :
    ∀ r : Run, Agree ch r { r with s := l.foldl f r.s } := by
  induction l with
  | nil => exact Agree.refl
  | cons b t ih => exact fun r => (h r b).trans (ih { r with s := f r.s b })

theorem setRegs {hs : List Handle} (h : .reg ∈ ch := by decide) : Agree ch r { r with s := r.s.setRegs hs } :=
  foldl State.setReg (fun _ _ => .set .reg h) hs r
theorem delRegs {ids : List UUID} (h : .reg ∈ ch := by decide) : Agree ch r { r with s := r.s.delRegs ids } :=
  foldl State.delReg (fun _ _ => .set .reg h) ids r
theorem addBlobs {ids : List UUID} (h : .blob ∈ ch := by decide) : Agree ch r { r with s := r.s.addBlobs ids } :=
  foldl _ (fun _ _ => .set .blob h) ids r
theorem delBlobs {ids : List UUID} (h : .blob ∈ ch := by decide) : Agree ch r { r with s := r.s.delBlobs ids } :=
  foldl _ (fun _ _ => .set .blob h) ids r
theorem addCnts {ds : List (Nat × Int)} (h : .cnt ∈ ch := by decide) :
    Agree ch r { r with s := ds.foldl (fun s (x : Nat × Int) => match x with | (st, d) => s.addCnt st d) r.s } :=
  foldl _ (fun _ _ => .set .cnt h) ds r

end Agree

def Foot (ch : List Part) (m : M α) : Prop := ∀ r0, Preserves (Agree ch r0) m

namespace Foot
variable {ch ch' : List Part}

theorem preserves {m : M α} (hm : Foot ch m) {I : Run → Prop} (hI : ∀ r r', Agree ch r r' → I r → I r') : Preserves I m :=
  fun r hr => Triple.conseq (hm r) (fun _ a => a) (fun _ r' ag => hI r r' ag hr) (fun r' ag => hI r r' ag hr) r (.refl r)

theorem mono {m : M α} (hm : Foot ch m) (hs : ∀ p ∈ ch, p ∈ ch' := by decide) : Foot ch' m :=
  fun _ => hm.preserves (fun _ _ a a0 => a0.trans (a.mono hs))

theorem pure (a : α) : Foot ch (Pure.pure a : M α) := fun _ => Keeps.pure a
theorem fail : Foot ch (fail : M α) := fun _ => Preserves.fail
theorem fail_bind (f : α → M β) : Foot ch (Sop.Commit.fail >>= f) := fun _ => Triple.fail_bind f fun _ h => h
theorem bind {m : M α} {f : α → M β} (hm : Foot ch m) (hf : ∀ a, Foot ch (f a)) : Foot ch (m >>= f) :=
  fun r0 => Keeps.bind (hm r0) (fun a => hf a r0)
theorem void {m : M α} {a : β} (hm : Foot ch m) : Foot ch (m >>= fun _ => Pure.pure a) := fun r0 => Keeps.void (hm r0)
theorem ite {c : Prop} [Decidable c] {a b : M α} (ha : c → Foot ch a) (hb : ¬ c → Foot ch b) :
    Foot ch (if c then a else b) := fun r0 => Triple.ite (fun h => ha h r0) (fun h => hb h r0)
theorem get : Foot ch get := fun _ => Keeps.get
theorem getS : Foot ch getS := fun _ => Keeps.getS
theorem attempt {m : M Unit} (h : Foot ch m) : Foot ch (attempt m) := fun r0 => Preserves.attempt (h r0)
theorem forIn (xs : List β) (f : β → Unit → M (ForInStep Unit)) (hf : ∀ x, Foot ch (f x ())) : Foot ch (forIn xs () f) :=
  fun r0 => Keeps.forIn xs f (fun x => hf x r0)
theorem whenM (c : Bool) {m : M Unit} (h : Foot ch m) : Foot ch (whenM c m) := fun r0 => Keeps.whenM c (h r0)

theorem modify {f : Run → Run} (h : ∀ r, Agree ch r (f r)) : Foot ch (modify f) :=
  fun _ => Triple.modify f (fun r a => a.trans (h r))

theorem call {cls : Cls} {args : Args} {eff : State → State} {res : Args} {nat : State → Bool}
    (h : ∀ r : Run, Agree ch r { r with s := eff r.s }) : Foot ch (call cls args eff res nat) :=
  fun _ => Triple.call' cls args eff res nat
    (fun r occs tr a => (a.trans (h r)).trans (.noise _ occs tr))
    (fun _ occs a hs => a.trans (.stop occs hs))
    (fun r occs tr a => a.trans (.noise r occs tr))
    (fun r occs tr a _ => (a.trans (h r)).trans (.noise _ occs tr))

theorem callId {cls : Cls} {args res : Args} {nat : State → Bool} : Foot ch (Sop.Commit.call cls args id res nat) :=
  call Agree.refl

end Foot

/-- `I` reads only the parts in `F` of a run: it survives whatever agrees with the run on `F` — and on what `Agree` always keeps (the
transaction id, the fault, the stop point, `halted` while there is no stop point) -/
def Reads (F : List Part) (I : Run → Prop) : Prop :=
  ∀ ⦃ch : List Part⦄ ⦃r r' : Run⦄, (∀ p ∈ F, p ∉ ch) → Agree ch r r' → I r → I r'

theorem Reads.and {F G : List Part} {A B : Run → Prop} (hA : Reads F A) (hB : Reads G B) : Reads (F ++ G) fun r => A r ∧ B r :=
  fun _ _ _ d a h => ⟨hA (fun p hp => d p (List.mem_append_left _ hp)) a h.1, hB (fun p hp => d p (List.mem_append_right _ hp)) a h.2⟩

theorem Reads.imp {F : List Part} {I : Run → Prop} {c : Prop} (hI : Reads F I) : Reads F fun r => c → I r :=
  fun _ _ _ d a h hc => hI d a (h hc)

theorem Reads.eq (p : Part) (x : p.ty) : Reads [p] fun r => p.val r = x :=
  fun _ _ _ d a h => (a.same p (d p (List.mem_singleton.mpr rfl))).trans h

/-- a function keeps every invariant that reads nothing it writes -/
theorem Foot.keeps {F ch : List Part} {I : Run → Prop} {m : M α} (hm : Foot ch m) (hI : Reads F I)
    (h : ∀ p ∈ F, p ∉ ch := by decide) : Preserves I m :=
  hm.preserves fun _ _ a => hI h a

/-- a backend call keeps `I` if its effect does: the counters, the trace and the four exits of `call` are dealt with here -/
theorem Reads.call {F : List Part} {I : Run → Prop} (hI : Reads F I) {cls : Cls} {args : Args} {eff : State → State} {res : Args}
    {nat : State → Bool} (h : ∀ r : Run, I r → I { r with s := eff r.s }) : Preserves I (Sop.Commit.call cls args eff res nat) :=
  have nil : ∀ p ∈ F, p ∉ ([] : List Part) := fun _ _ => nofun
  Triple.call' cls args eff res nat (fun r o t hr => hI nil (Agree.noise _ o t) (h r hr)) (fun _ o hr hs => hI nil (Agree.stop o hs) hr)
    (fun r o t hr => hI nil (Agree.noise r o t) hr) (fun r o t hr _ => hI nil (Agree.noise _ o t) (h r hr))

def NoLists (r : Run) : Prop := r.reserved = [] ∧ r.removedH = []

theorem Reads.noLists : Reads [.reserved, .removedH] NoLists := (Reads.eq .reserved []).and (Reads.eq .removedH [])

theorem foot_logStep (st : Step) : Foot [.cs, .tlog] (logStep st) :=
  .bind (.modify fun _ => .set .cs) fun _ =>
  .bind .get fun _ => .call fun _ => .set .tlog

theorem foot_regGet (ids : List UUID) : Foot [] (regGet ids) :=
  .bind .getS fun _ => .void (.callId)

theorem foot_lockItems (w : WS) : Foot [.itemLock, .lockOwner] (lockItems w) := by
  refine .void (.forIn _ _ fun st => .ite (fun _ => ?_) fun _ => .pure _)
  refine .bind .get fun r => .bind (.callId) fun _ => ?_
  split
  · exact .ite (fun _ => .pure _) fun _ => .ite (fun _ => .bind .fail fun _ => .pure _) fun _ => .pure _
  · refine .bind (.call fun _ => .set .itemLock (x := (_, _))) fun _ => ?_
    exact .bind (.callId) fun _ => .void (.modify fun _ => .set .lockOwner)

theorem foot_unlockItems (w : WS) : Foot [.itemLock] (unlockItems w) :=
  .void (.forIn _ _ fun _ => .bind .get fun _ =>
    .ite (fun _ => .void (.attempt (.call fun _ => .set .itemLock (x := (_, _)))))
      fun _ => .pure _)

theorem foot_checkItems (w : WS) : Foot [] (checkItems w) := by
  refine .void (.forIn _ _ fun st => .ite (fun _ => ?_) fun _ => .pure _)
  refine .bind .get fun r => .bind (.callId) fun _ => ?_
  split
  · exact .ite (fun _ => .pure _) fun _ => .ite (fun _ => .bind .fail fun _ => .pure _) fun _ => .pure _
  · exact .pure _

theorem foot_unlockKeys (ids : List UUID) : Foot [.nodeLock] (unlockKeys ids) :=
  .bind .get fun _ => .call fun _ => .set .nodeLock

theorem foot_unlockNodesKeys : Foot [.nodeLock, .nodesKeys] unlockNodesKeys := by
  refine .bind .get fun r => ?_
  split
  · exact .pure _
  · refine .bind (.attempt ((foot_unlockKeys _).mono)) fun _ => ?_
    exact .modify fun _ => .set .nodesKeys

theorem foot_mergeNodesKeys (w : WS) : Foot [.nodeLock, .nodesKeys] (mergeNodesKeys w) :=
  .ite (fun _ => .bind (.attempt ((foot_unlockKeys _).mono)) fun _ =>
      .modify fun _ => .set .nodesKeys)
    fun _ => .modify fun _ => .set .nodesKeys

theorem foot_commitNewRoots (w : WS) : Foot [.reg, .blob] (commitNewRoots w) :=
  .ite (fun _ => .pure _) fun _ => .bind ((foot_regGet _).mono) fun _ =>
  .ite (fun _ => .pure _) fun _ => .bind (.call fun _ => .addBlobs) fun _ =>
  .void (.call fun _ => .setRegs)

theorem foot_fetchedIntact (w : WS) : Foot [] (fetchedIntact w) :=
  .ite (fun _ => .pure _) fun _ => .bind (foot_regGet _) fun _ => .pure _

theorem foot_commitUpdated (w : WS) : Foot [.reg, .blob, .fresh, .reserved] (commitUpdated w) := by
  refine .ite (fun _ => .pure _) fun _ => .bind ((foot_regGet _).mono) fun hs => ?_
  refine .ite (fun _ => .pure _) fun _ => .bind .get fun r => ?_
  extract_lets pairs
  split
  · exact .pure _
  · refine .bind (.modify fun _ => .set .fresh) fun _ => ?_
    refine .bind (.call fun _ => .setRegs) fun _ => ?_
    refine .bind (.call fun _ => .addBlobs) fun _ => ?_
    exact .void (.modify fun _ => .set .reserved)

theorem foot_commitRemoved (w : WS) : Foot [.reg, .removedH] (commitRemoved w) :=
  .ite (fun _ => .pure _) fun _ => .bind ((foot_regGet _).mono) fun _ => .bind .get fun _ =>
  .ite (fun _ => .pure _) fun _ => .bind (.call fun _ => .setRegs) fun _ =>
  .void (.modify fun _ => .set .removedH)

theorem foot_commitAdded (w : WS) : Foot [.reg, .blob] (commitAdded w) :=
  .ite (fun _ => .pure _) fun _ => .bind (.call fun _ => .setRegs) fun _ =>
  .call fun _ => .addBlobs

theorem foot_commitStores (w : WS) : Foot [.cnt] (commitStores w) :=
  .ite (fun _ => .pure _) fun _ => .call fun _ => .addCnts

theorem foot_addValues (w : WS) : Foot [.blob] (addValues w) :=
  .void (.forIn _ _ fun _ =>
    .void (.whenM _ (.call fun _ => .addBlobs)))

theorem foot_phase1Body (w : WS) : Foot [.cs, .tlog, .reg, .blob, .fresh, .reserved, .removedH] (phase1Body w) :=
  .bind ((foot_logStep _).mono) fun _ =>
  .bind ((foot_addValues w).mono) fun _ =>
  .bind ((foot_logStep _).mono) fun _ =>
  .bind ((foot_commitNewRoots w).mono) fun _ => .ite (fun _ => .pure _) fun _ =>
  .bind ((foot_logStep _).mono) fun _ =>
  .bind ((foot_fetchedIntact w).mono) fun _ => .ite (fun _ => .pure _) fun _ =>
  .bind ((foot_commitUpdated w).mono) fun _ =>
  .bind ((foot_logStep _).mono) fun _ => .ite (fun _ => .pure _) fun _ =>
  .bind ((foot_logStep _).mono) fun _ =>
  .bind ((foot_commitRemoved w).mono) fun _ => .ite (fun _ => .pure _) fun _ =>
  .bind ((foot_logStep _).mono) fun _ =>
  .void ((foot_commitAdded w).mono)

theorem foot_lockNodes : Foot [.nodeLock] lockNodes :=
  .bind .get fun _ =>
  .bind (.attempt (.call fun r' => by
    split
    · exact .set .nodeLock
    · exact .refl r')) fun _ =>
  .ite (fun _ => .bind (.attempt (foot_unlockKeys _)) fun _ => .fail) fun _ =>
  .ite (fun _ => .pure _) fun _ => .void (.callId)

theorem foot_giveUpLocked : Foot [.nodeLock, .conflicted] giveUpLocked :=
  .bind .get fun _ => .bind (.attempt ((foot_unlockKeys _).mono)) fun _ =>
  .bind (.modify fun _ => .set .conflicted) fun _ => .fail

theorem foot_finishPhase1 (w : WS) : Foot [.cs, .tlog, .cnt, .plog, .nodeLock] (finishPhase1 w) :=
  .bind ((foot_logStep _).mono) fun _ =>
  .bind ((foot_commitStores w).mono) fun _ =>
  .bind ((foot_logStep _).mono) fun _ => .bind .get fun _ =>
  .bind (.whenM _ (.call fun _ => .set .plog)) fun _ =>
  .bind ((foot_checkItems w).mono) fun _ => .bind .get fun _ => .whenM _ <|
  .bind (.attempt (.callId)) fun _ => .whenM _ (.call fun _ => .set .nodeLock)

theorem foot_dropNodeCache (ids : List UUID) : Foot [] (dropNodeCache ids) :=
  .void (.forIn _ _ fun _ => .void (.attempt (.callId)))

theorem foot_rollbackUpdated (w : WS) : Foot [.reg, .blob] (rollbackUpdated w) :=
  .ite (fun _ => .pure _) fun _ => .bind ((foot_regGet _).mono) fun _ =>
  .bind (.attempt (.call fun _ => .delBlobs)) fun _ => .bind .get fun _ =>
  .ite (fun _ => .bind (.attempt (.call fun _ => .setRegs)) fun _ =>
      (foot_dropNodeCache _).mono)
    fun _ => .bind (.attempt (.call fun _ => .setRegs)) fun _ =>
      (foot_dropNodeCache _).mono

theorem foot_rollbackRemoved (w : WS) : Foot [.reg] (rollbackRemoved w) :=
  .ite (fun _ => .pure _) fun _ =>
  .bind (.attempt (.void ((foot_regGet _).mono))) fun _ =>
  .ite (fun _ => .pure _) fun _ => .bind .getS fun _ => .bind .get fun _ =>
  .ite (fun _ => .void (.attempt (.call fun _ => .setRegs)))
    (fun _ => .void (.attempt (.call fun _ => .setRegs)))

theorem foot_rollbackAdded (w : WS) : Foot [.reg, .blob] (rollbackAdded w) :=
  .ite (fun _ => .pure _) fun _ => .bind (.attempt (.call fun _ => .delBlobs)) fun _ =>
  .bind (.attempt (.call fun _ => .delRegs)) fun _ => (foot_dropNodeCache _).mono

theorem foot_rollbackNewRoots (w : WS) : Foot [.reg, .blob] (rollbackNewRoots w) :=
  .ite (fun _ => .pure _) fun _ => .bind (.attempt (.call fun _ => .delBlobs)) fun _ =>
  .bind ((foot_dropNodeCache _).mono) fun _ =>
  .bind (.attempt (.void ((foot_regGet _).mono))) fun _ =>
  .ite (fun _ => .pure _) fun _ => .bind .getS fun _ =>
  .ite (fun _ => .void (.attempt (.call fun _ => .delRegs))) fun _ => .pure _

theorem foot_rollbackStores (w : WS) : Foot [.cnt] (rollbackStores w) :=
  .ite (fun _ => .pure _) fun _ => .void (.attempt (.call fun _ => .addCnts))

theorem foot_rollbackValues (w : WS) : Foot [.blob] (rollbackValues w) :=
  .void (.forIn _ _ fun _ => .void (.whenM _ <|
    .void (.attempt (.call fun _ => .delBlobs))))

theorem foot_removeCreatedStores (w : WS) : Foot [.reg, .blob, .cnt, .stores] (removeCreatedStores w) := by
  refine .void (.forIn _ _ fun st => .void (.whenM _ ?_))
  refine .void (.attempt (.call fun r => ?_))
  refine (Agree.delRegs (ids := st.root ++ st.added) (by decide)).trans ?_
  refine (Agree.delBlobs (ids := st.root ++ st.added) (by decide)).trans ?_
  refine (Agree.set .stores (x := fun k => if k = st.store then false else r.s.storeExists k) (by decide)).trans ?_
  exact .set .cnt (by decide)

/-- `rollback` writes the committed state only at its very end: where it raises, `cs` is still what it was -/
theorem foot_rollback_raises (w : WS) (values : Bool) (r0 : Run) :
    Triple (Agree [.tlog, .plog, .cnt, .stores, .reg, .blob, .nodeLock, .nodesKeys, .itemLock] r0) (rollback w values)
      (fun _ => Agree [.cs, .tlog, .plog, .cnt, .stores, .reg, .blob, .nodeLock, .nodesKeys, .itemLock] r0)
      (Agree [.tlog, .plog, .cnt, .stores, .reg, .blob, .nodeLock, .nodesKeys, .itemLock] r0) :=
  have F : ∀ {α : Type} {m : M α}, Foot [.tlog, .plog, .cnt, .stores, .reg, .blob, .nodeLock, .nodesKeys, .itemLock] m → _ := fun h => h r0
  Triple.start fun r1 h1 => rollback_rule w values r1 h1 (fun _ => h1)
    (hplog := fun _ => F (.attempt (.call fun _ => .set .plog))) (hstores := fun _ => F (foot_rollbackStores w).mono)
    (hadded := fun _ => F (foot_rollbackAdded w).mono) (hremoved := fun _ => F (foot_rollbackRemoved w).mono)
    (hupdated := fun _ => F (foot_rollbackUpdated w).mono) (hskip := fun _ _ a => a) (hkeys := F foot_unlockNodesKeys.mono)
    (hroots := fun _ => F (foot_rollbackNewRoots w).mono) (hvalues := fun _ _ => F (foot_rollbackValues w).mono)
    (hitems := fun _ => F (.attempt (foot_unlockItems w).mono)) (hcreated := fun _ => F (foot_removeCreatedStores w).mono)
    (htlog := F (.attempt (.call fun _ => .set .tlog))) (hend := Triple.modify _ fun _ a => (a.mono (by decide)).trans (.set .cs))

theorem foot_rollback (w : WS) (values : Bool) :
    Foot [.cs, .tlog, .plog, .cnt, .stores, .reg, .blob, .nodeLock, .nodesKeys, .itemLock] (rollback w values) := fun _ =>
  Triple.start fun r1 h1 => Triple.conseq (foot_rollback_raises w values r1) (fun _ e => e ▸ Agree.refl _) (fun _ _ a => h1.trans a)
    fun _ a => h1.trans (a.mono (by decide))

theorem foot_conflictRound (w : WS) (n : Nat) :
    Foot [.cs, .tlog, .plog, .cnt, .stores, .reg, .blob, .nodeLock, .nodesKeys, .itemLock, .conflicted] (conflictRound w n) :=
  .bind (.whenM _ .fail) fun _ => .bind ((foot_rollback w false).mono) fun _ =>
  .bind (.modify fun _ => .set .conflicted) fun _ => .fail

theorem foot_cleanup (w : WS) : Foot [.cs, .tlog, .reg, .blob] (cleanup w) := by
  refine .bind .get fun r => .bind (.attempt ((foot_logStep _).mono)) fun ok => ?_
  refine .ite (fun _ => .pure _) fun _ => ?_
  extract_lets flipped unused dead rest
  have hrest : ∀ u, Foot [.cs, .tlog, .reg, .blob] (rest u) := fun _ =>
    .bind (.attempt (.call fun _ => .delRegs)) fun _ =>
    .bind (.attempt ((foot_logStep _).mono)) fun _ => .ite (fun _ => .pure _) fun _ =>
    .bind (.forIn _ _ fun _ =>
      .ite (fun _ => .void (.attempt (.call fun _ => .delBlobs)))
        fun _ => .pure _) fun _ =>
    .void (.attempt (.call fun _ => .set .tlog))
  exact .ite (fun _ => .bind (.attempt (.call fun _ => .delBlobs)) fun _ => hrest ())
    fun _ => hrest ()

theorem foot_phase1 (w : WS) (n : Nat) :
    Foot [.cs, .tlog, .plog, .cnt, .stores, .reg, .blob, .nodeLock, .nodesKeys, .itemLock, .lockOwner, .fresh, .reserved,
      .removedH, .conflicted] (phase1 w n) :=
  .ite (fun _ => .pure _) fun _ =>
  .bind ((foot_logStep _).mono) fun _ =>
  .bind ((foot_lockItems w).mono) fun _ =>
  .bind ((foot_mergeNodesKeys w).mono) fun _ =>
  .bind (foot_lockNodes.mono) fun _ => .ite (fun _ => foot_giveUpLocked.mono) fun _ =>
  .bind ((foot_phase1Body w).mono) fun _ =>
  .ite (fun _ => (foot_conflictRound w n).mono) fun _ => (foot_finishPhase1 w).mono

theorem foot_priorityRollbackSelf : Foot [.reg, .plog] priorityRollbackSelf :=
  .bind .get fun _ =>
  .ite (fun _ => .bind (.attempt (.call fun _ => .setRegs)) fun _ =>
      .void (.attempt (.call fun _ => .set .plog)))
    fun _ => .pure _

theorem foot_phase2 (w : WS) : Foot [.cs, .tlog, .plog, .reg, .blob, .nodeLock, .nodesKeys, .itemLock] (phase2 w) := by
  refine .bind .get fun r => .bind (.attempt ((foot_logStep _).mono)) fun okLog => ?_
  refine .ite (fun _ => .bind (foot_unlockNodesKeys.mono) fun _ => .fail_bind _) fun _ => ?_
  extract_lets final rest
  have hrest : ∀ u, Foot [.cs, .tlog, .plog, .reg, .blob, .nodeLock, .nodesKeys, .itemLock] (rest u) := fun _ =>
    .bind (foot_unlockNodesKeys.mono) fun _ =>
    .bind (.attempt ((foot_unlockItems w).mono)) fun _ => (foot_cleanup w).mono
  refine .ite (fun _ => ?_) fun _ => hrest ()
  refine .bind (.call fun _ => .setRegs) fun _ => ?_
  exact .bind (.attempt (.call fun _ => .set .plog)) fun _ => hrest ()

end Sop.Commit
