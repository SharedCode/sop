import Sop.Lemmas.CommitClean2
/-!
C07 "no blockage", the node locks. `LockI`: every node lock the transaction holds is on one of the keys it remembers
in `nodesKeys` — kept through phase 1 and where the live rollback raises, for every fault (through phase 2: `phase2_raises_failed`,
CommitClean4); with the fault spent `unlockNodesKeys` then releases them all (`NoLockI`).
-/
namespace Sop.Commit

structure LockI (tid : Tid) (r : Run) : Prop where
  ns : NS r
  own : r.tid = tid
  held : ∀ k, r.s.nodeLock k = some tid → k ∈ keysOrEmpty r

structure NoLockI (tid : Tid) (r : Run) : Prop where
  ns : NS r
  own : r.tid = tid
  free : ∀ k, r.s.nodeLock k ≠ some tid

instance (tid : Tid) : XFrame [] (LockI tid) where
  ns _ h := h.1
  frame r r' h a b c d e _ := by
    refine ⟨h.ns.congr a b, c ▸ h.own, ?_⟩
    intro k hk
    rw [e] at hk
    unfold keysOrEmpty; rw [d]
    exact h.held k hk

instance (tid : Tid) : XFrame [] (NoLockI tid) where
  ns _ h := h.1
  frame r r' h a b c _ e _ := ⟨h.ns.congr a b, c ▸ h.own, fun k => by rw [e]; exact h.free k⟩

theorem NoLockI.toLockI {tid : Tid} {r : Run} (h : NoLockI tid r) : LockI tid r :=
  ⟨h.1, h.own, fun k hk => absurd hk (h.free k)⟩

theorem NoLockI.init {s0 : State} {fresh0 : List (UUID × UUID)} {tid : Tid} {fault : Option Fault} {cs0 : Step}
    (hl : ∀ k, s0.nodeLock k ≠ some tid) :
    NoLockI tid { s := s0, tid := tid, fault := fault, fresh := fresh0, cs := cs0 } := ⟨⟨rfl, rfl⟩, rfl, hl⟩

section
variable {tid : Tid}

/-- `unlockKeys` only clears entries of the node-lock table, so it keeps every invariant that survives the loss of
some of `tid`'s entries (`h`): both `LockI` and `NoLockI` -/
theorem unlockKeys_clears {I : Run → Prop} [XFrame [] I] (ids : List UUID)
    (h : ∀ (r : Run) (f : UUID → Option Tid), (∀ k, f k = some tid → r.s.nodeLock k = some tid) → I r →
      I { r with s := { r.s with nodeLock := f } }) :
    Preserves I (unlockKeys ids) :=
  Keeps.bind Keeps.get (fun _ => Reads.xframe0.call (fun r hI => h r _ (fun k hk => by
    split at hk
    · cases hk
    · exact hk) hI))

theorem lockI_unlockKeys (ids : List UUID) : Preserves (LockI tid) (unlockKeys ids) :=
  unlockKeys_clears ids (fun _ _ hf h => ⟨h.1, h.own, fun k hk => h.held k (hf k hk)⟩)

theorem noLockI_unlockKeys (ids : List UUID) : Preserves (NoLockI tid) (unlockKeys ids) :=
  unlockKeys_clears ids (fun _ _ hf h => ⟨h.1, h.own, fun k hk => h.free k (hf k hk)⟩)

theorem lockI_mergeNodesKeys (w : WS) : Triple (NoLockI tid) (mergeNodesKeys w) (fun _ => LockI tid) (LockI tid) := by
  unfold mergeNodesKeys
  split
  · refine Triple.bind (X.attempt (noLockI_unlockKeys _)) (fun _ => ?_)
    exact Triple.modify _ (fun r h => ⟨h.1, h.own, fun k hk => absurd hk (h.free k)⟩)
  · exact Triple.modify _ (fun r h => ⟨h.1, h.own, fun k hk => absurd hk (h.free k)⟩)

/-- `LockI`, with the transaction id and the node keys those of the run `r0` a lock call was prepared in -/
def LockIOf (tid : Tid) (r0 r : Run) : Prop := LockI tid r ∧ r.tid = r0.tid ∧ r.nodesKeys = r0.nodesKeys

instance (r0 : Run) : XFrame [] (LockIOf tid r0) where
  ns _ h := h.1.1
  frame r r' h a b c d e f := ⟨XFrame.frame (K := []) r r' h.1 a b c d e f, c.trans h.2.1, d.trans h.2.2⟩

def lockEff (ks : List UUID) (t : Tid) (s : State) : State :=
  { s with nodeLock := fun k => if ks.contains k then some t else s.nodeLock k }

theorem lockIOf_lock {r0 r : Run} (h : LockIOf tid r0 r) (t : Tid) :
    LockIOf tid r0 { r with s := lockEff (keysOrEmpty r0) t r.s } := by
  refine ⟨⟨h.1.1, h.1.own, fun k hk => ?_⟩, h.2⟩
  simp only [lockEff] at hk
  split at hk
  · rename_i hc
    show k ∈ r.nodesKeys.getD []
    rw [h.2.2]
    simpa [keysOrEmpty] using hc
  · exact h.1.held k hk

theorem LockI.withRun {α : Type} {f : Run → M α} (h : ∀ r0, Preserves (LockIOf tid r0) (f r0)) : Preserves (LockI tid) (get >>= f) :=
  Triple.bind (Q1 := LockIOf tid) (Triple.get (fun _ h => ⟨h, rfl, rfl⟩)) (fun r0 =>
    Triple.conseq (h r0) (fun _ h => h) (fun _ _ h => h.1) (fun _ h => h.1))

theorem lockI_lockNodes : Preserves (LockI tid) lockNodes := by
  unfold lockNodes
  refine LockI.withRun (fun r0 => ?_)
  refine Keeps.bind (X.attempt (Reads.xframe0.call (fun r h => ?_))) (fun ok => ?_)
  · split
    · exact lockIOf_lock h _
    · exact h
  refine Triple.ite (fun _ => ?_) (fun _ => Triple.ite (fun _ => Keeps.pure _) (fun _ => ?_))
  · refine Keeps.bind (Preserves.attempt (unlockKeys_clears (tid := tid) _ (fun _ _ hf h => ?_))) (fun _ => Preserves.fail)
    exact ⟨⟨h.1.1, h.1.own, fun k hk => h.1.held k (hf k hk)⟩, h.2⟩
  · exact Keeps.bind ((Foot.callId (ch := [])).keeps Reads.xframe0) (fun _ => Keeps.pure _)

theorem lockI_finishPhase1 (w : WS) : Preserves (LockI tid) (finishPhase1 w) := by
  unfold finishPhase1
  refine Keeps.bind ((foot_logStep _).keeps Reads.xframe0) (fun _ => ?_)
  refine Keeps.bind ((foot_commitStores w).keeps Reads.xframe0) (fun _ => ?_)
  refine Keeps.bind ((foot_logStep _).keeps Reads.xframe0) (fun _ => ?_)
  refine Keeps.bind Keeps.get (fun r => ?_)
  refine Keeps.bind (Keeps.whenM _ ((Foot.call (ch := [.plog]) fun r => .set .plog).keeps Reads.xframe0)) (fun _ => ?_)
  refine Keeps.bind ((foot_checkItems w).keeps Reads.xframe0) (fun _ => ?_)
  refine LockI.withRun (fun r0 => ?_)
  refine Keeps.whenM _ (Keeps.bind (X.attempt ((Foot.callId (ch := [])).keeps Reads.xframe0)) (fun ok => Keeps.whenM _ ?_))
  exact Reads.xframe0.call (fun r h => lockIOf_lock h _)

theorem rollback_raises_lockI (w : WS) (v : Bool) : Triple (LockI tid) (rollback w v) (fun _ => NS) (LockI tid) :=
  Triple.start fun r0 h0 => rollback_rule (A := LockI tid) (U := LockI tid) (K := NS) w v r0 h0 (hfail := fun _ => h0)
    (hplog := fun _ => X.trySame (ch := [.plog]) (fun r => .set .plog) (by decide))
    (hstores := fun _ => (foot_rollbackStores w).keeps Reads.xframe0) (hadded := fun _ => (foot_rollbackAdded w).keeps Reads.xframe0)
    (hremoved := fun _ => (foot_rollbackRemoved w).keeps Reads.xframe0) (hupdated := fun _ => (foot_rollbackUpdated w).keeps Reads.xframe0)
    (hskip := fun _ _ h => h) (hkeys := Triple.conseq ns_unlockNodesKeys (fun _ h => h.1) (fun _ _ h => h) (fun _ h => h))
    (hroots := fun _ => x_rollbackNewRoots w) (hvalues := fun _ _ => x_rollbackValues w)
    (hitems := fun _ => X.attempt ((foot_unlockItems w).keeps Reads.xframe)) (hcreated := fun _ => x_removeCreatedStores w)
    (htlog := X.trySame (ch := [.tlog]) (fun r => .set .tlog) (by decide)) (hend := X.modify _ fun r => ⟨rfl, rfl, rfl, rfl, rfl⟩)

theorem lockI_phase1 (w : WS) (n : Nat) :
    Triple (NoLockI tid) (phase1 w n) (fun _ => LockI tid) (fun r => r.conflicted = true ∨ LockI tid r) := by
  have wk : ∀ {α : Type} {m : M α}, Preserves (LockI tid) m → Keeps (LockI tid) (fun r => r.conflicted = true ∨ LockI tid r) m :=
    fun h => Triple.mapE h (fun _ h => .inr h)
  have wk0 : ∀ {α : Type} {m : M α}, Preserves (NoLockI tid) m → Keeps (NoLockI tid) (fun r => r.conflicted = true ∨ LockI tid r) m :=
    fun h => Triple.mapE h (fun _ h => .inr h.toLockI)
  refine Triple.conseq (phase1_rule (G := fun _ => True) (B := LockI tid) (Bc := LockI tid) (C := LockI tid) w n
    (hlog := wk0 ((foot_logStep _).keeps Reads.xframe0))
    (hlock := wk0 ((foot_lockItems w).keeps Reads.xframe0))
    (hmerge := Triple.mapE (lockI_mergeNodesKeys w) (fun _ h => .inr h))
    (hnodes := wk lockI_lockNodes)
    (hgive := fun _ => Triple.conseq (X.attempt (lockI_unlockKeys _)) (fun _ h => h) (fun _ _ _ => trivial) (fun _ h => .inr h))
    (hgiven := fun _ _ => .inl rfl)
    (hbody := (wk ((foot_phase1Body w).keeps Reads.xframe0)).bothArms)
    (hBc := fun _ h => .inr h)
    (hrb := Triple.mapE (rollback_raises_lockI w false) (fun _ h => .inr h))
    (hrolled := fun _ _ => .inl rfl)
    (hfin := wk (lockI_finishPhase1 w))) (fun _ h => h) (fun _ r h => ?_) (fun _ h => h)
  split at h
  · exact h
  · exact h.toLockI

end

theorem unlockKeys_releases (tid : Tid) (ks : List UUID) :
    Triple (fun r => (SP0 r ∧ LockI tid r) ∧ r.nodesKeys = some ks) (unlockKeys ks) (fun _ r => SP0 r ∧ NoLockI tid r)
      (fun _ => False) := by
  refine Triple.bindFact (fun r0 => r0.tid = tid) (Q1 := fun r => (SP0 r ∧ LockI tid r) ∧ r.nodesKeys = some ks)
    (Triple.get (fun _ h => ⟨h, h.1.2.own⟩)) (fun r0 e0 => ?_)
  refine Triple.callAfterSpent _ _ _ _ (fun _ h => ⟨h.1.1.spent, h.1.1.noStop⟩) (fun r _ _ h hs => ?_)
  obtain ⟨⟨hsp, hl⟩, hnk⟩ := h
  refine ⟨⟨hs, hsp.2⟩, hl.ns, hl.own, fun k hk => ?_⟩
  simp only at hk
  split at hk
  · cases hk
  · rename_i hc
    have hin := hl.held k hk
    unfold keysOrEmpty at hin
    rw [hnk] at hin
    apply hc
    simp only [Option.getD_some] at hin
    simp [hin, hk, e0]

theorem unlockNodesKeys_releases (tid : Tid) :
    Triple (fun r => SP0 r ∧ LockI tid r) unlockNodesKeys (fun _ r => SP0 r ∧ NoLockI tid r) (fun _ => False) := by
  unfold unlockNodesKeys
  refine Triple.bind (Q1 := fun r0 r => (SP0 r ∧ LockI tid r) ∧ r.nodesKeys = r0.nodesKeys) (Triple.get (fun _ h => ⟨h, rfl⟩)) (fun r0 => ?_)
  split
  · rename_i hnk
    refine Triple.pure _ (fun r h => ?_)
    obtain ⟨⟨hsp, hl⟩, e⟩ := h
    refine ⟨hsp, hl.ns, hl.own, fun k hk => ?_⟩
    have := hl.held k hk
    unfold keysOrEmpty at this
    rw [e, hnk] at this
    cases this
  · rename_i ks hnk
    refine Triple.bind (Q1 := fun _ r => SP0 r ∧ NoLockI tid r) ?_
      (fun _ => Triple.modify _ (fun r h => ⟨⟨h.1.1, h.1.2⟩, h.2.ns, h.2.own, h.2.free⟩))
    exact Triple.attempt_nr (Triple.conseq (unlockKeys_releases tid ks) (fun _ h => ⟨h.1, h.2.trans hnk⟩) (fun _ _ h => h) (fun _ h => h))

end Sop.Commit
