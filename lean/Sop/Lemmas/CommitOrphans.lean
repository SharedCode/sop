import Sop.Lemmas.CommitFlipState
/-!
No orphaned blobs after a successful fault-free commit (C11, success half), on Model P.

`BI X s`: every blob in the store is the ACTIVE blob of some registered handle, or one of the listed exceptions
`X`. The exception list follows the run: before the flip it holds the staged ids (`reserved.map inactive`), after
the flip the old active ids of the updated nodes, after the cleanup nothing.
-/
namespace Sop.Commit

def NoOrphan (s : State) : Prop := ∀ b, s.blob b = true → ∃ lid h, s.reg lid = some h ∧ h.active = b

def BI (X : List UUID) (s : State) : Prop :=
  ∀ b, s.blob b = true → (∃ lid h, s.reg lid = some h ∧ h.active = b) ∨ b ∈ X

theorem BI.nil {s : State} : BI [] s ↔ NoOrphan s := by
  constructor
  · intro h b hb
    rcases h b hb with a | a
    · exact a
    · cases a
  · intro h b hb; exact .inl (h b hb)

theorem BI.mono {X X' : List UUID} {s : State} (h : BI X s) (hx : ∀ b ∈ X, b ∈ X') : BI X' s := by
  intro b hb
  rcases h b hb with a | a
  · exact .inl a
  · exact .inr (hx b a)

theorem BI.of_same {X : List UUID} {s s' : State} (h : BI X s) (hr : s'.reg = s.reg) (hb : s'.blob = s.blob) : BI X s' := by
  intro b e; rw [hb] at e; rw [hr]; exact h b e

theorem BI.setRegs_same {X : List UUID} {s : State} (h : BI X s) (hs : List Handle)
    (hsame : ∀ x ∈ hs, ∀ g, s.reg x.lid = some g → x.active = g.active) : BI X (s.setRegs hs) := by
  intro b hb
  rw [State.setRegs_blob] at hb
  rcases h b hb with ⟨k, g, e, ea⟩ | a
  · by_cases hk : ∃ x ∈ hs, x.lid = k
    · obtain ⟨x, hx, e1, e2⟩ := State.setRegs_reg_mem s hs k hk
      refine .inl ⟨k, x, e2, ?_⟩
      rw [hsame x hx g (e1 ▸ e)]; exact ea
    · refine .inl ⟨k, g, ?_, ea⟩
      rw [State.setRegs_reg_of_not_mem s hs k (fun x hx e' => hk ⟨x, hx, e'⟩)]; exact e
  · exact .inr a

theorem BI.addBlobs {X : List UUID} {s : State} (h : BI X s) (ids : List UUID)
    (hids : ∀ i ∈ ids, (∃ lid g, s.reg lid = some g ∧ g.active = i) ∨ i ∈ X) : BI X (s.addBlobs ids) := by
  intro b hb
  rw [State.addBlobs_blob] at hb
  rw [State.addBlobs_reg]
  simp only [Bool.or_eq_true, decide_eq_true_eq] at hb
  rcases hb with hb | hb
  · exact h b hb
  · exact hids b hb

theorem BI.addBlobs_ex {X : List UUID} {s : State} (h : BI X s) (ids : List UUID) : BI (X ++ ids) (s.addBlobs ids) :=
  (h.mono (fun _ hb => List.mem_append_left _ hb)).addBlobs ids (fun _ hi => .inr (List.mem_append_right _ hi))

theorem BI.delBlobs {X A : List UUID} {s : State} (h : BI (X ++ A) s) (ids : List UUID) (hA : ∀ a ∈ A, a ∈ ids) :
    BI X (s.delBlobs ids) := by
  intro b hb
  rw [State.delBlobs_blob] at hb
  rw [State.delBlobs_reg]
  simp only [Bool.and_eq_true, Bool.not_eq_true', decide_eq_false_iff_not] at hb
  rcases h b hb.1 with a | a
  · exact .inl a
  · rcases List.mem_append.mp a with a | a
    · exact .inr a
    · exact absurd (hA b a) hb.2

theorem BI.delBlobs' {X : List UUID} {s : State} (h : BI X s) (ids : List UUID) : BI X (s.delBlobs ids) :=
  BI.delBlobs (A := []) (h.mono (fun _ hb => List.mem_append_left _ hb)) ids (fun _ ha => by cases ha)

theorem BI.delRegs {X : List UUID} {s : State} (h : BI X s) (ids : List UUID)
    (hgone : ∀ k ∈ ids, ∀ g, s.reg k = some g → s.blob g.active = false) : BI X (s.delRegs ids) := by
  intro b hb
  rw [State.delRegs_blob] at hb
  rcases h b hb with ⟨k, g, e, ea⟩ | a
  · by_cases hk : k ∈ ids
    · have := hgone k hk g e
      rw [ea, hb] at this; cases this
    · exact .inl ⟨k, g, by rw [State.delRegs_reg_of_not_mem s ids k hk]; exact e, ea⟩
  · exact .inr a

theorem BI.setRegs_new {X : List UUID} {s : State} (ids : List UUID) (h : BI (X ++ ids) s) (hs : List Handle)
    (hact : ∀ x ∈ hs, x.active = x.lid) (hcov : ∀ i ∈ ids, ∃ x ∈ hs, x.lid = i)
    (hold : ∀ x ∈ hs, ∀ g, s.reg x.lid = some g → g.active = x.lid) : BI X (s.setRegs hs) := by
  have h1 : BI (X ++ ids) (s.setRegs hs) :=
    h.setRegs_same hs (fun x hx g e => by rw [hact x hx, hold x hx g e])
  intro b hb
  rcases h1 b hb with a | a
  · exact .inl a
  · rcases List.mem_append.mp a with a | a
    · exact .inr a
    · obtain ⟨x, hx, e1, e2⟩ := State.setRegs_reg_mem s hs b (hcov b a)
      exact .inl ⟨b, x, e2, by rw [hact x hx, e1]⟩

theorem touch_active (g : Handle) : (touch g).active = g.active := rfl

/-- **the flip**: the staged ids become active ids, the old active ids of the updated nodes become the exceptions;
removed nodes' handles keep their active id -/
theorem BI.flip {X : List UUID} {s : State} {resv remv : List Handle}
    (h : BI (X ++ resv.map (·.inactive)) s)
    (hres : ∀ g ∈ resv, s.reg g.lid = some g)
    (hnd : (resv.map (·.lid)).Nodup)
    (hdisj : ∀ x ∈ resv, ∀ g ∈ remv, x.lid ≠ g.lid)
    (hrem : ∀ g ∈ remv, ∀ x, s.reg g.lid = some x → x.active = g.active)
    (hrem2 : ∀ g ∈ remv, ∀ g' ∈ remv, g.lid = g'.lid → g.active = g'.active) :
    BI (X ++ resv.map (·.active)) (s.setRegs (resv.map activate ++ remv.map touch)) ∧
    ∀ g ∈ remv, ∀ x, (s.setRegs (resv.map activate ++ remv.map touch)).reg g.lid = some x → x.active = g.active := by
  -- what the flip leaves at a removed node's logical id
  have remv' : ∀ g ∈ remv, ∀ x, (s.setRegs (finalImgs resv remv)).reg g.lid = some x → x.active = g.active := by
    intro g hg x e
    obtain ⟨g', hg', el, er⟩ := setRegs_final_remv hdisj s hg
    rw [er] at e; cases e
    exact (touch_active g').trans (hrem2 g' hg' g hg el)
  refine ⟨fun b hb => ?_, remv'⟩
  rw [State.setRegs_blob] at hb
  rcases h b hb with ⟨k, g, e, ea⟩ | a
  · -- the owner's entry is flipped (its old active id becomes an exception), touched, or left alone
    by_cases hk1 : ∃ z ∈ resv, z.lid = k
    · obtain ⟨z, hz, rfl⟩ := hk1
      have := hres z hz
      rw [e] at this; cases this
      exact .inr (List.mem_append_right _ (ea ▸ List.mem_map_of_mem (f := (·.active)) hz))
    · by_cases hk2 : ∃ z ∈ remv, z.lid = k
      · obtain ⟨z, hz, rfl⟩ := hk2
        obtain ⟨x, hx⟩ : ∃ x, (s.setRegs (finalImgs resv remv)).reg z.lid = some x :=
          (setRegs_final_remv hdisj s hz).elim fun g' h => ⟨_, h.2.2⟩
        exact .inl ⟨z.lid, x, hx, (remv' z hz x hx).trans ((hrem z hz g e).symm.trans ea)⟩
      · exact .inl ⟨k, g, (setRegs_final_other s (fun z hz e' => hk1 ⟨z, hz, e'⟩) (fun z hz e' => hk2 ⟨z, hz, e'⟩)).trans e, ea⟩
  · rcases List.mem_append.mp a with a | a
    · exact .inr (List.mem_append_left _ a)
    · -- a staged id is now the active id of its node
      obtain ⟨z, hz, rfl⟩ := List.mem_map.mp a
      exact .inl ⟨z.lid, activate z, setRegs_final_resv hnd hdisj s hz, (activate_spec z).2.1⟩

end Sop.Commit
