import Sop.Lemmas.BTreeCtx
/-! The tree under the update side of Model B (C17), over the subtrees of `BTreeSubtree` (`WFNode = SNode ∧ Good`, so that
order is argued once, at the root, on the contents list). Well-formedness up to `count` is `WFs`; `wfs_close` brings the
fuel to the repository's size. `Ctx.fill` is the context lemma: the hole of a root-to-node context `Ctx` is filled with
any structurally well-formed subtree; `WFs.fill` closes at the root. One level of it is `WFNode.splice_kids` (kid `i` of a
node gives way to a run of kids), with `SNode.set_kid` (the kid becomes `c`, `SetKid`) its use for a stored record; `Kids`
says of a list of nodes that each is a subtree; `SNode.local` is a node rewritten over old kids. -/
namespace Sop.BTree
open Sop.BTree.Ins Sop.BTree.Rem

/-- well-formed up to `count`, for a repository that has a root: the read side's root facts `WFR`, the slot length, and
    every stored node reachable -/
structure WFs (t : BTree) : Prop extends WFR t where
  sl : 2 ≤ t.sl ∧ t.sl % 2 = 0
  all : (reach t (t.nodes.length + 1) t.root).length = t.nodes.length

theorem Rem.WF.wfs {t : BTree} (h : WF t) (hr : t.root ≠ 0) : WFs t :=
  have ⟨h1, h2, h3, h4, _⟩ := WF.root_ne h hr
  ⟨⟨hr, h2, h3⟩, h1, h4⟩

theorem WFs.toWF {t : BTree} (h : WFs t) (hc : t.count = (t.abs.length : Int)) : WF t :=
  WF.of_root_ne h.rootNZ h.sl h.wf h.nodup h.all hc

theorem WFs.good {t : BTree} (h : WFs t) : Good none none t.abs := wfNode_good t _ _ _ _ _ h.wf

/-- the same root subtree, node for node, in a repository of the same size -/
theorem Rem.WFs.congr {t t' : BTree} (h : WFs t) (hsl : t'.sl = t.sl) (hroot : t'.root = t.root)
    (hlen : t'.nodes.length = t.nodes.length) (hget : ∀ k, t'.get? k = t.get? k) :
    WFs t' ∧ t'.abs = t.abs ∧ reach t' (t'.nodes.length + 1) t'.root = reach t (t.nodes.length + 1) t.root := by
  obtain ⟨h1, h2, h3⟩ := frame hsl _ _ _ _ _ (fun k _ => hget k) h.wf
  unfold BTree.abs
  rw [hroot, hlen]
  exact ⟨⟨⟨hroot ▸ h.rootNZ, by rw [hlen, hroot]; exact h1, by rw [hlen, hroot, h3]; exact h.nodup⟩, hsl ▸ h.sl,
    by rw [hlen, hroot, h3]; exact h.all⟩, h2, h3⟩

theorem length_le_flatMap {α β : Type} (r : α → List β) : ∀ (l : List α) (c : α), c ∈ l → (r c).length ≤ (l.flatMap r).length
  | [], _, h => by simp at h
  | a :: l, c, h => by
    simp only [List.flatMap_cons, List.length_append]
    rcases List.mem_cons.mp h with rfl | h
    · omega
    · have := length_le_flatMap r l c h; omega

theorem Rem.WFNode.shrink (t : BTree) : ∀ (f : Nat) (m p : NodeId) (lo hi : Option Int),
    WFNode t f m p lo hi → WFNode t (reach t f m).length m p lo hi
  | 0, _, _, _, _, h => absurd h (by simp [WFNode])
  | f + 1, m, p, lo, hi, h => by
    obtain ⟨hm0, nd, hg, _⟩ := id h
    obtain ⟨_, hp, hs, hne, hk⟩ := wfNode_kids h hg
    rw [Rem.reach_kids f hm0 hg, List.length_cons]
    refine wfNode_of_kids hm0 hg hp hs hne ?_
    refine KidsOk.imp_mem _ _ _ _ ?_ hk
    intro c hc l h' hw
    exact WFNode.le t (Rem.WFNode.shrink t f c m l h' hw) (length_le_flatMap _ _ _ hc)

/-- `WFs` asks for well-formedness at the fuel `nodes.length + 1`; callers have it at another fuel `f` (that of a repository
    which has since grown or shrunk). It suffices that `reach` at `f` is duplicate-free and at least as long as the repository:
    then it lists exactly the stored nodes. -/
theorem wfs_close (U : BTree) (f : Nat) (hsl : 2 ≤ U.sl ∧ U.sl % 2 = 0) (hr : U.root ≠ 0)
    (hw : WFNode U f U.root 0 none none) (hnd : (reach U f U.root).Nodup)
    (hlen : U.nodes.length ≤ (reach U f U.root).length) :
    WFs U ∧ U.abs = absNode U f U.root ∧ U.nodes.length = (reach U f U.root).length := by
  have hsub : reach U f U.root ⊆ U.nodes.map (·.id) := by
    intro k hk
    obtain ⟨nd, hg⟩ := reach_get _ _ _ _ hk
    exact get?_mem hg
  have hle := hnd.length_le_of_subset hsub
  rw [List.length_map] at hle
  have hN : U.nodes.length = (reach U f U.root).length := by omega
  have hwg := WFNode.shrink U _ _ _ _ _ hw
  rw [← hN] at hwg
  have hwU' : WFNode U (U.nodes.length + 1) U.root 0 none none := WFNode.le U hwg (Nat.le_succ _)
  have hreach : reach U (U.nodes.length + 1) U.root = reach U f U.root := by
    rw [reach_fuel_le U hwg (Nat.le_succ _)]
    rcases Nat.le_total U.nodes.length f with h | h
    · exact (reach_fuel_le U hwg h).symm
    · exact reach_fuel_le U hw h
  have habs : absNode U (U.nodes.length + 1) U.root = absNode U f U.root := by
    rw [absNode_le U hwg (Nat.le_succ _)]
    rcases Nat.le_total U.nodes.length f with h | h
    · exact (absNode_le U hwg h).symm
    · exact absNode_le U hw h
  exact ⟨⟨⟨hr, hwU', by rw [hreach]; exact hnd⟩, hsl, by rw [hreach]; exact hN.symm⟩, habs, hN⟩

/-- the nodes of `K` are subtrees under `g`; nothing is said of keys -/
def Kids (t : BTree) (f : Nat) (g : NodeId) (K : List NodeId) : Prop := ∀ c ∈ K, c = 0 ∨ SNode t f c g

theorem KidsOk.kids {t : BTree} {f : Nat} {g : NodeId} {lo hi : Option Int} {K : List NodeId} {X : List Item}
    (h : KidsOk (fun x l h => WFNode t f x g l h) lo hi K X) : Kids t f g K :=
  fun c hc => (KidsOk.mem _ _ _ _ h c hc).imp id fun ⟨_, _, hw⟩ => hw.snode

theorem WFNode.kids {t : BTree} {f : Nat} {n p : NodeId} {lo hi : Option Int} {nd : Node}
    (h : WFNode t (f + 1) n p lo hi) (hg : t.get? n = some nd) : Kids t f n nd.kids :=
  (h.kidsOk hg).kids

theorem Kids.self_mem {t : BTree} {f : Nat} {g : NodeId} {K : List NodeId} (h : Kids t f g K) {x : NodeId}
    (hx : x ∈ K) (hx0 : x ≠ 0) : x ∈ reach t f x :=
  ((h x hx).resolve_left hx0).self_mem

theorem Kids.frame {t t' : BTree} (hsl : t'.sl = t.sl) {f : Nat} {g : NodeId} {K : List NodeId} (hk : Kids t f g K)
    (hfr : ∀ c ∈ K, ∀ x ∈ reach t f c, t'.get? x = t.get? x) :
    Kids t' f g K ∧ ∀ c ∈ K, absNode t' f c = absNode t f c ∧ reach t' f c = reach t f c :=
  ⟨fun c hc => (SNode.frame hsl f c g (hfr c hc) (hk c hc)).1, fun c hc => (SNode.frame hsl f c g (hfr c hc) (hk c hc)).2⟩

/-- every kid `j` of `g` gets the parent `P j`; nothing else below the kids changes -/
theorem Kids.reparent {t t' : BTree} (hsl : t'.sl = t.sl) {f : Nat} {g : NodeId} {K : List NodeId} (hg0 : g ≠ 0)
    (hK : Kids t f g K) (hnd : (K.flatMap (reach t f)).Nodup) (P : Nat → NodeId)
    (hkid : ∀ j, j < K.length → K.getD j 0 ≠ 0 →
      t'.get? (K.getD j 0) = (t.get? (K.getD j 0)).map (fun n => { n with parent := P j }))
    (hrest : ∀ y ∈ K.flatMap (reach t f), y ∉ K → t'.get? y = t.get? y) :
    (∀ j, j < K.length → (K.getD j 0 = 0 ∨ SNode t' f (K.getD j 0) (P j))) ∧
      ∀ x ∈ K, absNode t' f x = absNode t f x ∧ reach t' f x = reach t f x := by
  have hpos : ∀ j, j < K.length → (K.getD j 0 = 0 ∨ SNode t' f (K.getD j 0) (P j)) ∧
      absNode t' f (K.getD j 0) = absNode t f (K.getD j 0) ∧ reach t' f (K.getD j 0) = reach t f (K.getD j 0) := by
    intro j hj
    have hjm : K.getD j 0 ∈ K := getD_mem K j 0 hj
    rcases hK _ hjm with h0 | hw
    · rw [h0, absNode_zero, absNode_zero, reach_zero, reach_zero]; exact ⟨Or.inl rfl, rfl, rfl⟩
    · -- a proper descendant of child `j` is not itself a child: it would root a sibling subtree
      have hdesc : ∀ y ∈ reach t f (K.getD j 0), y ≠ K.getD j 0 → y ∉ K := fun y hy hyx hyK => by
        obtain ⟨j2, hj2, e2⟩ := List.mem_iff_getElem.mp hyK
        rw [← getD_of_lt _ _ 0 hj2] at e2
        have hself : y ∈ reach t f (K.getD j2 0) := by
          rw [e2]; exact hK.self_mem hyK (reach_ne_zero t f _ y hy)
        by_cases hjj : j2 = j
        · subst hjj; exact hyx e2.symm
        · exact reach_disjoint hnd hj hj2 (Ne.symm hjj) hy hself
      obtain ⟨h1, h2⟩ := hw.reparent hsl hg0 (hkid j hj (reach_ne_zero t f _ _ hw.self_mem))
        (fun y hy hyx => hrest y (List.mem_flatMap.mpr ⟨_, hjm, hy⟩) (hdesc y hy hyx)) (reach_child_nodup hnd hj)
      exact ⟨Or.inr h1, h2⟩
  refine ⟨fun j hj => (hpos j hj).1, fun x hx => ?_⟩
  obtain ⟨j, hj, rfl⟩ := List.mem_iff_getElem.mp hx
  rw [← getD_of_lt _ _ 0 hj]; exact (hpos j hj).2

/-- a stored record over subtrees is a subtree: its contents are theirs woven with its items, it visits itself and then
    them -/
theorem SNode.of_kids {t : BTree} {f : Nat} {n p : NodeId} {nd : Node} (hn : n ≠ 0) (hg : t.get? n = some nd)
    (hp : nd.parent = p) (hs : NodeShape t nd) (hne : p = 0 ∨ 1 ≤ nd.count) (hk : Kids t f n nd.kids) :
    SNode t (f + 1) n p ∧ absNode t (f + 1) n = weave (absNode t f) nd.kids nd.items ∧
      reach t (f + 1) n = n :: nd.kids.flatMap (reach t f) :=
  ⟨⟨hn, nd, hg, hp, hs, hne, hk⟩, Rem.absNode_kids f hn hg hs, Rem.reach_kids f hn hg⟩

/-- the record `pn'` is `pn` with kid `i` set to `c` -/
structure SetKid (t : BTree) (pn pn' : Node) (i : Nat) (c : NodeId) : Prop where
  parent : pn'.parent = pn.parent
  count : pn'.count = pn.count
  items : pn'.items = pn.items
  shape : NodeShape t pn'
  kids : pn'.kids = pn.kids.set i c

theorem SetKid.setChild {t : BTree} {pn : Node} {cs : Array NodeId} (hs : NodeShape t pn) (hcs : pn.children = some cs)
    {i : Nat} (hi : i ≤ pn.count) (c : NodeId) : SetKid t pn (pn.setChild i c) i c :=
  ⟨rfl, rfl, rfl, setChild_shape hs hi c, setChild_kids hcs i c⟩

theorem SetKid.refl {t : BTree} {pn : Node} (hs : NodeShape t pn) {i : Nat} (hi : i ≤ pn.count) :
    SetKid t pn pn i (pn.child i) :=
  ⟨rfl, rfl, rfl, hs, by
    have hlt : i < pn.kids.length := Node.kids_length hs ▸ Nat.lt_succ_of_le hi
    rw [← Node.kids_getD hs hi, getD_of_lt _ _ _ hlt, List.set_getElem_self]⟩

/-- what holds at every position but `i` holds of every entry before `i` and behind it -/
theorem forall_take_drop_of_getD {P : NodeId → Prop} {K : List NodeId} {i : Nat}
    (h : ∀ j, j < K.length → j ≠ i → P (K.getD j 0)) : (∀ c ∈ K.take i, P c) ∧ (∀ c ∈ K.drop (i + 1), P c) := by
  constructor
  · intro c hc
    obtain ⟨j, hj, rfl⟩ := List.mem_take_iff_getElem.mp hc
    have hj' := Nat.lt_min.mp hj
    rw [← getD_of_lt K j 0 hj'.2]
    exact h j hj'.2 (Nat.ne_of_lt hj'.1)
  · intro c hc
    obtain ⟨j, hj, rfl⟩ := List.mem_drop_iff_getElem.mp hc
    have hj' : i + 1 + j < K.length := Nat.add_comm j (i + 1) ▸ hj
    rw [← getD_of_lt K (i + 1 + j) 0 hj']
    exact h (i + 1 + j) hj' (Nat.ne_of_gt (Nat.lt_of_lt_of_le (Nat.lt_succ_self i) (Nat.le_add_right _ j)))

theorem Ins.weave_append (g : NodeId → List Item) (cs : List NodeId) (is : List Item) (hl : cs.length = is.length) :
    ∀ (K : List NodeId) (I : List Item), K.length = I.length + 1 →
      weave g (K ++ cs) (I ++ is) = weave g K I ++ weaveTail g cs is
  | [], _ => fun h => by simp at h
  | [c], [] => fun _ => by
    cases is with
    | nil => cases cs with
      | nil => simp [weave, weaveTail]
      | cons _ _ => simp at hl
    | cons x is => simp [weave, weaveTail]
  | c :: c2 :: K, [] => fun h => by simp at h
  | c :: K, x :: I => fun h => by
    simp only [List.cons_append, weave, List.append_assoc]
    rw [Ins.weave_append g cs is hl K I (Nat.succ.inj h)]

theorem Ins.weave_splice (g : NodeId → List Item) (K : List NodeId) (I : List Item) (hK : K.length = I.length + 1) :
    ∀ (idx : Nat) (cs : List NodeId) (is : List Item), cs.length = is.length + 1 → idx ≤ is.length →
      weave g (cs.take idx ++ K ++ cs.drop (idx + 1)) (is.take idx ++ I ++ is.drop idx) =
        weave g (cs.take idx) (is.take idx) ++ weave g K I ++ weaveTail g (cs.drop (idx + 1)) (is.drop idx)
  | _, [], _ => fun hl => by simp at hl
  | 0, c :: cs, is => fun hl _ => by
    show weave g ([] ++ K ++ cs) ([] ++ I ++ is) = weave g [] [] ++ weave g K I ++ weaveTail g cs is
    rw [List.nil_append, List.nil_append, weave_append g cs is (Nat.succ.inj hl) K I hK]
    rfl
  | idx + 1, c :: cs, [] => fun _ hi => by simp at hi
  | idx + 1, c :: cs, x :: is => fun hl hi => by
    have ih := Ins.weave_splice g K I hK idx cs is (Nat.succ.inj hl) (Nat.le_of_succ_le_succ hi)
    show weave g (c :: (cs.take idx ++ K ++ cs.drop (idx + 1))) (x :: (is.take idx ++ I ++ is.drop idx)) =
      weave g (c :: cs.take idx) (x :: is.take idx) ++ weave g K I ++ weaveTail g (cs.drop (idx + 1)) (is.drop idx)
    rw [weave, weave, ih]
    simp only [List.append_assoc, List.cons_append]

/-- Kid `i` of `m` gives way to the run `K` of subtrees of `t'` with separators `X`; nothing else changed outside the old
    kid's subtree and `m`. The kids of the new node are subtrees, its contents and its visiting order are the old ones around
    those of the run. -/
theorem WFNode.splice_kids {t t' : BTree} {f f' : Nat} {m p : NodeId} {lo hi : Option Int} {nd : Node} {i : Nat}
    (hW : WFNode t (f + 1) m p lo hi) (hnd : (reach t (f + 1) m).Nodup) (hg : t.get? m = some nd) (hi : i ≤ nd.count)
    (hff : f ≤ f') (hsl : t'.sl = t.sl)
    (hfr : ∀ k, (t.get? k).isSome → k ≠ m → k ∉ reach t f (nd.child i) → t'.get? k = t.get? k)
    {K : List NodeId} {X : List Item} (hKX : K.length = X.length + 1) (hK : Kids t' f' m K) :
    Kids t' f' m (nd.kids.take i ++ K ++ nd.kids.drop (i + 1)) ∧
    weave (absNode t' f') (nd.kids.take i ++ K ++ nd.kids.drop (i + 1)) (nd.items.take i ++ X ++ nd.items.drop i) =
      nd.pre (absNode t f) i ++ weave (absNode t' f') K X ++ nd.post (absNode t f) i ∧
    (nd.kids.take i ++ K ++ nd.kids.drop (i + 1)).flatMap (reach t' f') =
      (nd.kids.take i).flatMap (reach t f) ++ K.flatMap (reach t' f') ++ (nd.kids.drop (i + 1)).flatMap (reach t f) := by
  have hs := hW.shape hg
  rw [hW.reach_kids hg] at hnd
  obtain ⟨hmn, hkn⟩ := List.nodup_cons.mp hnd
  have hlt : i < nd.kids.length := Node.kids_length hs ▸ Nat.lt_succ_of_le hi
  obtain ⟨hpre, hpost⟩ := forall_take_drop_of_getD (K := nd.kids) (i := i)
    (P := fun c => (c = 0 ∨ SNode t' f' c m) ∧ absNode t' f' c = absNode t f c ∧ reach t' f' c = reach t f c)
    fun j hj hji => SNode.carry hsl f f' _ m hff (fun x hx => hfr x (mem_reach_isSome t f _ x hx)
      (fun e => hmn (List.mem_flatMap.mpr ⟨_, getD_mem nd.kids j 0 hj, e ▸ hx⟩))
      (fun hh => reach_disjoint hkn hj hlt hji hx (Node.kids_getD hs hi ▸ hh))) (hW.kids hg _ (getD_mem nd.kids j 0 hj))
  refine ⟨fun c hc => ?_, ?_, ?_⟩
  · rcases List.mem_append.mp hc with hc | hc
    · rcases List.mem_append.mp hc with hc | hc
      · exact (hpre c hc).1
      · exact hK c hc
    · exact (hpost c hc).1
  · rw [weave_splice _ K X hKX i nd.kids nd.items (by rw [Node.kids_length hs, Node.items_length hs])
      (by rw [Node.items_length hs]; exact hi), weave_congr _ _ (fun c hc => (hpre c hc).2.1),
      weaveTail_congr _ _ (fun c hc => (hpost c hc).2.1)]
    rfl
  · rw [List.flatMap_append, List.flatMap_append, flatMap_congr' _ (fun c hc => (hpre c hc).2.2),
      flatMap_congr' (nd.kids.drop (i + 1)) (fun c hc => (hpost c hc).2.2)]

/-- a well-formed node seen from its kid `i`: contents and visiting order around those of the kid -/
theorem WFNode.split_kid {t : BTree} {f : Nat} {m p : NodeId} {lo hi : Option Int} {nd : Node}
    (hW : WFNode t (f + 1) m p lo hi) (hg : t.get? m = some nd) {i : Nat} (hi : i ≤ nd.count) :
    absNode t (f + 1) m = nd.pre (absNode t f) i ++ absNode t f (nd.child i) ++ nd.post (absNode t f) i ∧
      reach t (f + 1) m = (m :: (nd.kids.take i).flatMap (reach t f)) ++ reach t f (nd.child i) ++
        (nd.kids.drop (i + 1)).flatMap (reach t f) := by
  have hs := hW.shape hg
  have hlt : i < nd.kids.length := Node.kids_length hs ▸ Nat.lt_succ_of_le hi
  constructor
  · rw [hW.abs_kids hg, weave_split _ i nd.kids nd.items (by rw [Node.kids_length hs, Node.items_length hs])
      (by rw [Node.items_length hs]; exact hi), Node.kids_getD hs hi]
    rfl
  · rw [hW.reach_kids hg]
    conv => lhs; rw [list_split_at nd.kids i 0 hlt]
    rw [List.flatMap_append, List.flatMap_cons, Node.kids_getD hs hi]
    simp only [List.cons_append, List.append_assoc]

/-- Kid `i` of `m` becomes `c` (the same id with its subtree changed, a new subtree, a node from below, or nil): `m`'s
    record `nd'` differs from `nd` in that kid at most, nothing else changed outside the old kid's subtree, and `c` is
    structurally well-formed in `t'` (deeper by `f' - f` at most). -/
theorem SNode.set_kid {t t' : BTree} {f f' : Nat} {m p c : NodeId} {lo hi : Option Int} {nd nd' : Node} {i : Nat}
    (hW : WFNode t (f + 1) m p lo hi) (hnd : (reach t (f + 1) m).Nodup) (hg : t.get? m = some nd) (hi : i ≤ nd.count)
    (hff : f ≤ f') (hsl : t'.sl = t.sl) (hg' : t'.get? m = some nd') (hset : SetKid t nd nd' i c)
    (hfr : ∀ k, (t.get? k).isSome → k ≠ m → k ∉ reach t f (nd.child i) → t'.get? k = t.get? k)
    (hc : c = 0 ∨ SNode t' f' c m) :
    SNode t' (f' + 1) m p ∧
      absNode t' (f' + 1) m = nd.pre (absNode t f) i ++ absNode t' f' c ++ nd.post (absNode t f) i ∧
      reach t' (f' + 1) m = (m :: (nd.kids.take i).flatMap (reach t f)) ++ reach t' f' c ++
        (nd.kids.drop (i + 1)).flatMap (reach t f) := by
  have hlt : i < nd.kids.length := Node.kids_length (hW.shape hg) ▸ Nat.lt_succ_of_le hi
  obtain ⟨hk, hA, hR⟩ := hW.splice_kids hnd hg hi hff hsl hfr (K := [c]) (X := []) rfl
    (fun x hx => List.mem_singleton.mp hx ▸ hc)
  have hkids : nd'.kids = nd.kids.take i ++ [c] ++ nd.kids.drop (i + 1) := by
    rw [hset.kids, List.set_eq_take_append_cons_drop, if_pos hlt, List.append_assoc]; rfl
  have hitems : nd'.items = nd.items.take i ++ [] ++ nd.items.drop i := by
    rw [hset.items, List.append_nil, List.take_append_drop]
  obtain ⟨hS, hA', hR'⟩ := SNode.of_kids hW.ne_zero hg' (hset.parent.trans (hW.parent_eq hg)) (nodeShape_congr hsl hset.shape)
    (hset.count ▸ hW.nonempty hg) (hkids ▸ hk)
  refine ⟨hS, ?_, ?_⟩
  · rw [hA', hkids, hitems, hA]; simp only [weave, List.append_nil]
  · rw [hR', hkids, hR]; simp only [List.flatMap_cons, List.flatMap_nil, List.append_nil, List.cons_append, List.append_assoc]

/-- the contents beside kid `i` of a node on a root-to-node path at their fuel and at the repository's
    (`A t = absNode t (t.nodes.length + 1)`) -/
theorem Node.pre_post_fuel {t : BTree} {f : Nat} {m p : NodeId} {lo hi : Option Int} {nd : Node}
    (hW : WFNode t (f + 1) m p lo hi) (hf : f + 1 ≤ t.nodes.length + 1) (hg : t.get? m = some nd) (i : Nat) :
    nd.pre (absNode t f) i = nd.pre (A t) i ∧ nd.post (absNode t f) i = nd.post (A t) i := by
  have h : ∀ c ∈ nd.kids, absNode t f c = A t c :=
    KidsOk.forall_mem (hW.kidsOk hg) (by rw [absNode_zero, A_zero]) fun c _ l h hw => (absNode_le t hw (Nat.le_of_succ_le hf)).symm
  exact ⟨weave_congr _ _ fun c hc => h c (List.mem_of_mem_take hc), weaveTail_congr _ _ fun c hc => h c (List.mem_of_mem_drop hc)⟩

/-- the contents of the tree around those of a node on a path, at the path's fuel -/
theorem Ctx.abs_at {t : BTree} (hw : WFR t) {f : Nat} {n p : NodeId} {pre post : List Item} (h : Ctx t f n p pre post) :
    t.abs = pre ++ absNode t f n ++ post := by
  obtain ⟨hf, lo, hi, hW⟩ := h.wf hw
  rw [h.abs hw]; unfold A; rw [absNode_le t hW hf]

/-- The context lemma: whatever structurally well-formed subtree `t'` has where `t` had the subtree in the hole of the
    context, `t'` is structurally well-formed from the root, with contents and visiting order those of the context
    around those of the new subtree. `d`: the new subtree may be deeper (a split below the root of the hole). -/
theorem Ctx.fill {t : BTree} (hw : WFR t) {f : Nat} {n p : NodeId} {pre post : List Item} (h : Ctx t f n p pre post) :
    ∃ rpre rpost, reach t (t.nodes.length + 1) t.root = rpre ++ reach t f n ++ rpost ∧
      ∀ (t' : BTree) (d : Nat), t'.sl = t.sl →
        (∀ k, (t.get? k).isSome → k ∉ reach t f n → t'.get? k = t.get? k) → SNode t' (f + d) n p →
        SNode t' (t.nodes.length + 1 + d) t.root 0 ∧
        absNode t' (t.nodes.length + 1 + d) t.root = pre ++ absNode t' (f + d) n ++ post ∧
        reach t' (t.nodes.length + 1 + d) t.root = rpre ++ reach t' (f + d) n ++ rpost := by
  induction h with
  | root => exact ⟨[], [], by simp, fun t' d _ _ hs => ⟨hs, by simp, by simp⟩⟩
  | @child f p pp pre post pn i c hctx hg hi hc hc0 ih =>
    obtain ⟨rpre, rpost, hr, ih⟩ := ih
    obtain ⟨hf, lo, hi', hW⟩ := hctx.wf hw
    have hnd := hctx.nodup hw
    have hsub : ∀ k, k ∈ reach t f c → k ∈ reach t (f + 1) p := by
      intro k hk
      rw [hW.reach_kids hg]
      exact List.mem_cons_of_mem _ (List.mem_flatMap.mpr ⟨c, hc ▸ Node.child_mem_kids (hW.shape hg) hi, hk⟩)
    have hs := hW.shape hg
    obtain ⟨eA, eB⟩ := Node.pre_post_fuel hW hf hg i
    have hmem : p ∈ reach t (f + 1) p := self_mem_reach hW
    have hone := fun (t' : BTree) (f' : Nat) (hff : f ≤ f') (hsl : t'.sl = t.sl)
        (hfr : ∀ k, (t.get? k).isSome → k ∉ reach t f c → t'.get? k = t.get? k) (hs' : SNode t' f' c p) =>
      SNode.set_kid (c := c) hW hnd hg hi hff hsl
        (by rw [hfr p (by rw [hg]; rfl) (fun hh => (List.nodup_cons.mp (hW.reach_kids hg ▸ hnd)).1
              (List.mem_flatMap.mpr ⟨c, hc ▸ Node.child_mem_kids hs hi, hh⟩))]; exact hg)
        (hc ▸ SetKid.refl hs hi) (fun k hk _ hkc => hfr k hk (hc ▸ hkc)) (Or.inr hs')
    rw [eA, eB] at hone
    refine ⟨rpre ++ (p :: (pn.kids.take i).flatMap (reach t f)), (pn.kids.drop (i + 1)).flatMap (reach t f) ++ rpost, ?_, ?_⟩
    · obtain ⟨_, _, h3⟩ := hone t f (Nat.le_refl _) rfl (fun _ _ _ => rfl)
        ((hc ▸ (WFNode.kid hW hg hi).resolve_left (hc ▸ hc0)).elim fun _ ⟨_, hw⟩ => hw.snode)
      rw [hr, h3]; simp only [List.append_assoc]
    · intro t' d hsl hfr hs
      obtain ⟨h1, h2, h3⟩ := hone t' (f + d) (Nat.le_add_right _ _) hsl hfr hs
      rw [Nat.add_right_comm] at h1 h2 h3
      obtain ⟨g1, g2, g3⟩ := ih t' d hsl (fun k hk hkn => hfr k hk (fun hh => hkn (hsub k hh))) h1
      refine ⟨g1, ?_, ?_⟩
      · rw [g2, h2]; simp only [List.append_assoc]
      · rw [g3, h3]; simp only [List.append_assoc]

theorem nodup_replace {α} {A B R R' : List α} (h : (A ++ R ++ B).Nodup) (h' : R'.Nodup)
    (hsub : ∀ x ∈ R', x ∈ R ∨ (x ∉ A ∧ x ∉ B)) : (A ++ R' ++ B).Nodup := by
  obtain ⟨hAR, hB, hd⟩ := List.nodup_append.mp h
  obtain ⟨hA, _, hdAR⟩ := List.nodup_append.mp hAR
  refine List.nodup_append.mpr ⟨List.nodup_append.mpr ⟨hA, h', fun a ha b hb e => ?_⟩, hB, fun a ha b hb e => ?_⟩
  · rcases hsub b hb with hbR | hbn
    · exact hdAR a ha b hbR e
    · exact hbn.1 (e ▸ ha)
  · rcases List.mem_append.mp ha with ha | ha
    · exact hd a (List.mem_append_left _ ha) b hb e
    · rcases hsub a ha with haR | han
      · exact hd a (List.mem_append_right _ haR) b hb e
      · exact han.2 (e ▸ hb)

/-- Root closing over `Ctx.fill`, up to `count`: from the structure of the new subtree, its node ids against the old ones
    (`hlen`: the repository lost at least as many nodes as the subtree), and the order of the new contents list. Serves
    in-place updates (`d = 0`, same ids), insertions (new ids fresh) and removals that delete nodes (`wfs_close`
    brings the fuel to the new repository's size either way). The new tree holds the new subtree's contents where the old
    one's were (`Ctx.abs_at`), and visits its nodes where the old one's were visited. -/
theorem WFs.fill {t t' : BTree} (hwf : WFs t) {f : Nat} {n p : NodeId} {pre post : List Item}
    (h : Ctx t f n p pre post) (d : Nat) (hsl : t'.sl = t.sl) (hroot : t'.root = t.root)
    (hfr : ∀ k, (t.get? k).isSome → k ∉ reach t f n → t'.get? k = t.get? k) (hs : SNode t' (f + d) n p)
    (hnd : (reach t' (f + d) n).Nodup) (hsub : ∀ x ∈ reach t' (f + d) n, x ∈ reach t f n ∨ t.get? x = none)
    (hlen : t'.nodes.length + (reach t f n).length ≤ t.nodes.length + (reach t' (f + d) n).length)
    (hgood : Good none none (pre ++ absNode t' (f + d) n ++ post)) :
    WFs t' ∧ t'.abs = pre ++ absNode t' (f + d) n ++ post ∧
      ∃ rpre rpost, reach t (t.nodes.length + 1) t.root = rpre ++ reach t f n ++ rpost ∧
        reach t' (t'.nodes.length + 1) t'.root = rpre ++ reach t' (f + d) n ++ rpost := by
  obtain ⟨rpre, rpost, hreach, hfill⟩ := h.fill hwf.toWFR
  have hN := hwf.nodup
  have hL := hwf.all
  obtain ⟨g1, g2, g3⟩ := hfill t' d hsl hfr hs
  have hW := g1.wfNode (g2 ▸ hgood)
  rw [hreach] at hN hL
  have hN' : (reach t' (t.nodes.length + 1 + d) t.root).Nodup := by
    rw [g3]
    refine nodup_replace hN hnd fun x hx => (hsub x hx).imp id fun hnone => ?_
    have : x ∉ reach t (t.nodes.length + 1) t.root := fun hm => by
      have := mem_reach_isSome t _ _ x hm; rw [hnone] at this; cases this
    rw [hreach] at this
    exact ⟨fun ha => this (List.mem_append_left _ (List.mem_append_left _ ha)), fun hb => this (List.mem_append_right _ hb)⟩
  have hL' : t'.nodes.length ≤ (reach t' (t.nodes.length + 1 + d) t.root).length := by
    rw [g3]; simp only [List.length_append] at hL ⊢; omega
  rw [← hroot] at hW hN' hL' g2 g3
  obtain ⟨hws, habs, -⟩ := wfs_close t' _ (hsl ▸ hwf.sl) (hroot ▸ hwf.rootNZ) hW hN' hL'
  refine ⟨hws, by rw [habs, g2], rpre, rpost, hreach, g3 ▸ ?_⟩
  rcases Nat.le_total (t'.nodes.length + 1) (t.nodes.length + 1 + d) with hle | hle
  · exact (reach_fuel_le t' hws.wf hle).symm
  · exact reach_fuel_le t' hW hle

/-- `WFs.fill` when the new subtree visits the old nodes and the fresh `news` -/
theorem WFs.fill_perm {t t' : BTree} (hwf : WFs t) {f : Nat} {n p : NodeId} {pre post : List Item}
    (h : Ctx t f n p pre post) (d : Nat) (hsl : t'.sl = t.sl) (hroot : t'.root = t.root)
    (hfr : ∀ k, (t.get? k).isSome → k ∉ reach t f n → t'.get? k = t.get? k) (hs : SNode t' (f + d) n p)
    {news : List NodeId} (hperm : (reach t' (f + d) n).Perm (reach t f n ++ news))
    (hnone : ∀ x ∈ news, t.get? x = none) (hnd : news.Nodup) (hlen : t'.nodes.length = t.nodes.length + news.length)
    (hgood : Good none none (pre ++ absNode t' (f + d) n ++ post)) :
    WFs t' ∧ t'.abs = pre ++ absNode t' (f + d) n ++ post :=
  have ⟨h1, h2, _⟩ := hwf.fill h d hsl hroot hfr hs
    (by rw [hperm.nodup_iff, List.nodup_append]
        exact ⟨h.nodup hwf.toWFR, hnd, fun a ha b hb e => by
          have := mem_reach_isSome t _ _ a ha; rw [e, hnone b hb] at this; cases this⟩)
    (fun x hx => (List.mem_append.mp (hperm.subset hx)).imp id (hnone x))
    (by rw [hperm.length_eq, List.length_append, hlen]; omega) hgood
  ⟨h1, h2⟩

/-- order survives when a segment is replaced by an ordered segment that fits between its neighbours -/
theorem good_fill {pre post a a' : List Item} (h : Good none none (pre ++ a ++ post)) (ha' : Good none none a')
    (h1 : ∀ x ∈ pre, ∀ y ∈ a', x.key ≤ y.key) (h2 : ∀ x ∈ a', ∀ y ∈ post, x.key ≤ y.key) :
    Good none none (pre ++ a' ++ post) := by
  obtain ⟨hs, hb⟩ := h
  obtain ⟨hpa, hpost, h3⟩ := List.pairwise_append.mp hs
  obtain ⟨hpre, _, _⟩ := List.pairwise_append.mp hpa
  refine ⟨List.pairwise_append.mpr ⟨List.pairwise_append.mpr ⟨hpre, ha'.1, h1⟩, hpost, fun x hx y hy => ?_⟩,
    fun x hx => ⟨leO_none _, oLe_none _, ?_⟩⟩
  · rcases List.mem_append.mp hx with hx | hx
    · exact h3 x (List.mem_append_left _ hx) y hy
    · exact h2 x hx y hy
  · rcases List.mem_append.mp hx with hx | hx
    · rcases List.mem_append.mp hx with hx | hx
      · exact (hb x (List.mem_append_left _ (List.mem_append_left _ hx))).2.2
      · exact (ha'.2 x hx).2.2
    · exact (hb x (List.mem_append_right _ hx)).2.2

/-- Node `n` is rewritten, possibly under a new parent `p'`: its new kids are nil or old kids, and the subtrees of the
    new kids are untouched (nothing is asked of other nodes: a kid that is dropped may be deleted). What is left to the
    caller is list algebra on the two equations. -/
theorem SNode.local (t t' : BTree) (n : NodeId) (nd nd' : Node) (hsl : t'.sl = t.sl)
    (hg : t.get? n = some nd) (hg' : t'.get? n = some nd') {p' : NodeId}
    (hpar : nd'.parent = p') (hshape : NodeShape t nd') (hne : p' = 0 ∨ 1 ≤ nd'.count)
    (hsub : ∀ c ∈ nd'.kids, c ≠ 0 → c ∈ nd.kids) {f : Nat} {p : NodeId} {lo hi : Option Int}
    (hout : ∀ c ∈ nd'.kids, ∀ k ∈ reach t f c, t'.get? k = t.get? k)
    (h : WFNode t (f + 1) n p lo hi) :
    SNode t' (f + 1) n p' ∧ absNode t' (f + 1) n = weave (absNode t f) nd'.kids nd'.items ∧
      reach t' (f + 1) n = n :: nd'.kids.flatMap (reach t f) := by
  obtain ⟨hk, he⟩ := Kids.frame hsl (g := n) (K := nd'.kids) (fun c hc => Classical.or_iff_not_imp_left.mpr fun hc0 =>
    (h.kids hg c (hsub c hc hc0)).resolve_left hc0) hout
  obtain ⟨hS, hA, hR⟩ := SNode.of_kids h.ne_zero hg' hpar (nodeShape_congr hsl hshape) hne hk
  exact ⟨hS, hA.trans (weave_congr _ _ fun c hc => (he c hc).1), hR.trans (congrArg _ (flatMap_congr' _ fun c hc => (he c hc).2))⟩

end Sop.BTree
