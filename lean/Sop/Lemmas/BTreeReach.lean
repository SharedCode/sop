import Sop.Lemmas.BTreeNav
/-! Every node stored in a well-formed repository is reachable from the root, so it has a context, and every occupied
slot of a stored node is an in-order position. -/
namespace Sop.BTree

theorem WF.root_ne_of_get {t : BTree} (h : WF t) {m : NodeId} {nd : Node} (hg : t.get? m = some nd) : t.root ≠ 0 := by
  intro hr
  simp [BTree.get?, (h.root_eq hr).2.1] at hg

theorem nodup_subset_all (l m : List Nat) (hnd : l.Nodup) (hsub : ∀ x ∈ l, x ∈ m) (hlen : l.length = m.length) :
    ∀ x ∈ m, x ∈ l := fun x hx => Classical.byContradiction fun hn =>
  -- otherwise `x :: l` would be a duplicate-free part of `m` longer than `m`
  absurd ((List.nodup_cons.mpr ⟨hn, hnd⟩).length_le_of_subset (List.cons_subset.mpr ⟨hx, hsub⟩))
    (by rw [List.length_cons, hlen]; exact Nat.not_succ_le_self _)

theorem mem_get? {t : BTree} {n : NodeId} (h : n ∈ t.nodes.map (·.id)) : ∃ nd, t.get? n = some nd := by
  obtain ⟨nd, hm, hid⟩ := List.mem_map.mp h
  unfold BTree.get?
  cases hf : List.find? (fun x => x.id == n) t.nodes with
  | some nd' => exact ⟨nd', rfl⟩
  | none =>
    have := List.find?_eq_none.mp hf nd hm
    simp [hid] at this

theorem WF.all_reachable {t : BTree} (h : WF t) (hr : t.root ≠ 0) {n : NodeId} {nd : Node} (hg : t.get? n = some nd) :
    n ∈ reach t (t.nodes.length + 1) t.root := by
  have h' := h.2
  simp only [hr, if_false] at h'
  exact nodup_subset_all _ (t.nodes.map (·.id)) h'.2.1 (fun x hx => (reach_get t _ _ x hx).elim fun _ hg => get?_mem hg)
    (by rw [h'.2.2.1]; simp) n (get?_mem hg)

theorem WF.ctx_of_get {t : BTree} (h : WF t) {n : NodeId} {nd : Node} (hg : t.get? n = some nd) :
    WFR t ∧ ∃ f p pre post, Ctx t f n p pre post :=
  have hr := h.root_ne_of_get hg
  ⟨h.wfr hr, Ctx.of_reach (h.wfr hr) _ _ _ _ _ n Ctx.root (h.all_reachable hr hg)⟩

theorem WF.at_of_slot {t : BTree} (h : WF t) {n : NodeId} {nd : Node} (hg : t.get? n = some nd) {s : Nat}
    (hs : s < nd.count) : ∃ f L R, At t f n s L R :=
  let ⟨_, f, p, pre, post, hctx⟩ := h.ctx_of_get hg
  ⟨f, _, _, ⟨p, pre, post, nd, hctx, hg, Nat.le_of_lt hs, rfl, rfl⟩, nd, hg, hs⟩

theorem WF.stored_shape {t : BTree} (h : WF t) {n : NodeId} {nd : Node} (hg : t.get? n = some nd) : NodeShape t nd :=
  let ⟨hw, _, _, _, _, hctx⟩ := h.ctx_of_get hg
  hctx.nodeShape hw hg

theorem slot_live_lt {t : BTree} {nd : Node} (hsh : NodeShape t nd) {s : Nat} (h : (nd.slot s).id ≠ 0) : s < nd.count := by
  refine Nat.lt_of_not_le (fun hge => h ?_)
  unfold Node.slot
  by_cases hsz : s < nd.slots.size
  · rw [hsh.slots_tail _ (getD_mem_drop nd.slots {} hge hsz)]
  · simp [Array.getD, hsz]

theorem WF.at_of_live_cur {t : BTree} (hwf : WF t) (hid : t.curItem.id ≠ 0) :
    ∃ f L R, At t f t.cur.node t.cur.idx.toNat L (t.curItem :: R) := by
  unfold BTree.curItem at hid ⊢
  cases hg : t.get? t.cur.node with
  | none => exact absurd (by simp [BTree.get, hg, Node.slot]) hid
  | some nd =>
    rw [get_of_get? hg] at hid ⊢
    obtain ⟨f, L, R, hat⟩ := hwf.at_of_slot hg (slot_live_lt (hwf.stored_shape hg) hid)
    obtain ⟨nd', R', hg', _, hR⟩ := hat.head (hwf.wfr (hwf.root_ne_of_get hg))
    rw [hg] at hg'; cases hg'
    exact ⟨f, L, R', hR ▸ hat⟩

end Sop.BTree
