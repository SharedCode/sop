import Sop.Lemmas.CommitPhase2Fail
import Sop.Lemmas.CommitGap
/-!
The last failure case of phase 2: the flip write (`registry.UpdateNoLocks`, all-or-nothing) takes effect and then
reports an error. `Phase2Commit` restores the pre-flip images it logged in the priority log (the node keys are
still held, the priority log exists, and — the run's single fault being spent — the restoring write succeeds), then
runs the live rollback: every node ends as it was.
-/
namespace Sop.Commit


section
variable {s0 : State} {w : WS} {fresh0 : List (UUID × UUID)} {resv remv : List Handle}

def Phase2Entry (s0 : State) (w : WS) (fresh0 : List (UUID × UUID)) (r : Run) : Prop :=
  Staged s0 w fresh0 r ∧ PLp r ∧ (w.hasTracked = true → NKp w r) ∧ ListedIsTracked w r

/-- the run right after a flip write that took effect and reported an error: one flip write after a run `r1` that phase 2 was
entered with, the run's fault spent by it -/
structure FlipFailedAfter (s0 : State) (w : WS) (fresh0 : List (UUID × UUID)) (r : Run) : Prop where
  spent : Spent r
  entry : ∃ r1 o t, Phase2Entry s0 w fresh0 r1 ∧ finalImgs r1.reserved r1.removedH ≠ [] ∧
    r = { r1 with occs := o, trace := t, s := r1.s.setRegs (finalImgs r1.reserved r1.removedH) }

theorem phase2_raises :
    Triple (Phase2Entry s0 w fresh0) (phase2 w) (fun _ _ => True)
      (fun r' => Staged s0 w fresh0 r' ∨ r'.halted = true ∨ FlipFailedAfter s0 w fresh0 r') := by
  intro r1 h1
  refine phase2_exits (A := fun r => Phase2Entry s0 w fresh0 r ∧ r.reserved = r1.reserved ∧ r.removedH = r1.removedH)
    (A0 := Staged s0 w fresh0) (F := FlipFailedAfter s0 w fresh0) w (fun _ h => h.1.1) ?_ (fun _ h => h.2)
    (fun r o t h hne _ hsp => ⟨hsp, r, o, t, h.1, by rw [h.2.1, h.2.2]; exact hne, by rw [h.2.1, h.2.2]⟩) r1 ⟨h1, rfl, rfl⟩
  exact (foot_logStep _).keeps <|
    ((Reads.frame (I := Staged s0 w fresh0)).and <| Reads.pl.and <| (Reads.nk (w0 := w)).imp.and Reads.listedIsTracked).and <|
    (Reads.eq .reserved _).and (Reads.eq .removedH _)

/-- something was flipped, so the transaction has node keys, and it still holds them -/
theorem FlipFailedAfter.keysHeld {r : Run} (a3 : FlipFailedAfter s0 w fresh0 r) : (keysOrEmpty r).isEmpty = false := by
  obtain ⟨r1, o, t, ⟨hS, _, hkeys, htr⟩, hne, rfl⟩ := a3.entry
  have hnk : w.nodeKeys ≠ [] := by
    intro hnil
    obtain ⟨hu, hr⟩ := List.append_eq_nil_iff.mp (show w.updated.map (·.1) ++ w.removed.map (·.1) = [] from hnil)
    have h1 : r1.reserved = [] := List.eq_nil_iff_forall_not_mem.mpr fun x hx => by have := hS.resLid hx; rw [hu] at this; cases this
    have h2 : r1.removedH = [] := List.eq_nil_iff_forall_not_mem.mpr fun x hx => by have := hS.remSub x hx; rw [hr] at this; cases this
    exact hne (finalImgs_eq_nil.mpr ⟨h1, h2⟩)
  show (r1.nodesKeys.getD []).isEmpty = false
  rw [hkeys (htr (finalImgs_ne_nil.mp hne)) hnk, Option.getD_some]
  cases hw : w.nodeKeys with
  | nil => exact absurd hw hnk
  | cons _ _ => rfl

/-- `Phase2Commit`'s error handling after a flip that failed after its effect: the images are restored -/
theorem handler_restores (pre : Pre s0 w fresh0) :
    Triple (fun r => FlipFailedAfter s0 w fresh0 r ∧ r.stopAt = none) (phase2Handler w) (fun _ => RInv s0 w fresh0) (RInv s0 w fresh0) := by
  refine Triple.bindFact (fun r0 => (keysOrEmpty r0).isEmpty = false) (Triple.get fun _ h => ⟨h, h.1.keysHeld⟩) fun r0 hk =>
    Triple.ite (fun _ => ?_) fun hne => absurd (by simpa using hk) hne
  refine Triple.bind (Q1 := fun _ => RInv s0 w fresh0) ?_ fun _ => Triple.bind gen_unlockNodesKeys fun _ => pres_rollback pre true
  refine Triple.bind (Q1 := fun r1 r => (FlipFailedAfter s0 w fresh0 r ∧ r.stopAt = none) ∧ r1 = r) (Triple.get fun _ h => ⟨h, rfl⟩) fun r1 =>
    Triple.ite (fun _ => ?_) fun hpl => Triple.pure _ fun r h => ?_
  · refine Triple.bind (Q1 := fun _ => RInv s0 w fresh0) (Triple.attempt (Q := fun _ => RInv s0 w fresh0) ?_ fun _ h => h)
      fun _ => Keeps.void (Preserves.attempt (G.callSame fun _ => ⟨rfl, rfl⟩))
    -- the fault is spent: the restoring write takes effect, over the flipped images
    refine Triple.callAfterSpent _ _ _ _ (fun r h => ⟨h.1.1.spent, h.1.2⟩) (fun r o t h _ => ?_)
    obtain ⟨⟨a3, _⟩, rfl⟩ := h
    obtain ⟨r2, _, _, hE, _, rfl⟩ := a3.entry
    exact ⟨hE.1.rinv.sinv.setRegs_restore hE.1.known fun x hx => let ⟨g, hg, e⟩ := mem_final hx; ⟨g, List.mem_append.mpr hg, e⟩,
      hE.1.rinv.fresh⟩
  · obtain ⟨⟨a3, _⟩, rfl⟩ := h
    obtain ⟨r2, _, _, hE, hne, rfl⟩ := a3.entry
    refine absurd ?_ hpl
    show (r2.s.setRegs _).plog r2.tid = true
    rw [State.setRegs_plog]
    exact hE.2.1 (finalImgs_ne_nil.mp hne)

/-- **A commit that fails in phase 2 — at any fault position — ends in a state that satisfies the run invariant.** -/
theorem commit_phase2_failure_rinv (pre : Pre s0 w fresh0) (pre2 : Pre2 s0 w fresh0) {fault : Option Fault} {n : Nat}
    {r0 r1 r2 : Run} (hj : Unstaged s0 w fresh0 r0) (hf : HF fault r0)
    (h1 : phase1 w n r0 = .ok ((), r1)) (h2 : phase2 w r1 = .error r2) : RInv s0 w fresh0 (commit w n r0).2 := by
  have hst := (staged_phase1 pre pre2 n).of_ok hj h1
  have hf2 := (h_phase2 w).of_error ((h_phase1 w n).of_ok hf h1) h2
  have g := (gap_phase1 r0.s w n).of_ok ⟨⟨hj.noRes, hj.noRem⟩, rfl⟩ h1
  have hr := (phase2_raises (s0 := s0) (w := w) (fresh0 := fresh0)).of_error ⟨hst.1, g.plog, g.keys, g.tracked⟩ h2
  refine commit_of_phase2_error h1 h2 (fun r h => Or.elim h (handler_keeps pre r) (handler_restores pre r)) (fun _ h => h) ?_
  rcases hr with a | b | c
  · exact .inl a
  · rw [hf2.2.1] at b; cases b
  · exact .inr ⟨c, hf2.1⟩

/-- **A commit that fails in phase 2 leaves every node as it was — for every fault.** -/
theorem commit_phase2_failure_keeps_views_all (pre : Pre s0 w fresh0) (pre2 : Pre2 s0 w fresh0)
    (fault : Option Fault) {cs0 : Step} (tid : Tid) (n : Nat) (r1 r2 : Run)
    (h1 : phase1 w n { s := s0, tid := tid, fault := fault, fresh := fresh0, cs := cs0 } = .ok ((), r1))
    (h2 : phase2 w r1 = .error r2) :
    ∀ lid, (s0.view lid).isSome →
      (commit w n { s := s0, tid := tid, fault := fault, fresh := fresh0, cs := cs0 }).2.s.view lid = s0.view lid :=
  (commit_phase2_failure_rinv pre pre2 (.init pre rfl rfl rfl rfl) (fault := fault)
    ⟨rfl, rfl, rfl⟩ h1 h2).sinv.stable

/-- **A commit that fails in phase 2 leaves every node as it was** — the case of every fault except a `failAfter`
on the flip write itself. -/
theorem commit_phase2_failure_keeps_views (pre : Pre s0 w fresh0) (pre2 : Pre2 s0 w fresh0)
    (fault : Option Fault) {cs0 : Step} (tid : Tid) (n : Nat) (r1 r2 : Run)
    (hnf : ¬ ∃ f, fault = some f ∧ f.cls = .regUpdateNoLocks ∧ f.kind = .failAfter)
    (h1 : phase1 w n { s := s0, tid := tid, fault := fault, fresh := fresh0, cs := cs0 } = .ok ((), r1))
    (h2 : phase2 w r1 = .error r2) :
    ∀ lid, (s0.view lid).isSome →
      (commit w n { s := s0, tid := tid, fault := fault, fresh := fresh0, cs := cs0 }).2.s.view lid = s0.view lid :=
  commit_phase2_failure_keeps_views_all pre pre2 fault tid n r1 r2 h1 h2

/-- **Whatever the outcome, unless it is ok** — an error or a conflict round — from any start run, wherever it failed and under every
fault: **the run invariant holds at the end.** -/
theorem commit_failed_rinv (pre : Pre s0 w fresh0) (pre2 : Pre2 s0 w fresh0) {fault : Option Fault} {n : Nat} {r0 : Run}
    (hj : Unstaged s0 w fresh0 r0) (hf : HF fault r0) (hfail : (commit w n r0).1 ≠ .ok) : RInv s0 w fresh0 (commit w n r0).2 := by
  cases h1 : phase1 w n r0 with
  | error r1 => exact commit_phase1_failure_rinv pre hj.rinv h1
  | ok p =>
    cases h2 : phase2 w p.2 with
    | ok q => exact absurd (congrArg Prod.fst (commit_of_ok (r1 := p.2) (r2 := q.2) h1 h2)) hfail
    | error r2 => exact commit_phase2_failure_rinv pre pre2 hj hf (r1 := p.2) h1 h2

/-- **A commit that does not return ok leaves every node as it was.** -/
theorem commit_failed_keeps_views (pre : Pre s0 w fresh0) (pre2 : Pre2 s0 w fresh0)
    (fault : Option Fault) {cs0 : Step} (tid : Tid) (n : Nat)
    (hfail : (commit w n { s := s0, tid := tid, fault := fault, fresh := fresh0, cs := cs0 }).1 ≠ .ok) :
    ∀ lid, (s0.view lid).isSome →
      (commit w n { s := s0, tid := tid, fault := fault, fresh := fresh0, cs := cs0 }).2.s.view lid = s0.view lid :=
  (commit_failed_rinv pre pre2 (.init pre rfl rfl rfl rfl) (fault := fault) ⟨rfl, rfl, rfl⟩ hfail).sinv.stable

/-- **A commit that returns an error leaves every node as it was**, wherever it failed and under every fault. -/
theorem commit_err_keeps_views (pre : Pre s0 w fresh0) (pre2 : Pre2 s0 w fresh0)
    (fault : Option Fault) {cs0 : Step} (tid : Tid) (n : Nat)
    (herr : (commit w n { s := s0, tid := tid, fault := fault, fresh := fresh0, cs := cs0 }).1 = .err) :
    ∀ lid, (s0.view lid).isSome →
      (commit w n { s := s0, tid := tid, fault := fault, fresh := fresh0, cs := cs0 }).2.s.view lid = s0.view lid :=
  commit_failed_keeps_views pre pre2 fault tid n (by rw [herr]; nofun)

end
end Sop.Commit
