import Sop.Lemmas.BTreeOps
/-! `node.findInDescendingOrder` of Model B on a well-formed tree (mirror image of `BTreeFind`): the descent keeps
"everything before the current subtree is `≤ k`, everything after is `> k`" and remembers the LAST item of key `k`. The descent
needs BTreeFind only; the public `findDesc_spec` at the end needs BTreeOps (`SearchResult.cached`, `getRootNode_eq`). -/
namespace Sop.BTree

/-- outcome of `findInDescendingOrder`: on a hit the cursor is on the LAST item of key `k` in order -/
abbrev FindDescResult (t₀ : BTree) (k : Int) : BTree × Bool → Prop :=
  SearchResult t₀ k (fun L => ∀ x ∈ L, x.key ≤ k) (fun R => ∀ x ∈ R, k < x.key)

/-- the invariant of the descending descent about the remembered hit: it is the last item before the subtree -/
def FoundInvD (t₀ : BTree) (k : Int) (pre mid post : List Item) : Option (NodeId × Nat) → Prop
  | none => ∀ x ∈ pre, x.key ≠ k
  | some (fn, fi) => ∃ ff P y, pre = P ++ [y] ∧ y.key = k ∧ At t₀ ff fn fi P (y :: (mid ++ post))

theorem FoundInvD.descend {t₀ : BTree} {k : Int} {pre post P M Q : List Item} {found : Option (NodeId × Nat)}
    (hs : Sorted (pre ++ P ++ M ++ (Q ++ post))) (hP : ∀ x ∈ P, x.key < k)
    (h : FoundInvD t₀ k pre (P ++ M ++ Q) post found) : FoundInvD t₀ k (pre ++ P) M (Q ++ post) found := by
  cases found with
  | none =>
    intro x hx
    rcases List.mem_append.mp hx with hx | hx
    · exact h x hx
    · exact Int.ne_of_lt (hP x hx)
  | some fp =>
    obtain ⟨fn, fi⟩ := fp
    obtain ⟨ff, P', y, hP', hy, hat⟩ := h
    -- the remembered hit is the last item of `pre`, so nothing `< k` can stand after it
    cases P with
    | nil =>
      refine ⟨ff, P', y, by rw [List.append_nil]; exact hP', hy, ?_⟩
      rw [List.nil_append, List.append_assoc] at hat
      exact hat
    | cons z zs =>
      exfalso
      have hz := hP z List.mem_cons_self
      rw [hP'] at hs
      have hs' : Sorted (P' ++ y :: (z :: zs ++ M ++ (Q ++ post))) := by simpa [List.append_assoc] using hs
      have := (sorted_mid hs').2 z (by simp)
      exact absurd (hy ▸ this) (Int.not_le.mpr hz)

theorem hit_test_desc_iff {c idx : Nat} (hidx : idx ≤ c) (a k : Int) :
    (decide (c > 0) && decide (idx > 0) && (a == k)) = true ↔ (idx > 0 ∧ a = k) := by
  simp only [Bool.and_eq_true, decide_eq_true_eq, beq_iff_eq]
  exact ⟨fun h => ⟨h.1.2, h.2⟩, fun h => ⟨⟨Nat.lt_of_lt_of_le h.1 hidx, h.1⟩, h.2⟩⟩

theorem findDescAux_spec {t₀ : BTree} (hw : WFR t₀) (hsorted : Sorted t₀.abs) (hne : t₀.abs ≠ []) (k : Int)
    (fuel : Nat) : ∀ (t : BTree) (f : Nat) (m p : NodeId) (pre post : List Item) (found : Option (NodeId × Nat)),
    HeapEq t₀ t → t.panicked = false → Ctx t₀ f m p pre post → f ≤ fuel →
    (∀ x ∈ pre, x.key ≤ k) → (∀ x ∈ post, k < x.key) → FoundInvD t₀ k pre (A t₀ m) post found →
    FindDescResult t₀ k (findDescAux k fuel t m found) := by
  induction fuel with
  | zero =>
    intro t f m p pre post found he hp hctx hfuel
    exact absurd (hctx.fuel_pos hw) (Nat.not_lt.mpr hfuel)
  | succ fuel ih =>
    intro t f m p pre post found he hp hctx hfuel hpre hpost hfound
    obtain ⟨nd, hg⟩ := hctx.node hw
    obtain ⟨hsh, hpar, hnonempty, hm0, f', hf'⟩ := hctx.shape hw hg
    subst hf'
    obtain ⟨hf, lo, hi, hwf⟩ := hctx.wf hw
    obtain ⟨hcore, _⟩ := he.node hg
    obtain ⟨hidx, hA, hB, hC⟩ := find_step_desc hw hsorted hctx hg k hpre hpost
    have hgap : Gap t₀ (f' + 1) m (searchIdxD nd k) (pre ++ nd.pre (A t₀) (searchIdxD nd k) ++ A t₀ (nd.child (searchIdxD nd k)))
        (nd.post (A t₀) (searchIdxD nd k) ++ post) := ⟨p, pre, post, nd, hctx, hg, hidx, rfl, rfl⟩
    have hsplit := A_split t₀ hwf hf hg hidx
    have habs := hgap.abs hw
    rw [findDescAux]
    have hidx_eq : (if nd.count > 0 then sortSearch nd.count (fun i => decide ((nd.slot i).key > k)) else 0)
        = searchIdxD nd k := rfl
    simp only [hm0, if_false, core_eq_count hcore, core_eq_slot hcore, core_eq_hasChildren hcore,
      core_eq_child hcore, hidx_eq]
    generalize searchIdxD nd k = idx at *
    have hfound' : ∃ found', (if (decide (nd.count > 0) && decide (idx > 0) && ((nd.slot (idx - 1)).key == k)) = true
          then some (m, idx - 1) else found) = found' ∧
        FoundInvD t₀ k (pre ++ nd.pre (A t₀) idx) (A t₀ (nd.child idx)) (nd.post (A t₀) idx ++ post) found' := by
      by_cases hhit : idx > 0 ∧ (nd.slot (idx - 1)).key = k
      · obtain ⟨hpos, hkey⟩ := hhit
        refine ⟨some (m, idx - 1), if_pos ((hit_test_desc_iff hidx _ _).mpr ⟨hpos, hkey⟩), ?_⟩
        obtain ⟨j, rfl⟩ := Nat.exists_eq_add_one_of_ne_zero (Nat.ne_of_gt hpos)
        simp only [Nat.add_sub_cancel] at hkey ⊢
        have hpre' : Pre t₀ (f' + 1) m (j + 1) (pre ++ nd.pre (A t₀) (j + 1))
            (A t₀ (nd.child (j + 1)) ++ nd.post (A t₀) (j + 1) ++ post) := ⟨p, pre, post, nd, hctx, hg, hidx, rfl, rfl⟩
        obtain ⟨P, y, hP, hat⟩ := hpre'.toAt_pred hw
        obtain ⟨nd', R', hg', _, hR'⟩ := hat.head hw
        rw [hg] at hg'; cases hg'
        rw [List.cons.inj hR'.symm |>.1] at hkey
        exact ⟨f' + 1, P, y, hP, hkey, by rw [← List.append_assoc]; exact hat⟩
      · exact ⟨found, if_neg (fun h => hhit ((hit_test_desc_iff hidx _ _).mp h)),
          FoundInvD.descend (habs ▸ hsorted) (hC hhit) (hsplit ▸ hfound)⟩
    obtain ⟨found', hfe, hfi⟩ := hfound'
    simp only [hfe]
    have hstop : nd.child idx = 0 → FindDescResult t₀ k (findTail t found' m idx) := by
      intro hc0
      rw [hc0, A_zero] at hgap hfi
      rw [List.append_nil] at hgap
      cases found' with
      | some fp =>
        obtain ⟨fn, fi⟩ := fp
        obtain ⟨ff, P, y, hP, hy, hat⟩ := hfi
        refine ⟨he.setCur _ _, hp, Or.inl ⟨rfl, P, y, _, ⟨ff, fn, fi, rfl, hat⟩, hy, fun x hx => ?_, hB⟩⟩
        exact hA x (by rw [hP]; exact List.mem_append_left _ hx)
      | none =>
        obtain ⟨h1, h2, h3, hcur⟩ := findTail_none hw he hp hne hgap hg hc0
        refine ⟨h1, h2, Or.inr ⟨h3, _, _, fun x hx => ?_, hB, hcur⟩⟩
        exact Int.lt_iff_le_and_ne.mpr ⟨hA x hx, hfi x hx⟩
    cases hch : nd.hasChildren with
    | false => exact hstop (leaf_child_zero hch _)
    | true =>
      simp only [if_true]
      by_cases hc : nd.child idx = 0
      · simp only [hc, beq_self_eq_true, if_true]
        exact hstop hc
      · simp only [beq_eq_false_iff_ne.mpr hc, Bool.false_eq_true, if_false]
        obtain ⟨cn, hgc⟩ := hctx.kid_some hw hg hidx hc
        rw [childOf_eq he hg hc hgc]
        exact ih t f' (nd.child idx) m _ _ found' he hp (Ctx.child hctx hg hidx rfl hc) (Nat.le_of_succ_le_succ hfuel) hA hB hfi

theorem findDesc_spec {t : BTree} (hwf : WF t) (hp : t.panicked = false) (hne : t.abs ≠ []) (k : Int) :
    HeapEq t (t.findDesc k).1 ∧ (t.findDesc k).1.panicked = false ∧ (t.findDesc k).1.cur.cached = true ∧
      SearchOutcome t (t.findDesc k).1 k (t.findDesc k).2 (fun L R => (∀ x ∈ L, x.key ≤ k) ∧ ∀ x ∈ R, k < x.key) := by
  obtain ⟨hc, hr⟩ := hwf.count_ne hne
  have hw := hwf.wfr hr
  have hsorted := (abs_sorted_of_WF t hwf).1
  unfold BTree.findDesc
  simp only [hc, Bool.false_eq_true, if_false, getRootNode_eq hc hr]
  exact (findDescAux_spec hw hsorted hne k t.fuel t _ t.root 0 [] [] none (HeapEq.refl t) hp Ctx.root
    (fuel_root (HeapEq.refl t)) (fun _ h => nomatch h) (fun _ h => nomatch h) (fun _ h => nomatch h)).cached hw

end Sop.BTree
